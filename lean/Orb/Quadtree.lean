/-
  Orb.Quadtree — model of quadtree/quadtree.go and quadtree/maxheap.go.  Core Lean only,
  polymorphic in the coordinate type (Float twin / exact Rat / ordered field in the proofs).

  A stored `orb.Pointer` is modelled as `(id, point)`; ids stand for pointer identity.
  `*node` is `Tree.nil` (nil pointer) or `Tree.node value c0 c1 c2 c3`.
  `math.MaxFloat64` limits: the searches exist in two forms.  `matching` / `remove` / `kNearest` start
  from `none : Option α` (no limit) — the form the theorems are about, an ordered field has no largest
  element.  `matchingFrom` / `removeFrom` / `kNearestFrom` start from an explicit initial limit
  `init : Option α`; the Float twin runs them with `some math.MaxFloat64`, which is what the Go code
  does (a pointer whose squared distance is not `< MaxFloat64` — overflow to +Inf, NaN — is never
  accepted).  `OrbProofs/C11From.lean` proves that the two forms give the same answers whenever
  every accepted pointer is strictly nearer than the initial limit.
-/
import Orb.Basic
import Orb.Core

namespace Orb.Quadtree
open Orb Orb.Core

structure Ptr (α : Type) where
  id : Nat
  p : Pt α
deriving Repr, BEq, DecidableEq, Inhabited

inductive Tree (α : Type) where
  | nil
  | node (value : Option (Ptr α)) (c0 c1 c2 c3 : Tree α)
deriving Repr, Inhabited

/-- A cell `left right bottom top`. -/
structure Cell (α : Type) where
  l : α
  r : α
  b : α
  t : α
deriving Repr, Inhabited

structure QT (α : Type) where
  bound : Bound α
  root : Tree α
deriving Inhabited

section model
variable {α : Type} [Add α] [Sub α] [Mul α] [Div α] [OfNat α 2] [LT α] [LE α] [DecidableLT α] [DecidableLE α]
  [Min α] [Max α]

def Tree.isNil : Tree α → Bool
  | .nil => true
  | _ => false

def rootCell (b : Bound α) : Cell α := ⟨b.lo.x, b.hi.x, b.lo.y, b.hi.y⟩

def Cell.cx (c : Cell α) : α := (c.l + c.r) / 2
def Cell.cy (c : Cell α) : α := (c.b + c.t) / 2

/-- the four sub-cells in the code's child numbering: 0 = top-left, 1 = top-right,
    2 = bottom-left, 3 = bottom-right -/
def Cell.sub (c : Cell α) (i : Nat) : Cell α :=
  match i with
  | 0 => ⟨c.l, c.cx, c.cy, c.t⟩
  | 1 => ⟨c.cx, c.r, c.cy, c.t⟩
  | 2 => ⟨c.l, c.cx, c.b, c.cy⟩
  | _ => ⟨c.cx, c.r, c.b, c.cy⟩

/-- `childIndex(cx, cy, point)`: `point[1] <= cy → 2`, `point[0] >= cx → +1`. -/
def childIndex (cx cy : α) (p : Pt α) : Nat :=
  (if p.y ≤ cy then 2 else 0) + (if p.x ≥ cx then 1 else 0)

/-- `Quadtree.add` together with the root cases of `Quadtree.Add`: a nil node is created, an
    empty node (nil value) is reused, otherwise descend into the quadrant chosen by the
    midline comparisons. -/
def ins (t : Tree α) (p : Ptr α) (c : Cell α) : Tree α :=
  match t with
  | .nil => .node (some p) .nil .nil .nil .nil
  | .node none c0 c1 c2 c3 => .node (some p) c0 c1 c2 c3
  | .node (some v) c0 c1 c2 c3 =>
    match childIndex c.cx c.cy p.p with
    | 0 => .node (some v) (ins c0 p (c.sub 0)) c1 c2 c3
    | 1 => .node (some v) c0 (ins c1 p (c.sub 1)) c2 c3
    | 2 => .node (some v) c0 c1 (ins c2 p (c.sub 2)) c3
    | _ => .node (some v) c0 c1 c2 (ins c3 p (c.sub 3))

/-- `Quadtree.Add`: `false` = ErrPointOutsideOfBounds (tree unchanged). -/
def add (q : QT α) (p : Ptr α) : QT α × Bool :=
  if !q.bound.contains p.p then (q, false)
  else ({ q with root := ins q.root p (rootCell q.bound) }, true)

def Tree.value : Tree α → Option (Ptr α)
  | .nil => none
  | .node v _ _ _ _ => v

/-- `removeNode` on a node whose value has just been cleared: pull the value of the first
    non-nil child up, recursively; `none` = "this node has no children, the parent may drop it". -/
def fill : Tree α → Option (Tree α)
  | .nil => none
  | .node _ c0 c1 c2 c3 =>
    match c0 with
    | .node v0 _ _ _ _ => some (.node v0 ((fill c0).getD .nil) c1 c2 c3)
    | .nil =>
      match c1 with
      | .node v1 _ _ _ _ => some (.node v1 c0 ((fill c1).getD .nil) c2 c3)
      | .nil =>
        match c2 with
        | .node v2 _ _ _ _ => some (.node v2 c0 c1 ((fill c2).getD .nil) c3)
        | .nil =>
          match c3 with
          | .node v3 _ _ _ _ => some (.node v3 c0 c1 c2 ((fill c3).getD .nil))
          | .nil => none

/-- `v.closest.Value = nil; removeNode(v.closest)` at the top level: the result of the
    top-level call is ignored, so a childless node stays in the tree as an empty node. -/
def clearNode (t : Tree α) : Tree α :=
  match t with
  | .nil => .nil
  | .node _ c0 c1 c2 c3 =>
    match fill t with
    | some t' => t'
    | none => .node none c0 c1 c2 c3

/-- apply `f` to the node reached by following child indices `path` from `t` -/
def modifyAt (f : Tree α → Tree α) : List Nat → Tree α → Tree α
  | [], t => f t
  | i :: rest, .node v c0 c1 c2 c3 =>
    (match i with
     | 0 => .node v (modifyAt f rest c0) c1 c2 c3
     | 1 => .node v c0 (modifyAt f rest c1) c2 c3
     | 2 => .node v c0 c1 (modifyAt f rest c2) c3
     | _ => .node v c0 c1 c2 (modifyAt f rest c3))
  | _ :: _, .nil => .nil

/-! ### the generic traversal `visit.Visit` -/

/-- A visitor: its state `σ`, the pruning bound it exposes, the point used to order children,
    and what it does at a node holding a value (`path` identifies the node). -/
structure Visitor (α σ : Type) where
  bound : σ → Bound α
  point : Pt α
  visit : σ → Ptr α → List Nat → σ

/-- `visit.Visit(n, left, right, bottom, top)`. `path` is the reversed list of child indices. -/
def visit {σ : Type} (V : Visitor α σ) : Tree α → Cell α → List Nat → σ → σ
  | .nil, _, _, st => st
  | .node v c0 c1 c2 c3, c, path, st =>
    let b := V.bound st
    if c.l > b.hi.x ∨ c.r < b.lo.x ∨ c.b > b.hi.y ∨ c.t < b.lo.y then st else
    let st := match v with
      | some p => V.visit st p path.reverse
      | none => st
    if c0.isNil && c1.isNil && c2.isNil && c3.isNil then st else
    let s0 := fun st => visit V c0 (c.sub 0) (0 :: path) st
    let s1 := fun st => visit V c1 (c.sub 1) (1 :: path) st
    let s2 := fun st => visit V c2 (c.sub 2) (2 :: path) st
    let s3 := fun st => visit V c3 (c.sub 3) (3 :: path) st
    match childIndex c.cx c.cy V.point with
    | 0 => s3 (s2 (s1 (s0 st)))
    | 1 => s0 (s3 (s2 (s1 st)))
    | 2 => s1 (s0 (s3 (s2 st)))
    | _ => s2 (s1 (s0 (s3 st)))

def distSq (a b : Pt α) : α := (a.x - b.x) * (a.x - b.x) + (a.y - b.y) * (a.y - b.y)

/-- the box `point ± d` written into `closestBound` -/
def boxAround (p : Pt α) (d : α) : Bound α := ⟨⟨p.x - d, p.y - d⟩, ⟨p.x + d, p.y + d⟩⟩

/-! ### findVisitor (Find / Matching / the search phase of Remove) -/

structure FindSt (α : Type) where
  closest : Option (Ptr α × List Nat)
  bnd : Bound α
  minD : Option α          -- `none` = math.MaxFloat64

def findVisitor (sqrt : α → α) (pt : Pt α) (filter : Ptr α → Bool) : Visitor α (FindSt α) where
  bound := fun st => st.bnd
  point := pt
  visit := fun st v path =>
    if !filter v then st else
    let d := distSq v.p pt
    let better := match st.minD with
      | none => true
      | some m => decide (d < m)
    if better then { closest := some (v, path), bnd := boxAround pt (sqrt d), minD := some d } else st

def findRaw (sqrt : α → α) (q : QT α) (pt : Pt α) (filter : Ptr α → Bool) : FindSt α :=
  visit (findVisitor sqrt pt filter) q.root (rootCell q.bound) [] ⟨none, q.bound, none⟩

/-- `Quadtree.Matching` (`Find` = no filter). -/
def matching (sqrt : α → α) (q : QT α) (pt : Pt α) (filter : Ptr α → Bool) : Option (Ptr α) :=
  match q.root with
  | .nil => none
  | _ => (findRaw sqrt q pt filter).closest.map (·.1)

/-- `Quadtree.Remove(p, eq)`: search for the closest pointer accepted by `eq`, clear that node
    and pull values up. -/
def remove (sqrt : α → α) (q : QT α) (pt : Pt α) (eq : Ptr α → Bool) : QT α × Bool :=
  match q.root with
  | .nil => (q, false)
  | _ =>
    match (findRaw sqrt q pt eq).closest with
    | none => (q, false)
    | some (_, path) => ({ q with root := modifyAt clearNode path q.root }, true)

/-! ### maxHeap (maxheap.go) on an array of (pointer, distance) -/

abbrev Heap (α : Type) := Array (Ptr α × α)

/-- sift-up loop of `Push` starting at index `i` with the pushed item `(pt, d)` -/
def siftUp (pt : Ptr α) (d : α) : Nat → Nat → Heap α → Heap α
  | 0, _, h => h
  | fuel+1, i, h =>
    if i = 0 then h else
    let up := ((i + 1) >>> 1) - 1
    match h[up]? with
    | none => h
    | some parent =>
      if d < parent.2 then h
      else siftUp pt d fuel up ((h.setIfInBounds i parent).setIfInBounds up (pt, d))

/-- `maxHeap.Push`. -/
def heapPush (h : Heap α) (pt : Ptr α) (d : α) : Heap α :=
  let h := h.push (pt, d)
  siftUp pt d h.size (h.size - 1) h

/-- sift-down loop of `Pop` for the moved `lastItem` -/
def siftDown (last : Ptr α × α) : Nat → Nat → Heap α → Heap α
  | 0, _, h => h
  | fuel+1, i, h =>
    let right := (i + 1) <<< 1
    let left := right - 1
    match h[i]? with
    | none => h
    | some cur =>
      let (ci, child) :=
        match h[left]? with
        | some l => if cur.2 < l.2 then (left, l) else (i, cur)
        | none => (i, cur)
      let (ci, child) :=
        match h[right]? with
        | some r => if child.2 < r.2 then (right, r) else (ci, child)
        | none => (ci, child)
      if ci = i then h
      else siftDown last fuel ci ((h.setIfInBounds i child).setIfInBounds ci last)

/-- `maxHeap.Pop` (removes the maximum). -/
def heapPop (h : Heap α) : Heap α :=
  match h.back? with
  | none => h   -- Go would panic; never called on an empty heap (only right after a `Push`, or after reading `heap[0]`)
  | some last =>
    let h := h.pop
    if h.size = 0 then h
    else siftDown last h.size 0 (h.setIfInBounds 0 last)

/-! ### nearestVisitor (KNearest / KNearestMatching) -/

structure NearSt (α : Type) where
  heap : Heap α
  bnd : Bound α
  maxD : Option α          -- `none` = math.MaxFloat64

def nearestVisitor (sqrt : α → α) (pt : Pt α) (filter : Ptr α → Bool) (k : Nat) : Visitor α (NearSt α) where
  bound := fun st => st.bnd
  point := pt
  visit := fun st v _ =>
    if !filter v then st else
    let d := distSq v.p pt
    let within := match st.maxD with
      | none => true
      | some m => decide (d < m)
    if !within then st else
    let h := heapPush st.heap v d
    if h.size > k then
      let h := heapPop h
      match h[0]? with
      | some top => { heap := h, bnd := boxAround pt (sqrt top.2), maxD := some top.2 }
      | none => { st with heap := h }   -- unreachable for k ≥ 1
    else { st with heap := h }

/-- drain loop of `KNearestMatching`: `buf[i] = heap[0]; heap.Pop()` for `i = len-1 … 0` -/
def drain : Nat → Heap α → List (Ptr α) → List (Ptr α)
  | 0, _, acc => acc
  | n+1, h, acc =>
    match h[0]? with
    | some top => drain n (heapPop h) (top.1 :: acc)
    | none => acc

/-- `Quadtree.KNearestMatching` (`maxDist = none` when no limit is given; `k ≤ 0` returns nothing). -/
def kNearest (sqrt : α → α) (q : QT α) (pt : Pt α) (k : Nat) (filter : Ptr α → Bool) (maxDist : Option α) :
    List (Ptr α) :=
  match q.root with
  | .nil => []
  | _ =>
    if k = 0 then [] else
    let st0 : NearSt α := ⟨#[], q.bound, maxDist.map fun m => m * m⟩
    let st := visit (nearestVisitor sqrt pt filter k) q.root (rootCell q.bound) [] st0
    drain st.heap.size st.heap []

/-! ### the same searches from an explicit initial limit (`minDistSquared: math.MaxFloat64`) -/

def findRawFrom (init : Option α) (sqrt : α → α) (q : QT α) (pt : Pt α) (filter : Ptr α → Bool) : FindSt α :=
  visit (findVisitor sqrt pt filter) q.root (rootCell q.bound) [] ⟨none, q.bound, init⟩

/-- `Quadtree.Matching` with `minDistSquared` initialised to `init`. -/
def matchingFrom (init : Option α) (sqrt : α → α) (q : QT α) (pt : Pt α) (filter : Ptr α → Bool) :
    Option (Ptr α) :=
  match q.root with
  | .nil => none
  | _ => (findRawFrom init sqrt q pt filter).closest.map (·.1)

/-- `Quadtree.Remove(p, eq)` with `minDistSquared` initialised to `init`. -/
def removeFrom (init : Option α) (sqrt : α → α) (q : QT α) (pt : Pt α) (eq : Ptr α → Bool) : QT α × Bool :=
  match q.root with
  | .nil => (q, false)
  | _ =>
    match (findRawFrom init sqrt q pt eq).closest with
    | none => (q, false)
    | some (_, path) => ({ q with root := modifyAt clearNode path q.root }, true)

/-- `Quadtree.KNearestMatching` with `maxDistSquared` initialised to `init` and overwritten by the
    square of `maxDistance[0]` when one is given (a negative limit therefore acts as its absolute
    value). -/
def kNearestFrom (init : Option α) (sqrt : α → α) (q : QT α) (pt : Pt α) (k : Nat) (filter : Ptr α → Bool)
    (maxDist : Option α) : List (Ptr α) :=
  match q.root with
  | .nil => []
  | _ =>
    if k = 0 then [] else
    let lim : Option α := match maxDist with
      | some m => some (m * m)
      | none => init
    let st0 : NearSt α := ⟨#[], q.bound, lim⟩
    let st := visit (nearestVisitor sqrt pt filter k) q.root (rootCell q.bound) [] st0
    drain st.heap.size st.heap []

/-! ### the call `q.KNearestMatching(buf, pt, k, filter, maxDistance...)` as its caller sees it -/

/-- `maxDistance ...float64`: the code tests `len(maxDistance) > 0` and reads `maxDistance[0]`;
    further elements are ignored. -/
def limitOf (maxDistance : List α) : Option α := maxDistance.head?

/-- One call, with the caller's variadic argument made explicit: the answer, and the contents of the
    `maxDistance` slice AFTER the call.  When the call is written `lims...` the parameter is the
    caller's own slice (Go makes no copy), so an assignment to `maxDistance[0]` inside the library
    would be visible to the caller and to every later call made with the same slice.  The code has
    no such assignment — it computes `maxDistance[0] * maxDistance[0]` into the visitor — hence the
    slice comes back as it went in: THE LIMIT IS A VALUE. -/
def kNearestCall (init : Option α) (sqrt : α → α) (q : QT α) (pt : Pt α) (k : Nat) (filter : Ptr α → Bool)
    (maxDistance : List α) : List (Ptr α) × List α :=
  (kNearestFrom init sqrt q pt k filter (limitOf maxDistance), maxDistance)

/-- A caller that keeps its limits in ONE slice and issues the queries `(pt, k, filter)` one after
    the other, every one as `q.KNearestMatching(nil, pt, k, filter, lims...)`: the answers in order
    and the slice at the end. -/
def kNearestCalls (init : Option α) (sqrt : α → α) (q : QT α) :
    List (Pt α × Nat × (Ptr α → Bool)) → List α → List (List (Ptr α)) × List α
  | [], lims => ([], lims)
  | (pt, k, f) :: rest, lims =>
    let r := kNearestCall init sqrt q pt k f lims
    let rs := kNearestCalls init sqrt q rest r.2
    (r.1 :: rs.1, rs.2)

/-- The code BEFORE /repo commit 7b9021e (since then the capacity is `min(k, 63) + 1` and none of this is reached):
    `make(maxHeap, 0, k+1)` in `KNearestMatching` panics ("makeslice: cap out of range") when `k+1`
    wraps around (k = MaxInt64) or `(k+1) * 24` bytes (a `heapItem` is an interface and a float64)
    exceed the runtime's `maxAlloc` = 2^48 on linux/amd64.  The call is reached only for a non-nil
    root and `k > 0`. -/
def heapCapPanics (k : Nat) : Bool := decide (k + 1 ≥ 2 ^ 63) || decide ((k + 1) * 24 > 2 ^ 48)

/-! ### inBoundVisitor (InBound / InBoundMatching) -/

def inBoundVisitor [OfNat α 0] (b : Bound α) (filter : Ptr α → Bool) : Visitor α (List (Ptr α)) where
  bound := fun _ => b
  point := ⟨0, 0⟩
  visit := fun acc v _ =>
    if !filter v then acc
    else if b.lo.x > v.p.x ∨ b.hi.x < v.p.x ∨ b.lo.y > v.p.y ∨ b.hi.y < v.p.y then acc
    else acc ++ [v]

/-- `Quadtree.InBoundMatching`. -/
def inBound [OfNat α 0] (q : QT α) (b : Bound α) (filter : Ptr α → Bool) : List (Ptr α) :=
  match q.root with
  | .nil => []
  | _ => visit (inBoundVisitor b filter) q.root (rootCell q.bound) [] []

/-! ### contents, structural invariant -/

/-- every pointer stored in the tree (pre-order) -/
def contents : Tree α → List (Ptr α)
  | .nil => []
  | .node v c0 c1 c2 c3 => v.toList ++ contents c0 ++ contents c1 ++ contents c2 ++ contents c3

/-- number of nodes (for the bound on node count after removals) -/
def nodes : Tree α → Nat
  | .nil => 0
  | .node _ c0 c1 c2 c3 => 1 + nodes c0 + nodes c1 + nodes c2 + nodes c3

end model

end Orb.Quadtree
