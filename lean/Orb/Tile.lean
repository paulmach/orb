/-
  Orb.Tile — model of maptile/tile.go (integer part), core Lean only.

  `X`, `Y` are Go `uint32`, `Z` is `Zoom = uint32`; they are modelled as `Nat`
  with every Go operation written with its wrap-around (`% 2^32`, `% 2^64`)
  and Go's shift semantics (a shift count ≥ the width yields 0), so the model
  is the code that exists, not the arithmetic one would like.
-/
namespace Orb.Tile

structure Tile where
  x : Nat
  y : Nat
  z : Nat
deriving Repr, BEq, DecidableEq, Inhabited

def W32 : Nat := 2^32
def W64 : Nat := 2^64

/-- Go `a << s` on uint32. -/
def shl32 (a s : Nat) : Nat := (a <<< s) % W32
/-- Go `a >> s` on uint32 (a < 2^32). -/
def shr32 (a s : Nat) : Nat := a >>> s
/-- Go `a - b` on uint32. -/
def sub32 (a b : Nat) : Nat := (a + W32 - b % W32) % W32
/-- Go `a + b` on uint32. -/
def add32 (a b : Nat) : Nat := (a + b) % W32

/-- `Tile.Valid`: `maxIndex := uint32(1) << uint32(t.Z); t.X < maxIndex && t.Y < maxIndex`. -/
def valid (t : Tile) : Bool :=
  let maxIndex := shl32 1 t.z
  t.x < maxIndex && t.y < maxIndex

/-- `Tile.Parent`. -/
def parent (t : Tile) : Tile :=
  if t.z = 0 then t else ⟨shr32 t.x 1, shr32 t.y 1, sub32 t.z 1⟩

/-- `Parent()` applied `k` times. -/
def parentN : Nat → Tile → Tile
  | 0, t => t
  | k+1, t => parentN k (parent t)

/-- `Tile.Children` (order as in the code). -/
def children (t : Tile) : List Tile :=
  [ ⟨shl32 t.x 1, shl32 t.y 1, add32 t.z 1⟩,
    ⟨add32 (shl32 t.x 1) 1, shl32 t.y 1, add32 t.z 1⟩,
    ⟨add32 (shl32 t.x 1) 1, add32 (shl32 t.y 1) 1, add32 t.z 1⟩,
    ⟨shl32 t.x 1, add32 (shl32 t.y 1) 1, add32 t.z 1⟩ ]

/-- `Tile.Siblings`. -/
def siblings (t : Tile) : List Tile := children (parent t)

/-- `Tile.toZoom`. -/
def toZoom (t : Tile) (z : Nat) : Tile :=
  if z > t.z then ⟨shl32 t.x (sub32 z t.z), shl32 t.y (sub32 z t.z), z⟩
  else ⟨shr32 t.x (sub32 t.z z), shr32 t.y (sub32 t.z z), z⟩

/-- `Tile.Contains`. -/
def contains (t u : Tile) : Bool :=
  if u.z < t.z then false else t == toZoom u t.z

/-- One round of the `Quadkey` loop for bit `i`. -/
def quadkeyStep (t : Tile) (result i : Nat) : Nat :=
  let r1 := result ||| (((t.x &&& ((1 <<< i) % W64)) <<< i) % W64)
  r1 ||| (((t.y &&& ((1 <<< i) % W64)) <<< (i + 1)) % W64)

/-- `Tile.Quadkey`: `for i = 0; i < uint64(t.Z); i++`. -/
def quadkey (t : Tile) : Nat :=
  (List.range t.z).foldl (quadkeyStep t) 0

/-- One round of the `FromQuadkey` loop for bit `i` (X and Y are uint32, k is uint64,
    the untyped constant `1` takes k's type, so `1 << (2*i)` is a uint64 shift). -/
def fromQuadkeyStep (k : Nat) (t : Tile) (i : Nat) : Tile :=
  let x := t.x ||| (((k &&& ((1 <<< (2*i)) % W64)) >>> i) % W32)
  let y := t.y ||| (((k &&& ((1 <<< (2*i+1)) % W64)) >>> (i+1)) % W32)
  ⟨x, y, t.z⟩

/-- `FromQuadkey`. -/
def fromQuadkey (k z : Nat) : Tile :=
  (List.range z).foldl (fromQuadkeyStep k) ⟨0, 0, z⟩

/-- Bit length: `32 - bits.LeadingZeros32(v)` for `v < 2^32`. -/
def bitLen : Nat → Nat
  | 0 => 0
  | n+1 => bitLen ((n+1)/2) + 1
decreasing_by omega

/-- `Tile.SharedParent`. -/
def sharedParent (t u : Tile) : Tile :=
  let (t, u) :=
    if t.z ≠ u.z then
      if t.z < u.z then (t, toZoom u t.z) else (toZoom t u.z, u)
    else (t, u)
  if t == u then t else
  let xc := bitLen (t.x ^^^ u.x)
  let yc := bitLen (t.y ^^^ u.y)
  let maxc := if yc > xc then yc else xc
  ⟨shr32 t.x maxc, shr32 t.y maxc, sub32 t.z maxc⟩

/-- `Tile.Range`. -/
def range (t : Tile) (z : Nat) : Tile × Tile :=
  if z < t.z then (toZoom t z, toZoom t z)
  else
    let off := sub32 z t.z
    (⟨shl32 t.x off, shl32 t.y off, z⟩,
     ⟨sub32 (shl32 (add32 t.x 1) off) 1, sub32 (shl32 (add32 t.y 1) off) 1, z⟩)

/-- Inner double loop of `ChildrenInZoomRange` for one zoom delta `d`:
    x-major, y-minor, `dim = uint32(1 << d)`. -/
def childrenAtDelta (t : Tile) (d : Nat) : List Tile :=
  let xs := shl32 t.x d
  let ys := shl32 t.y d
  let dim := shl32 1 d
  -- `for x := xStart; x < xStart+dim; x++` in uint32: the bound itself may wrap
  let nx := add32 xs dim - xs
  let ny := add32 ys dim - ys
  (List.range nx).flatMap fun i =>
    (List.range ny).map fun j => ⟨xs + i, ys + j, add32 t.z d⟩

/-- `ChildrenInZoomRange` (the two `panic`s become `none`). -/
def childrenInZoomRange (t : Tile) (zs ze : Nat) : Option (List Tile) :=
  if ¬ (zs ≤ ze) then none
  else if ¬ (t.z ≤ zs) then none
  else
    let ds := sub32 zs t.z
    let de := sub32 ze t.z
    some ((List.range (de + 1 - ds)).flatMap fun k => childrenAtDelta t (ds + k))

/-! ### Abstract specification: ancestor relation on the tile pyramid -/

/-- the ancestor of `u` that lies `k` levels up. -/
def ancestorAt (u : Tile) (k : Nat) : Tile := ⟨u.x / 2^k, u.y / 2^k, u.z - k⟩

/-- `a` is an ancestor of (or equal to) `u`. -/
def IsAncestor (a u : Tile) : Prop := a.z ≤ u.z ∧ a = ancestorAt u (u.z - a.z)

/-- The property's quantifier: a valid tile with zoom 0..30. -/
def V (t : Tile) : Prop := t.x < 2^t.z ∧ t.y < 2^t.z ∧ t.z ≤ 30

instance (t : Tile) : Decidable (V t) := by unfold V; infer_instance

end Orb.Tile
