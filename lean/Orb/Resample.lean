/-
  Orb.Resample — model of /repo/resample/line_string.go:
  `Resample`, `ToInterval`, `resample`, `resampleEdgeCases`, `precomputeDistances`.

  Core Lean only; polymorphic in the coordinate type so that the same
  definitions run on `Float` (twin of the Go code, bit for bit), on `Rat`
  (exact) and are reasoned about over an ordered field.

  * The distance function `df` is a parameter (`orb.DistanceFunc`).
  * `int(x)` (float → int conversion) is the parameter `trunc`.
  * `float64(i)` is `Nat.cast`.
  * A line string is `Option (List (Pt α))`: `none` is the nil slice, `some []`
    the empty non-nil slice (Go's `Resample` returns its argument "as it is"
    for short lines, so the two are told apart).
  * Go panics are explicit `Res.panic` outcomes; the inner loop of `resample` is
    modelled with fuel and the outcome `Res.err Fail.diverges` (proved unreachable).
-/
import Orb.Basic

namespace Orb.Resample
open Orb

/-- The non-panic failure of the package: the append loop does not exit.  Unreachable for the
    code as it stands (the loop is bounded by `step < totalPoints` since 8096037): theorem
    `resample_total`; kept as an outcome so that totality is a theorem, not true by construction. -/
inductive Fail where
  | diverges
deriving Repr, BEq, DecidableEq, Inhabited

/-- `orb.LineString` with nil-ness: `none` = nil slice. -/
abbrev Line (α : Type) := Option (List (Pt α))

/-- the vertices (`len(nil) = 0`) -/
def Line.pts {α : Type} (l : Line α) : List (Pt α) := l.getD []

section model
variable {α : Type} [Add α] [Sub α] [Mul α] [Div α] [OfNat α 0] [NatCast α]
  [LE α] [LT α] [DecidableLE α] [DecidableLT α] [BEq α]

/-- `Point.Equal`: `p[0] == q[0] && p[1] == q[1]`. -/
def ptEq (p q : Pt α) : Bool := p.x == q.x && p.y == q.y

/-- the `equal` flag computed by the loop of `resampleEdgeCases` -/
def allEq (ps : List (Pt α)) : Bool :=
  match ps with
  | [] => true
  | p0 :: _ => ps.all (ptEq p0)

/-- `resampleEdgeCases(ls, totalPoints)`.  `.ok (some r)` is Go's `(r, true)`,
    `.ok none` is `(ls, false)`.  `ls[:totalPoints]` panics for a negative count. -/
def edgeCases (ls : Line α) (n : Int) : Res Fail (Option (Line α)) :=
  let ps := ls.pts
  if ps.length ≤ 1 then .ok (some ls)            -- degenerate case: returned as it is
  else
    match ps with
    | [] => .ok (some ls)
    | p0 :: _ =>
      if allEq ps then
        if n > (ps.length : Int) then
          .ok (some (some (ps ++ List.replicate (n.toNat - ps.length) p0)))   -- append ls[0] until len = n
        else if n < 0 then .panic "slice bounds out of range"
        else .ok (some (some (ps.take n.toNat)))                             -- ls[:n]
      else .ok none

/-- the `dists` slice of `precomputeDistances`: `dists[i] = df(ls[i], ls[i+1])` -/
def dists (df : Pt α → Pt α → α) (ps : List (Pt α)) : List α :=
  List.zipWith df ps ps.tail

/-- the running sum `total := 0.0; total += dists[i]` -/
def sumDists (ds : List α) : α := ds.foldl (· + ·) 0

/-- length of the line as the code computes it -/
def lineLength (df : Pt α → Pt α → α) (ps : List (Pt α)) : α := sumDists (dists df ps)

/-- `precomputeDistances`: `make([]float64, len(ls)-1)` panics on a line without vertices. -/
def precompute (df : Pt α → Pt α → α) (ps : List (Pt α)) : Res Fail (α × List α) :=
  match ps with
  | [] => .panic "makeslice: len out of range"
  | _ :: _ => .ok (lineLength df ps, dists df ps)

/-- linear interpolation `a + percent*(b-a)`, per coordinate, as written in `resample` -/
def lerp (a b : Pt α) (percent : α) : Pt α :=
  ⟨a.x + percent * (b.x - a.x), a.y + percent * (b.y - a.y)⟩

/-- the step target after `step++`:
    `currentDistance = totalDistance * float64(step) / float64(totalPoints-1)`,
    overridden by `totalDistance` when `step == totalPoints-1`. -/
def target (total : α) (n step : Nat) : α :=
  if step == n - 1 then total else total * (step : α) / ((n - 1 : Nat) : α)

/-- The inner loop `for currentDistance <= nextDistance && step < totalPoints { append; step++; … }`
    on the segment `a b` of length `segd` that starts at distance `dist` (`next = dist + segd`);
    `percent` is `0` on a segment of zero length.
    Returns the appended points and the new `(step, currentDistance)`;
    `none` when `fuel` appends were not enough (never, for `fuel + step > n`: `inner_eq` in OrbProofs/C17Lemmas.lean). -/
def inner (total : α) (n : Nat) (a b : Pt α) (segd dist next : α) :
    Nat → Nat → α → Option (List (Pt α) × Nat × α)
  | fuel, step, cur =>
    if cur ≤ next ∧ step < n then
      match fuel with
      | 0 => none
      | fuel + 1 =>
        let percent := if 0 < segd then (cur - dist) / segd else 0
        let p := lerp a b percent
        match inner total n a b segd dist next fuel (step + 1) (target total n (step + 1)) with
        | none => none
        | some (ps, st, c) => some (p :: ps, st, c)
    else some ([], step, cur)

/-- The outer loop `for i := 0; i < len(ls)-1; i++` over the segments; returns every appended point. -/
def walk (total : α) (n fuel : Nat) : List (Pt α) → List α → α → Nat → α → Option (List (Pt α))
  | a :: b :: rest, d :: ds, dist, step, cur =>
    let next := dist + d
    match inner total n a b d dist next fuel step cur with
    | none => none
    | some (out, step', cur') =>
      match walk total n fuel (b :: rest) ds next step' cur' with
      | none => none
      | some out' => some (out ++ out')
  | _, _, _, _, _ => some []

/-- Fuel of the inner loop: it appends at most `n - step` points (`step < totalPoints` is part
    of the loop condition), so `n + 1` is always enough and `Fail.diverges` is unreachable
    (theorem `resample_total`). -/
def walkFuel (n : Nat) : Nat := n + 1

/-- `resample(ls, dists, totalDistance, totalPoints)` (called with `len(ls) ≥ 2`).

    * `make([]orb.Point, 1, totalPoints)` panics for `totalPoints < 1`.
    * `totalPoints = 1`: `totalDistance / float64(0)` is `+Inf` or `NaN`, so
      `currentDistance <= nextDistance` is false for every (finite) segment end
      and nothing is appended: the result is `[ls[0]]`.  (In a field `x / 0 = 0`,
      hence the explicit case.)
    * `points[totalPoints-1] = ls[len(ls)-1]` panics if fewer than
      `totalPoints - 1` points were appended. -/
def resampleCore (ps : List (Pt α)) (ds : List α) (total : α) (n : Int) : Res Fail (Line α) :=
  if n < 1 then .panic "makeslice: cap out of range"
  else
    match ps with
    | [] => .panic "index out of range"
    | p0 :: rest =>
      let N := n.toNat
      if N == 1 then .ok (some [p0])
      else
        match walk total N (walkFuel N) ps ds 0 1 (total / ((N - 1 : Nat) : α)) with
        | none => .err .diverges
        | some out =>
          let points := p0 :: out
          if points.length < N then .panic "index out of range"
          else .ok (some (points.set (N - 1) ((p0 :: rest).getLast (List.cons_ne_nil _ _))))

/-- `resample.Resample(ls, df, totalPoints)`. -/
def resample (df : Pt α → Pt α → α) (ls : Line α) (n : Int) : Res Fail (Line α) :=
  if n ≤ 0 then .ok none
  else
    match edgeCases ls n with
    | .ok (some r) => .ok r
    | .ok none =>
      (match precompute df ls.pts with
       | .ok (total, ds) => resampleCore ls.pts ds total n
       | .err e => .err e
       | .panic s => .panic s)
    | .err e => .err e
    | .panic s => .panic s

/-- `resample.ToInterval(ls, df, dist)`: a line with fewer than two vertices is returned
    as it is; otherwise the distances are precomputed, then the edge cases are looked at. -/
def toInterval (trunc : α → Int) (df : Pt α → Pt α → α) (ls : Line α) (d : α) : Res Fail (Line α) :=
  if d ≤ 0 then .ok none
  else if ls.pts.length ≤ 1 then .ok ls
  else
    match precompute df ls.pts with
    | .err e => .err e
    | .panic s => .panic s
    | .ok (total, ds) =>
      let n : Int := trunc (total / d) + 1
      match edgeCases ls n with
      | .ok (some r) => .ok r
      | .ok none => resampleCore ls.pts ds total n
      | .err e => .err e
      | .panic s => .panic s

end model

end Orb.Resample
