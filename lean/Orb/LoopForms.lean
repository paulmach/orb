/-
  Orb.LoopForms — the generic loop forms the Go→Lean translator
  (harness/cmd/factgen/translate_float.go) emits for the simple slice loops of the library, with
  the lemmas that relate them to `List.foldl`, `List.all`, `List.any`, `List.zip`, `List.filter`.

  * `foldlRet f xs s`      a `for … range xs` loop whose body may `return`: `f s x = .inl r` is
                           `return r`, `.inr s'` goes on with the state `s'`;
  * `foldPairsRet f xs s`  the same for the index loops over consecutive pairs
                           `for i := lo; i < len(xs)-k; i++ { … xs[i+c] … xs[i+c+1] … }`;
  * loops with an index (`for i := range xs`, `for i, x := range xs`) run over
    `List.range xs.length` and read `xs.getD i d`; `range_map_getD`, `range_map_getD_zip` turn
    them into loops over `xs` / `xs.zip ys`;
  * `all2 p xs ys`         "same length and pointwise `p`", the shape of the `Equal` methods;
  * a loop form against a model loop of the same recursion: each form is the unique solution of its loop
    equations (`pairLoop_foldl`, `loopRet_unique`, `pairLoopRet_unique`, `all2_unique`), so the tie of two
    loops is the tie of one turn.

  Core Lean only.
-/
namespace Orb.LoopForms

variable {β γ σ ρ : Type}

/-- a loop over `xs` whose body may return -/
def foldlRet (f : σ → β → Sum ρ σ) : List β → σ → Sum ρ σ
  | [], s => .inr s
  | x :: t, s =>
    match f s x with
    | .inl r => .inl r
    | .inr s' => foldlRet f t s'

/-- a loop over the consecutive pairs of `xs` whose body may return -/
def foldPairsRet (f : σ → β → β → Sum ρ σ) : List β → σ → Sum ρ σ
  | a :: b :: t, s =>
    match f s a b with
    | .inl r => .inl r
    | .inr s' => foldPairsRet f (b :: t) s'
  | _, s => .inr s

/-- same length and pointwise `p` -/
def all2 (p : β → γ → Bool) : List β → List γ → Bool
  | [], [] => true
  | x :: xs, y :: ys => p x y && all2 p xs ys
  | _, _ => false

@[simp] theorem foldlRet_nil (f : σ → β → Sum ρ σ) (s : σ) : foldlRet f [] s = .inr s := rfl

theorem foldlRet_cons (f : σ → β → Sum ρ σ) (x : β) (t : List β) (s : σ) :
    foldlRet f (x :: t) s = match f s x with
      | .inl r => .inl r
      | .inr s' => foldlRet f t s' := rfl

/-! ### a loop form is the unique solution of its loop equations

The translated loop and a model loop of the same recursion both satisfy the equations below by `rfl`; a tie of two
loops is then the tie of one turn (for `List.foldl` against `List.foldl`: core's `List.foldl_hom`, `List.foldl_rel`). -/

/-- a loop over the consecutive pairs of `l` is the fold over `l.zip l.tail` -/
theorem pairLoop_foldl {τ : Type} (loop : List β → τ → τ) (g : τ → β → β → τ)
    (h0 : ∀ s, loop [] s = s) (h1 : ∀ a s, loop [a] s = s)
    (h2 : ∀ a b t s, loop (a :: b :: t) s = loop (b :: t) (g s a b)) (l : List β) (s : τ) :
    loop l s = (l.zip l.tail).foldl (fun s e => g s e.1 e.2) s := by
  induction l generalizing s with
  | nil => exact h0 s
  | cons a t ih =>
    cases t with
    | nil => exact h1 a s
    | cons b t => rw [h2]; exact ih _

/-- a loop whose body may return; `k` is what follows the loop (`match … with | .inl r => r | .inr s => …`), kept a
    function because the `match` of every statement is a constant of its own -/
theorem loopRet_unique {ρ' : Type} {f : σ → β → Sum ρ σ} (k : Sum ρ σ → ρ') (loop : List β → σ → ρ')
    (h0 : ∀ s, loop [] s = k (.inr s))
    (h1 : ∀ x t s, loop (x :: t) s = match f s x with | .inl r => k (.inl r) | .inr s' => loop t s')
    (l : List β) (s : σ) : k (foldlRet f l s) = loop l s := by
  induction l generalizing s with
  | nil => exact (h0 s).symm
  | cons x t ih =>
    rw [h1, foldlRet_cons]
    cases f s x with
    | inl r => rfl
    | inr s' => exact ih s'

theorem pairLoopRet_unique {ρ' : Type} {f : σ → β → β → Sum ρ σ} (k : Sum ρ σ → ρ') (loop : List β → σ → ρ')
    (h0 : ∀ s, loop [] s = k (.inr s)) (h1 : ∀ a s, loop [a] s = k (.inr s))
    (h2 : ∀ a b t s, loop (a :: b :: t) s = match f s a b with | .inl r => k (.inl r) | .inr s' => loop (b :: t) s')
    (l : List β) (s : σ) : k (foldPairsRet f l s) = loop l s := by
  induction l generalizing s with
  | nil => exact (h0 s).symm
  | cons a t ih =>
    cases t with
    | nil => exact (h1 a s).symm
    | cons b t =>
      rw [h2]
      show k (match f s a b with | .inl r => Sum.inl r | .inr s' => foldPairsRet f (b :: t) s') = _
      cases f s a b with
      | inl r => rfl
      | inr s' => exact ih s'

theorem all2_unique (p : β → γ → Bool) (eq : List β → List γ → Bool) (h00 : eq [] [] = true)
    (h01 : ∀ y u, eq [] (y :: u) = false) (h10 : ∀ x t, eq (x :: t) [] = false)
    (h11 : ∀ x t y u, eq (x :: t) (y :: u) = (p x y && eq t u)) (xs : List β) (ys : List γ) :
    all2 p xs ys = eq xs ys := by
  induction xs generalizing ys with
  | nil => cases ys with
    | nil => exact h00.symm
    | cons y u => exact (h01 y u).symm
  | cons x t ih => cases ys with
    | nil => exact (h10 x t).symm
    | cons y u => rw [h11, ← ih]; rfl

/-- a body that never returns: the loop is `List.foldl` -/
theorem foldlRet_inr (g : σ → β → σ) (xs : List β) (s : σ) :
    foldlRet (ρ := ρ) (fun s x => .inr (g s x)) xs s = .inr (xs.foldl g s) := by
  induction xs generalizing s with
  | nil => rfl
  | cons x t ih => simp only [foldlRet, List.foldl_cons]; exact ih _

/-- the loop over a mapped list -/
theorem foldlRet_map (f : σ → β → Sum ρ σ) (g : γ → β) (l : List γ) (s : σ) :
    foldlRet f (l.map g) s = foldlRet (fun s i => f s (g i)) l s := by
  induction l generalizing s with
  | nil => rfl
  | cons x t ih =>
    simp only [List.map_cons, foldlRet]
    cases f s (g x) with
    | inl r => rfl
    | inr s' => exact ih _

/-- `for … { if c x { return r } }` without state: the loop returns `r` iff some `x` has `c x`
    (`L4`, and `L2` with `c` the negated test) -/
theorem foldlRet_any (c : β → Prop) [DecidablePred c] (r : ρ) (xs : List β) :
    foldlRet (fun (_ : Unit) x => if c x then Sum.inl r else Sum.inr ()) xs ()
      = if xs.any (fun x => decide (c x)) then .inl r else .inr () := by
  induction xs with
  | nil => rfl
  | cons x t ih =>
    simp only [foldlRet, List.any_cons]
    by_cases h : c x
    · simp [h]
    · simp only [h, ↓reduceIte, decide_false, Bool.false_or]; exact ih

/-- reading a list through its indices -/
theorem range_map_getD (xs : List β) (d : β) :
    (List.range xs.length).map (fun i => xs.getD i d) = xs := by
  induction xs with
  | nil => rfl
  | cons x t ih =>
    rw [List.length_cons, List.range_succ_eq_map, List.map_cons, List.map_map]
    simp only [List.getD_cons_zero]
    congr 1

/-- reading two lists of the same length through their indices -/
theorem range_map_getD_zip (xs : List β) (ys : List γ) (d : β) (e : γ) (h : xs.length = ys.length) :
    (List.range xs.length).map (fun i => (xs.getD i d, ys.getD i e)) = xs.zip ys := by
  induction xs generalizing ys with
  | nil => rfl
  | cons x t ih =>
    cases ys with
    | nil => simp at h
    | cons y u =>
      rw [List.length_cons, List.range_succ_eq_map, List.map_cons, List.map_map]
      simp only [List.getD_cons_zero, List.zip_cons_cons]
      congr 1
      exact ih u (by simpa using h)

/-- a loop over the indices of `xs` that only reads `xs[i]` is the loop over `xs` -/
theorem foldlRet_range (f : σ → β → Sum ρ σ) (xs : List β) (d : β) (s : σ) :
    foldlRet (fun s i => f s (xs.getD i d)) (List.range xs.length) s = foldlRet f xs s := by
  rw [← foldlRet_map f (fun i => xs.getD i d), range_map_getD]

theorem foldl_range (f : σ → β → σ) (xs : List β) (d : β) (s : σ) :
    (List.range xs.length).foldl (fun s i => f s (xs.getD i d)) s = xs.foldl f s := by
  rw [← List.foldl_map, range_map_getD]

/-- a loop over the indices of `xs` that reads `xs[i]` and `ys[i]` (same length) is the loop
    over `xs.zip ys` -/
theorem foldlRet_range_zip (f : σ → β → γ → Sum ρ σ) (xs : List β) (ys : List γ) (d : β) (e : γ)
    (h : xs.length = ys.length) (s : σ) :
    foldlRet (fun s i => f s (xs.getD i d) (ys.getD i e)) (List.range xs.length) s
      = foldlRet (fun s (xy : β × γ) => f s xy.1 xy.2) (xs.zip ys) s := by
  rw [← range_map_getD_zip xs ys d e h, foldlRet_map]

theorem all2_length (p : β → γ → Bool) (xs : List β) (ys : List γ) (h : all2 p xs ys = true) :
    xs.length = ys.length := by
  induction xs generalizing ys with
  | nil => cases ys with
    | nil => rfl
    | cons y u => simp [all2] at h
  | cons x t ih =>
    cases ys with
    | nil => simp [all2] at h
    | cons y u =>
      simp only [all2, Bool.and_eq_true] at h
      simp [ih u h.2]

/-- `all2` on lists of the same length is `List.all` on the zipped list -/
theorem all2_eq_all_zip (p : β → γ → Bool) (xs : List β) (ys : List γ) (h : xs.length = ys.length) :
    all2 p xs ys = (xs.zip ys).all (fun xy => p xy.1 xy.2) := by
  induction xs generalizing ys with
  | nil => cases ys with
    | nil => rfl
    | cons y u => simp at h
  | cons x t ih =>
    cases ys with
    | nil => simp at h
    | cons y u =>
      simp only [all2, List.zip_cons_cons, List.all_cons]
      rw [ih u (by simpa using h)]

theorem all2_of_length_ne (p : β → γ → Bool) (xs : List β) (ys : List γ) (h : xs.length ≠ ys.length) :
    all2 p xs ys = false := by
  cases hb : all2 p xs ys with
  | false => rfl
  | true => exact absurd (all2_length p xs ys hb) h

/-- THE SHAPE OF THE `Equal` METHODS (`L2` with a length guard):
    `if len(xs) != len(ys) { return false }; for i := range xs { if !p(xs[i], ys[i]) { return false } }; return true` -/
theorem equal_loop (p : β → γ → Bool) (xs : List β) (ys : List γ) (d : β) (e : γ) :
    (if xs.length ≠ ys.length then false else
      match foldlRet (fun (_ : Unit) i => if (!p (xs.getD i d) (ys.getD i e)) = true then Sum.inl false else Sum.inr ())
          (List.range xs.length) () with
      | .inl r => r
      | .inr _ => true) = all2 p xs ys := by
  by_cases h : xs.length = ys.length
  · simp only [ne_eq, h, not_true_eq_false, ↓reduceIte]
    have := foldlRet_range_zip (ρ := Bool) (fun (_ : Unit) x y => if (!p x y) = true then Sum.inl false else Sum.inr ())
      xs ys d e h ()
    rw [← h, this, foldlRet_any (fun (xy : β × γ) => (!p xy.1 xy.2) = true) false (xs.zip ys),
      all2_eq_all_zip p xs ys h, List.all_eq_not_any_not]
    simp only [Bool.decide_eq_true]
    cases (xs.zip ys).any fun xy => !p xy.1 xy.2 <;> rfl
  · simp only [ne_eq, h, not_false_eq_true, ↓reduceIte]
    exact (all2_of_length_ne p xs ys h).symm

/-- `for _, x := range xs { if c x { out = append(out, x) } }` is `List.filter` -/
theorem foldl_filter (c : β → Bool) (xs : List β) (acc : List β) :
    xs.foldl (fun (out : List β) x => if c x = true then out ++ [x] else out) acc = acc ++ xs.filter c := by
  induction xs generalizing acc with
  | nil => simp
  | cons x t ih =>
    simp only [List.foldl_cons, List.filter_cons]
    rw [ih]
    cases c x <;> simp

/-- `for _, x := range xs { if y := g x; y != nil { out = append(out, y) } }` is `List.filterMap` -/
theorem foldl_filterMap (g : β → Option γ) (xs : List β) (acc : List γ) :
    xs.foldl (fun (out : List γ) x => match g x with | some y => out ++ [y] | none => out) acc
      = acc ++ xs.filterMap g := by
  induction xs generalizing acc with
  | nil => simp
  | cons x t ih =>
    simp only [List.foldl_cons, List.filterMap_cons]
    rw [ih]
    cases g x <;> simp

/-! ### in-place loops `for i := range xs { xs[i] = f(xs[i]) }` -/

theorem getD_append_cons_length (pre : List β) (x : β) (t : List β) (d : β) :
    (pre ++ x :: t).getD pre.length d = x := by
  induction pre with
  | nil => rfl
  | cons a p ih => simp

theorem set_append_cons_length (pre : List β) (x v : β) (t : List β) :
    (pre ++ x :: t).set pre.length v = pre ++ v :: t := by
  induction pre with
  | nil => rfl
  | cons a p ih => simp [ih]

theorem foldl_set_shift (f : β → β) (d : β) (xs pre : List β) :
    ((List.range xs.length).map (· + pre.length)).foldl (fun (ys : List β) i => ys.set i (f (ys.getD i d))) (pre ++ xs)
      = pre ++ xs.map f := by
  induction xs generalizing pre with
  | nil => simp
  | cons x t ih =>
    rw [List.length_cons, List.range_succ_eq_map, List.map_cons, List.map_map, List.foldl_cons]
    simp only [Nat.zero_add, getD_append_cons_length, set_append_cons_length]
    have h := ih (pre ++ [f x])
    simp only [List.length_append, List.length_cons, List.length_nil, List.append_assoc, List.cons_append,
      List.nil_append] at h
    rw [List.map_cons, ← h]
    congr 1
    apply List.map_congr_left
    intro i _
    simp only [Function.comp, Nat.succ_eq_add_one]
    omega

/-- `for i := range xs { xs[i] = f(xs[i]) }` is `List.map` -/
theorem foldl_set_map (f : β → β) (d : β) (xs : List β) :
    (List.range xs.length).foldl (fun (ys : List β) i => ys.set i (f (ys.getD i d))) xs = xs.map f := by
  have h := foldl_set_shift f d xs []
  simpa using h

/-! ### in-place compaction `count := 0; for i := range xs { r := …xs[i]…; if skip { continue }; xs[count] = r; count++ }; xs[:count]` -/

/-- what the compaction keeps, from position `i` on: `g i x = none` skips, `some r` keeps `r` -/
def compactFrom (g : Nat → β → Option β) : Nat → List β → List β
  | _, [] => []
  | i, x :: rest =>
    match g i x with
    | none => compactFrom g (i + 1) rest
    | some r => r :: compactFrom g (i + 1) rest

/-- one iteration: the state is `(count, xs)` -/
def compactStep (g : Nat → β → Option β) (d : β) (st : Nat × List β) (i : Nat) : Nat × List β :=
  match g i (st.2.getD i d) with
  | none => st
  | some r => (st.1 + 1, st.2.set st.1 r)

/-- the loop, from any point on: `out` is what has been kept (`count = out.length`), `junk` the slots between
    `count` and `i`, `rest` the elements not yet visited (never overwritten: `count ≤ i`) -/
theorem compact_fold (g : Nat → β → Option β) (d : β) (rest out junk : List β) :
    ∃ junk', (List.range' (out.length + junk.length) rest.length).foldl (compactStep g d) (out.length, out ++ junk ++ rest)
      = (out.length + (compactFrom g (out.length + junk.length) rest).length,
         out ++ (compactFrom g (out.length + junk.length) rest ++ junk')) := by
  induction rest generalizing out junk with
  | nil => exact ⟨junk, by simp [compactFrom]⟩
  | cons x t ih =>
    have hget : (out ++ junk ++ x :: t).getD (out.length + junk.length) d = x := by
      have := getD_append_cons_length (out ++ junk) x t d
      rw [List.length_append] at this
      exact this
    rw [List.length_cons, List.range'_succ, List.foldl_cons]
    cases hg : g (out.length + junk.length) x with
    | none =>
      have hstep : compactStep g d (out.length, out ++ junk ++ x :: t) (out.length + junk.length)
          = (out.length, out ++ (junk ++ [x]) ++ t) := by
        unfold compactStep
        dsimp only
        rw [hget, hg]
        simp
      rw [hstep]
      obtain ⟨j', h⟩ := ih out (junk ++ [x])
      refine ⟨j', ?_⟩
      have e1 : out.length + (junk ++ [x]).length = out.length + junk.length + 1 := by
        simp only [List.length_append, List.length_cons, List.length_nil]; omega
      rw [e1] at h
      simp only [compactFrom, hg]
      exact h
    | some r =>
      cases junk with
      | nil =>
        simp only [List.length_nil, Nat.add_zero, List.append_nil] at hget hg ⊢
        have hstep : compactStep g d (out.length, out ++ x :: t) out.length
            = ((out ++ [r]).length, (out ++ [r]) ++ [] ++ t) := by
          have hs := set_append_cons_length out x r t
          simp only [compactStep, hget, hg, hs, List.length_append, List.length_cons, List.length_nil,
            List.append_assoc, List.cons_append, List.nil_append, List.append_nil]
        rw [hstep]
        obtain ⟨j', h⟩ := ih (out ++ [r]) []
        refine ⟨j', ?_⟩
        have e1 : (out ++ [r]).length + ([] : List β).length = out.length + 1 := by simp
        rw [e1] at h
        simp only [compactFrom, hg]
        simp only [List.length_append, List.length_cons, List.length_nil, List.append_assoc, List.cons_append,
          List.nil_append] at h ⊢
        rw [h]
        congr 1
        omega
      | cons j js =>
        have hstep : compactStep g d (out.length, out ++ (j :: js) ++ x :: t) (out.length + (j :: js).length)
            = ((out ++ [r]).length, (out ++ [r]) ++ (js ++ [x]) ++ t) := by
          have hs := set_append_cons_length out j r (js ++ x :: t)
          simp only [List.append_assoc, List.cons_append] at hget hs ⊢
          unfold compactStep
          dsimp only
          rw [hget, hg]
          dsimp only
          rw [hs]
          simp
        rw [hstep]
        obtain ⟨j', h⟩ := ih (out ++ [r]) (js ++ [x])
        refine ⟨j', ?_⟩
        have e1 : (out ++ [r]).length + (js ++ [x]).length = out.length + (j :: js).length + 1 := by
          simp only [List.length_append, List.length_cons, List.length_nil]; omega
        rw [e1] at h
        simp only [compactFrom, hg]
        simp only [List.length_append, List.length_cons, List.length_nil, List.append_assoc, List.cons_append,
          List.nil_append] at h ⊢
        rw [h]
        congr 1
        omega

/-- the whole loop followed by `xs[:count]` -/
theorem compact_loop (g : Nat → β → Option β) (d : β) (xs : List β) :
    (((List.range xs.length).foldl (compactStep g d) (0, xs)).2.take
        ((List.range xs.length).foldl (compactStep g d) (0, xs)).1) = compactFrom g 0 xs := by
  obtain ⟨j', h⟩ := compact_fold g d xs [] []
  simp only [List.length_nil, Nat.add_zero, Nat.zero_add, List.nil_append] at h
  rw [List.range_eq_range', h]
  simp

/-- `for _, x := range xs { out = append(out, f x) }` is `List.map` -/
theorem foldl_append_map (f : β → γ) (xs : List β) (acc : List γ) :
    xs.foldl (fun (out : List γ) x => out ++ [f x]) acc = acc ++ xs.map f := by
  induction xs generalizing acc with
  | nil => simp
  | cons x t ih => simp [ih]

end Orb.LoopForms
