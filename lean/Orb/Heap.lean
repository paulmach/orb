/-
  Orb.Heap — a memory model for the clause of C06 that is about memory:
  "a clone shares no memory with the original: mutating either leaves the other
  unchanged" (DESIGN.md §2.3).  Core Lean only.

  A pure value model (`Orb.Core.cloneV`) cannot observe aliasing.  Here a geometry is a
  tree of SLICE HEADERS into a store of backing arrays:

  * `Store α` — the backing arrays of all `[]orb.Point` in play; the identity of an array is
    its index in the list.  `alloc` (Go's `make([]Point, n)` + `copy`) appends a new array,
    so every allocation returns an id that no existing header can hold.
  * `HGeom α` — the nine kinds with every point list replaced by the id of its backing array.
    Offsets, lengths and capacities of the headers are left out: a header is taken to span
    its whole array.  `orb.Clone` and the per-type `Clone` methods never re-slice
    (`make([]Point, len(mp))` + `copy`), so the clone side needs nothing more; for the
    original this means aliasing is modelled at the granularity of whole arrays (two members
    either are the same slice or are disjoint) — overlapping sub-slices of one array inside
    the original are outside the model (the correspondence run reports overlap of address
    ranges, not only equality of base pointers, to cover them on the Go side).
  * The outer header arrays (`[]LineString`, `[]Ring`, `[]Polygon`, `[]Geometry`) are also
    freshly allocated by the Go code (`make(MultiLineString, 0, len(mls))`, …).  The property
    speaks about edits of vertices, and a vertex lives in a point array, so only the point
    arrays are given identities; the outer lists are plain (immutable) Lean lists here.
  * Nil members below the top level are outside this model (`Orb.CoreNil` has them, at the value level); the top-level
    nil interface / typed nil slices own no memory and are covered by `Orb.Core.cloneV`.

  `clone` threads the store through the traversal in the order in which the Go code allocates
  (clone.go, multi_point.go:17-26, line_string.go:37-40, ring.go:72-79,
  multi_line_string.go:47-58, polygon.go:44-55, multi_polygon.go:45-57, geometry.go:134-145).
-/
import Orb.Basic

namespace Orb.Heap
open Orb

/-- The backing arrays; array id = index. -/
abbrev Store (α : Type) := List (List (Pt α))

/-- A geometry whose point slices are references (array ids) into a `Store`. -/
inductive HGeom (α : Type) where
  | point (p : Pt α)
  | multiPoint (a : Nat)
  | lineString (a : Nat)
  | multiLineString (as : List Nat)
  | ring (a : Nat)
  | polygon (as : List Nat)
  | multiPolygon (ass : List (List Nat))
  | bound (min max : Pt α)
  | collection (gs : List (HGeom α))
deriving Repr, Inhabited

variable {α : Type}

/-- Contents of array `a`; an id that was never allocated reads as the empty array. -/
def read (σ : Store α) (a : Nat) : List (Pt α) := σ.getD a []

mutual
/-- The value a heap geometry has in a store. -/
def denote (σ : Store α) : HGeom α → Geom α
  | .point p => .point p
  | .multiPoint a => .multiPoint (read σ a)
  | .lineString a => .lineString (read σ a)
  | .multiLineString as => .multiLineString (as.map (read σ))
  | .ring a => .ring (read σ a)
  | .polygon as => .polygon (as.map (read σ))
  | .multiPolygon ass => .multiPolygon (ass.map fun as => as.map (read σ))
  | .bound a b => .bound a b
  | .collection gs => .collection (denoteList σ gs)
def denoteList (σ : Store α) : List (HGeom α) → List (Geom α)
  | [] => []
  | g :: gs => denote σ g :: denoteList σ gs
end

mutual
/-- The ids of all backing arrays reachable from a value, in traversal order (with repetitions
    when the value shares an array between members). -/
def footprint : HGeom α → List Nat
  | .point _ => []
  | .multiPoint a => [a]
  | .lineString a => [a]
  | .multiLineString as => as
  | .ring a => [a]
  | .polygon as => as
  | .multiPolygon ass => ass.flatten
  | .bound _ _ => []
  | .collection gs => footprintList gs
def footprintList : List (HGeom α) → List Nat
  | [] => []
  | g :: gs => footprint g ++ footprintList gs
end

/-- Every header refers to an allocated array. -/
def WF (σ : Store α) (g : HGeom α) : Prop := ∀ a ∈ footprint g, a < σ.length

/-- `arr[i] = v` on backing array `a` (out-of-range indices and unallocated ids: no effect;
    Go would panic on the index, the property only speaks about edits of existing vertices). -/
def write : Store α → Nat → Nat → Pt α → Store α
  | [], _, _, _ => []
  | arr :: rest, 0, i, v => arr.set i v :: rest
  | arr :: rest, a + 1, i, v => arr :: write rest a i v

/-- `make([]Point, len(ps))` + `copy`: a new array at the next unused id. -/
def alloc (σ : Store α) (ps : List (Pt α)) : Store α × Nat := (σ ++ [ps], σ.length)

/-- `MultiPoint.Clone` (also `LineString.Clone`, `Ring.Clone`, which convert and call it). -/
def cloneArr (σ : Store α) (a : Nat) : Store α × Nat := alloc σ (read σ a)

/-- The loop of `MultiLineString.Clone` / `Polygon.Clone`: members are cloned first to last. -/
def cloneArrs (σ : Store α) : List Nat → Store α × List Nat
  | [] => (σ, [])
  | a :: as =>
    let r := cloneArr σ a
    let rs := cloneArrs r.1 as
    (rs.1, r.2 :: rs.2)

/-- The loop of `MultiPolygon.Clone`. -/
def cloneArrss (σ : Store α) : List (List Nat) → Store α × List (List Nat)
  | [] => (σ, [])
  | as :: ass =>
    let r := cloneArrs σ as
    let rs := cloneArrss r.1 ass
    (rs.1, r.2 :: rs.2)

mutual
/-- `orb.Clone` on a non-nil value: returns the store after all allocations and the new headers. -/
def clone (σ : Store α) : HGeom α → Store α × HGeom α
  | .point p => (σ, .point p)
  | .multiPoint a => let r := cloneArr σ a; (r.1, .multiPoint r.2)
  | .lineString a => let r := cloneArr σ a; (r.1, .lineString r.2)
  | .multiLineString as => let r := cloneArrs σ as; (r.1, .multiLineString r.2)
  | .ring a => let r := cloneArr σ a; (r.1, .ring r.2)
  | .polygon as => let r := cloneArrs σ as; (r.1, .polygon r.2)
  | .multiPolygon ass => let r := cloneArrss σ ass; (r.1, .multiPolygon r.2)
  | .bound a b => (σ, .bound a b)
  | .collection gs => let r := cloneList σ gs; (r.1, .collection r.2)
/-- The loop of `Collection.Clone`. -/
def cloneList (σ : Store α) : List (HGeom α) → Store α × List (HGeom α)
  | [] => (σ, [])
  | g :: gs =>
    let r := clone σ g
    let rs := cloneList r.1 gs
    (rs.1, r.2 :: rs.2)
end

end Orb.Heap
