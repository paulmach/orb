/-
  Orb.GeoJSON — model of /repo/geojson (geometry.go, feature.go, feature_collection.go, bbox.go)
  at the level of the JSON / BSON *document tree*.

  The reflection-driven serialisers (encoding/json, go.mongodb.org/mongo-driver/bson) are TRUSTED:
  text ⇄ tree is not modelled.  What is modelled is
    * which document orb hands to the serialiser (`geomDoc`, `featureDoc`, `fcDoc`):
      NewGeometry + newGeometryMarshallDoc (ring / bound → Polygon, collection → "geometries",
      nil / empty → null), `omitempty`, the `null` short cuts of MarshalJSON / MarshalBSONValue,
      map members sorted by key;
    * what the decoders do with an arbitrary tree (`geomOfDoc`, `featureOfDoc`, `fcOfDoc`):
      struct-field matching (case folding), `json.Unmarshal` into `[2]float64` / nested slices
      (null handling, short / long arrays), "saved" type errors vs. hard errors of nested
      Unmarshalers, the type switch, `g.Geometry()` on the decoded members (a nil member is rejected), `featureUnmarshalFinish`;
    * the typed helper types `geojson.Point` … `geojson.MultiPolygon` (`typedOfDoc`), `bbox.go`
      (`newBBox`, `bboxValid`, `bboxBound`), values with NIL MEMBERS on the marshalling side
      (`geomMemberN` over `Orb.CoreNil.NGeom`: a nil ring / line / polygon is written as `null`).
  PANICS ARE EXPLICIT.  Every place where the Go code dereferences a pointer that a decode can leave
  nil, or indexes a slice, is a function with a `.panic` arm (`memberGeometry`, `featureFinishPtr`,
  `derefGeometry`, `derefCoords`, `bboxAt`); the CHECK that the Go code makes before it (the nil-member
  loop of fix 6b9e2e7, `if doc == nil` of fix 87467ba, `if doc.Geometry != nil`, `Valid()`) is a
  separate `if` in the caller.  The totality theorems of OrbProofs/C02.lean therefore say that each
  check covers its dereference: delete a check from the model (or from the Go code and hence from
  the model) and the theorem is false (`members_check_needed`, `feature_check_needed`,
  `typed_check_needed`, `bbox_check_needed` show the panic behind each check).
  Coordinates are float64 bit patterns.  Both codecs share the definitions; `Codec` selects the
  documented differences (bson `omitempty` drops empty slices, bson rejects over-long arrays and
  aborts on the first type error, json saves type errors and goes on).
-/
import Orb.Basic
import Orb.CoreNil

namespace Orb.GeoJSON
open Orb

/-- A JSON / BSON document tree.  Numbers are float64 bit patterns (BSON int32/int64 are shipped as
    the float64 the decoder converts them to).

    `bad` exists in BSON only: an element that is framed correctly (type byte, key, length — the
    struct decoder can `Skip()` it and a `bson.RawValue` field can copy it) but whose payload the
    value reader refuses when it is READ: a boolean whose byte is neither 0 nor 1
    (`bsonrw.valueReader.ReadBoolean`: "invalid byte for boolean").  Wherever a decoder looks at it,
    it is a boolean: a type error where booleans are not accepted, a read error where they are
    (`float64`, `interface{}`).  No Go value is ever written as `bad`. -/
inductive Json where
  | null
  | bool (b : Bool)
  | num (bits : UInt64)
  | str (s : String)
  | arr (l : List Json)
  | obj (members : List (String × Json))
  | bad
deriving Repr, Inhabited

abbrev G := Geom UInt64
abbrev V := GVal UInt64
abbrev Members := List (String × Json)

inductive Err where
  | json      -- any error of encoding/json or bson (type mismatch, missing raw value, …)
  | invalid   -- ErrInvalidGeometry
  | notType   -- "not a feature" / "not a feature collection"
deriving DecidableEq, Repr, Inhabited

abbrev R := Res Err

inductive Codec where
  | json | bson
deriving DecidableEq, Repr, Inhabited

/-! ### tree equality (Bool; the driver compares trees with it) -/

mutual
def Json.beq : Json → Json → Bool
  | .null, .null => true
  | .bool a, .bool b => a == b
  | .num a, .num b => a == b
  | .str a, .str b => a == b
  | .arr a, .arr b => Json.beqList a b
  | .obj a, .obj b => Json.beqMembers a b
  | .bad, .bad => true
  | _, _ => false
def Json.beqList : List Json → List Json → Bool
  | [], [] => true
  | a :: as, b :: bs => Json.beq a b && Json.beqList as bs
  | _, _ => false
def Json.beqMembers : Members → Members → Bool
  | [], [] => true
  | (k, a) :: as, (k', b) :: bs => k == k' && Json.beq a b && Json.beqMembers as bs
  | _, _ => false
end

instance : BEq Json := ⟨Json.beq⟩

/-! ### Go maps as documents: members sorted by key, a later assignment wins -/

/-- insert `(k, v)` into a key-sorted member list unless the key is already there
    (members are processed last-to-first, so the one already there is the later assignment). -/
def insertKeep (k : String) (v : Json) : Members → Members
  | [] => [(k, v)]
  | (k', v') :: rest =>
    if k < k' then (k, v) :: (k', v') :: rest
    else if k = k' then (k', v') :: rest
    else (k', v') :: insertKeep k v rest

/-- the key-sorted document of the Go map built by assigning the members in order -/
def normKeys : Members → Members
  | [] => []
  | (k, v) :: rest => insertKeep k v (normKeys rest)

mutual
/-- `json.Unmarshal` into `interface{}` followed by viewing the Go value as a document again:
    objects become maps (duplicate keys: the last wins; order forgotten → sorted). -/
def valOf : Json → Json
  | .arr l => .arr (valOfList l)
  | .obj ms => .obj (normKeys (valOfMembers ms))
  | j => j
def valOfList : List Json → List Json
  | [] => []
  | j :: js => valOf j :: valOfList js
def valOfMembers : Members → Members
  | [] => []
  | (k, v) :: ms => (k, valOf v) :: valOfMembers ms
end

/-- finite float64 bit pattern (exponent field not all ones) -/
def finite (b : UInt64) : Bool := ((b >>> 52) &&& 0x7ff) != 0x7ff

/-- ±Inf.  A JSON number token can only parse to an infinity by overflow (`1e999`), which
    encoding/json reports as an UnmarshalTypeError; the harness ships such a token as ±Inf. -/
def isInf (b : UInt64) : Bool := ((b >>> 52) &&& 0x7ff) == 0x7ff && (b &&& 0xfffffffffffff) == 0

mutual
/-- the tree contains an overflowing number token -/
def hasInf : Json → Bool
  | .num b => isInf b
  | .arr l => hasInfList l
  | .obj ms => hasInfMembers ms
  | _ => false
def hasInfList : List Json → Bool
  | [] => false
  | j :: js => hasInf j || hasInfList js
def hasInfMembers : Members → Bool
  | [] => false
  | (_, v) :: ms => hasInf v || hasInfMembers ms
end

mutual
/-- the tree contains an unreadable element (`Json.bad`): decoding it into `interface{}`
    (bson: `primitive.D` / `primitive.A` element by element) fails at that element -/
def hasBad : Json → Bool
  | .bad => true
  | .arr l => hasBadList l
  | .obj ms => hasBadMembers ms
  | _ => false
def hasBadList : List Json → Bool
  | [] => false
  | j :: js => hasBad j || hasBadList js
def hasBadMembers : Members → Bool
  | [] => false
  | (_, v) :: ms => hasBad v || hasBadMembers ms
end

/-! ### marshalling: the document handed to the serialiser -/

def ptJ (p : Pt UInt64) : Json := .arr [.num p.x, .num p.y]
def ptsJ (ps : List (Pt UInt64)) : Json := .arr (ps.map ptJ)
def ptssJ (l : List (List (Pt UInt64))) : Json := .arr (l.map ptsJ)
def ptsssJ (l : List (List (List (Pt UInt64)))) : Json := .arr (l.map ptssJ)

/-- `Bound.ToRing`. -/
def boundRing (a b : Pt UInt64) : List (Pt UInt64) := [a, ⟨b.x, a.y⟩, b, ⟨a.x, b.y⟩, a]

/-- `geometryMarshallDoc` with a `Coordinates` value: `type`, then `coordinates` — which the bson
    codec's `omitempty` drops when the slice inside the interface has length 0 (encoding/json only
    drops a nil interface). -/
def coordDoc (c : Codec) (ty : String) (coords : Json) (len : Nat) : Json :=
  if c = .bson ∧ len = 0 then .obj [("type", .str ty)]
  else .obj [("type", .str ty), ("coordinates", coords)]

mutual
/-- `NewGeometry(g)` marshalled as a member (`MarshalJSON` / `MarshalBSONValue`): rings and bounds
    are written as polygons; a collection writes its members under "geometries"; a collection
    WITHOUT members (`Coordinates == nil && len(Geometries) == 0`) is written as `null`. -/
def geomJ (c : Codec) : G → Json
  | .point p => .obj [("type", .str "Point"), ("coordinates", ptJ p)]
  | .multiPoint ps => coordDoc c "MultiPoint" (ptsJ ps) ps.length
  | .lineString ps => coordDoc c "LineString" (ptsJ ps) ps.length
  | .multiLineString ls => coordDoc c "MultiLineString" (ptssJ ls) ls.length
  | .ring ps => .obj [("type", .str "Polygon"), ("coordinates", .arr [ptsJ ps])]
  | .polygon rs => coordDoc c "Polygon" (ptssJ rs) rs.length
  | .multiPolygon ps => coordDoc c "MultiPolygon" (ptsssJ ps) ps.length
  | .bound a b => .obj [("type", .str "Polygon"), ("coordinates", .arr [ptsJ (boundRing a b)])]
  | .collection [] => .null
  | .collection (g :: gs) =>
    .obj [("type", .str "GeometryCollection"), ("geometries", .arr (geomJ c g :: geomsJ c gs))]
def geomsJ (c : Codec) : List G → List Json
  | [] => []
  | g :: gs => geomJ c g :: geomsJ c gs
end

def kindName : Kind → String
  | .point => "Point" | .multiPoint => "MultiPoint" | .lineString => "LineString"
  | .multiLineString => "MultiLineString" | .ring => "Polygon" | .polygon => "Polygon"
  | .multiPolygon => "MultiPolygon" | .bound => "Polygon" | .collection => "GeometryCollection"

/-- a geometry as a member of a feature / of "geometries", from the top-level Go value:
    a nil interface and an empty (or nil) collection give `null`; a typed nil slice is a non-nil
    interface and is written with `"coordinates":null` (json) / without coordinates (bson);
    a nil ring becomes `Polygon{nil}`. -/
def geomMember (c : Codec) : V → Json
  | .nilIface => .null
  | .nilSlice .collection => .null
  | .nilSlice .ring => .obj [("type", .str "Polygon"), ("coordinates", .arr [.null])]
  | .nilSlice k => coordDoc c (kindName k) .null 0
  | .val g => geomJ c g

/-- `NewGeometry(v).MarshalJSON()` resp. `bson.Marshal(NewGeometry(v))`.  `MarshalBSON` has no
    `null` short cut: the empty document type is written (`{"type": ""}`). -/
def geomDoc (c : Codec) (v : V) : Json :=
  match c, geomMember c v with
  | .bson, .null => .obj [("type", .str "")]
  | _, j => j

/-! #### values with nil members (`Orb.CoreNil.NGeom`)

`orb.Polygon{nil}`, `orb.MultiLineString{nil, {…}}`, `orb.MultiPolygon{nil, {nil}}`,
`orb.Collection{orb.MultiPoint(nil)}`: both serialisers write a nil slice as `null`, at every nesting
level, so the member shows up as a `null` INSIDE "coordinates" (or as `"coordinates":null` for a
typed-nil member of a collection).  The length `omitempty` (bson) looks at is that of the outermost
slice. -/

abbrev NG := CoreNil.NGeom UInt64

def nptsJ : CoreNil.NPts UInt64 → Json
  | none => .null
  | some ps => ptsJ ps
def nptssJ : CoreNil.NPtss UInt64 → Json
  | none => .null
  | some l => .arr (l.map nptsJ)
def nptsssJ : CoreNil.NPtsss UInt64 → Json
  | none => .null
  | some l => .arr (l.map nptssJ)

/-- `len` of a possibly nil slice -/
def lenN {α : Type} (o : Option (List α)) : Nat := (o.getD []).length

mutual
/-- `NewGeometry(v)` marshalled as a member, for a Go value with nil members (cf. `geomMember`,
    `geomJ`): `Ring(nil)` becomes `Polygon{nil}` = `[null]`; a nil interface, a nil collection and
    an empty collection are written as `null`. -/
def geomMemberN (c : Codec) : NG → Json
  | .nilIface => .null
  | .point p => .obj [("type", .str "Point"), ("coordinates", ptJ p)]
  | .multiPoint ps => coordDoc c "MultiPoint" (nptsJ ps) (lenN ps)
  | .lineString ps => coordDoc c "LineString" (nptsJ ps) (lenN ps)
  | .multiLineString ls => coordDoc c "MultiLineString" (nptssJ ls) (lenN ls)
  | .ring ps => .obj [("type", .str "Polygon"), ("coordinates", .arr [nptsJ ps])]
  | .polygon rs => coordDoc c "Polygon" (nptssJ rs) (lenN rs)
  | .multiPolygon ps => coordDoc c "MultiPolygon" (nptsssJ ps) (lenN ps)
  | .bound a b => .obj [("type", .str "Polygon"), ("coordinates", .arr [ptsJ (boundRing a b)])]
  | .nilCollection => .null
  | .collection [] => .null
  | .collection (g :: gs) =>
    .obj [("type", .str "GeometryCollection"), ("geometries", .arr (geomMemberN c g :: geomMembersN c gs))]
def geomMembersN (c : Codec) : List NG → List Json
  | [] => []
  | g :: gs => geomMemberN c g :: geomMembersN c gs
end

/-- `NewGeometry(v).MarshalJSON()` / `bson.Marshal(NewGeometry(v))` for a value with nil members -/
def geomDocN (c : Codec) (v : NG) : Json :=
  match c, geomMemberN c v with
  | .bson, .null => .obj [("type", .str "")]
  | _, j => j

mutual
/-- some slice BELOW the top level is nil (a nil ring / line / polygon, a typed-nil or nil collection
    as a member of a collection) -/
def hasNilSliceMember : NG → Bool
  | .multiLineString (some l) | .polygon (some l) => l.any (·.isNone)
  | .multiPolygon (some l) => l.any fun pg => match pg with | none => true | some rs => rs.any (·.isNone)
  | .collection gs => nilSliceMembers gs
  | _ => false
def nilSliceMembers : List NG → Bool
  | [] => false
  | g :: gs => topNilSlice g || hasNilSliceMember g || nilSliceMembers gs
/-- the value itself is a nil slice -/
def topNilSlice : NG → Bool
  | .multiPoint none | .lineString none | .multiLineString none | .ring none | .polygon none
  | .multiPolygon none | .nilCollection => true
  | _ => false
end

mutual
/-- some member of a collection (at any depth) is the nil INTERFACE: not a geometry at all -/
def hasNilIfaceMember : NG → Bool
  | .collection gs => nilIfaceMembers gs
  | _ => false
def nilIfaceMembers : List NG → Bool
  | [] => false
  | g :: gs => g.isNilIface || hasNilIfaceMember g || nilIfaceMembers gs
end

mutual
/-- the nil-free value the decoders and `orb.Equal` see: a nil slice is the empty slice of its type;
    a nil-interface member is written like an empty collection (`null`) -/
def forgetNil : NG → G
  | .nilIface => .collection []
  | .point p => .point p
  | .multiPoint ps => .multiPoint (CoreNil.ptsOf ps)
  | .lineString ps => .lineString (CoreNil.ptsOf ps)
  | .multiLineString ls => .multiLineString (CoreNil.ptssOf ls)
  | .ring ps => .ring (CoreNil.ptsOf ps)
  | .polygon rs => .polygon (CoreNil.ptssOf rs)
  | .multiPolygon ps => .multiPolygon (CoreNil.ptsssOf ps)
  | .bound a b => .bound a b
  | .nilCollection => .collection []
  | .collection gs => .collection (forgetNils gs)
def forgetNils : List NG → List G
  | [] => []
  | g :: gs => forgetNil g :: forgetNils gs
end

/-- the top-level value of `Orb.Basic` (nil-ness kept at the top only) -/
def toV : NG → V
  | .nilIface => .nilIface
  | .multiPoint none => .nilSlice .multiPoint
  | .lineString none => .nilSlice .lineString
  | .multiLineString none => .nilSlice .multiLineString
  | .ring none => .nilSlice .ring
  | .polygon none => .nilSlice .polygon
  | .multiPolygon none => .nilSlice .multiPolygon
  | .nilCollection => .nilSlice .collection
  | g => .val (forgetNil g)

/-- A `geojson.Feature` (also the decoded one). -/
structure Feature where
  id : Option Json := none                  -- nil interface / a JSON-representable value
  typ : String := "Feature"
  bbox : Option (List UInt64) := none       -- nil / slice
  geom : V := .nilIface
  props : Option Members := none            -- nil map / map (as its key-sorted document)
deriving Repr, Inhabited

/-- A `geojson.FeatureCollection`. -/
structure FC where
  typ : String := "FeatureCollection"
  bbox : Option (List UInt64) := none
  features : Option (List (Option Feature)) := none   -- nil slice / slice of (possibly nil) pointers
  extra : Option Members := none
deriving Repr, Inhabited

def bboxJ (bb : List UInt64) : Json := .arr (bb.map .num)

/-- `ID interface{}`: json `id,omitempty` drops a nil id, bson writes `id: null` -/
def idMember (c : Codec) : Option Json → Members
  | some j => [("id", valOf j)]
  | none =>
    match c with
    | .json => []
    | .bson => [("id", .null)]

/-- `bbox,omitempty`: a nil or empty bbox is dropped -/
def bboxMember : Option (List UInt64) → Members
  | some (b :: bs) => [("bbox", bboxJ (b :: bs))]
  | _ => []

/-- `doc.Properties = nil` when `len(doc.Properties) == 0`; a nil map is written as `null`,
    a map as its key-sorted document -/
def propsDoc : Option Members → Json
  | some (p :: ps) => .obj (normKeys (valOfMembers (p :: ps)))
  | _ => .null

/-- `newFeatureDoc` through the serialiser: struct order id, type, bbox, geometry, properties. -/
def featureDocG (c : Codec) (f : Feature) (geometry : Json) : Json :=
  .obj (idMember c f.id ++ [("type", .str "Feature")] ++ bboxMember f.bbox ++
    [("geometry", geometry), ("properties", propsDoc f.props)])

def featureDoc (c : Codec) (f : Feature) : Json := featureDocG c f (geomMember c f.geom)

/-- a feature whose `Geometry` has nil members: `n` is the Go value, `f.geom` what it denotes -/
def featureDocN (c : Codec) (f : Feature) (n : NG) : Json := featureDocG c f (geomMemberN c n)

def featureMember (c : Codec) : Option Feature → Json
  | none => .null
  | some f => featureDoc c f

def eraseKey (k : String) : Members → Members
  | [] => []
  | (k', v) :: ms => if k' = k then eraseKey k ms else (k', v) :: eraseKey k ms

/-- `newFeatureCollectionDoc`: a clone of ExtraMembers with "type" set, "bbox" deleted and set again
    when `fc.BBox != nil`, "features" set (`[]` for a nil slice); the map is written key-sorted. -/
def fcDocG (fc : FC) (features : List Json) : Json :=
  .obj (normKeys (
    valOfMembers (eraseKey "bbox" (fc.extra.getD [])) ++
    [("type", .str "FeatureCollection")] ++
    (match fc.bbox with
     | some bb => [("bbox", bboxJ bb)]
     | none => []) ++
    [("features", .arr features)]))

def fcDoc (c : Codec) (fc : FC) : Json := fcDocG fc ((fc.features.getD []).map (featureMember c))

/-- the feature members when the geometries have nil members (`ns`: the Go values, in order, one
    per non-nil feature pointer) -/
def featureMembersN (c : Codec) : List (Option Feature) → List NG → List Json
  | [], _ => []
  | none :: fs, ns => .null :: featureMembersN c fs ns
  | some f :: fs, n :: ns => featureDocN c f n :: featureMembersN c fs ns
  | some f :: fs, [] => featureDoc c f :: featureMembersN c fs []

def fcDocN (c : Codec) (fc : FC) (ns : List NG) : Json :=
  fcDocG fc (featureMembersN c (fc.features.getD []) ns)

/-! ### unmarshalling -/

/-- encoding/json `foldName` restricted to what can match an ASCII field name: ASCII letters
    case-insensitively, U+017F (long s) ↦ s, U+212A (Kelvin) ↦ k. -/
def foldCharJ (ch : Char) : Char :=
  if 'A' ≤ ch ∧ ch ≤ 'Z' then Char.ofNat (ch.toNat + 32)
  else if ch.toNat = 0x17f then 's'
  else if ch.toNat = 0x212a then 'k'
  else ch

/-- bson struct codec: exact name, else `strings.ToLower(name)`: ASCII, U+212A ↦ k, U+0130 ↦ i. -/
def foldCharB (ch : Char) : Char :=
  if 'A' ≤ ch ∧ ch ≤ 'Z' then Char.ofNat (ch.toNat + 32)
  else if ch.toNat = 0x212a then 'k'
  else if ch.toNat = 0x130 then 'i'
  else ch

/-- the struct field a document key selects -/
def fieldKey (c : Codec) (k : String) : String :=
  match c with
  | .json => String.ofList (k.toList.map foldCharJ)
  | .bson => String.ofList (k.toList.map foldCharB)

/-- into `float64`: a number; `null` leaves the zero; the bson float decoder also takes a boolean
    (`true` ↦ 1; `ReadBoolean` fails on a `bad` one); anything else is a type error (`none`). -/
def f64Of (c : Codec) : Json → Option UInt64
  | .num b => if c = .json ∧ isInf b then none else some b
  | .null => some 0
  | .bool b => if c = .bson then some (if b then 0x3ff0000000000000 else 0) else none
  | _ => none

/-- into `orb.Point` (`[2]float64`): `null` leaves the zero point; a short array leaves zeros;
    json skips elements beyond the second WITHOUT looking at them, bson rejects them. -/
def ptOf (c : Codec) : Json → Option (Pt UInt64)
  | .null => some ⟨0, 0⟩
  | .arr [] => some ⟨0, 0⟩
  | .arr [a] => (f64Of c a).map fun x => ⟨x, 0⟩
  | .arr (a :: b :: rest) =>
    if c = .bson ∧ !rest.isEmpty then none else
    match f64Of c a, f64Of c b with
    | some x, some y => some ⟨x, y⟩
    | _, _ => none
  | _ => none

def mapOpt {α β : Type} (f : α → Option β) : List α → Option (List β)
  | [] => some []
  | a :: as =>
    match f a, mapOpt f as with
    | some b, some bs => some (b :: bs)
    | _, _ => none

/-- into a slice: outer `none` = type error, inner `none` = `null` (the slice is set to nil). -/
def sliceOf {α : Type} (f : Json → Option α) : Json → Option (Option (List α))
  | .null => some none
  | .arr l => (mapOpt f l).map some
  | _ => none

/-- a nested slice: a nil member is observed as an empty one (the protocol has no nested nil). -/
def sliceOf' {α : Type} (f : Json → Option α) (j : Json) : Option (List α) :=
  (sliceOf f j).map (·.getD [])

def ptsOf (c : Codec) : Json → Option (List (Pt UInt64)) := sliceOf' (ptOf c)
def ptssOf (c : Codec) : Json → Option (List (List (Pt UInt64))) := sliceOf' (ptsOf c)

def bboxOf (c : Codec) : Json → Option (Option (List UInt64)) := sliceOf (f64Of c)

/-- the `switch jg.Type` arms with coordinates: decode the raw "coordinates" value into the
    kind's Go type (`none` = not a coordinate kind). -/
def coordsOf (c : Codec) (ty : String) (j : Json) : Option (R V) :=
  let fin {α : Type} (k : Kind) (mk : List α → G) (r : Option (Option (List α))) : R V :=
    match r with
    | none => .err .json
    | some none => .ok (.nilSlice k)
    | some (some l) => .ok (.val (mk l))
  match ty with
  | "Point" => some (match ptOf c j with | some p => .ok (.val (.point p)) | none => .err .json)
  | "MultiPoint" => some (fin .multiPoint .multiPoint (sliceOf (ptOf c) j))
  | "LineString" => some (fin .lineString .lineString (sliceOf (ptOf c) j))
  | "MultiLineString" => some (fin .multiLineString .multiLineString (sliceOf (ptsOf c) j))
  | "Polygon" => some (fin .polygon .polygon (sliceOf (ptsOf c) j))
  | "MultiPolygon" => some (fin .multiPolygon .multiPolygon (sliceOf (ptssOf c) j))
  | _ => none

def emptyOf : Kind → G
  | .point => .point ⟨0, 0⟩ | .multiPoint => .multiPoint [] | .lineString => .lineString []
  | .multiLineString => .multiLineString [] | .ring => .ring [] | .polygon => .polygon []
  | .multiPolygon => .multiPolygon [] | .bound => .bound ⟨0, 0⟩ ⟨0, 0⟩ | .collection => .collection []

/-- a member's `Geometry()` inside a collection value (typed nil observed as empty). -/
def V.toGeom : V → G
  | .val g => g
  | .nilSlice k => emptyOf k
  | .nilIface => .collection []

/-- A decoded `*geojson.Geometry`: the value of `g.Geometry()` and whether
    `g.Coordinates == nil && g.Geometries == nil` (looked at by `featureUnmarshalFinish`). -/
structure DG where
  v : V
  bare : Bool
deriving Repr, Inhabited

/-- the nil-member check of the `case "GeometryCollection"` arm (fix 6b9e2e7):
    `for _, m := range jg.Geometries { if m == nil { return ErrInvalidGeometry } }` -/
def nilMember {α : Type} : R α := .err .invalid

/-- fields of `jsonGeometry` / `bsonGeometry` while the document's members are being decoded -/
structure GSt where
  ty : String := ""
  coords : Option Json := none                 -- the raw "coordinates" value (none = absent)
  geoms : Option (List (Option DG)) := none    -- Geometries: nil / slice of (possibly nil) pointers
  saved : Bool := false                        -- encoding/json: a saved UnmarshalTypeError
deriving Inhabited

/-- `geom.Geometry()` on one element of `g.Geometries`: the method reads `g.Coordinates` through the
    receiver, so a nil pointer is DEREFERENCED.  (Nothing in this function checks for nil — the
    check is the caller's, see `finishGeometry`.) -/
def memberGeometry : Option DG → R G
  | none => .panic "nil pointer dereference: (*Geometry).Geometry"
  | some d => .ok d.v.toGeom

/-- `(*Geometry).Geometry()` for a collection: `for _, geom := range g.Geometries { c = append(c,
    geom.Geometry()) }`. -/
def membersGeometry : List (Option DG) → R (List G)
  | [] => .ok []
  | m :: rest =>
    match memberGeometry m with
    | .ok g =>
      (match membersGeometry rest with
       | .ok gs => .ok (g :: gs)
       | .err e => .err e
       | .panic s => .panic s)
    | .err e => .err e
    | .panic s => .panic s

/-- some member is a nil pointer -/
def hasNilMember : List (Option DG) → Bool
  | [] => false
  | none :: _ => true
  | some _ :: rest => hasNilMember rest

/-- the part of `UnmarshalJSON` / `UnmarshalBSON` after the struct decode: saved error, the type
    switch, and `g.Type = g.Geometry().GeoJSONType()` — which, for a collection, calls `Geometry()`
    on every member (`membersGeometry`); the nil-member loop in the switch arm is what keeps that
    from dereferencing a nil pointer. -/
def finishGeometry (c : Codec) (st : GSt) : R DG :=
  if st.saved then .err .json else
  if st.ty = "GeometryCollection" then
    match st.geoms with
    | none => .ok ⟨.val (.collection []), true⟩
    | some ms =>
      if hasNilMember ms then nilMember
      else
        match membersGeometry ms with
        | .ok gs => .ok ⟨.val (.collection gs), false⟩
        | .err e => .err e
        | .panic s => .panic s
  else
    match st.coords with
    | none =>
      -- the raw message is empty: "unexpected end of JSON input" / "cannot decode document into …";
      -- an unknown type is rejected before the raw value is looked at
      (match coordsOf c st.ty .null with
       | some _ => .err .json
       | none => .err .invalid)
    | some j =>
      match coordsOf c st.ty j with
      | some (.ok v) => .ok ⟨v, false⟩
      | some (.err e) => .err e
      | some (.panic s) => .panic s
      | none => .err .invalid

/-- a plain type error while decoding a struct field: encoding/json *saves* it
    (UnmarshalTypeError) and goes on, bson returns it at once -/
def gTypeErr (c : Codec) (st : GSt) : R GSt :=
  match c with
  | .json => .ok { st with saved := true }
  | .bson => .err .json

/-- `null` into the `Type string` field: json leaves the field alone, bson sets the zero value -/
def nullType (c : Codec) (old : String) : String :=
  match c with
  | .json => old
  | .bson => ""

/-- the "type" member into `Type string` -/
def gTypeField (c : Codec) (v : Json) (st : GSt) : R GSt :=
  match v with
  | .str s => .ok { st with ty := s }
  | .null => .ok { st with ty := nullType c st.ty }
  | _ => gTypeErr c st

/-- the "geometries" member into `[]*Geometry`: `null` → nil slice; an array → its decoded elements
    (`elems`; an element's error or panic aborts the whole decode); else a type error -/
def gGeomsField (c : Codec) (v : Json) (st : GSt) (elems : R (List (Option DG))) : R GSt :=
  match v with
  | .null => .ok { st with geoms := none }
  | .arr _ =>
    (match elems with
     | .ok ds => .ok { st with geoms := some ds }
     | .err e => .err e
     | .panic s => .panic s)
  | _ => gTypeErr c st

/-- one member of `jsonGeometry` / `bsonGeometry` (`elems`: the decoded elements when the value is
    an array) -/
def gStep (c : Codec) (k : String) (v : Json) (st : GSt) (elems : R (List (Option DG))) : R GSt :=
  if fieldKey c k = "type" then gTypeField c v st
  else if fieldKey c k = "coordinates" then .ok { st with coords := some v }
  else if fieldKey c k = "geometries" then gGeomsField c v st elems
  else .ok st

/-- an element of "geometries": `null` is a nil pointer (the Unmarshaler is not called), anything
    else is what `UnmarshalJSON` / `UnmarshalBSON` (`r`) makes of it -/
def gElemOf (j : Json) (r : R DG) : R (Option DG) :=
  match j with
  | .null => .ok none
  | _ => r.map some

mutual
/-- `(*Geometry).UnmarshalJSON` / `UnmarshalBSON` on a document tree. -/
def decodeGeometry (c : Codec) : Json → R DG
  | .obj ms =>
    match decodeGMembers c ms {} with
    | .ok st => finishGeometry c st
    | .err e => .err e
    | .panic s => .panic s
  | .null =>
    -- json: null into a struct is a no-op (Type "" → invalid geometry); bson: not a document
    match c with
    | .json => .err .invalid
    | .bson => .err .json
  | .arr _ =>
    -- a bson array IS a document (keys "0", "1", …): no field matches, Type stays ""
    match c with
    | .json => .err .json
    | .bson => .err .invalid
  | .bool _ => .err .json
  | .num _ => .err .json
  | .str _ => .err .json
  | .bad => .err .json
/-- the struct decode, member by member in document order -/
def decodeGMembers (c : Codec) : Members → GSt → R GSt
  | [], st => .ok st
  | (k, v) :: rest, st =>
    match gStep c k v st (geomsOf c v) with
    | .ok st' => decodeGMembers c rest st'
    | .err e => .err e
    | .panic s => .panic s
/-- the elements of an array value, each through the `*Geometry` Unmarshaler -/
def geomsOf (c : Codec) : Json → R (List (Option DG))
  | .arr l => decodeGElems c l
  | .null => .ok []
  | .bool _ => .ok []
  | .num _ => .ok []
  | .str _ => .ok []
  | .obj _ => .ok []
  | .bad => .ok []
/-- elements of "geometries", in order; the first error or panic aborts -/
def decodeGElems (c : Codec) : List Json → R (List (Option DG))
  | [] => .ok []
  | j :: rest =>
    match gElemOf j (decodeGeometry c j) with
    | .ok d =>
      match decodeGElems c rest with
      | .ok ds => .ok (d :: ds)
      | .err e => .err e
      | .panic s => .panic s
    | .err e => .err e
    | .panic s => .panic s
end

/-- `UnmarshalGeometry(data)` / `bson.Unmarshal(data, &Geometry{})`, observed through `Geometry()`. -/
def geomOfDoc (c : Codec) (j : Json) : R V := (decodeGeometry c j).map (·.v)

/-- `var g *Geometry; json.Unmarshal(data, &g)`: `null` sets the pointer to nil. -/
def geomPtrOfDoc (j : Json) : R V :=
  match j with
  | .null => .ok .nilIface
  | j => geomOfDoc .json j

/-- `g.Type` after a successful decode: `g.Geometry().GeoJSONType()` (geometry.go, last statement
    of `UnmarshalJSON` / `UnmarshalBSON`) — the name of the decoded VALUE's kind, not the string the
    document carried (they coincide, the switch having matched it). -/
def typeOfV : V → String
  | .val g => kindName g.kind
  | .nilSlice k => kindName k
  | .nilIface => ""

/-! #### the typed helper types `geojson.Point` … `geojson.MultiPolygon`

`func (p *Point) UnmarshalJSON(data)`: `g := &Geometry{}; unmarshalJSON(data, &g)` — the target is
the POINTER `g`, so a JSON `null` sets it to nil — then `g.Coordinates.(orb.Point)`.  The BSON twin
decodes a top-level document, which is never `null`. -/

/-- the pointer `g` after `unmarshalJSON(data, &g)` / `bson.Unmarshal(data, &g)` -/
def typedGeomPtr (c : Codec) (j : Json) : R (Option DG) :=
  match c, j with
  | .json, .null => .ok none
  | _, j => (decodeGeometry c j).map some

/-- `g.Coordinates`: dereferences `g` -/
def derefCoords : Option DG → R V
  | none => .panic "nil pointer dereference: g.Coordinates"
  | some d => .ok d.v

/-- `g.Coordinates.(orb.K)`: the interface holds a value of dynamic type K (a typed nil slice
    counts; a collection has a nil `Coordinates`, its members sit in `Geometries`) -/
def assertKind (k : Kind) : V → Bool
  | .val (.collection _) => false
  | .val g => g.kind == k
  | .nilSlice k' => k' == k
  | .nilIface => false

/-- `json.Unmarshal(data, &geojson.K{})` / `bson.Unmarshal(data, &geojson.K{})` for the helper type
    of kind `k` ∈ {point, multiPoint, lineString, multiLineString, polygon, multiPolygon}.
    `if g == nil { return ErrInvalidGeometry }` (the six `UnmarshalJSON`; the `UnmarshalBSON` twins
    have no such check and need none, see `typedGeomPtr_nil_iff`) stands between the decode and
    `g.Coordinates`. -/
def typedOfDoc (c : Codec) (k : Kind) (j : Json) : R V :=
  match typedGeomPtr c j with
  | .err e => .err e
  | .panic s => .panic s
  | .ok p =>
    if c = .json ∧ p.isNone then .err .invalid else
    match derefCoords p with
    | .ok v => if assertKind k v then .ok v else .err .notType   -- "geojson: not a K type"
    | .err e => .err e
    | .panic s => .panic s

/-- the six helper kinds -/
def typedKinds : List Kind := [.point, .multiPoint, .lineString, .multiLineString, .polygon, .multiPolygon]

/-- fields of `featureDoc` while being decoded -/
structure FSt where
  id : Option Json := none
  ty : String := ""
  bbox : Option (List UInt64) := none
  geom : Option DG := none
  props : Option Members := none
  saved : Bool := false
deriving Inhabited

def fTypeErr (c : Codec) (st : FSt) : R FSt :=
  match c with
  | .json => .ok { st with saved := true }
  | .bson => .err .json

/-- "id" into `interface{}` (an unreadable element anywhere inside is a read error) -/
def fIdField (c : Codec) (v : Json) (st : FSt) : R FSt :=
  match v with
  | .null => .ok { st with id := none }
  | v =>
    if hasBad v then fTypeErr c st
    else .ok { st with id := some (valOf v), saved := st.saved || (c == .json && hasInf v) }

/-- "type" into `Type string` -/
def fTypeField (c : Codec) (v : Json) (st : FSt) : R FSt :=
  match v with
  | .str s => .ok { st with ty := s }
  | .null => .ok { st with ty := nullType c st.ty }
  | _ => fTypeErr c st

/-- "bbox" into `BBox []float64` -/
def fBBoxField (c : Codec) (v : Json) (st : FSt) : R FSt :=
  match bboxOf c v with
  | some bb => .ok { st with bbox := bb }
  | none => fTypeErr c st

/-- "geometry" into `*Geometry`: `null` → nil; anything else goes to the Unmarshaler, whose error
    (or panic) aborts the decode -/
def fGeomField (c : Codec) (v : Json) (st : FSt) : R FSt :=
  match v with
  | .null => .ok { st with geom := none }
  | v =>
    match decodeGeometry c v with
    | .ok d => .ok { st with geom := some d }
    | .err e => .err e
    | .panic s => .panic s

/-- "properties" into `Properties map[string]interface{}` -/
def fPropsField (c : Codec) (v : Json) (st : FSt) : R FSt :=
  match v with
  | .null => .ok { st with props := none }
  | .obj ms =>
    if hasBadMembers ms then fTypeErr c st
    else
    .ok { st with props := some (normKeys (valOfMembers ms)),
                  saved := st.saved || (c == .json && hasInfMembers ms) }
  | _ => fTypeErr c st

/-- one member of `featureDoc` -/
def fStep (c : Codec) (k : String) (v : Json) (st : FSt) : R FSt :=
  if fieldKey c k = "id" then fIdField c v st
  else if fieldKey c k = "type" then fTypeField c v st
  else if fieldKey c k = "bbox" then fBBoxField c v st
  else if fieldKey c k = "geometry" then fGeomField c v st
  else if fieldKey c k = "properties" then fPropsField c v st
  else .ok st

/-- the struct decode of `featureDoc`, in document order. -/
def decodeFMembers (c : Codec) : Members → FSt → R FSt
  | [], st => .ok st
  | (k, v) :: rest, st =>
    match fStep c k v st with
    | .ok st' => decodeFMembers c rest st'
    | .err e => .err e
    | .panic s => .panic s

/-- `doc.Geometry.Coordinates`, `doc.Geometry.Geometry()`: dereference the pointer -/
def derefGeometry : Option DG → R DG
  | none => .panic "nil pointer dereference: doc.Geometry"
  | some d => .ok d

/-- `featureUnmarshalFinish` once `doc` has been dereferenced: `if doc.Geometry != nil { … }` is the
    check in front of the two uses of `doc.Geometry`. -/
def featureFinish (st : FSt) : R Feature :=
  if st.saved then .err .json else
  if st.ty ≠ "Feature" then .err .notType else
  if st.geom.isNone then
    .ok { id := st.id, typ := st.ty, bbox := st.bbox, geom := .nilIface, props := st.props }
  else
    match derefGeometry st.geom with
    | .ok d =>
      if d.bare then .err .invalid
      else .ok { id := st.id, typ := st.ty, bbox := st.bbox, geom := d.v, props := st.props }
    | .err e => .err e
    | .panic s => .panic s

/-- `unmarshalJSON(data, &doc)` / `bson.Unmarshal(data, &doc)` with `doc := &featureDoc{}`: the
    POINTER afterwards (`none`: a JSON `null` set it to nil), or the decode's error.  A bson array is
    a document none of whose keys ("0", "1", …) selects a field. -/
def featureDocPtr (c : Codec) (j : Json) : R (Option FSt) :=
  match j with
  | .null =>
    (match c with
     | .json => .ok none
     | .bson => .err .json)
  | .obj ms => (decodeFMembers c ms {}).map some
  | .arr _ =>
    (match c with
     | .json => .err .json
     | .bson => .ok (some {}))
  | _ => .err .json

/-- `featureUnmarshalFinish(doc, f)` as called: its first statement reads `doc.Type` -/
def featureFinishPtr : Option FSt → R Feature
  | none => .panic "nil pointer dereference: doc.Type"
  | some st => featureFinish st

/-- `(*Feature).UnmarshalJSON(data)` / `UnmarshalBSON`.  `rawNull` says that `data` is exactly the
    four bytes `null` (the `bytes.Equal` short cut).  Otherwise the document is decoded into a
    `**featureDoc`; `UnmarshalJSON` then checks `if doc == nil` (fix 87467ba: a `null` with
    surrounding white space) before `featureUnmarshalFinish` dereferences it.  `UnmarshalBSON` has
    no such check — and needs none, `featureDocPtr .bson` never leaving the pointer nil. -/
def featureOfDoc (c : Codec) (rawNull : Bool) (j : Json) : R Feature :=
  if rawNull then .ok { typ := "" } else
  match featureDocPtr c j with
  | .err e => .err e
  | .panic s => .panic s
  | .ok p =>
    if c = .json ∧ p.isNone then .ok { typ := "" }   -- `if doc == nil { *f = Feature{}; return nil }`
    else featureFinishPtr p

/-- `var f *Feature; json.Unmarshal(data, &f)`. -/
def featurePtrOfDoc (j : Json) : R (Option Feature) :=
  match j with
  | .null => .ok none
  | j => (featureOfDoc .json false j).map some

/-- an element of "features": `null` is a nil pointer; anything else goes to the Unmarshaler. -/
def featureElem (c : Codec) : Json → R (Option Feature)
  | .null => .ok none
  | j => (featureOfDoc c false j).map some

def decodeFeatures (c : Codec) : List Json → R (List (Option Feature))
  | [] => .ok []
  | j :: rest =>
    match featureElem c j with
    | .ok f =>
      (match decodeFeatures c rest with
       | .ok fs => .ok (f :: fs)
       | .err e => .err e
       | .panic s => .panic s)
    | .err e => .err e
    | .panic s => .panic s

def lookupKey (k : String) : Members → Option Json
  | [] => none
  | (k', v) :: ms => if k' = k then some v else lookupKey k ms

/-- "type" of a feature collection into `fc.Type` (initially "") -/
def fcTypeOf (c : Codec) : Option Json → R String
  | none => .ok ""
  | some (.str s) => .ok s
  | some .null => .ok ""
  | some _ =>
    match c with
    | .json => .err .json
    | .bson => .ok ""              -- StringValueOK: not a string → ""

def fcBBoxOf (c : Codec) : Option Json → R (Option (List UInt64))
  | none => .ok none
  | some v =>
    match bboxOf c v with
    | some bb => .ok bb
    | none => .err .json

def fcFeaturesOf (c : Codec) : Option Json → R (Option (List (Option Feature)))
  | none => .ok none
  | some .null => .ok none
  | some (.arr l) => (decodeFeatures c l).map some
  | some _ => .err .json

/-- the foreign members into `ExtraMembers map[string]interface{}` (nil when there are none) -/
def fcExtrasOf (c : Codec) (ms : Members) : R (Option Members) :=
  match ms with
  | [] => .ok none
  | _ =>
    if hasBadMembers ms = true then .err .json
    else if c = .json ∧ hasInfMembers ms = true then .err .json else .ok (some (valOfMembers ms))

def reservedKey (k : String) : Bool := k == "type" || k == "bbox" || k == "features"

/-- the `for key, value := range tmp` loop over the top-level members, which went through a
    `map[string]RawMessage` (exact keys; duplicates: the last wins — `normKeys`).  Go visits the map
    in random order and every key is handled independently of the others, so the loop is modelled
    key by key: "type", "bbox", "features", then the foreign members.  When more than one member
    fails, WHICH failure is reported (an error or a panic) is the model's choice — see `fcMayErr`,
    `fcMayPanic`. -/
def decodeFCMap (c : Codec) (m : Members) : R FC :=
  match fcTypeOf c (lookupKey "type" m) with
  | .err e => .err e
  | .panic s => .panic s
  | .ok typ =>
    match fcBBoxOf c (lookupKey "bbox" m) with
    | .err e => .err e
    | .panic s => .panic s
    | .ok bb =>
      match fcFeaturesOf c (lookupKey "features" m) with
      | .err e => .err e
      | .panic s => .panic s
      | .ok fs =>
        match fcExtrasOf c (m.filter fun kv => !reservedKey kv.1) with
        | .err e => .err e
        | .panic s => .panic s
        | .ok ex => .ok { typ := typ, bbox := bb, features := fs, extra := ex }

/-- some top-level member fails with an error (so that Go's random map order may report the error
    even though another member would panic) -/
def fcMayErr (c : Codec) (m : Members) : Bool :=
  (match fcTypeOf c (lookupKey "type" m) with | .err _ => true | _ => false) ||
  (match fcBBoxOf c (lookupKey "bbox" m) with | .err _ => true | _ => false) ||
  (match fcFeaturesOf c (lookupKey "features" m) with | .err _ => true | _ => false) ||
  (match fcExtrasOf c (m.filter fun kv => !reservedKey kv.1) with | .err _ => true | _ => false)

/-- some top-level member panics when it is decoded -/
def fcMayPanic (c : Codec) (m : Members) : Bool :=
  match fcFeaturesOf c (lookupKey "features" m) with
  | .panic _ => true
  | _ => false

/-- the error classes of the top-level members that fail, one per failing member ("type", "bbox",
    "features", the foreign members): Go's random map order reports ONE of them — and only one of
    them; with a single failing member the reported class is determined. -/
def fcErrClasses (c : Codec) (m : Members) : List Err :=
  (match fcTypeOf c (lookupKey "type" m) with | .err e => [e] | _ => []) ++
  (match fcBBoxOf c (lookupKey "bbox" m) with | .err e => [e] | _ => []) ++
  (match fcFeaturesOf c (lookupKey "features" m) with | .err e => [e] | _ => []) ++
  (match fcExtrasOf c (m.filter fun kv => !reservedKey kv.1) with | .err e => [e] | _ => [])

/-- `(*FeatureCollection).UnmarshalJSON(data)` / `UnmarshalBSON`. -/
def fcOfDoc (c : Codec) (rawNull : Bool) (j : Json) : R FC :=
  if rawNull then .ok { typ := "" } else
  match j with
  | .null =>
    (match c with
     | .json => .err .notType      -- nil map, Type ""
     | .bson => .err .json)
  | .obj ms =>
    (match decodeFCMap c (normKeys ms) with
     | .ok fc => if fc.typ ≠ "FeatureCollection" then .err .notType else .ok fc
     | .err e => .err e
     | .panic s => .panic s)
  | _ => .err .json

/-- `var fc *FeatureCollection; json.Unmarshal(data, &fc)`. -/
def fcPtrOfDoc (j : Json) : R (Option FC) :=
  match j with
  | .null => .ok none
  | j => (fcOfDoc .json false j).map some

/-! ### bbox.go -/

/-- `NewBBox(b)` -/
def newBBox (min max : Pt UInt64) : List UInt64 := [min.x, min.y, max.x, max.y]

/-- `BBox.Valid()`: present, at least 4 elements, an even number of them -/
def bboxValid : Option (List UInt64) → Bool
  | none => false
  | some l => decide (l.length ≥ 4) && l.length % 2 == 0

/-- `bb[i]`: an index expression panics beyond the length -/
def bboxAt (l : List UInt64) (i : Nat) : R UInt64 :=
  match l[i]? with
  | some x => .ok x
  | none => .panic "index out of range"

/-- `BBox.Bound()`: `if !bb.Valid() { return orb.Bound{} }`, then `bb[0], bb[1], bb[mid], bb[mid+1]`
    with `mid := len(bb) / 2`. -/
def bboxBound (bb : Option (List UInt64)) : R (Pt UInt64 × Pt UInt64) :=
  if !bboxValid bb then .ok (⟨0, 0⟩, ⟨0, 0⟩) else
  let l := bb.getD []
  let mid := l.length / 2
  (bboxAt l 0).bind fun x0 => (bboxAt l 1).bind fun y0 =>
  (bboxAt l mid).bind fun x1 => (bboxAt l (mid + 1)).bind fun y1 =>
  .ok (⟨x0, y0⟩, ⟨x1, y1⟩)

/-! ### what a value denotes after a round trip -/

/-- ring and bound come back as the one-ring polygon -/
def canonG : G → G
  | .ring r => .polygon [r]
  | .bound a b => .polygon [boundRing a b]
  | .collection gs => .collection (canonGs gs)
  | g => g
where
  canonGs : List G → List G
    | [] => []
    | g :: gs => canonG g :: canonGs gs

/-- top level: an empty (or nil) collection comes back as the null geometry; a typed nil slice
    comes back as the same typed nil; a nil ring as the polygon with one empty ring. -/
def canonV : V → V
  | .nilIface => .nilIface
  | .nilSlice .collection => .nilIface
  | .nilSlice .ring => .val (.polygon [[]])
  | .nilSlice k => .nilSlice k
  | .val (.collection []) => .nilIface
  | .val g => .val (canonG g)

def canonBBox : Option (List UInt64) → Option (List UInt64)
  | some (b :: bs) => some (b :: bs)
  | _ => none

def canonProps : Option Members → Option Members
  | some (p :: ps) => some (normKeys (valOfMembers (p :: ps)))
  | _ => none

/-- decoded feature: empty properties come back as a nil map, an empty bbox as nil -/
def canonF (f : Feature) : Feature :=
  { id := f.id.map valOf, typ := "Feature", bbox := canonBBox f.bbox, geom := canonV f.geom,
    props := canonProps f.props }

def canonFC (fc : FC) : FC :=
  { typ := "FeatureCollection", bbox := fc.bbox,
    features := some ((fc.features.getD []).map fun f => f.map canonF),
    extra := canonProps fc.extra }

/-! ### predicates of the quantifier -/

def finitePt (p : Pt UInt64) : Bool := finite p.x && finite p.y

def isEmptyColl : G → Bool
  | .collection [] => true
  | _ => false

mutual
/-- every coordinate is finite, and no collection has an EMPTY collection as a member (such a
    member is written as `null`, see `nested_empty_collection_rejected`). -/
def okG : G → Bool
  | .point p => finitePt p
  | .multiPoint ps | .lineString ps | .ring ps => ps.all finitePt
  | .multiLineString ls | .polygon ls => ls.all (·.all finitePt)
  | .multiPolygon ps => ps.all (·.all (·.all finitePt))
  | .bound a b => finitePt a && finitePt b
  | .collection gs => okGs gs
def okGs : List G → Bool
  | [] => true
  | g :: gs => !isEmptyColl g && okG g && okGs gs
end

mutual
/-- every coordinate is finite (the property's quantifier on geometries) -/
def finiteG : G → Bool
  | .point p => finitePt p
  | .multiPoint ps | .lineString ps | .ring ps => ps.all finitePt
  | .multiLineString ls | .polygon ls => ls.all (·.all finitePt)
  | .multiPolygon ps => ps.all (·.all (·.all finitePt))
  | .bound a b => finitePt a && finitePt b
  | .collection gs => finiteGs gs
def finiteGs : List G → Bool
  | [] => true
  | g :: gs => finiteG g && finiteGs gs
end

def okV : V → Bool
  | .val g => okG g
  | .nilSlice .point | .nilSlice .bound => false      -- no such Go value
  | _ => true

mutual
/-- no multi-geometry of length 0: the bson codec's `omitempty` drops the coordinates of those
    (see `bson_empty_coordinates_false`) -/
def nonEmptyMulti : G → Bool
  | .multiPoint ps | .lineString ps => !ps.isEmpty
  | .multiLineString ls | .polygon ls => !ls.isEmpty
  | .multiPolygon ps => !ps.isEmpty
  | .collection gs => nonEmptyMultis gs
  | _ => true
def nonEmptyMultis : List G → Bool
  | [] => true
  | g :: gs => nonEmptyMulti g && nonEmptyMultis gs
end

/-- what the bson round trip needs on top of `okV` -/
def okVB : V → Bool
  | .val g => nonEmptyMulti g
  | .nilSlice _ => false
  | .nilIface => true

mutual
/-- a property / id / foreign-member value as Go holds it: finite numbers, object keys strictly
    increasing (a Go map, written key-sorted). -/
def okVal : Json → Bool
  | .num b => finite b
  | .arr l => okVals l
  | .obj ms => okMembers ms
  | .bad => false
  | _ => true
def okVals : List Json → Bool
  | [] => true
  | j :: js => okVal j && okVals js
def okMembers : Members → Bool
  | [] => true
  | (k, v) :: ms => okVal v && (match ms with | [] => true | (k', _) :: _ => decide (k < k')) && okMembers ms
end

/-- id ∈ {absent, string, number} -/
def okId : Option Json → Bool
  | none => true
  | some (.str _) => true
  | some (.num b) => finite b
  | _ => false

def okFeature (f : Feature) : Bool :=
  okId f.id && okV f.geom && (f.bbox.getD []).all finite && okMembers (f.props.getD [])

def okFC (fc : FC) : Bool :=
  (fc.bbox.getD []).all finite &&
  (fc.features.getD []).all (fun f => match f with | some f => okFeature f | none => false) &&
  okMembers (fc.extra.getD []) && (fc.extra.getD []).all (fun kv => !reservedKey kv.1)

/-- what the bson round trip needs on top of `okFeature` / `okFC` (no empty multi-geometry) -/
def okFeatureB (f : Feature) : Bool := okVB f.geom

def okFCB (fc : FC) : Bool :=
  (fc.features.getD []).all fun f => match f with | some f => okFeatureB f | none => true

/-- no geometry is a typed nil ring (`Polygon{nil}` is written `[null]`, observed as `[[]]`) -/
def noNilRing : V → Bool
  | .nilSlice .ring => false
  | _ => true

/-! ### RFC 7946 shape of a geometry document -/

/-- `coordinates` nested exactly `d` deep: depth 1 is a position `[x, y]` -/
def coordDepth : Nat → Json → Bool
  | 0, _ => false
  | 1, .arr [.num _, .num _] => true
  | d+1, .arr l => d ≥ 1 && allDepth d l
  | _, _ => false
where
  allDepth (d : Nat) : List Json → Bool
    | [] => true
    | j :: js => coordDepth d j && allDepth d js

def depthOfType (ty : String) : Option Nat :=
  match ty with
  | "Point" => some 1 | "MultiPoint" => some 2 | "LineString" => some 2
  | "MultiLineString" => some 3 | "Polygon" => some 3 | "MultiPolygon" => some 4
  | _ => none

mutual
/-- a well-formed geometry object: `{"type": T, "coordinates": c}` with `c` nested `depth T` deep,
    or `{"type":"GeometryCollection","geometries":[…well-formed…]}` -/
def wellformed : Json → Bool
  | .obj [("type", .str ty), ("coordinates", c)] =>
    (match depthOfType ty with
     | some d => coordDepth d c
     | none => false)
  | .obj [("type", .str "GeometryCollection"), ("geometries", .arr l)] => wellformedList l
  | _ => false
def wellformedList : List Json → Bool
  | [] => true
  | j :: js => wellformed j && wellformedList js
end

end Orb.GeoJSON
