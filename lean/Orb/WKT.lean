/-
  Orb.WKT — model of encoding/wkt (wkt.go, unmarshal.go) AS WRITTEN.

  A Go `string` is a byte string: `Str := List UInt8`.  Coordinates are float64 bit
  patterns (`UInt64`).  Two calls leave orb and are parameters of the model:

    fmtF   : UInt64 → Str            fmt's `%g` (shortest round-trip formatting)
    parseF : Str → Option UInt64     strconv.ParseFloat(·, 64)   (`none` = any error)

  Everything else is modelled literally, including the quirks:
    * `trimSpace` returns "" for every string with at most ONE non-blank byte (`start >= end`);
    * `upperPrefix` pads with NUL bytes to 20 bytes, so the keyword tests double as length guards
      (that they do is a theorem, `hasPrefix_upperPrefix_length`, not an assumption);
    * the two regexps are hand-compiled (their class `[\s|\t]` is `\t \n \f \r space |`);
    * `splitGeometryCollection` (rewritten in /repo 5a01c04) strips the outer brackets with
      `trimSpaceBrackets` and cuts at the commas at parenthesis depth 0 (a signed depth);
      the previous version, which split in front of letters and was quadratic, is gone;
    * every Go slice / index expression that is not syntactically guarded by its own loop condition
      is an explicit `Res.panic` (`slice`, `sliceFrom`, `index`, `lastByte`, `dropLastByte`).

  `strings.EqualFold(s, "<KW> EMPTY")` is modelled by ASCII case folding.  Go folds by Unicode
  simple folding (`ſ`≃`S`, `K`≃`K`); the two agree here because every call site is preceded by
  `bytes.HasPrefix(upperPrefix(s), "<KW>")`, which pins the keyword bytes to ASCII letters, and the
  remaining constant text ` EMPTY` contains neither `S` nor `K`.
-/
import Orb.Basic

namespace Orb.WKT
open Orb

abbrev Str := List UInt8
abbrev P := Pt UInt64
abbrev G := Geom UInt64

inductive Err where
  | notWKT        -- ErrNotWKT
  | incorrect     -- ErrIncorrectGeometry
  | unsupported   -- ErrUnsupportedGeometry
deriving DecidableEq, Repr, Inhabited

abbrev R := Res Err

/-! ### byte constants -/

def cSpace : UInt8 := 32
def cTab : UInt8 := 9
def cNL : UInt8 := 10
def cLP : UInt8 := 40      -- '('
def cRP : UInt8 := 41      -- ')'
def cComma : UInt8 := 44

def kwPoint : Str := [80, 79, 73, 78, 84]                                        -- POINT
def kwLineString : Str := [76, 73, 78, 69, 83, 84, 82, 73, 78, 71]               -- LINESTRING
def kwPolygon : Str := [80, 79, 76, 89, 71, 79, 78]                              -- POLYGON
def kwMultiPoint : Str := [77, 85, 76, 84, 73, 80, 79, 73, 78, 84]               -- MULTIPOINT
def kwMultiLineString : Str := [77, 85, 76, 84, 73, 76, 73, 78, 69, 83, 84, 82, 73, 78, 71]   -- MULTILINESTRING
def kwMultiPolygon : Str := [77, 85, 76, 84, 73, 80, 79, 76, 89, 71, 79, 78]     -- MULTIPOLYGON
def kwCollection : Str := [71, 69, 79, 77, 69, 84, 82, 89, 67, 79, 76, 76, 69, 67, 84, 73, 79, 78]  -- GEOMETRYCOLLECTION
def sEmpty : Str := [32, 69, 77, 80, 84, 89]                                     -- " EMPTY"

/-! ### Go slice / index expressions -/

/-- `s[a:b]` -/
def slice (s : Str) (a b : Nat) : R Str :=
  if a ≤ b ∧ b ≤ s.length then .ok ((s.drop a).take (b - a)) else .panic "slice bounds out of range"

/-- `s[a:]` -/
def sliceFrom (s : Str) (a : Nat) : R Str :=
  if a ≤ s.length then .ok (s.drop a) else .panic "slice bounds out of range"

/-- `s[i]` -/
def index (s : Str) (i : Nat) : R UInt8 :=
  match s[i]? with
  | some b => .ok b
  | none => .panic "index out of range"

/-- `s[len(s)-1]` (index −1 on the empty string) -/
def lastByte (s : Str) : R UInt8 :=
  if s.length = 0 then .panic "index out of range [-1]" else index s (s.length - 1)

/-- `s[:len(s)-1]` (slice bound −1 on the empty string) -/
def dropLastByte (s : Str) : R Str :=
  if s.length = 0 then .panic "slice bounds out of range [:-1]" else slice s 0 (s.length - 1)

/-! ### trimSpace, upperPrefix, EqualFold, cut -/

def isBlank (b : UInt8) : Bool := b == cSpace || b == cTab || b == cNL

/-- `trimSpace`.  `start` = index of the first non-blank byte (or `len`), `e` = index of the last
    non-blank byte + 1 (or 0); Go's `start >= end` is `start + 1 ≥ e`.  The slice `s[start:end+1]`
    is in bounds whenever it is taken (`start + 1 < e ≤ len` there). -/
def trimSpace (s : Str) : Str :=
  let start := (s.takeWhile isBlank).length
  let e := s.length - (s.reverse.takeWhile isBlank).length
  if start + 1 ≥ e then [] else (s.take e).drop start

def upper (b : UInt8) : UInt8 := if 97 ≤ b ∧ b ≤ 122 then b - 32 else b

/-- `upperPrefix`: the first 20 bytes with `a..z` upper-cased, NUL-padded to exactly 20 bytes. -/
def upperPrefix (s : Str) : Str :=
  (s.take 20).map upper ++ List.replicate (20 - (s.take 20).length) 0

/-- `bytes.HasPrefix` -/
def hasPrefix (s p : Str) : Bool := p.isPrefixOf s

def foldByte (b : UInt8) : UInt8 := if 65 ≤ b ∧ b ≤ 90 then b + 32 else b

/-- `strings.EqualFold(s, t)` for an ASCII constant `t` (see the header for why this is exact here). -/
def equalFold (s t : Str) : Bool := s.map foldByte == t.map foldByte

/-- `cut(s, " ")`: split at the first space. -/
def cutSpace : Str → Option (Str × Str)
  | [] => none
  | b :: rest =>
    if b == cSpace then some ([], rest)
    else match cutSpace rest with
      | some (a, c) => some (b :: a, c)
      | none => none

/-- `trimSpaceBrackets` -/
def trimSpaceBrackets (s : Str) : R Str :=
  let s := trimSpace s
  if s.length = 0 then .ok s else
  match index s 0 with
  | .panic w => .panic w
  | .err e => .err e
  | .ok c =>
    if c != cLP then .err .notWKT else
    match sliceFrom s 1 with
    | .panic w => .panic w
    | .err e => .err e
    | .ok s =>
      match lastByte s with
      | .panic w => .panic w
      | .err e => .err e
      | .ok l =>
        if l != cRP then .err .notWKT else
        match dropLastByte s with
        | .panic w => .panic w
        | .err e => .err e
        | .ok s => .ok (trimSpace s)

/-! ### parsePoint -/

def parsePoint (parseF : Str → Option UInt64) (s : Str) : R P :=
  match cutSpace s with
  | none => .err .notWKT
  | some (one, two) =>
    match parseF one with
    | none => .err .notWKT
    | some x =>
      match parseF two with
      | none => .err .notWKT
      | some y => .ok ⟨x, y⟩

/-! ### splitOnComma -/

/-- loop state of `splitOnComma` -/
structure SC where
  at_ : Nat
  start : Nat
  sawSpace : Bool
  sawComma : Bool
deriving Repr, DecidableEq

/-- The `for i := 0; i < len(s); i++` loop of `splitOnComma` over the remaining bytes `rest`
    (`i` = index of the head of `rest` in `s`), then the final `yield(s[at:])`.
    The yield callbacks of the callers all have the shape "parse the piece, append to the
    accumulator", so the callback is a monadic fold step `f`. -/
def splitOnCommaLoop {β : Type} (s : Str) (f : β → Str → R β) : Str → Nat → SC → β → R β
  | [], _, st, acc =>
    match sliceFrom s st.at_ with
    | .ok p => f acc p
    | .err e => .err e
    | .panic w => .panic w
  | b :: rest, i, st, acc =>
    if b == cComma then
      let st := if !st.sawSpace then { st with sawSpace := true, start := i } else st
      splitOnCommaLoop s f rest (i + 1) { st with sawComma := true } acc
    else if isBlank b then
      let st := if !st.sawSpace then { st with sawSpace := true, start := i } else st
      splitOnCommaLoop s f rest (i + 1) st acc
    else if st.sawComma then
      match slice s st.at_ st.start with
      | .panic w => .panic w
      | .err e => .err e
      | .ok p =>
        match f acc p with
        | .panic w => .panic w
        | .err e => .err e
        | .ok acc => splitOnCommaLoop s f rest (i + 1) { at_ := i, start := st.start, sawSpace := false, sawComma := false } acc
    else splitOnCommaLoop s f rest (i + 1) { st with sawSpace := false, sawComma := false } acc

def splitOnComma {β : Type} (s : Str) (f : β → Str → R β) (init : β) : R β :=
  splitOnCommaLoop s f s 0 ⟨0, 0, false, false⟩ init

/-- `strings.Count(s, ",")` (only feeds `make(…, 0, count+1)`). -/
def countCommas (s : Str) : Nat := (s.filter (· == cComma)).length

/-! ### the two regexps, hand-compiled

  singleParen = `\)([\s|\t]*,[\s|\t]*)\(`
  doubleParen = `\)[\s|\t]*\)([\s|\t]*,[\s|\t]*)\([\s|\t]*\(`

  The class is `W = {\t \n \f \r space |}`.  None of `)`, `,`, `(` is in `W`, so each greedy star
  must take the maximal run of `W` and a match at a given start is unique: no backtracking.
  A matcher returns, relative to the start of the match, (group-1 start, group-1 end, match end).
-/

def isW (b : UInt8) : Bool := b == 9 || b == 10 || b == 12 || b == 13 || b == 32 || b == 124

abbrev Matcher := Str → Option (Nat × Nat × Nat)

def matchSingle : Matcher := fun s =>
  match s with
  | [] => none
  | c0 :: r1 =>
    if c0 != cRP then none else
    let n1 := (r1.takeWhile isW).length
    match r1.dropWhile isW with
    | [] => none
    | c1 :: r2 =>
      if c1 != cComma then none else
      let n2 := (r2.takeWhile isW).length
      match r2.dropWhile isW with
      | [] => none
      | c2 :: _ =>
        if c2 != cLP then none else some (1, 1 + n1 + 1 + n2, 1 + n1 + 1 + n2 + 1)

def matchDouble : Matcher := fun s =>
  match s with
  | [] => none
  | c0 :: r0 =>
    if c0 != cRP then none else
    let n0 := (r0.takeWhile isW).length
    match r0.dropWhile isW with
    | [] => none
    | c1 :: r1 =>
      if c1 != cRP then none else
      let n1 := (r1.takeWhile isW).length
      match r1.dropWhile isW with
      | [] => none
      | c2 :: r2 =>
        if c2 != cComma then none else
        let n2 := (r2.takeWhile isW).length
        match r2.dropWhile isW with
        | [] => none
        | c3 :: r3 =>
          if c3 != cLP then none else
          let n3 := (r3.takeWhile isW).length
          match r3.dropWhile isW with
          | [] => none
          | c4 :: _ =>
            if c4 != cLP then none else
            let gs := 1 + n0 + 1
            let ge := gs + n1 + 1 + n2
            some (gs, ge, ge + 1 + n3 + 1)

/-- `re.FindAllStringSubmatchIndex(s, -1)` reduced to the group-1 index pairs `(element[2], element[3])`:
    leftmost match first, then continue right after the end of that match (matches are non-empty).
    `skip` = bytes still covered by the previous match, `pos` = index of the head of the list. -/
def findAllAux (m : Matcher) : Nat → Nat → Str → List (Nat × Nat)
  | _, _, [] => []
  | skip + 1, pos, _ :: rest => findAllAux m skip (pos + 1) rest
  | 0, pos, b :: rest =>
    match m (b :: rest) with
    | some (gs, ge, me) => (pos + gs, pos + ge) :: findAllAux m (me - 1) (pos + 1) rest
    | none => findAllAux m 0 (pos + 1) rest

def findAll (m : Matcher) (s : Str) : List (Nat × Nat) := findAllAux m 0 0 s

/-- the `for _, element := range indexes` loop of `splitByRegexpYield`, then `yield(s[start:])` -/
def splitByRegexpLoop {β : Type} (s : Str) (f : β → Str → R β) : List (Nat × Nat) → Nat → β → R β
  | [], start, acc =>
    match sliceFrom s start with
    | .ok p => f acc p
    | .err e => .err e
    | .panic w => .panic w
  | (e2, e3) :: more, start, acc =>
    match slice s start e2 with
    | .panic w => .panic w
    | .err e => .err e
    | .ok p =>
      match f acc p with
      | .panic w => .panic w
      | .err e => .err e
      | .ok acc => splitByRegexpLoop s f more e3 acc

/-- `splitByRegexpYield(s, re, set, yield)`; `set(len(indexes)+1)` only sizes the result slice. -/
def splitByRegexp {β : Type} (s : Str) (m : Matcher) (f : β → Str → R β) (init : β) : R β :=
  splitByRegexpLoop s f (findAll m s) 0 init

/-! ### per-kind parsers -/

section parsers
variable (parseF : Str → Option UInt64)

/-- the common inner loop: `splitOnComma(s, func(p){ tp := parsePoint(p); ls = append(ls, tp) })` -/
def parsePoints (s : Str) : R (List P) :=
  splitOnComma s (fun acc p =>
    match parsePoint parseF p with
    | .ok tp => .ok (acc ++ [tp])
    | .err e => .err e
    | .panic w => .panic w) []

/-- ring / line-string member of a polygon or multi-line-string: strip its brackets, parse the points -/
def parseBracketedPoints (acc : List (List P)) (r : Str) : R (List (List P)) :=
  match trimSpaceBrackets r with
  | .panic w => .panic w
  | .err e => .err e
  | .ok r =>
    match parsePoints parseF r with
    | .ok ring => .ok (acc ++ [ring])
    | .err e => .err e
    | .panic w => .panic w

def unmarshalPoint (s : Str) : R P :=
  match sliceFrom s 5 with
  | .panic w => .panic w
  | .err e => .err e
  | .ok t =>
    match trimSpaceBrackets t with
    | .panic w => .panic w
    | .err e => .err e
    | .ok t => parsePoint parseF t

def unmarshalMultiPoint (s : Str) : R (List P) :=
  if equalFold s (kwMultiPoint ++ sEmpty) then .ok [] else
  match sliceFrom s 10 with
  | .panic w => .panic w
  | .err e => .err e
  | .ok t =>
    match trimSpaceBrackets t with
    | .panic w => .panic w
    | .err e => .err e
    | .ok t =>
      splitOnComma t (fun acc p =>
        match trimSpaceBrackets p with
        | .panic w => .panic w
        | .err e => .err e
        | .ok p =>
          match parsePoint parseF p with
          | .ok tp => .ok (acc ++ [tp])
          | .err e => .err e
          | .panic w => .panic w) []

def unmarshalLineString (s : Str) : R (List P) :=
  if equalFold s (kwLineString ++ sEmpty) then .ok [] else
  match sliceFrom s 10 with
  | .panic w => .panic w
  | .err e => .err e
  | .ok t =>
    match trimSpaceBrackets t with
    | .panic w => .panic w
    | .err e => .err e
    | .ok t => parsePoints parseF t

def unmarshalMultiLineString (s : Str) : R (List (List P)) :=
  if equalFold s (kwMultiLineString ++ sEmpty) then .ok [] else
  match sliceFrom s 15 with
  | .panic w => .panic w
  | .err e => .err e
  | .ok t =>
    match trimSpaceBrackets t with
    | .panic w => .panic w
    | .err e => .err e
    | .ok t => splitByRegexp t matchSingle (parseBracketedPoints parseF) []

def unmarshalPolygon (s : Str) : R (List (List P)) :=
  if equalFold s (kwPolygon ++ sEmpty) then .ok [] else
  match sliceFrom s 7 with
  | .panic w => .panic w
  | .err e => .err e
  | .ok t =>
    match trimSpaceBrackets t with
    | .panic w => .panic w
    | .err e => .err e
    | .ok t => splitByRegexp t matchSingle (parseBracketedPoints parseF) []

def unmarshalMultiPolygon (s : Str) : R (List (List (List P))) :=
  if equalFold s (kwMultiPolygon ++ sEmpty) then .ok [] else
  match sliceFrom s 12 with
  | .panic w => .panic w
  | .err e => .err e
  | .ok t =>
    match trimSpaceBrackets t with
    | .panic w => .panic w
    | .err e => .err e
    | .ok t =>
      splitByRegexp t matchDouble (fun acc poly =>
        match trimSpaceBrackets poly with
        | .panic w => .panic w
        | .err e => .err e
        | .ok poly =>
          match splitByRegexp poly matchSingle (parseBracketedPoints parseF) [] with
          | .ok tpoly => .ok (acc ++ [tpoly])
          | .err e => .err e
          | .panic w => .panic w) []

end parsers

/-! ### splitGeometryCollection (as of /repo 5a01c04: cut at the commas outside every member's parentheses) -/

/-- the `for i := 0; i < len(s); i++ { switch s[i] … }` loop and the final `append(r, s[start:])`.
    `depth` is a Go `int`: it goes negative on unbalanced input, and only `depth == 0` commas cut. -/
def sgcLoop (s : Str) : Str → Nat → Int → Nat → List Str → R (List Str)
  | [], _, _, start, r =>
    match sliceFrom s start with
    | .ok p => .ok (r ++ [p])
    | .err e => .err e
    | .panic w => .panic w
  | b :: rest, i, depth, start, r =>
    if b == cLP then sgcLoop s rest (i + 1) (depth + 1) start r
    else if b == cRP then sgcLoop s rest (i + 1) (depth - 1) start r
    else if b == cComma then
      if depth == 0 then
        match slice s start i with
        | .ok p => sgcLoop s rest (i + 1) depth (i + 1) (r ++ [p])
        | .err e => .err e
        | .panic w => .panic w
      else sgcLoop s rest (i + 1) depth start r
    else sgcLoop s rest (i + 1) depth start r

def splitGeometryCollection (s : Str) : R (List Str) :=
  match trimSpaceBrackets s with
  | .ok t => sgcLoop t t 0 0 0 []
  | .err e => .err e
  | .panic w => .panic w

/-! ### Unmarshal -/

section unmarshal
variable (parseF : Str → Option UInt64)

/-- `for _, g := range geometries { if len(g) == 0 { continue }; tg, err := Unmarshal(g); … }` -/
def collectMembers (rec : Str → R G) : List Str → List G → R (List G)
  | [], acc => .ok acc
  | g :: more, acc =>
    if g.length = 0 then collectMembers rec more acc else
    match rec g with
    | .ok tg => collectMembers rec more (acc ++ [tg])
    | .err e => .err e
    | .panic w => .panic w

/-- `unmarshalCollection`, with the recursive call to `Unmarshal` as a parameter. -/
def unmarshalCollection (rec : Str → R G) (s : Str) : R (List G) :=
  if equalFold s (kwCollection ++ sEmpty) then .ok [] else
  if s.length = 18 then .err .notWKT else
  match sliceFrom s 18 with
  | .panic w => .panic w
  | .err e => .err e
  | .ok t =>
    match splitGeometryCollection t with
    | .panic w => .panic w
    | .err e => .err e
    | .ok geometries => collectMembers rec geometries []

/-- `Unmarshal` with an explicit recursion budget for nested collections; running out of budget is
    a `panic "fuel"` so that the totality theorem also shows the budget of `unmarshal` suffices. -/
def unmarshalF : Nat → Str → R G
  | 0, _ => .panic "fuel"
  | fuel + 1, s =>
    let s := trimSpace s
    let pre := upperPrefix s
    if hasPrefix pre kwPoint then (unmarshalPoint parseF s).map .point
    else if hasPrefix pre kwLineString then (unmarshalLineString parseF s).map .lineString
    else if hasPrefix pre kwPolygon then (unmarshalPolygon parseF s).map .polygon
    else if hasPrefix pre kwMultiPoint then (unmarshalMultiPoint parseF s).map .multiPoint
    else if hasPrefix pre kwMultiLineString then (unmarshalMultiLineString parseF s).map .multiLineString
    else if hasPrefix pre kwMultiPolygon then (unmarshalMultiPolygon parseF s).map .multiPolygon
    else if hasPrefix pre kwCollection then (unmarshalCollection (unmarshalF fuel) s).map .collection
    else .err .unsupported

/-- `wkt.Unmarshal`.  Every member handed to the recursive call is a proper sub-slice of `s` (at least
    the 18 keyword bytes shorter), so `len(s)+1` levels always suffice (`wkt_unmarshal_total`,
    `unmarshalF_fuel_irrelevant`). -/
def unmarshal (s : Str) : R G := unmarshalF parseF (s.length + 1) s

/-- the guard shared by the seven typed entry points -/
def typed {α : Type} (kw : Str) (body : Str → R α) (s : Str) : R α :=
  let s := trimSpace s
  if !hasPrefix (upperPrefix s) kw then .err .incorrect else body s

def unmarshalPointT : Str → R P := typed kwPoint (unmarshalPoint parseF)
def unmarshalMultiPointT : Str → R (List P) := typed kwMultiPoint (unmarshalMultiPoint parseF)
def unmarshalLineStringT : Str → R (List P) := typed kwLineString (unmarshalLineString parseF)
def unmarshalMultiLineStringT : Str → R (List (List P)) := typed kwMultiLineString (unmarshalMultiLineString parseF)
def unmarshalPolygonT : Str → R (List (List P)) := typed kwPolygon (unmarshalPolygon parseF)
def unmarshalMultiPolygonT : Str → R (List (List (List P))) := typed kwMultiPolygon (unmarshalMultiPolygon parseF)
def unmarshalCollectionT : Str → R (List G) := typed kwCollection (unmarshalCollection (unmarshal parseF))

/-- the seven typed functions, results embedded in `G`, in the order
    Point, MultiPoint, LineString, MultiLineString, Polygon, MultiPolygon, Collection -/
def typedAll (s : Str) : List (R G) :=
  [ (unmarshalPointT parseF s).map .point,
    (unmarshalMultiPointT parseF s).map .multiPoint,
    (unmarshalLineStringT parseF s).map .lineString,
    (unmarshalMultiLineStringT parseF s).map .multiLineString,
    (unmarshalPolygonT parseF s).map .polygon,
    (unmarshalMultiPolygonT parseF s).map .multiPolygon,
    (unmarshalCollectionT parseF s).map .collection ]

end unmarshal

/-! ### Marshal (wkt.go) -/

section marshal
variable (fmtF : UInt64 → Str)

/-- `fmt.Fprintf(buf, "%g %g", p[0], p[1])` -/
def wCoord (p : P) : Str := fmtF p.x ++ cSpace :: fmtF p.y

/-- members separated by single commas -/
def commaSep : List Str → Str
  | [] => []
  | [a] => a
  | a :: b :: more => a ++ cComma :: commaSep (b :: more)

/-- `writeLineString` -/
def wLineString (ps : List P) : Str := cLP :: (commaSep (ps.map (wCoord fmtF)) ++ [cRP])

def wRings (rs : List (List P)) : Str := cLP :: (commaSep (rs.map (wLineString fmtF)) ++ [cRP])

/-- `Bound.ToRing` -/
def boundRing (a b : P) : List P := [a, ⟨b.x, a.y⟩, b, ⟨a.x, b.y⟩, a]

/-- `wkt(buf, geom)` on a value -/
def marshalG : G → Str
  | .point p => kwPoint ++ cLP :: (wCoord fmtF p ++ [cRP])
  | .multiPoint ps =>
    if ps.isEmpty then kwMultiPoint ++ sEmpty
    else kwMultiPoint ++ cLP :: (commaSep (ps.map fun p => cLP :: (wCoord fmtF p ++ [cRP])) ++ [cRP])
  | .lineString ps =>
    if ps.isEmpty then kwLineString ++ sEmpty else kwLineString ++ wLineString fmtF ps
  | .multiLineString ls =>
    if ls.isEmpty then kwMultiLineString ++ sEmpty else kwMultiLineString ++ wRings fmtF ls
  | .ring r => kwPolygon ++ wRings fmtF [r]
  | .polygon rs =>
    if rs.isEmpty then kwPolygon ++ sEmpty else kwPolygon ++ wRings fmtF rs
  | .multiPolygon ps =>
    if ps.isEmpty then kwMultiPolygon ++ sEmpty
    else kwMultiPolygon ++ cLP :: (commaSep (ps.map (wRings fmtF)) ++ [cRP])
  | .bound a b => kwPolygon ++ wRings fmtF [boundRing a b]
  | .collection gs =>
    if gs.isEmpty then kwCollection ++ sEmpty
    else kwCollection ++ cLP :: (commaSep (marshalList gs) ++ [cRP])
where
  marshalList : List G → List Str
    | [] => []
    | g :: gs => marshalG g :: marshalList gs

/-- `wkt.Marshal` on the interface value.  A nil interface writes nothing (`if geom == nil { return }`,
    since /repo dabd25f; before that it hit `default: panic("unsupported type")`); a typed nil slice
    has length 0 and prints the EMPTY form (a nil ring prints `POLYGON(())`).  The only remaining
    `panic` is the `default:` arm, unreachable for the nine kinds (`.nilSlice .point/.bound` do not exist in Go). -/
def marshal : GVal UInt64 → R Str
  | .nilIface => .ok []
  | .nilSlice .multiPoint => .ok (kwMultiPoint ++ sEmpty)
  | .nilSlice .lineString => .ok (kwLineString ++ sEmpty)
  | .nilSlice .multiLineString => .ok (kwMultiLineString ++ sEmpty)
  | .nilSlice .ring => .ok (marshalG fmtF (.ring []))
  | .nilSlice .polygon => .ok (kwPolygon ++ sEmpty)
  | .nilSlice .multiPolygon => .ok (kwMultiPolygon ++ sEmpty)
  | .nilSlice .collection => .ok (kwCollection ++ sEmpty)
  | .nilSlice _ => .panic "no such typed nil"
  | .val g => .ok (marshalG fmtF g)

end marshal

/-- What the text of a value denotes: ring and bound are written as the one-ring polygon. -/
def canon : G → G
  | .ring r => .polygon [r]
  | .bound a b => .polygon [boundRing a b]
  | .collection gs => .collection (canonList gs)
  | g => g
where
  canonList : List G → List G
    | [] => []
    | g :: gs => canon g :: canonList gs

def canonV : GVal UInt64 → Option G
  | .nilIface => none
  | .nilSlice .multiPoint => some (.multiPoint [])
  | .nilSlice .lineString => some (.lineString [])
  | .nilSlice .multiLineString => some (.multiLineString [])
  | .nilSlice .ring => some (.polygon [[]])
  | .nilSlice .polygon => some (.polygon [])
  | .nilSlice .multiPolygon => some (.multiPolygon [])
  | .nilSlice .collection => some (.collection [])
  | .nilSlice _ => none
  | .val g => some (canon g)

end Orb.WKT

/-! ### vocabulary of the property statements (used by OrbProofs.C04 and the driver) -/
namespace Orb.WKT
open Orb

def ptCoords (p : P) : List UInt64 := [p.x, p.y]
def ptsCoords (ps : List P) : List UInt64 := ps.flatMap ptCoords
def ringsCoords (rs : List (List P)) : List UInt64 := rs.flatMap ptsCoords

/-- all coordinates of a value (the ones `marshalG` prints; a bound prints its two corners' four numbers) -/
def coords : G → List UInt64
  | .point p => ptCoords p
  | .multiPoint ps | .lineString ps | .ring ps => ptsCoords ps
  | .multiLineString rs | .polygon rs => ringsCoords rs
  | .multiPolygon ps => ps.flatMap ringsCoords
  | .bound a b => ptCoords a ++ ptCoords b
  | .collection gs => coordsList gs
where
  coordsList : List G → List UInt64
    | [] => []
    | g :: gs => coords g ++ coordsList gs

def isCollection : G → Bool
  | .collection _ => true
  | _ => false

/-- position of the typed function that owns the kind of the text of `g`, in the order of `typedAll`
    (ring and bound are printed as polygons) -/
def kindIdx : G → Nat
  | .point _ => 0 | .multiPoint _ => 1 | .lineString _ => 2 | .multiLineString _ => 3
  | .polygon _ | .ring _ | .bound _ _ => 4 | .multiPolygon _ => 5 | .collection _ => 6

/-- no member of a multi-geometry is printed as `()` (not looking inside collections) -/
def noEmptyMember : G → Bool
  | .multiLineString ls => ls.all (fun l => !l.isEmpty)
  | .polygon rs => rs.all (fun r => !r.isEmpty)
  | .ring r => !r.isEmpty
  | .multiPolygon ps => ps.all fun p => !p.isEmpty && p.all (fun r => !r.isEmpty)
  | _ => true

/-- printed as `<KEYWORD> EMPTY` -/
def isEmptyValue : G → Bool
  | .multiPoint ps | .lineString ps => ps.isEmpty
  | .multiLineString l | .polygon l => l.isEmpty
  | .multiPolygon l => l.isEmpty
  | .collection l => l.isEmpty
  | _ => false

/-- bytes with a meaning for the tokenisers: blank, tab, newline, comma, parentheses -/
def isDelim (b : UInt8) : Bool := b == cSpace || b == cTab || b == cNL || b == cComma || b == cLP || b == cRP

/-- What the theorems assume of `%g` / `ParseFloat` at one coordinate: the text is not empty, contains
    no delimiter byte, and parses back to the same bits.  (True of Go for every finite float64 —
    `%g` prints digits, `.`, `e`, `+`, `-` only and shortest formatting round-trips; observed on every
    correspondence case, not proved.) -/
structure FloatText (fmtF : UInt64 → Str) (parseF : Str → Option UInt64) (x : UInt64) : Prop where
  nonempty : fmtF x ≠ []
  clean : ∀ b ∈ fmtF x, isDelim b = false
  parses : parseF (fmtF x) = some x

def GoodCoords (fmtF : UInt64 → Str) (parseF : Str → Option UInt64) (g : G) : Prop :=
  ∀ x ∈ coords g, FloatText fmtF parseF x

/-- `s` is `kw` up to the case of its letters -/
def CaseVariant (kw s : Str) : Prop := s.map upper = kw

def AllBlank (s : Str) : Prop := ∀ b ∈ s, isBlank b = true

end Orb.WKT

/-! ### re-spellings: the texts that denote a value

  `Spelled fmtF g t`: `t` is the text `marshalG fmtF g` up to the re-spellings of the property —
  keyword letters in either case, and blanks (space, tab, newline) at both ends, between keyword and
  `(`, and next to every parenthesis and every comma, for all kinds and to any depth of collections.
  Nothing is ever inserted inside a coordinate or between the two numbers of a point, and the single
  blank of `<KEYWORD> EMPTY` stays a single blank.  A member without points / rings has only the
  plain spelling `()` (such texts do not parse: the recorded finding). -/
namespace Orb.WKT
open Orb

/-- pieces joined by re-spelled commas: `p₁ a₁ , b₁ p₂ a₂ , b₂ … pₙ` with blank `aᵢ`, `bᵢ` -/
inductive SepJoin : List Str → Str → Prop where
  | one (p : Str) : SepJoin [p] p
  | cons (p a b : Str) (ps : List Str) (t : Str) :
      AllBlank a → AllBlank b → SepJoin ps t → SepJoin (p :: ps) (p ++ a ++ cComma :: (b ++ t))

/-- element-wise relation of two lists (core Lean has no `List.Forall₂`) -/
inductive Forall2 {α β : Type} (r : α → β → Prop) : List α → List β → Prop where
  | nil : Forall2 r [] []
  | cons {a : α} {b : β} {as : List α} {bs : List β} : r a b → Forall2 r as bs → Forall2 r (a :: as) (b :: bs)

/-- `a ( b body c )` -/
def bracketed (a b c body : Str) : Str := a ++ cLP :: (b ++ body ++ c ++ [cRP])

/-- `( b x y c )`, a member of a MULTIPOINT -/
def IsBrPoint (fmtF : UInt64 → Str) (p : P) (t : Str) : Prop :=
  ∃ b c, AllBlank b ∧ AllBlank c ∧ t = bracketed [] b c (wCoord fmtF p)

/-- `( b x y , x y … c )`: a ring / line-string member; a member without points is the plain `()` -/
def IsBrPoints (fmtF : UInt64 → Str) (ps : List P) (t : Str) : Prop :=
  (ps = [] ∧ t = [cLP, cRP]) ∨
  (∃ b c body, AllBlank b ∧ AllBlank c ∧ SepJoin (ps.map (wCoord fmtF)) body ∧ t = bracketed [] b c body)

/-- `( b ring , ring … c )`: a polygon member of a MULTIPOLYGON; a polygon without rings is the plain `()` -/
def IsBrPoly (fmtF : UInt64 → Str) (rs : List (List P)) (t : Str) : Prop :=
  (rs = [] ∧ t = [cLP, cRP]) ∨
  (∃ pieces b c body, AllBlank b ∧ AllBlank c ∧ Forall2 (IsBrPoints fmtF) rs pieces ∧ SepJoin pieces body ∧
    t = bracketed [] b c body)

/-- `pre core post` with blank `pre`, `post` -/
def Padded (core : Str → Prop) (t : Str) : Prop :=
  ∃ pre post c, AllBlank pre ∧ AllBlank post ∧ core c ∧ t = pre ++ c ++ post

/-- keyword (any case) followed by `a ( b body c )` -/
def KwBracketed (kw body t : Str) : Prop :=
  ∃ k a b c, CaseVariant kw k ∧ AllBlank a ∧ AllBlank b ∧ AllBlank c ∧ t = k ++ bracketed a b c body

/-- keyword (any case), then `a ( b ring , ring … c )` -/
def KwRings (fmtF : UInt64 → Str) (kw : Str) (rs : List (List P)) (t : Str) : Prop :=
  ∃ pieces body, Forall2 (IsBrPoints fmtF) rs pieces ∧ SepJoin pieces body ∧ KwBracketed kw body t

mutual
/-- spellings of `g` without blanks at the ends -/
def SpelledCore (fmtF : UInt64 → Str) : G → Str → Prop
  | .point p, t => KwBracketed kwPoint (wCoord fmtF p) t
  | .multiPoint [], t => CaseVariant (kwMultiPoint ++ sEmpty) t
  | .multiPoint (p :: ps), t =>
      ∃ pieces body, Forall2 (IsBrPoint fmtF) (p :: ps) pieces ∧ SepJoin pieces body ∧ KwBracketed kwMultiPoint body t
  | .lineString [], t => CaseVariant (kwLineString ++ sEmpty) t
  | .lineString (p :: ps), t =>
      ∃ body, SepJoin ((p :: ps).map (wCoord fmtF)) body ∧ KwBracketed kwLineString body t
  | .multiLineString [], t => CaseVariant (kwMultiLineString ++ sEmpty) t
  | .multiLineString (l :: ls), t => KwRings fmtF kwMultiLineString (l :: ls) t
  | .ring r, t => KwRings fmtF kwPolygon [r] t
  | .polygon [], t => CaseVariant (kwPolygon ++ sEmpty) t
  | .polygon (r :: rs), t => KwRings fmtF kwPolygon (r :: rs) t
  | .multiPolygon [], t => CaseVariant (kwMultiPolygon ++ sEmpty) t
  | .multiPolygon (p :: ps), t =>
      ∃ pieces body, Forall2 (IsBrPoly fmtF) (p :: ps) pieces ∧ SepJoin pieces body ∧ KwBracketed kwMultiPolygon body t
  | .bound a b, t => KwRings fmtF kwPolygon [boundRing a b] t
  | .collection [], t => CaseVariant (kwCollection ++ sEmpty) t
  | .collection (g :: gs), t =>
      ∃ ts body, SpelledList fmtF (g :: gs) ts ∧ SepJoin ts body ∧ KwBracketed kwCollection body t
/-- member-wise spellings (the blanks around a member are those of the enclosing `SepJoin` / brackets) -/
def SpelledList (fmtF : UInt64 → Str) : List G → List Str → Prop
  | [], [] => True
  | g :: gs, t :: ts => SpelledCore fmtF g t ∧ SpelledList fmtF gs ts
  | _, _ => False
end

/-- `t` is a spelling of `g` -/
def Spelled (fmtF : UInt64 → Str) (g : G) (t : Str) : Prop := Padded (SpelledCore fmtF g) t

/-- no member of a multi-geometry is printed as `()`, at any depth of collections.  This is the
    ONLY restriction of the round-trip theorem; it excludes exactly the recorded finding
    (`POLYGON(())`, `MULTILINESTRING((),…)`, `MULTIPOLYGON(())`, `MULTIPOLYGON((()))`). -/
def noEmptyMemberDeep : G → Bool
  | .collection gs => allDeep gs
  | g => noEmptyMember g
where
  allDeep : List G → Bool
    | [] => true
    | g :: gs => noEmptyMemberDeep g && allDeep gs

/-- the typed functions' expected outcomes on a text of kind index `k` whose own outcome is `own` -/
def expectedTyped (k : Nat) (own : R G) : List (R G) :=
  (List.range 7).map fun j => if j = k then own else .err .incorrect

/-- sequential fold with early exit: what the yield-callback loops compute over the pieces -/
def foldlR {β : Type} (f : β → Str → R β) : β → List Str → R β
  | acc, [] => .ok acc
  | acc, p :: ps =>
    match f acc p with
    | .ok acc' => foldlR f acc' ps
    | .err e => .err e
    | .panic w => .panic w

/-! ### text-level re-spelling (the property's own wording), for the statement `respell_invariant` -/

def isParenComma (b : UInt8) : Bool := b == cLP || b == cRP || b == cComma
def isLetter (b : UInt8) : Bool := (65 ≤ b && b ≤ 90) || (97 ≤ b && b ≤ 122)
def flipCase (b : UInt8) : UInt8 :=
  if 65 ≤ b ∧ b ≤ 90 then b + 32 else if 97 ≤ b ∧ b ≤ 122 then b - 32 else b

/-- no two adjacent letters (true of `%g` on finite floats: the only letter is an isolated `e`) -/
def NoAdjacentLetters : Str → Prop
  | x :: y :: rest => ¬(isLetter x = true ∧ isLetter y = true) ∧ NoAdjacentLetters (y :: rest)
  | _ => True

/-- one text-level re-spelling step: insert a blank before / after a parenthesis or comma, or at
    either end of the text; or flip the case of a letter that has a letter neighbour (a keyword letter). -/
inductive RespellStep : Str → Str → Prop where
  | before (u v : Str) (d b : UInt8) : isParenComma d = true → isBlank b = true →
      RespellStep (u ++ d :: v) (u ++ b :: d :: v)
  | after (u v : Str) (d b : UInt8) : isParenComma d = true → isBlank b = true →
      RespellStep (u ++ d :: v) (u ++ d :: b :: v)
  | atStart (t : Str) (b : UInt8) : isBlank b = true → RespellStep t (b :: t)
  | atEnd (t : Str) (b : UInt8) : isBlank b = true → RespellStep t (t ++ [b])
  | caseL (u v : Str) (x y : UInt8) : isLetter x = true → isLetter y = true →
      RespellStep (u ++ x :: y :: v) (u ++ flipCase x :: y :: v)
  | caseR (u v : Str) (x y : UInt8) : isLetter x = true → isLetter y = true →
      RespellStep (u ++ x :: y :: v) (u ++ x :: flipCase y :: v)

/-- any number of steps -/
inductive RespellStar : Str → Str → Prop where
  | refl (t : Str) : RespellStar t t
  | step {a b c : Str} : RespellStar a b → RespellStep b c → RespellStar a c

end Orb.WKT
