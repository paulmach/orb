/-
  Orb.GeoJSONExt — two extensions of the GeoJSON model (`Orb.GeoJSON`), added in the second seeding
  round of C02:

  1. HAND-BUILT geometries.  `NewGeometry` is not the only way to get a `*geojson.Geometry`: its
     fields are exported, and `&geojson.Geometry{Coordinates: x}` is what the typed helper types
     themselves write.  `newGeometryMarshallDoc` therefore has its OWN conversion of rings, bounds
     and collections (geometry.go, the `switch g := g.Coordinates.(type)`), reached only by such
     values.  `HG` is a `geojson.Geometry` with arbitrary fields: any `Type` string, `Coordinates`
     holding any of the nine kinds (typed nils and the nil interface included), `Geometries` with
     hand-built members and nil pointers.  `hgMember` / `hgTopBson` give the document.

  2. RECEIVERS.  The decoders of `Orb.GeoJSON` are functions of the document only.  The Go methods
     decode INTO a receiver that may hold an earlier value (`var f Feature; for … { Decode(&f) }`,
     `json.Unmarshal` into a slice / struct whose elements exist).  `(*Feature)`, `(*FeatureCollection)`
     and the six typed helpers end every success path in a whole-value assignment
     (`*f = Feature{…}`, `*fc = FeatureCollection{}` + fields, `*p = Point(point)`): `featureInto`,
     `fcInto`, `typedInto`.  `(*Geometry).UnmarshalJSON` / `UnmarshalBSON` assign FIELD BY FIELD:
     `g.Coordinates` in the six coordinate arms, `g.Geometries` in the collection arm — and, since
     fix C02-3, clear the other field, which before kept what the receiver held (`GRecv.assign`).
-/
import Orb.GeoJSON

namespace Orb.GeoJSON
open Orb

/-! ### hand-built `geojson.Geometry` values -/

/-- A `*geojson.Geometry` as a caller can build it: a nil pointer (only meaningful as a member of
    `Geometries` or as a struct field), or the three fields. -/
inductive HG where
  | nilPtr
  | mk (ty : String) (coords : NG) (geoms : List HG)
deriving Repr, Inhabited

/-- what the `switch g := g.Coordinates.(type)` of `newGeometryMarshallDoc` leaves behind:
    `ng.Type`, the "coordinates" member as the serialiser writes it (none when `ng.Coordinates` is
    nil, or dropped by the bson `omitempty`), and the documents of `ng.Geometries` when
    `Coordinates` holds a collection (`NewGeometry(member)` each).
    Ring → `orb.Polygon{ring}`, Bound → `bound.ToPolygon()`: the same documents `NewGeometry` gives
    (`geomMemberN`), the conversion being written out a second time in the Go source. -/
def hgCoordsPart (c : Codec) : NG → String × Members × List Json
  | .nilIface => ("", [], [])
  | .nilCollection => ("GeometryCollection", [], [])
  | .collection gs => ("GeometryCollection", [], geomMembersN c gs)
  | .point p => ("Point", [("coordinates", ptJ p)], [])
  | .multiPoint ps => ("MultiPoint", if c = .bson ∧ lenN ps = 0 then [] else [("coordinates", nptsJ ps)], [])
  | .lineString ps => ("LineString", if c = .bson ∧ lenN ps = 0 then [] else [("coordinates", nptsJ ps)], [])
  | .multiLineString ls =>
    ("MultiLineString", if c = .bson ∧ lenN ls = 0 then [] else [("coordinates", nptssJ ls)], [])
  | .ring ps => ("Polygon", [("coordinates", .arr [nptsJ ps])], [])
  | .polygon rs => ("Polygon", if c = .bson ∧ lenN rs = 0 then [] else [("coordinates", nptssJ rs)], [])
  | .multiPolygon ps =>
    ("MultiPolygon", if c = .bson ∧ lenN ps = 0 then [] else [("coordinates", nptsssJ ps)], [])
  | .bound a b => ("Polygon", [("coordinates", .arr [ptsJ (boundRing a b)])], [])

/-- `newGeometryMarshallDoc(g)` through the serialiser, given the documents `gdocs` of the members
    of `g.Geometries`: `if len(g.Geometries) > 0 { ng.Geometries = g.Geometries; ng.Type =
    "GeometryCollection" }` — `Coordinates` stays; "geometries" is `omitempty`. -/
def hgBody (c : Codec) (coords : NG) (gdocs : List Json) : Json :=
  let part := hgCoordsPart c coords
  let ty := if gdocs.isEmpty then part.1 else "GeometryCollection"
  let gs := if gdocs.isEmpty then part.2.2 else gdocs
  .obj ([("type", .str ty)] ++ part.2.1 ++ (if gs.isEmpty then [] else [("geometries", .arr gs)]))

mutual
/-- a hand-built geometry as a MEMBER (`MarshalJSON`; `MarshalBSONValue`): a nil pointer is written
    `null` by encoding/json (the bson encoder calls the method on it: `hgHasNil`); the `null` short
    cut `g.Coordinates == nil && len(g.Geometries) == 0`; else `newGeometryMarshallDoc`. -/
def hgMember (c : Codec) : HG → Json
  | .nilPtr => .null
  | .mk _ coords geoms =>
    if coords.isNilIface && geoms.isEmpty then .null else hgBody c coords (hgMembers c geoms)
def hgMembers (c : Codec) : List HG → List Json
  | [] => []
  | h :: hs => hgMember c h :: hgMembers c hs
end

/-- `json.Marshal(g)` -/
def hgTopJson (h : HG) : Json := hgMember .json h

/-- `bson.Marshal(g)` = `MarshalBSON`: no `null` short cut -/
def hgTopBson : HG → Json
  | .nilPtr => .obj [("type", .str "")]      -- fix C02-4: the empty geometry document, as for `&Geometry{}`
  | .mk _ coords geoms => hgBody .bson coords (hgMembers .bson geoms)

/-- `bson.Marshal(struct{ G *geojson.Geometry `bson:"g"` }{g})`: the member through `MarshalBSONValue` -/
def hgWrapBson (h : HG) : Json := .obj [("g", hgMember .bson h)]

mutual
/-- some pointer (the value itself or a member at any depth) is nil: `MarshalBSON` /
    `MarshalBSONValue` have pointer receivers and read `g.Coordinates` first — the bson encoder
    calls them on the nil pointer (encoding/json does not: it writes `null`) -/
def hgHasNil : HG → Bool
  | .nilPtr => true
  | .mk _ _ gs => hgAnyNil gs
def hgAnyNil : List HG → Bool
  | [] => false
  | h :: hs => hgHasNil h || hgAnyNil hs
end

/-- whether `bson.Marshal` of the value (top level or as a struct field) panics — never, since fix C02-4;
    before it the bson encoder called `MarshalBSON` / `MarshalBSONValue` on a nil `*Geometry`, and both
    read `g.Coordinates` first -/
def hgBsonPanics (_h : HG) : Bool := false   -- fix C02-4: a nil receiver is written as BSON null

mutual
/-- the geometry a CONSISTENT hand-built value stands for (`g.Geometry()`): only `Coordinates` set,
    or only `Geometries` with consistent members.  `none`: both set, or a nil pointer somewhere. -/
def hgValue : HG → Option NG
  | .nilPtr => none
  | .mk _ coords gs =>
    if coords.isNilIface then (hgValues gs).map .collection
    else if gs.isEmpty then some coords else none
def hgValues : List HG → Option (List NG)
  | [] => some []
  | h :: hs =>
    match hgValue h, hgValues hs with
    | some n, some ns => some (n :: ns)
    | _, _ => none
end

/-- `Coordinates` holds a collection WITHOUT members (`orb.Collection{}` / `orb.Collection(nil)`): the
    interface is not nil, so the `null` short cut is not taken, and `omitempty` drops the empty
    "geometries": the document is `{"type":"GeometryCollection"}` (where `NewGeometry` of the same
    value writes `null`) -/
def emptyCollCoords : NG → Bool
  | .nilCollection => true
  | .collection [] => true
  | _ => false

/-! ### receivers -/

/-- the fields of a `geojson.Geometry` used as a decode receiver -/
structure GRecv where
  ty : String := ""
  coords : Option V := none          -- `Coordinates` (none: the nil interface)
  geoms : Option (List G) := none    -- `Geometries` (none: nil), each member through `Geometry()`
deriving Repr, Inhabited

/-- `(*Geometry).Geometry()` -/
def GRecv.geometry (r : GRecv) : V :=
  match r.coords with
  | some v => v
  | none => .val (.collection (r.geoms.getD []))

/-- the decode took the "GeometryCollection" arm -/
def DG.isColl (d : DG) : Bool :=
  match d.v with
  | .val (.collection _) => true
  | _ => false

/-- the assignments of `UnmarshalJSON` / `UnmarshalBSON` after the switch: a coordinate arm sets
    `g.Coordinates` and clears `g.Geometries`, the collection arm sets `g.Geometries` and clears
    `g.Coordinates` (fix C02-3); then `g.Type = g.Geometry().GeoJSONType()`. -/
def GRecv.assign (r : GRecv) (d : DG) : GRecv :=
  let r' : GRecv :=
    match d.v with
    | .val (.collection gs) => { r with coords := none, geoms := if d.bare then none else some gs }
    | v => { r with coords := some v, geoms := none }
  { r' with ty := typeOfV r'.geometry }

/-- `g.UnmarshalJSON(data)` / `g.UnmarshalBSON(data)` with `g` holding `old`: the receiver
    afterwards (an error returns before any assignment). -/
def geomInto (c : Codec) (old : GRecv) (j : Json) : R GRecv := (decodeGeometry c j).map old.assign

/-- `f.UnmarshalJSON(data)` / `f.UnmarshalBSON(data)` with `*f` holding `old`: every success path
    (`null`, padded `null`, `featureUnmarshalFinish`) ends in `*f = Feature{…}`, a whole-value
    assignment; an error returns before it. -/
def featureInto (c : Codec) (rawNull : Bool) (old : Feature) (j : Json) : Feature :=
  match featureOfDoc c rawNull j with
  | .ok f => f
  | _ => old

/-- `fc.UnmarshalJSON(data)` / `UnmarshalBSON`: `*fc = FeatureCollection{}` precedes the member
    loop (what an ERROR leaves in `*fc` is not specified: `none`). -/
def fcInto (c : Codec) (rawNull : Bool) (_old : FC) (j : Json) : Option FC :=
  match fcOfDoc c rawNull j with
  | .ok x => some x
  | _ => none

/-- the six typed helpers: `*p = Point(point)` after a decode into a NEW `Geometry` -/
def typedInto (c : Codec) (k : Kind) (old : V) (j : Json) : V :=
  match typedOfDoc c k j with
  | .ok v => v
  | _ => old

/-! ### the documented JSON hooks (`geojson.CustomJSONMarshaler` / `CustomJSONUnmarshaler`)

`geojson/json.go`: every JSON (un)marshal inside the package goes through `marshalJSON` /
`unmarshalJSON`, which call the hook when it is set and encoding/json otherwise.  With a hook that
itself hands over to encoding/json the NESTED values come back to the package's methods, so the hook
is called once per method invocation that reaches a `marshalJSON` / `unmarshalJSON` site.  The
functions below count those sites for a value; the documents are the ones of `geomMemberN`. -/

mutual
/-- `NewGeometry(v).MarshalJSON()` (also as a member of a feature / of "geometries"): the `null`
    short cut returns before `marshalJSON`; otherwise one call for this geometry and, through
    encoding/json, the `MarshalJSON` of every member of `Geometries` -/
def hookMG : NG → Nat
  | .nilIface => 0
  | .nilCollection => 0
  | .collection [] => 0
  | .collection (g :: gs) => 1 + (hookMG g + hookMGs gs)
  | .point _ => 1
  | .multiPoint _ => 1
  | .lineString _ => 1
  | .multiLineString _ => 1
  | .ring _ => 1
  | .polygon _ => 1
  | .multiPolygon _ => 1
  | .bound _ _ => 1
def hookMGs : List NG → Nat
  | [] => 0
  | g :: gs => hookMG g + hookMGs gs
end

mutual
/-- `(*Geometry).UnmarshalJSON` on the document `NewGeometry(v)` wrote, when it succeeds: one
    `unmarshalJSON` for `jsonGeometry`, one for the coordinates — or, for a collection, the
    `UnmarshalJSON` of every member (encoding/json calls it for each non-null element).  A `null`
    document never reaches the method (0). -/
def hookUG : NG → Nat
  | .nilIface => 0
  | .nilCollection => 0
  | .collection [] => 0
  | .collection (g :: gs) => 1 + (hookUG g + hookUGs gs)
  | .point _ => 2
  | .multiPoint _ => 2
  | .lineString _ => 2
  | .multiLineString _ => 2
  | .ring _ => 2
  | .polygon _ => 2
  | .multiPolygon _ => 2
  | .bound _ _ => 2
def hookUGs : List NG → Nat
  | [] => 0
  | g :: gs => hookUG g + hookUGs gs
end

end Orb.GeoJSON
