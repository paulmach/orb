/-
  Orb.MVT — model of encoding/mvt: geometry.go (command-stream encoder, key/value
  tables), marshal.go (Marshal, addFeature, encodeProperties, convertID),
  unmarshal.go (decoder.Layer / Feature / Geometry, geomDecoder, dataIsGZipped).

  Coordinates are `Int` (the value of `int32(float64)` before wrapping is taken to be
  the integer itself; the wrap to 32 bits is `i32`).  Command words are `BitVec 32`.
  The protobuf wire encoding is not modelled HERE: `VTTile` mirrors vector_tile.proto, and
  `proto.Marshal` / `protoscan` on it are modelled in `Orb/ProtoWire.lean` (the harness also
  decodes Go's bytes with the generated `vectortile` package and ships that structure).

  Every Go index is an explicit `panic` outcome; the decoder carries a
  counter `alloc` = sum of the capacities requested by the decoder's own `make` calls
  (in elements).  Core Lean only.
-/
import Orb.Basic
import Orb.Core

namespace Orb.MVT
open Orb

abbrev W := BitVec 32

/-! ### constants (geometry.go:13-17, vector_tile.proto) -/
def cMoveTo : Nat := 1
def cLineTo : Nat := 2
def cClosePath : Nat := 7
def tPoint : Int := 1
def tLineString : Int := 2
def tPolygon : Int := 3
def defaultVersion : Nat := 1
def defaultExtent : Nat := 4096

inductive Err where
  | collection      -- "geometry collections are not supported"
  | noMoreData      -- "no more data"
  | cutShort        -- "data cut short: needed %d, have %d"
  | notMoveTo       -- "first command not one moveTo"
  | notLineTo       -- "second command not a lineTo"
  | short           -- "geom is not long enough: %v"
  | unknownType     -- "unknown geometry type: %v"
  | ueof            -- io.ErrUnexpectedEOF from the packed-field iterator
  | valEnc          -- "unable to encode value of type %T"
  | uncomparable    -- "uncomparable: %T" (json.Marshal of an uncomparable value failed)
  | gzipped         -- ErrDataIsGZipped
  | wire            -- any error of the (unmodelled) wire scanner
deriving DecidableEq, Repr, Inhabited

abbrev R := Res Err

/-! ### zigzag (geometry.go:131-144, 313-315) -/

/-- `uint32((x << 1) ^ (x >> 31))` on an `int32` x (arithmetic right shift). -/
def zigzag (x : BitVec 32) : BitVec 32 := (x <<< 1) ^^^ (x.sshiftRight 31)

/-- `int32(((v >> 1) & ((1 << 32) - 1)) ^ -(v & 1))` on a `uint32` v. -/
def unzigzag (v : BitVec 32) : BitVec 32 := ((v >>> 1) &&& 0xFFFFFFFF#32) ^^^ (-(v &&& 1#32))

/-- `unzigzag` as the `float64(int32(…))` it returns (an integer value). -/
def unzigzagI (v : BitVec 32) : Int := (unzigzag v).toInt

/-- `int32(f)` of an integer-valued float (wraps to 32 bits; out-of-range floats are outside the model). -/
def i32 (v : Int) : BitVec 32 := BitVec.ofInt 32 v

/-! ### geomEncoder (geometry.go:108-148) -/

structure Cur where
  x : BitVec 32
  y : BitVec 32
deriving DecidableEq, Repr, Inhabited

/-- `(l<<3)|id` with `l := uint32(len(points))`. -/
def cmdWord (id n : Nat) : W := (BitVec.ofNat 32 n <<< 3) ||| BitVec.ofNat 32 id

/-- `addPoints`: zigzag deltas against the cursor, which moves to each point. -/
def addPoints (c : Cur) : List (Pt Int) → Cur × List W
  | [] => (c, [])
  | p :: ps =>
    let x := i32 p.x - c.x
    let y := i32 p.y - c.y
    let r := addPoints ⟨i32 p.x, i32 p.y⟩ ps
    (r.1, zigzag x :: zigzag y :: r.2)

def moveTo (c : Cur) (ps : List (Pt Int)) : Cur × List W :=
  let r := addPoints c ps
  (r.1, cmdWord cMoveTo ps.length :: r.2)

def lineTo (c : Cur) (ps : List (Pt Int)) : Cur × List W :=
  let r := addPoints c ps
  (r.1, cmdWord cLineTo ps.length :: r.2)

/-- `ClosePath`: `(1<<3)|closePath`. -/
def closePathW : W := cmdWord cClosePath 1

/-- `Ring.Closed()`: `len(r) >= 4 && r[0] == r[len(r)-1]`. -/
def closed (r : List (Pt Int)) : Bool :=
  decide (r.length ≥ 4) && (r.head? == r.getLast?)

/-- One ring when `Ring.Closed()` answers `cl`.  Go decides `Closed()` on the float64 points and
    builds the command stream from their `int32` truncations `r`; on integer-valued coordinates
    `cl = closed r` and this is `encRing` (`encRing_eq_encRingG`). -/
def encRingG (cl : Bool) (c : Cur) (r : List (Pt Int)) : R (Cur × List W) :=
  match r with
  | [] => .ok (c, [])
  | p :: rest =>
    let m := moveTo c [p]
    let body := if cl then rest.dropLast else rest
    let n := lineTo m.1 body
    .ok (n.1, m.2 ++ n.2 ++ [closePathW])

/-- A ring with fractional coordinates that is open as float64 points but whose truncations close
    (e.g. (0.5,0),(4,0),(4,4),(0,0)) is written with ALL its vertices after the first in the LineTo:
    exactly like the truncated ring with its first vertex appended once more
    (`encRingG_false_eq_reopen`).  The driver feeds such rings to the integer model in this form. -/
def reopen (r : List (Pt Int)) : List (Pt Int) :=
  match r with
  | [] => []
  | p :: _ => r ++ [p]

/-- One line of a (multi)linestring: `MoveTo(ls[0]); LineTo(ls[1:])`; a line without vertices is
    skipped (since fix 8e178c2; `ls[0]` used to panic). -/
def encLine (c : Cur) (l : List (Pt Int)) : R (Cur × List W) :=
  match l with
  | [] => .ok (c, [])
  | p :: rest =>
    let m := moveTo c [p]
    let n := lineTo m.1 rest
    .ok (n.1, m.2 ++ n.2)

def encLines (c : Cur) : List (List (Pt Int)) → R (Cur × List W)
  | [] => .ok (c, [])
  | l :: ls =>
    match encLine c l with
    | .ok (c1, w1) =>
      match encLines c1 ls with
      | .ok (c2, w2) => .ok (c2, w1 ++ w2)
      | .err e => .err e
      | .panic s => .panic s
    | .err e => .err e
    | .panic s => .panic s

/-- One ring: `MoveTo(r[0])`, `LineTo` of the rest (without the repeated last vertex if
    `Closed()`), `ClosePath`. -/
def encRing (c : Cur) (r : List (Pt Int)) : R (Cur × List W) :=
  match r with
  | [] => .ok (c, [])   -- a ring without vertices is skipped (since fix 8e178c2; `r[0]` used to panic)
  | p :: rest =>
    let m := moveTo c [p]
    let body := if closed r then rest.dropLast else rest
    let n := lineTo m.1 body
    .ok (n.1, m.2 ++ n.2 ++ [closePathW])

def encRings (c : Cur) : List (List (Pt Int)) → R (Cur × List W)
  | [] => .ok (c, [])
  | r :: rs =>
    match encRing c r with
    | .ok (c1, w1) =>
      match encRings c1 rs with
      | .ok (c2, w2) => .ok (c2, w1 ++ w2)
      | .err e => .err e
      | .panic s => .panic s
    | .err e => .err e
    | .panic s => .panic s

def encPolys (c : Cur) : List (List (List (Pt Int))) → R (Cur × List W)
  | [] => .ok (c, [])
  | p :: ps =>
    match encRings c p with
    | .ok (c1, w1) =>
      match encPolys c1 ps with
      | .ok (c2, w2) => .ok (c2, w1 ++ w2)
      | .err e => .err e
      | .panic s => .panic s
    | .err e => .err e
    | .panic s => .panic s

/-- `Bound.ToRing`. -/
def boundRing (a b : Pt Int) : List (Pt Int) := [a, ⟨b.x, a.y⟩, b, ⟨a.x, b.y⟩, a]

def cur0 : Cur := ⟨0, 0⟩

/-- `encodeGeometry` (geometry.go:19-106): geometry type and command words. -/
def encodeGeometry : Geom Int → R (Int × List W)
  | .point p => .ok (tPoint, (moveTo cur0 [p]).2)
  | .multiPoint ps => .ok (tPoint, (moveTo cur0 ps).2)
  | .lineString l => (encLine cur0 l).map fun r => (tLineString, r.2)
  | .multiLineString ls => (encLines cur0 ls).map fun r => (tLineString, r.2)
  | .ring r => (encRing cur0 r).map fun r => (tPolygon, r.2)
  | .polygon rs => (encRings cur0 rs).map fun r => (tPolygon, r.2)
  | .multiPolygon ps => (encPolys cur0 ps).map fun r => (tPolygon, r.2)
  | .collection _ => .err .collection
  | .bound a b => (encRings cur0 [boundRing a b]).map fun r => (tPolygon, r.2)

/-! ### geomDecoder (unmarshal.go:249-442) -/

/-- `geomDecoder` plus the allocation counter.  `ws` is what the packed-field iterator has
    not read yet; `count` is `iter.Count()` (all words of the field, read or not). -/
structure GD where
  ws : List W
  count : Nat
  used : Nat
  prev : Pt Int
  alloc : Nat
deriving Repr, Inhabited

abbrev DM (α : Type) := R α × GD

@[inline] def bindD {α β : Type} (m : DM α) (f : α → GD → DM β) : DM β :=
  match m with
  | (.ok a, s) => f a s
  | (.err e, s) => (.err e, s)
  | (.panic w, s) => (.panic w, s)

/-- `done()`: `!iter.HasNext()`. -/
def GD.done (s : GD) : Bool := s.ws.isEmpty

/-- `cmdAndCount`: the "data cut short" guard is skipped for ClosePath (id 7). -/
def cmdAndCount (s : GD) : DM (Nat × Nat) :=
  match s.ws with
  | [] => (.err .noMoreData, s)
  | v :: rest =>
    let s1 : GD := { s with ws := rest, used := s.used + 1 }
    let cmd := (v &&& 7#32).toNat
    let count := v >>> 3
    if cmd ≠ cClosePath ∧ s1.count < s1.used + (2#32 * count).toNat then (.err .cutShort, s1)
    else (.ok (cmd, count.toNat), s1)

/-- `NextPoint`: two zigzag deltas added to the running position (`iter.Uint32()` fails with
    `io.ErrUnexpectedEOF` when the field is exhausted). -/
def nextPoint (s : GD) : DM (Pt Int) :=
  let s : GD := { s with used := s.used + 2 }
  match s.ws with
  | [] => (.err .ueof, s)
  | vx :: r1 =>
    let s : GD := { s with ws := r1, prev := ⟨s.prev.x + unzigzagI vx, s.prev.y⟩ }
    match r1 with
    | [] => (.err .ueof, s)
    | vy :: r2 =>
      let s : GD := { s with ws := r2, prev := ⟨s.prev.x, s.prev.y + unzigzagI vy⟩ }
      (.ok s.prev, s)

/-- `for i := uint32(0); i < count; i++ { p, err := gd.NextPoint(); … append }`. -/
def nextPoints : Nat → GD → DM (List (Pt Int))
  | 0, s => (.ok [], s)
  | n+1, s =>
    bindD (nextPoint s) fun p s1 =>
    bindD (nextPoints n s1) fun ps s2 => (.ok (p :: ps), s2)

/-- `decodePoint`: the first command must be a MoveTo (so its count has passed the "data cut
    short" guard); `make(orb.MultiPoint, 0, count)`. -/
def decodePoint (s : GD) : DM (Geom Int) :=
  bindD (cmdAndCount s) fun cc s =>
  if cc.1 ≠ cMoveTo then (.err .notMoveTo, s) else
  if cc.2 = 1 then bindD (nextPoint s) fun p s => (.ok (.point p), s)
  else
    let s : GD := { s with alloc := s.alloc + cc.2 }
    bindD (nextPoints cc.2 s) fun ps s => (.ok (.multiPoint ps), s)

/-- `decodeLine`: MoveTo(1), LineTo(count); `make(orb.LineString, 0, count+1)`
    (`count < 2^29`, so `count+1` does not wrap in uint32). -/
def decodeLine (s : GD) : DM (List (Pt Int)) :=
  bindD (cmdAndCount s) fun cc s =>
  if cc.1 ≠ cMoveTo ∨ cc.2 ≠ 1 then (.err .notMoveTo, s) else
  bindD (nextPoint s) fun first s =>
  bindD (cmdAndCount s) fun cc s =>
  if cc.1 ≠ cLineTo then (.err .notLineTo, s) else
  let s : GD := { s with alloc := s.alloc + (cc.2 + 1) }
  bindD (nextPoints cc.2 s) fun ps s => (.ok (first :: ps), s)

/-- `decodeLineString`: `for !gd.done()`; fuel = number of unread words (every iteration reads
    at least one); running out of fuel with data left is modelled as a panic, so that totality
    includes termination. -/
def lsLoop : Nat → List (List (Pt Int)) → GD → DM (Geom Int)
  | 0, mls, s => if s.done then (.ok (.multiLineString mls), s) else (.panic "fuel", s)
  | f+1, mls, s =>
    if s.done then (.ok (.multiLineString mls), s) else
    bindD (decodeLine s) fun ls s =>
    if s.done && mls.isEmpty then (.ok (.lineString ls), s)
    else lsLoop f (mls ++ [ls]) s

def decodeLineString (s : GD) : DM (Geom Int) := lsLoop s.ws.length [] s

/-- `decodePolygon`: re-closes a ring after ClosePath unless `Closed()` already, then groups:
    the first ring starts the first polygon, a later ring starts a new polygon iff its
    `Orientation()` is CCW.  `ori` is `Ring.Orientation` (exact on `Int` in the theorems,
    the Float twin in the driver). -/
def pgLoop (ori : List (Pt Int) → Int) :
    Nat → List (List (List (Pt Int))) → List (List (Pt Int)) → GD → DM (Geom Int)
  | 0, mp, p, s =>
    if s.done then (if mp.isEmpty then (.ok (.polygon p), s) else (.ok (.multiPolygon (mp ++ [p])), s))
    else (.panic "fuel", s)
  | f+1, mp, p, s =>
    if s.done then (if mp.isEmpty then (.ok (.polygon p), s) else (.ok (.multiPolygon (mp ++ [p])), s))
    else
    bindD (decodeLine s) fun ls s =>
    bindD (cmdAndCount s) fun cc s =>
    match ls with
    | [] => (.panic "index out of range [0] with length 0", s)   -- r[0]; unreachable: `decodeLine` returns no empty line (`decodeLine_post`)
    | h :: _ =>
      let r := if cc.1 = cClosePath ∧ closed ls = false then ls ++ [h] else ls
      if mp.isEmpty && p.isEmpty then pgLoop ori f mp (p ++ [r]) s
      else if ori r = 1 then pgLoop ori f (mp ++ [p]) [r] s
      else pgLoop ori f mp (p ++ [r]) s

def decodePolygon (ori : List (Pt Int) → Int) (s : GD) : DM (Geom Int) :=
  pgLoop ori s.ws.length [] [] s

/-- `decoder.Geometry` on the geometry field `ws` of a feature of type `gt`, the allocation
    counter starting at `alloc` (`gd.count` is `iter.Count()`, the number of words). -/
def decodeGeometryIter (ori : List (Pt Int) → Int) (gt : Int) (ws : List W) (alloc : Nat) : DM (Geom Int) :=
  let s : GD := { ws := ws, count := ws.length, used := 0, prev := ⟨0, 0⟩, alloc := alloc }
  if ws.length < 2 then (.err .short, s)
  else if gt = tPoint then decodePoint s
  else if gt = tLineString then decodeLineString s
  else if gt = tPolygon then decodePolygon ori s
  else (.err .unknownType, s)

/-- `Ring.Orientation` on exact integers. -/
def oriInt (r : List (Pt Int)) : Int := Core.orientation r

/-- Decoding the geometry field `ws` of a feature of type `gt`. -/
def decodeGeometry (gt : Int) (ws : List W) : R (Geom Int) :=
  (decodeGeometryIter oriInt gt ws 0).1

/-- Capacity requested by the geometry decoder's `make` calls on the field `ws`. -/
def geometryAlloc (gt : Int) (ws : List W) : Nat :=
  (decodeGeometryIter oriInt gt ws 0).2.alloc

/-! ### property values, key/value tables (geometry.go:150-284) -/

inductive SKind where
  | int | int8 | int16 | int32 | int64
deriving DecidableEq, Repr, Inhabited

inductive UKind where
  | uint | uint8 | uint16 | uint32 | uint64
deriving DecidableEq, Repr, Inhabited

/-- A property value by Go dynamic type.  `json t` is an uncomparable value (slice, map)
    whose `json.Marshal` text is `t` (`encoding/json` is trusted: the harness supplies the text);
    `jsonFail` an uncomparable value that `json.Marshal` rejects; `unsupported` a comparable
    value of a type `encodeValue` has no case for; `stringer tag s` a comparable value of the
    `fmt.Stringer` type number `tag` whose `String()` is `s` (the types used have an injective
    `String()`, so two such values are `==` iff tag and text agree). -/
inductive PVal where
  | str (s : String)
  | bool (b : Bool)
  | sint (k : SKind) (v : Int)
  | uint (k : UKind) (v : Nat)
  | f32 (bits : UInt32)
  | f64 (bits : UInt64)
  | nil
  | json (text : String)
  | jsonFail
  | unsupported (tag : Nat)
  | stringer (tag : Nat) (s : String)
deriving DecidableEq, Repr, Inhabited

/-- `vectortile.Tile_Value` (first field present, in field-number order; `empty` = none). -/
inductive TVal where
  | str (s : String)
  | float (bits : UInt32)
  | double (bits : UInt64)
  | int (v : Int)
  | uint (v : Nat)
  | sint (v : Int)
  | bool (b : Bool)
  | empty
deriving DecidableEq, Repr, Inhabited

/-- A decoded property value: string, float64 (bit pattern), bool or nil. -/
inductive DVal where
  | str (s : String)
  | num (bits : UInt64)
  | bool (b : Bool)
  | nil
deriving DecidableEq, Repr, Inhabited

/-! IEEE `==` on bit patterns (map-key equality of float values). -/
def f64IsNaN (b : UInt64) : Bool := (b &&& 0x7ff0000000000000 == 0x7ff0000000000000) && (b &&& 0x000fffffffffffff != 0)
def f64IsZero (b : UInt64) : Bool := b &&& 0x7fffffffffffffff == 0
def f64Eq (a b : UInt64) : Bool := !f64IsNaN a && !f64IsNaN b && (a == b || (f64IsZero a && f64IsZero b))
def f32IsNaN (b : UInt32) : Bool := (b &&& 0x7f800000 == 0x7f800000) && (b &&& 0x007fffff != 0)
def f32IsZero (b : UInt32) : Bool := b &&& 0x7fffffff == 0
def f32Eq (a b : UInt32) : Bool := !f32IsNaN a && !f32IsNaN b && (a == b || (f32IsZero a && f32IsZero b))

/-- Go `==` on two `interface{}` map keys: same dynamic type and equal values. -/
def keyEq : PVal → PVal → Bool
  | .str a, .str b => a == b
  | .bool a, .bool b => a == b
  | .sint k a, .sint l b => k == l && a == b
  | .uint k a, .uint l b => k == l && a == b
  | .f32 a, .f32 b => f32Eq a b
  | .f64 a, .f64 b => f64Eq a b
  | .unsupported a, .unsupported b => a == b
  | .stringer a s, .stringer b t => a == b && s == t
  | _, _ => false

/-- `keyValueEncoder`: `keyMap` / `valueMap` are the inverse indexes of `Keys` / `Values`
    and are modelled as a search; `vals` keeps the map key next to its `Tile_Value`. -/
structure KVE where
  keys : List String
  vals : List (PVal × TVal)
deriving Repr, Inhabited

def KVE.empty : KVE := ⟨[], []⟩

/-- `kve.Key(s)`. -/
def KVE.key (e : KVE) (s : String) : Nat × KVE :=
  match e.keys.findIdx? (· == s) with
  | some i => (i, e)
  | none => (e.keys.length, { e with keys := e.keys ++ [s] })

/-- `encodeValue` (on a value that already went through the nil / uncomparable step). -/
def encodeValue : PVal → R TVal
  | .str s => .ok (.str s)
  | .sint _ v => .ok (.sint v)
  | .uint _ v => .ok (.uint v)
  | .f32 b => .ok (.float b)
  | .f64 b => .ok (.double b)
  | .bool b => .ok (.bool b)
  | .stringer _ s => .ok (.str s)   -- `case fmt.Stringer` (second case of the switch)
  | _ => .err .valEnc

/-- First step of `kve.Value`: nil and uncomparable values become their JSON text. -/
def jsonStep : PVal → R PVal
  | .nil => .ok (.str "null")
  | .json t => .ok (.str t)
  | .jsonFail => .err .uncomparable
  | v => .ok v

/-- `kve.Value(v)`. -/
def KVE.value (e : KVE) (v : PVal) : R (Nat × KVE) :=
  match jsonStep v with
  | .ok v' =>
    match e.vals.findIdx? (fun p => keyEq v' p.1) with
    | some i => .ok (i, e)
    | none =>
      match encodeValue v' with
      | .ok tv => .ok (e.vals.length, { e with vals := e.vals ++ [(v', tv)] })
      | .err x => .err x
      | .panic s => .panic s
  | .err x => .err x
  | .panic s => .panic s

/-- `sort.Strings` as insertion sort by `<` on strings (byte order = code point order). -/
def insertStr (s : String) : List String → List String
  | [] => [s]
  | t :: ts => if s < t then s :: t :: ts else t :: insertStr s ts

def sortStrings (l : List String) : List String := l.foldr insertStr []

/-- `properties[k]` on the association list standing for the Go map (`nil` if absent). -/
def lookupP (ps : List (String × PVal)) (k : String) : PVal :=
  match ps.find? (·.1 == k) with
  | some p => p.2
  | none => .nil

def encodeTags (ps : List (String × PVal)) : KVE → List String → R (List W × KVE)
  | e, [] => .ok ([], e)
  | e, k :: ks =>
    let kk := e.key k
    match kk.2.value (lookupP ps k) with
    | .ok (vi, e2) =>
      match encodeTags ps e2 ks with
      | .ok (ts, e3) => .ok (BitVec.ofNat 32 kk.1 :: BitVec.ofNat 32 vi :: ts, e3)
      | .err x => .err x
      | .panic s => .panic s
    | .err x => .err x
    | .panic s => .panic s

/-- `encodeProperties`: `ps` lists the map in SOME iteration order; the keys are sorted first. -/
def encodeProperties (e : KVE) (ps : List (String × PVal)) : R (List W × KVE) :=
  encodeTags ps e (sortStrings (ps.map (·.1)))

/-! ### feature ids (marshal.go:134-186) -/

/-- A feature id by Go dynamic type: nil, a signed kind (`int(id)` keeps the value), an
    unsigned kind, a float (float32 is first widened exactly; bit pattern), a string, anything else. -/
inductive IdVal where
  | none
  | int (v : Int)
  | uint (v : Nat)
  | flt (bits : UInt64)
  | str (s : String)
  | other
deriving DecidableEq, Repr, Inhabited

def convertIntID (i : Int) : Option Nat := if i < 0 then none else some i.toNat

/-- `int(f)`: truncation toward zero; NaN, ±Inf and values outside int64 give the amd64
    result `-2^63` (implementation-specific in the Go spec). -/
def truncF (b : UInt64) : Int :=
  match bitsToRat? b with
  | none => -(2^63 : Int)
  | some r =>
    let t := r.num.tdiv r.den
    if t < -(2^63 : Int) ∨ t ≥ (2^63 : Int) then -(2^63 : Int) else t

/-- `strconv.Atoi`: optional sign, one or more ASCII digits, value within int64. -/
def atoi? (s : String) : Option Int :=
  let cs := s.toList
  let (neg, ds) := match cs with
    | '-' :: r => (true, r)
    | '+' :: r => (false, r)
    | r => (false, r)
  if ds.isEmpty ∨ !(ds.all fun c => '0' ≤ c ∧ c ≤ '9') then none else
  let n : Nat := ds.foldl (fun a c => a * 10 + (c.toNat - '0'.toNat)) 0
  let v : Int := if neg then -(n : Int) else n
  if v < -(2^63 : Int) ∨ v ≥ (2^63 : Int) then none else some v

def convertID : IdVal → Option Nat
  | .none => none
  | .int v => convertIntID v
  | .uint v => some v
  | .flt b => convertIntID (truncF b)
  | .str s => match atoi? s with | some i => convertIntID i | none => none
  | .other => none

/-! ### layers, the tile structure, Marshal (marshal.go:44-110) -/

structure Feature where
  id : IdVal
  geom : GVal Int
  props : List (String × PVal)
deriving Repr, Inhabited

structure Layer where
  name : String
  version : Nat
  extent : Nat
  features : List Feature
deriving Repr, Inhabited

/-- `Tile_Feature`; `geometry = []` is the absent field (proto omits an empty packed field). -/
structure VTFeature where
  id : Option Nat
  tags : List W
  gtype : Int
  geometry : List W
deriving DecidableEq, Repr, Inhabited

structure VTLayer where
  name : String
  version : Nat
  extent : Nat
  keys : List String
  values : List TVal
  features : List VTFeature
deriving DecidableEq, Repr, Inhabited

abbrev VTTile := List VTLayer

/-- Value of a typed nil slice / of a value: what the type switch of `encodeGeometry` sees. -/
def gvalGeom : GVal Int → Option (Geom Int)
  | .nilIface => none
  | .nilSlice .multiPoint => some (.multiPoint [])
  | .nilSlice .lineString => some (.lineString [])
  | .nilSlice .multiLineString => some (.multiLineString [])
  | .nilSlice .ring => some (.ring [])
  | .nilSlice .polygon => some (.polygon [])
  | .nilSlice .multiPolygon => some (.multiPolygon [])
  | .nilSlice .collection => some (.collection [])
  | .nilSlice _ => none
  | .val g => some g

/-- `addSingleGeometryFeature`. -/
def addSingle (fs : List VTFeature) (e : KVE) (g : Geom Int) (props : List (String × PVal)) (id : IdVal) :
    R (List VTFeature × KVE) :=
  match encodeGeometry g with
  | .ok (gt, ws) =>
    match encodeProperties e props with
    | .ok (tags, e2) => .ok (fs ++ [{ id := convertID id, tags := tags, gtype := gt, geometry := ws }], e2)
    | .err x => .err x
    | .panic s => .panic s
  | .err x => .err x
  | .panic s => .panic s

/-- `addFeature`: nil geometry skipped; for a collection the loop body `return`s, so only the
    FIRST member is added (and an empty collection falls through to the unsupported-type error). -/
def addFeature (fs : List VTFeature) (e : KVE) (f : Feature) : R (List VTFeature × KVE) :=
  match gvalGeom f.geom with
  | none => .ok (fs, e)
  | some (.collection (g :: _)) => addSingle fs e g f.props f.id
  | some g => addSingle fs e g f.props f.id

def addFeatures : List VTFeature → KVE → List Feature → R (List VTFeature × KVE)
  | fs, e, [] => .ok (fs, e)
  | fs, e, f :: rest =>
    match addFeature fs e f with
    | .ok (fs2, e2) => addFeatures fs2 e2 rest
    | .err x => .err x
    | .panic s => .panic s

def marshalLayer (l : Layer) : R VTLayer :=
  match addFeatures [] KVE.empty l.features with
  | .ok (fs, e) =>
    .ok { name := l.name, version := l.version, extent := l.extent, keys := e.keys,
          values := e.vals.map (·.2), features := fs }
  | .err x => .err x
  | .panic s => .panic s

/-- `Marshal` up to `proto.Marshal`. -/
def marshalVT : List Layer → R VTTile
  | [] => .ok []
  | l :: ls =>
    match marshalLayer l with
    | .ok v =>
      match marshalVT ls with
      | .ok vs => .ok (v :: vs)
      | .err x => .err x
      | .panic s => .panic s
    | .err x => .err x
    | .panic s => .panic s

/-! ### Unmarshal (unmarshal.go:36-247, 444-477) -/

/-- `float64(float32)` on bit patterns.  A NaN keeps its sign and its payload (moved to the top
    of the wider fraction) and comes back quiet: that is what the conversion instruction of
    amd64 (CVTSS2SD) and arm64 (FCVT) does, and what Go therefore returns.  Lean's
    `Float32.toFloat` is the same conversion but its `toBits` canonicalises every NaN to
    `7ff8000000000000`, so NaNs are widened here on the bit pattern. -/
def f32to64 (b : UInt32) : UInt64 :=
  if f32IsNaN b then
    ((b &&& 0x80000000).toUInt64 <<< (32 : UInt64)) ||| (0x7ff8000000000000 : UInt64) |||
      ((b &&& 0x007fffff).toUInt64 <<< (29 : UInt64))
  else (Float32.ofBits b).toFloat.toBits
/-- `float64(int64)` / `float64(uint64)` on the integer value. -/
def i2f (v : Int) : UInt64 := (Float.ofInt v).toBits

/-- `decodeValueMsg`. -/
def decodeTVal : TVal → DVal
  | .str s => .str s
  | .float b => .num (f32to64 b)
  | .double b => .num b
  | .int v => .num (i2f v)
  | .uint v => .num (i2f v)
  | .sint v => .num (i2f v)
  | .bool b => .bool b
  | .empty => .nil

structure DFeature where
  id : Option Nat
  geom : Geom Int
  props : List (String × DVal)
deriving Repr, Inhabited

structure DLayer where
  name : String
  version : Nat
  extent : Nat
  features : List DFeature
deriving Repr, Inhabited

/-- `m[k] = v` on an association list (replace in place, else append). -/
def mapSet (m : List (String × DVal)) (k : String) (v : DVal) : List (String × DVal) :=
  match m with
  | [] => [(k, v)]
  | (k', v') :: rest => if k' == k then (k, v) :: rest else (k', v') :: mapSet rest k v

/-- The tag loop of `decoder.Feature`: pairs of indexes; an odd tail is `io.ErrUnexpectedEOF`;
    out-of-range indexes are skipped. -/
def decodeTags (keys : List String) (vals : List DVal) : List W → List (String × DVal) → R (List (String × DVal))
  | [], m => .ok m
  | [_], _ => .err .ueof
  | k :: v :: rest, m =>
    match keys[k.toNat]?, vals[v.toNat]? with
    | some ks, some vv => decodeTags keys vals rest (mapSet m ks vv)
    | _, _ => decodeTags keys vals rest m

/-- `decoder.Feature` + `decoder.Geometry`; `a` is the allocation counter.  A feature without
    geometry field (`hasGeom == false`) is the error "geom is not long enough: 0".
    (`make(geojson.Properties, count/2)` is a map size hint bounded by the field length; the
    runtime allocates buckets lazily, so it is not part of the capacity counter.) -/
def decodeFeature (ori : List (Pt Int) → Int) (keys : List String) (vals : List DVal) (a : Nat) (f : VTFeature) :
    R DFeature × Nat :=
  match decodeTags keys vals f.tags [] with
  | .err x => (.err x, a)
  | .panic s => (.panic s, a)
  | .ok props =>
    if f.geometry.isEmpty then (.err .short, a) else
    match decodeGeometryIter ori f.gtype f.geometry a with
    | (.ok g, s) => (.ok { id := f.id, geom := g, props := props }, s.alloc)
    | (.err x, s) => (.err x, s.alloc)
    | (.panic w, s) => (.panic w, s.alloc)

def decodeFeatures (ori : List (Pt Int) → Int) (keys : List String) (vals : List DVal) :
    Nat → List VTFeature → R (List DFeature) × Nat
  | a, [] => (.ok [], a)
  | a, f :: fs =>
    match decodeFeature ori keys vals a f with
    | (.ok x, a1) =>
      match decodeFeatures ori keys vals a1 fs with
      | (.ok xs, a2) => (.ok (x :: xs), a2)
      | (.err e, a2) => (.err e, a2)
      | (.panic w, a2) => (.panic w, a2)
    | (.err e, a1) => (.err e, a1)
    | (.panic w, a1) => (.panic w, a1)

/-- `decoder.Layer`: `make([]*geojson.Feature, len(d.features))`, then every feature. -/
def decodeLayer (ori : List (Pt Int) → Int) (a : Nat) (l : VTLayer) : R DLayer × Nat :=
  match decodeFeatures ori l.keys (l.values.map decodeTVal) (a + l.features.length) l.features with
  | (.ok fs, a2) => (.ok { name := l.name, version := l.version, extent := l.extent, features := fs }, a2)
  | (.err e, a2) => (.err e, a2)
  | (.panic w, a2) => (.panic w, a2)

def decodeLayers (ori : List (Pt Int) → Int) : Nat → List VTLayer → R (List DLayer) × Nat
  | a, [] => (.ok [], a)
  | a, l :: ls =>
    match decodeLayer ori a l with
    | (.ok x, a1) =>
      match decodeLayers ori a1 ls with
      | (.ok xs, a2) => (.ok (x :: xs), a2)
      | (.err e, a2) => (.err e, a2)
      | (.panic w, a2) => (.panic w, a2)
    | (.err e, a1) => (.err e, a1)
    | (.panic w, a1) => (.panic w, a1)

/-- `unmarshalTile` on the tile structure: the layers and the allocation counter. -/
def unmarshalVTWith (ori : List (Pt Int) → Int) (t : VTTile) : R (List DLayer) × Nat :=
  decodeLayers ori 0 t

def unmarshalVT (t : VTTile) : R (List DLayer) := (unmarshalVTWith oriInt t).1
def unmarshalAlloc (t : VTTile) : Nat := (unmarshalVTWith oriInt t).2

/-- Number of command words, tags and features of a tile: the part of the input length the
    allocation bound is stated against. -/
def vtSize (t : VTTile) : Nat :=
  (t.map fun l => l.features.length + (l.features.map fun f => f.tags.length + f.geometry.length).sum).sum

/-- `dataIsGZipped`: `len(data) >= 2 && data[0] == 0x1F && data[1] == 0x8B`. -/
def dataIsGZipped (data : List UInt8) : Bool :=
  match data with
  | b0 :: b1 :: _ => b0 == 0x1F && b1 == 0x8B
  | _ => false

/-- `Unmarshal`, given the outcome `r` of `unmarshalTile(data)`. -/
def unmarshalTop {α : Type} (data : List UInt8) (r : R α) : R α :=
  match r with
  | .err e => if dataIsGZipped data then .err .gzipped else .err e
  | r => r

/-! ### specification side: well-formedness and the expected round-trip value -/

def coordOK (v : Int) : Bool := decide (-(2^28 : Int) < v ∧ v < (2^28 : Int))
def ptOK (p : Pt Int) : Bool := coordOK p.x && coordOK p.y

/-- A ring of the quantifier: closed, non-zero shoelace area, not too long. -/
def ringOK (r : List (Pt Int)) : Bool :=
  closed r && oriInt r != 0 && r.all ptOK && decide (r.length < 2^29)

/-- The re-closing test of `decodePolygon` can tell the ring from its encoding: the vertex
    before the closing one differs from the first (otherwise `[a,b,c,a,a]` comes back as `[a,b,c,a]`). -/
def ringNoDupClose (r : List (Pt Int)) : Bool := !closed r.dropLast

def polyOK (p : List (List (Pt Int))) : Bool :=
  match p with
  | [] => false
  | o :: hs => ringOK o && oriInt o == 1 && hs.all fun h => ringOK h && oriInt h == -1

def lineOK (l : List (Pt Int)) : Bool := !l.isEmpty && l.all ptOK && decide (l.length < 2^29)

/-- Geometries of the quantifier (collections: members of the quantifier, not nested). -/
def geomWF : Geom Int → Bool
  | .point p => ptOK p
  | .multiPoint ps => !ps.isEmpty && ps.all ptOK && decide (ps.length < 2^29)
  | .lineString l => lineOK l
  | .multiLineString ls => !ls.isEmpty && ls.all lineOK
  | .ring r => ringOK r
  | .polygon p => polyOK p
  | .multiPolygon ps => !ps.isEmpty && ps.all polyOK
  | .bound a b => ptOK a && ptOK b && decide (a.x < b.x) && decide (a.y < b.y)
  | .collection _ => false

def geomNoDupClose : Geom Int → Bool
  | .ring r => ringNoDupClose r
  | .polygon p => p.all ringNoDupClose
  | .multiPolygon ps => ps.all fun p => p.all ringNoDupClose
  | _ => true

def gvalWF : GVal Int → Bool
  | .nilIface => true
  | .nilSlice _ => false
  | .val (.collection gs) => gs.all geomWF
  | .val g => geomWF g

def idWF : IdVal → Bool
  | .none => true
  | .int v => decide (0 ≤ v ∧ v < (2^53 : Int))
  | .uint v => decide (v < 2^53)
  | _ => false

def pvalWF : PVal → Bool
  | .jsonFail => false
  | .unsupported _ => false
  | .stringer _ _ => false   -- not in the value universe of the quantifier
  | .sint _ v => decide (-(2^63 : Int) ≤ v ∧ v < (2^63 : Int))
  | .uint _ v => decide (v < 2^64)
  | _ => true

def nodupStr : List String → Bool
  | [] => true
  | k :: ks => !ks.contains k && nodupStr ks

/-- The association list is a map: its keys are pairwise distinct. -/
def nodupKeys {β : Type} (ps : List (String × β)) : Bool := nodupStr (ps.map (·.1))

def featureWF (f : Feature) : Bool :=
  gvalWF f.geom && idWF f.id && nodupKeys f.props && f.props.all fun p => pvalWF p.2

/-- version ∈ {1,2}; extent a uint32; the key / value tables fit the uint32 tags (at most one
    new key and one new value per property). -/
def layerWF (l : Layer) : Bool :=
  (l.version == 1 || l.version == 2) && decide (l.extent < 2^32) && l.features.all featureWF &&
  decide ((l.features.map fun f => f.props.length).sum < 2^32)

/-- `MvtWF`: the quantifier of C03 as a decidable predicate. -/
def mvtWF (ls : List Layer) : Bool := ls.all layerWF

/-- a float property value that is the negative zero of its type -/
def isNegZero : PVal → Bool
  | .f64 b => b == 0x8000000000000000
  | .f32 b => b == 0x80000000
  | _ => false

def noNegZero (ps : List (String × PVal)) : Bool := ps.all fun p => !isNegZero p.2

def singleColl : GVal Int → Bool
  | .val (.collection gs) => gs.length == 1
  | _ => true

def gvalNoDupClose : GVal Int → Bool
  | .val (.collection gs) => gs.all geomNoDupClose
  | .val g => geomNoDupClose g
  | _ => true

/-- The sub-domain of `mvtWF` on which the round trip is exact: every collection has exactly
    one member (the code drops the others), no ring has its closing vertex doubled (the decoder
    cannot tell), no property value is a negative float zero (the value table is keyed by `==`). -/
def featureExact (f : Feature) : Bool := singleColl f.geom && gvalNoDupClose f.geom && noNegZero f.props
def exactDomain (ls : List Layer) : Bool := ls.all fun l => l.features.all featureExact

/-! #### the weakest side conditions under which the code is exact -/

/-- Two property values that are the two zeros (+0 / −0) of one Go float type: the value table,
    keyed by Go `==`, keeps only the one it sees first. -/
def zeroClash : PVal → PVal → Bool
  | .f64 a, .f64 b => f64IsZero a && f64IsZero b && a != b
  | .f32 a, .f32 b => f32IsZero a && f32IsZero b && a != b
  | _, _ => false

/-- no two values of the list are the two zeros of one float type -/
def noZeroClash (vs : List PVal) : Bool := vs.all fun a => vs.all fun b => !zeroClash a b

/-- every property value of a layer (one value table per layer) -/
def layerVals (l : Layer) : List PVal := l.features.flatMap fun f => f.props.map (·.2)

/-- `exactDomain` with the negative-zero clause weakened to what the code needs: a lone −0.0
    (no +0.0 of the same float type in the same layer) round-trips bit for bit. -/
def layerExactZ (l : Layer) : Bool :=
  (l.features.all fun f => singleColl f.geom && gvalNoDupClose f.geom) && noZeroClash (layerVals l)
def exactDomainZ (ls : List Layer) : Bool := ls.all layerExactZ

/-- The rings of a geometry, in the order the encoder writes them (the rings `decodePolygon`
    evaluates `Ring.Orientation` on). -/
def ringsOf : Geom Int → List (List (Pt Int))
  | .ring r => [r]
  | .polygon p => p
  | .multiPolygon ps => ps.flatten
  | .bound a b => [boundRing a b]
  | _ => []

def gvalRings : GVal Int → List (List (Pt Int))
  | .val (.collection gs) => gs.flatMap ringsOf
  | .val g => ringsOf g
  | _ => []

/-- The orientation function the decoder runs (Go: the float64 shoelace of `Ring.Orientation`)
    gives the exact sign on every ring of the input.  (Known finding regroup-rounding: false for
    some thin rings at |v| ≥ 2^27.) -/
def oriAgree (ori : List (Pt Int) → Int) (ls : List Layer) : Prop :=
  ∀ l ∈ ls, ∀ f ∈ l.features, ∀ r ∈ gvalRings f.geom, ori r = oriInt r

/-- `float64(id)`: `decoder.Feature` hands the uint64 id out as a float64 (unmarshal.go:185);
    exact below 2^53 (`idWF`), rounded to nearest-even above.  `DFeature.id` keeps the uint64; this
    conversion is applied when a decoded feature is printed / compared. -/
def idFloat (n : Nat) : UInt64 := i2f n

/-- `KVE.Inv` with the zero clause relative to the values `vs` still to come in the layer. -/
def KVE.InvZ (vs : List PVal) (e : KVE) : Prop :=
  ∀ p ∈ e.vals, encodeValue p.1 = .ok p.2 ∧ ∀ v ∈ vs, zeroClash v p.1 = false

/-- Encode, then decode, one geometry. -/
def geometryRT (g : Geom Int) : R (Geom Int) :=
  match encodeGeometry g with
  | .ok (t, ws) => decodeGeometry t ws
  | .err e => .err e
  | .panic s => .panic s

/-- Invariant of the value table: every entry is the `Tile_Value` of its map key, and no key is a
    negative zero. -/
def KVE.Inv (e : KVE) : Prop := ∀ p ∈ e.vals, encodeValue p.1 = .ok p.2 ∧ isNegZero p.1 = false

/-- The tables only grow. -/
def KVE.le (e e' : KVE) : Prop := e.keys <+: e'.keys ∧ e.vals <+: e'.vals

/-- The decoded value table of a layer (`d.values`). -/
def KVE.dvals (e : KVE) : List DVal := e.vals.map fun p => decodeTVal p.2

/-- `normG`: what a geometry of the quantifier decodes to. -/
def normG : Geom Int → Geom Int
  | .multiPoint [p] => .point p
  | .multiLineString [l] => .lineString l
  | .multiPolygon [p] => .polygon p
  | .ring r => .polygon [r]
  | .bound a b => .polygon [boundRing a b]
  | g => g

/-- Widening of a property value (`decodeValueMsg ∘ encodeValue`). -/
def widen : PVal → DVal
  | .str s => .str s
  | .bool b => .bool b
  | .sint _ v => .num (i2f v)
  | .uint _ v => .num (i2f v)
  | .f32 b => .num (f32to64 b)
  | .f64 b => .num b
  | .nil => .str "null"
  | .json t => .str t
  | .jsonFail => .nil
  | .unsupported _ => .nil
  | .stringer _ s => .str s

/-- The decoded property map of the specification: keys in sorted order, values widened. -/
def expectProps (ps : List (String × PVal)) : List (String × DVal) :=
  (sortStrings (ps.map (·.1))).map fun k => (k, widen (lookupP ps k))

/-- The features a feature should become: none for a nil geometry, one per member of a
    collection, else one. -/
def expectFeature (f : Feature) : List DFeature :=
  match gvalGeom f.geom with
  | none => []
  | some (.collection gs) => gs.map fun g => { id := convertID f.id, geom := normG g, props := expectProps f.props }
  | some g => [{ id := convertID f.id, geom := normG g, props := expectProps f.props }]

def expectLayer (l : Layer) : DLayer :=
  { name := l.name, version := l.version, extent := l.extent, features := l.features.flatMap expectFeature }

def expectLayers (ls : List Layer) : List DLayer := ls.map expectLayer

end Orb.MVT
