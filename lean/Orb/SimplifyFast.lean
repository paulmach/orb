/-
  Orb.SimplifyFast — a compiled-code twin of the Douglas-Peucker model for LONG vertex lists.

  `Orb.Simplify.dpScan` reads `ls[start]`, `ls[end]`, `ls[i]` with `List.getD`, i.e. in time proportional
  to the index: on a vertex list of n vertices whose Douglas-Peucker nesting is n deep (an inward spiral)
  the model needs ~n^3 list steps, minutes for n = 2000.  The definitions below are the SAME functions
  with the vertex list held in an `Array` (built once per call); `dpS_eq_dpSA` proves them equal, and as a
  `@[csimp]` lemma it makes the compiler use `dpSA` wherever the driver calls `dpS`.  Nothing here is a
  new model: the theorems of OrbProofs/C12 are about `dpS`, and `dpS = dpSA` is checked by the kernel
  (restated as `Orb.Simplify.dp_array_twin` in the audited module OrbProofs/C12.lean).  Core Lean only.
-/
import Orb.Simplify

namespace Orb.Simplify
open Orb

section dpFast
set_option linter.unusedSectionVars false
variable {α : Type} [Add α] [Sub α] [Mul α] [Div α] [LT α] [DecidableLT α] [BEq α] [OfNat α 0] [OfNat α 1]

/-- `dpScan` on an array of vertices -/
def dpScanA (dist : Pt α → Pt α → Pt α → α) (a : Array (Pt α)) (s e : Nat) : α × Nat :=
  let z : Pt α := ⟨0, 0⟩
  (List.range' (s + 1) (e - (s + 1))).foldl (fun (m : α × Nat) i =>
    let d := dist (a.getD s z) (a.getD e z) (a.getD i z)
    if m.1 < d then (d, i) else m) (0, 0)

/-- `dpWorker` on an array of vertices -/
def dpWorkerA (dist : Pt α → Pt α → Pt α → α) (a : Array (Pt α)) (tsq : α) :
    Nat → List (Nat × Nat) → List Bool → Option (List Bool)
  | _, [], mask => some mask
  | 0, _ :: _, _ => none
  | fuel + 1, (s, e) :: rest, mask =>
    let m := dpScanA dist a s e
    if tsq < m.1 then
      dpWorkerA dist a tsq fuel ((m.2, e) :: (s, m.2) :: rest) (mask.set m.2 true)
    else
      dpWorkerA dist a tsq fuel rest mask

def dpMaskA (dist : Pt α → Pt α → Pt α → α) (t : α) (ls : List (Pt α)) : Option (List Bool) :=
  let n := ls.length
  let mask := ((List.replicate n false).set 0 true).set (n - 1) true
  dpWorkerA dist ls.toArray (t * t) (2 * n + 1) [(0, n - 1)] mask

/-- `dpSimplifyWith` over `dpMaskA` -/
def dpSimplifyWithA (dist : Pt α → Pt α → Pt α → α) (t : α) (ls : List (Pt α)) : R (List (Pt α)) :=
  if ls.length = 0 then .panic "index out of range [0] with length 0" else
  match dpMaskA dist t ls with
  | none => .err ()
  | some mask => .ok (compact ls (maskIdx mask))

def dpSimplifyA (t : α) (ls : List (Pt α)) : R (List (Pt α)) := dpSimplifyWithA distSegSq t ls

def dpSA (t : α) : Simplifier α := fun ls _ => dpSimplifyA t ls

theorem dpScanA_eq (dist : Pt α → Pt α → Pt α → α) (ls : List (Pt α)) (s e : Nat) :
    dpScanA dist ls.toArray s e = dpScan dist ls s e := by
  simp [dpScanA, dpScan, Array.getD_eq_getD_getElem?, List.getD_eq_getElem?_getD]

theorem dpWorkerA_eq (dist : Pt α → Pt α → Pt α → α) (ls : List (Pt α)) (tsq : α) :
    ∀ (fuel : Nat) (st : List (Nat × Nat)) (mask : List Bool),
      dpWorkerA dist ls.toArray tsq fuel st mask = dpWorker dist ls tsq fuel st mask := by
  intro fuel
  induction fuel with
  | zero => intro st mask; cases st <;> simp [dpWorkerA, dpWorker]
  | succ f ih =>
    intro st mask
    cases st with
    | nil => simp [dpWorkerA, dpWorker]
    | cons p rest =>
      obtain ⟨s, e⟩ := p
      simp only [dpWorkerA, dpWorker, dpScanA_eq, ih]

theorem dpMaskA_eq (dist : Pt α → Pt α → Pt α → α) (t : α) (ls : List (Pt α)) :
    dpMaskA dist t ls = dpMask dist t ls := by
  simp only [dpMaskA, dpMask, dpWorkerA_eq]

theorem dpSimplifyWithA_eq (dist : Pt α → Pt α → Pt α → α) (t : α) (ls : List (Pt α)) :
    dpSimplifyWithA dist t ls = dpSimplifyWith dist t ls := by
  simp only [dpSimplifyWithA, dpSimplifyWith, dpMaskA_eq]
  rfl

end dpFast

/-- the array twin IS the model; as a `csimp` lemma: compiled code that calls `dpS` runs `dpSA` -/
@[csimp] theorem dpS_eq_dpSA : @dpS = @dpSA := by
  funext α _ _ _ _ _ _ _ _ _ t ls area
  simp only [dpS, dpSA, dpSimplify, dpSimplifyA, dpSimplifyWithA_eq]

end Orb.Simplify
