/-
  Orb.ProtoWire — the protobuf WIRE encoding of a Mapbox Vector Tile, byte for byte.

  ENCODER: what `proto.Marshal(vt)` writes for the `vectortile.Tile` built by `mvt.Marshal`,
  i.e. the gogo/protobuf generated `Tile.Marshal` of
  encoding/mvt/vectortile/vector_tile.pb.go (`MarshalToSizedBuffer` of Tile, Tile_Layer,
  Tile_Feature, Tile_Value; `encodeVarintVectorTile`).  The generated code fills a buffer of
  `Size()` bytes from the back; read from the front the bytes are, per message,
    Tile    : layers(3)*
    Layer   : name(1) features(2)* keys(3)* values(4)* extent(5) version(15)
    Feature : id(1)? tags(2, packed)? type(3) geometry(4, packed)?
    Value   : string(1) | float(2) | double(3) | int(4) | uint(5) | sint(6) | bool(7) | nothing
  (`mvt.Marshal` always sets Name, Version, Extent and Type; `id` is written iff the pointer is
  non-nil; a packed field is written iff the slice is non-empty).  `encodeTile` is that byte
  string as a function of the `VTTile` structure of `Orb.MVT`.

  DECODER: what `unmarshalTile` (encoding/mvt/unmarshal.go) reads through
  github.com/paulmach/protoscan v0.2.1 (message.go, scalar.go, iterator.go): `Next` /
  `Skip` / `packedLength` / `varint64` / `varint32` / `Fixed32` / `Fixed64` / `Bool`,
  with the scanner's actual behaviour:
    * a varint of more than 10 (uint64) / 5 (uint32) bytes is ErrIntOverflow, the excess bits
      of the last byte are dropped silently, non-minimal encodings are accepted;
    * the wire type of a KNOWN field is never looked at (the reader for the expected type runs);
    * `Skip` of an unknown field: varint, length-delimited, and fixed 64 / 32 — the latter two
      fail unless MORE than 8 / 4 bytes remain (`len <= Index+8`); wire types 3, 4, 6, 7 skip
      nothing;
    * repeated scalar occurrences: the last one wins; `decodeValueMsg` returns at the first known
      field of a value message and ignores what follows.
  Two things are outside `VTTile` and reported as their own outcome instead of being guessed:
  string fields that are not UTF-8 (`nonUtf8`: Go keeps the bytes, `String` cannot), and a
  geometry field that is not a sequence of well-formed uint32 varints (`geomTail`: orb reads
  that field lazily, so it may or may not notice).

  Every loop of the scanner consumes at least one byte per round; the loops take the number of
  bytes as fuel and running out of fuel is a `panic` of the model (unreachable:
  `decodeTile_total`).  Core Lean only.
-/
import Orb.MVT

namespace Orb.ProtoWire
open Orb Orb.MVT

abbrev Bytes := List UInt8

inductive WErr where
  | wire      -- any error of the scanner (ErrIntOverflow, ErrInvalidLength, io.ErrUnexpectedEOF)
  | geomTail  -- the (last) geometry field is not a sequence of well-formed uint32 varints
  | nonUtf8   -- a string field holds bytes that are not UTF-8
deriving DecidableEq, Repr, Inhabited

abbrev WR := Res WErr

/-! ### varints -/

/-- `encodeVarintVectorTile` / the inlined loops of the packed fields:
    `for v >= 1<<7 { out = uint8(v&0x7f | 0x80); v >>= 7 }; out = uint8(v)`.
    The fuel is the number of rounds a uint64 can take (⌈64/7⌉ = 10). -/
def encodeVarintF : Nat → Nat → Bytes
  | 0, _ => []
  | f+1, v => if v < 128 then [UInt8.ofNat v] else UInt8.ofNat (v % 128 + 128) :: encodeVarintF f (v / 128)

def encodeVarint (v : Nat) : Bytes := encodeVarintF 10 v

/-- protoscan `varint64` / `varint32` (scalar.go): `bits`-wide accumulator; `fuel` rounds are
    left before `shift >= bits` (ErrIntOverflow); an exhausted input is io.ErrUnexpectedEOF;
    `val |= uintN(d&0x7F) << shift` drops the bits shifted out. -/
def varintF (bits : Nat) : Nat → Nat → Nat → Bytes → Option (Nat × Bytes)
  | 0, _, _, _ => none
  | _+1, _, _, [] => none
  | f+1, shift, val, d :: rest =>
    let val := val ||| (((d.toNat &&& 0x7F) <<< shift) % 2^bits)
    if d ≥ 0x80 then varintF bits f (shift + 7) val rest else some (val, rest)

/-- `varint64`: shifts 0, 7, …, 63. -/
def varint64 (bs : Bytes) : Option (Nat × Bytes) := varintF 64 10 0 0 bs
/-- `varint32`: shifts 0, 7, …, 28. -/
def varint32 (bs : Bytes) : Option (Nat × Bytes) := varintF 32 5 0 0 bs

/-! ### zigzag of sint64, two's complement of int64 / int32 -/

/-- `(uint64(v) << 1) ^ uint64(v >> 63)` on an int64 (generated `Tile_Value` marshaller). -/
def zigzag64 (x : BitVec 64) : BitVec 64 := (x <<< 1) ^^^ (x.sshiftRight 63)

/-- protoscan `unZig64`: `int64((v >> 1) ^ uint64((int64(v&1) << 63) >> 63))`. -/
def unzigzag64 (v : BitVec 64) : BitVec 64 := (v >>> 1) ^^^ (((v &&& 1#64) <<< 63).sshiftRight 63)

/-- `uint64(int64 v)` (also `uint64(int32 v)`: sign extension). -/
def u64OfInt (v : Int) : Nat := (BitVec.ofInt 64 v).toNat
/-- `int64(uint64 n)`. -/
def i64OfNat (n : Nat) : Int := (BitVec.ofNat 64 n).toInt
/-- `int32(uint64 n)`. -/
def i32OfNat (n : Nat) : Int := (BitVec.ofNat 32 n).toInt

/-! ### tags, fixed-width values, strings -/

/-- The key of a field: `(field << 3) | wiretype`. -/
def tag (field wt : Nat) : Nat := (field <<< 3) ||| wt

def wtVarint : Nat := 0
def wt64 : Nat := 1
def wtLen : Nat := 2
def wt32 : Nat := 5

/-- `binary.LittleEndian.PutUint32`. -/
def le32 (b : UInt32) : Bytes :=
  let n := b.toNat
  [UInt8.ofNat (n % 256), UInt8.ofNat (n / 2^8 % 256), UInt8.ofNat (n / 2^16 % 256), UInt8.ofNat (n / 2^24 % 256)]

/-- `binary.LittleEndian.PutUint64`. -/
def le64 (b : UInt64) : Bytes :=
  let n := b.toNat
  [UInt8.ofNat (n % 256), UInt8.ofNat (n / 2^8 % 256), UInt8.ofNat (n / 2^16 % 256), UInt8.ofNat (n / 2^24 % 256),
   UInt8.ofNat (n / 2^32 % 256), UInt8.ofNat (n / 2^40 % 256), UInt8.ofNat (n / 2^48 % 256), UInt8.ofNat (n / 2^56 % 256)]

/-- The bytes of a Go string (the model's strings are UTF-8). -/
def utf8 (s : String) : Bytes := s.toUTF8.data.toList

/-- `string(b)`, for bytes that are UTF-8. -/
def ofUtf8? (bs : Bytes) : Option String := String.fromUTF8? ⟨bs.toArray⟩

/-! ### the encoder -/

/-- A varint field: key, value. -/
def vfield (field v : Nat) : Bytes := encodeVarint (tag field wtVarint) ++ encodeVarint v

/-- A length-delimited field: key, length, payload. -/
def lenDelim (field : Nat) (payload : Bytes) : Bytes :=
  encodeVarint (tag field wtLen) ++ encodeVarint payload.length ++ payload

/-- The payload of a packed `repeated uint32`. -/
def packU32 (ws : List W) : Bytes := ws.flatMap fun w => encodeVarint w.toNat

/-- `Tile_Value.MarshalToSizedBuffer` (one field set, or none). -/
def encodeValue : TVal → Bytes
  | .str s => lenDelim 1 (utf8 s)
  | .float b => encodeVarint (tag 2 wt32) ++ le32 b
  | .double b => encodeVarint (tag 3 wt64) ++ le64 b
  | .int v => vfield 4 (u64OfInt v)
  | .uint v => vfield 5 (v % 2^64)
  | .sint v => vfield 6 (zigzag64 (BitVec.ofInt 64 v)).toNat
  | .bool b => encodeVarint (tag 7 wtVarint) ++ [if b then 1 else 0]
  | .empty => []

/-- `Tile_Feature.MarshalToSizedBuffer`: id iff non-nil, tags iff non-empty, type (always set by
    `mvt.Marshal`; `uint64(int32)` sign-extends), geometry iff non-empty. -/
def encodeFeature (f : VTFeature) : Bytes :=
  (match f.id with
   | some n => vfield 1 (n % 2^64)
   | none => []) ++
  (if f.tags.isEmpty then [] else lenDelim 2 (packU32 f.tags)) ++
  vfield 3 (u64OfInt f.gtype) ++
  (if f.geometry.isEmpty then [] else lenDelim 4 (packU32 f.geometry))

/-- `Tile_Layer.MarshalToSizedBuffer`: name, features, keys, values, extent, version. -/
def encodeLayer (l : VTLayer) : Bytes :=
  lenDelim 1 (utf8 l.name) ++
  (l.features.flatMap fun f => lenDelim 2 (encodeFeature f)) ++
  (l.keys.flatMap fun k => lenDelim 3 (utf8 k)) ++
  (l.values.flatMap fun v => lenDelim 4 (encodeValue v)) ++
  vfield 5 (l.extent % 2^32) ++
  vfield 15 (l.version % 2^32)

/-- `Tile.Marshal`. -/
def encodeTile (t : VTTile) : Bytes := t.flatMap fun l => lenDelim 3 (encodeLayer l)

/-- `mvt.Marshal` down to the bytes. -/
def marshalBytes (ls : List Layer) : R Bytes := (marshalVT ls).map encodeTile

/-! ### protoscan -/

/-- `packedLength`: the length varint; negative as an `int`, or past the end of the data, is an
    error (`Index + l` overflowing `int` lands in one of the two). -/
def packedLength (bs : Bytes) : Option (Nat × Bytes) :=
  match varint64 bs with
  | none => none
  | some (l, r) => if 2^63 ≤ l then none else if r.length < l then none else some (l, r)

/-- `Bytes` / `Message` / `MessageData` / `Iterator`: the payload and what follows it. -/
def takeDelim (bs : Bytes) : Option (Bytes × Bytes) :=
  match packedLength bs with
  | none => none
  | some (l, r) => some (r.take l, r.drop l)

/-- `Message.Skip` by wire type. -/
def skip (wt : Nat) (bs : Bytes) : Option Bytes :=
  if wt = 0 then (varint64 bs).map (·.2)
  else if wt = 1 then (if bs.length ≤ 8 then none else some (bs.drop 8))
  else if wt = 2 then (takeDelim bs).map (·.2)
  else if wt = 5 then (if bs.length ≤ 4 then none else some (bs.drop 4))
  else some bs

/-- `Fixed32`. -/
def fixed32 : Bytes → Option (UInt32 × Bytes)
  | b0 :: b1 :: b2 :: b3 :: r =>
    some (UInt32.ofNat (b0.toNat + b1.toNat * 2^8 + b2.toNat * 2^16 + b3.toNat * 2^24), r)
  | _ => none

/-- `Fixed64`. -/
def fixed64 : Bytes → Option (UInt64 × Bytes)
  | b0 :: b1 :: b2 :: b3 :: b4 :: b5 :: b6 :: b7 :: r =>
    some (UInt64.ofNat (b0.toNat + b1.toNat * 2^8 + b2.toNat * 2^16 + b3.toNat * 2^24 +
      b4.toNat * 2^32 + b5.toNat * 2^40 + b6.toNat * 2^48 + b7.toNat * 2^56), r)
  | _ => none

/-- `Bool`: a one-byte value is compared with 1 directly, a longer one is read as a varint. -/
def readBool : Bytes → Option (Bool × Bytes)
  | [] => none
  | d :: r =>
    if d &&& 0x80 = 0 then some (d == 1, r)
    else (varint64 (d :: r)).map fun p => (p.1 == 1, p.2)

/-- `String`. -/
def readString (bs : Bytes) : WR (String × Bytes) :=
  match takeDelim bs with
  | none => .err .wire
  | some (p, r) =>
    match ofUtf8? p with
    | some s => .ok (s, r)
    | none => .err .nonUtf8

/-- `for iter.HasNext() { iter.Uint32() }` over a packed field. -/
def unpackU32F : Nat → Bytes → WR (List W)
  | _, [] => .ok []
  | 0, _ :: _ => .panic "fuel"
  | f+1, b :: bs =>
    match varint32 (b :: bs) with
    | none => .err .wire
    | some (v, r) =>
      match unpackU32F f r with
      | .ok ws => .ok (BitVec.ofNat 32 v :: ws)
      | .err e => .err e
      | .panic s => .panic s

def unpackU32 (bs : Bytes) : WR (List W) := unpackU32F bs.length bs

/-! ### the decoder (unmarshal.go) -/

/-- `decodeValueMsg`: the first known field decides. -/
def decodeValueF : Nat → Bytes → WR TVal
  | _, [] => .ok .empty
  | 0, _ :: _ => .panic "fuel"
  | f+1, b :: bs =>
    match varint64 (b :: bs) with
    | none => .err .wire
    | some (k, r) =>
      let fld := k >>> 3
      if fld = 1 then (match readString r with
        | .ok (s, _) => .ok (.str s) | .err e => .err e | .panic s => .panic s)
      else if fld = 2 then (match fixed32 r with | some (v, _) => .ok (.float v) | none => .err .wire)
      else if fld = 3 then (match fixed64 r with | some (v, _) => .ok (.double v) | none => .err .wire)
      else if fld = 4 then (match varint64 r with | some (v, _) => .ok (.int (i64OfNat v)) | none => .err .wire)
      else if fld = 5 then (match varint64 r with | some (v, _) => .ok (.uint v) | none => .err .wire)
      else if fld = 6 then (match varint64 r with
        | some (v, _) => .ok (.sint (unzigzag64 (BitVec.ofNat 64 v)).toInt) | none => .err .wire)
      else if fld = 7 then (match readBool r with | some (v, _) => .ok (.bool v) | none => .err .wire)
      else match skip (k &&& 7) r with
        | none => .err .wire
        | some r' => decodeValueF f r'

def decodeValue (bs : Bytes) : WR TVal := decodeValueF bs.length bs

/-- State of the field loop of `decoder.Feature`.  `geom` is the data of the LAST geometry field
    (the iterator is only set up in the loop and read later). -/
structure FeatSt where
  id : Option Nat
  tags : List W
  gtype : Int
  geom : Option Bytes
deriving Repr, Inhabited

def FeatSt.init : FeatSt := ⟨none, [], 0, none⟩

/-- The field loop of `decoder.Feature`.  A tags field is read to its end at once (pairs of
    `Uint32`); an odd number of words is `io.ErrUnexpectedEOF` — here that is raised when a later
    tags field replaces an odd one, and for the last one by `MVT.decodeTags`. -/
def featLoop : Nat → Bytes → FeatSt → WR FeatSt
  | _, [], st => .ok st
  | 0, _ :: _, _ => .panic "fuel"
  | f+1, b :: bs, st =>
    match varint64 (b :: bs) with
    | none => .err .wire
    | some (k, r) =>
      let fld := k >>> 3
      if fld = 1 then (match varint64 r with
        | some (v, r') => featLoop f r' { st with id := some v }
        | none => .err .wire)
      else if fld = 2 then (match takeDelim r with
        | none => .err .wire
        | some (p, r') =>
          if st.tags.length % 2 = 1 then .err .wire else
          match unpackU32 p with
          | .ok ws => featLoop f r' { st with tags := ws }
          | .err _ => .err .wire
          | .panic s => .panic s)
      else if fld = 3 then (match varint64 r with
        | some (v, r') => featLoop f r' { st with gtype := i32OfNat v }
        | none => .err .wire)
      else if fld = 4 then (match takeDelim r with
        | some (p, r') => featLoop f r' { st with geom := some p }
        | none => .err .wire)
      else match skip (k &&& 7) r with
        | none => .err .wire
        | some r' => featLoop f r' st

/-- One feature message → `Tile_Feature`. -/
def decodeFeatureMsg (bs : Bytes) : WR VTFeature :=
  match featLoop bs.length bs FeatSt.init with
  | .ok st =>
    (match st.geom with
     | none => .ok { id := st.id, tags := st.tags, gtype := st.gtype, geometry := [] }
     | some p =>
       match unpackU32 p with
       | .ok ws => .ok { id := st.id, tags := st.tags, gtype := st.gtype, geometry := ws }
       | .err _ => .err .geomTail
       | .panic s => .panic s)
  | .err e => .err e
  | .panic s => .panic s

def decodeFeatureMsgs : List Bytes → WR (List VTFeature)
  | [] => .ok []
  | m :: ms =>
    match decodeFeatureMsg m with
    | .ok f =>
      (match decodeFeatureMsgs ms with
       | .ok fs => .ok (f :: fs)
       | .err e => .err e
       | .panic s => .panic s)
    | .err e => .err e
    | .panic s => .panic s

/-- State of the field loop of `decoder.Layer` (`d.features` keeps the raw messages). -/
structure LayerSt where
  name : String
  version : Nat
  extent : Nat
  keys : List String
  values : List TVal
  feats : List Bytes
deriving Repr, Inhabited

/-- `Default_Tile_Layer_Version`, `Default_Tile_Layer_Extent`. -/
def LayerSt.init : LayerSt := ⟨"", defaultVersion, defaultExtent, [], [], []⟩

def layerLoop : Nat → Bytes → LayerSt → WR LayerSt
  | _, [], st => .ok st
  | 0, _ :: _, _ => .panic "fuel"
  | f+1, b :: bs, st =>
    match varint64 (b :: bs) with
    | none => .err .wire
    | some (k, r) =>
      let fld := k >>> 3
      if fld = 15 then (match varint32 r with
        | some (v, r') => layerLoop f r' { st with version := v }
        | none => .err .wire)
      else if fld = 1 then (match readString r with
        | .ok (s, r') => layerLoop f r' { st with name := s }
        | .err e => .err e
        | .panic s => .panic s)
      else if fld = 2 then (match takeDelim r with
        | some (p, r') => layerLoop f r' { st with feats := st.feats ++ [p] }
        | none => .err .wire)
      else if fld = 3 then (match readString r with
        | .ok (s, r') => layerLoop f r' { st with keys := st.keys ++ [s] }
        | .err e => .err e
        | .panic s => .panic s)
      else if fld = 4 then (match takeDelim r with
        | none => .err .wire
        | some (p, r') =>
          match decodeValue p with
          | .ok v => layerLoop f r' { st with values := st.values ++ [v] }
          | .err e => .err e
          | .panic s => .panic s)
      else if fld = 5 then (match varint32 r with
        | some (v, r') => layerLoop f r' { st with extent := v }
        | none => .err .wire)
      else match skip (k &&& 7) r with
        | none => .err .wire
        | some r' => layerLoop f r' st

/-- One layer message → `Tile_Layer`: the field loop, then every stored feature message. -/
def decodeLayerMsg (bs : Bytes) : WR VTLayer :=
  match layerLoop bs.length bs LayerSt.init with
  | .ok st =>
    (match decodeFeatureMsgs st.feats with
     | .ok fs => .ok { name := st.name, version := st.version, extent := st.extent,
                       keys := st.keys, values := st.values, features := fs }
     | .err e => .err e
     | .panic s => .panic s)
  | .err e => .err e
  | .panic s => .panic s

/-- The field loop of `unmarshalTile`. -/
def tileLoop : Nat → Bytes → List VTLayer → WR VTTile
  | _, [], acc => .ok acc
  | 0, _ :: _, _ => .panic "fuel"
  | f+1, b :: bs, acc =>
    match varint64 (b :: bs) with
    | none => .err .wire
    | some (k, r) =>
      if k >>> 3 = 3 then (match takeDelim r with
        | none => .err .wire
        | some (p, r') =>
          match decodeLayerMsg p with
          | .ok l => tileLoop f r' (acc ++ [l])
          | .err e => .err e
          | .panic s => .panic s)
      else match skip (k &&& 7) r with
        | none => .err .wire
        | some r' => tileLoop f r' acc

/-- The wire part of `unmarshalTile`: bytes → tile structure. -/
def decodeTile (bs : Bytes) : WR VTTile := tileLoop bs.length bs []

/-- `mvt.Unmarshal` on bytes: the scanner, the decoders of `Orb.MVT` on the structure, and the
    gzip-magic test on the way out. -/
def unmarshalBytesWith (ori : List (Pt Int) → Int) (data : Bytes) : R (List DLayer) :=
  unmarshalTop data <|
    match decodeTile data with
    | .ok t => (unmarshalVTWith ori t).1
    | .err _ => .err .wire
    | .panic s => .panic s

def unmarshalBytes (data : Bytes) : R (List DLayer) := unmarshalBytesWith oriInt data

/-! ### well-formedness of a tile structure (what the Go types can hold) -/

def valueFits : TVal → Bool
  | .int v => decide (-(2^63 : Int) ≤ v ∧ v < (2^63 : Int))
  | .uint v => decide (v < 2^64)
  | .sint v => decide (-(2^63 : Int) ≤ v ∧ v < (2^63 : Int))
  | _ => true

def featureFits (f : VTFeature) : Bool :=
  (match f.id with | some n => decide (n < 2^64) | none => true) &&
  decide (-(2^31 : Int) ≤ f.gtype ∧ f.gtype < (2^31 : Int))

def layerFits (l : VTLayer) : Bool :=
  decide (l.version < 2^32) && decide (l.extent < 2^32) && l.values.all valueFits && l.features.all featureFits

/-- Every number fits its Go type (uint32 version / extent, uint64 id, int32 type, int64 / uint64
    values) … -/
def tileFits (t : VTTile) : Bool := t.all layerFits

/-- … and the encoding fits an `int` length (2^63 bytes). -/
def WFTile (t : VTTile) : Prop := tileFits t = true ∧ (encodeTile t).length < 2^63

instance (t : VTTile) : Decidable (WFTile t) := by unfold WFTile; exact inferInstance

/-- What the Go types of the INPUT of `mvt.Marshal` can hold (`inputFits`, below): uint32 version / extent, ids
    within int64 / uint64 (only the upper bound: `convertIntID` drops a negative id), integer property values
    within their 64-bit types. -/
def idFits : IdVal → Bool
  | .int v => decide (v < (2^63 : Int))
  | .uint v => decide (v < 2^64)
  | _ => true

def pvalFits : PVal → Bool
  | .sint _ v => decide (-(2^63 : Int) ≤ v ∧ v < (2^63 : Int))
  | .uint _ v => decide (v < 2^64)
  | _ => true

def inputFits (ls : List Layer) : Bool :=
  ls.all fun l => decide (l.version < 2^32) && decide (l.extent < 2^32) &&
    l.features.all fun f => idFits f.id && f.props.all fun p => pvalFits p.2

end Orb.ProtoWire
