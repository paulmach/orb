/-
  Orb.SmartClip — model of clip/smartclip/smart.go and clip/smartclip/around_bound.go.
  Core Lean only, polymorphic in the coordinate type (Float twin / exact Rat / ordered field in the
  proofs).  The open-bound line clipper is `Orb.Clip.line box true` (model of clip/clip.go).

  Conventions
  * `Res String β`: `.ok v` = the Go value, `.panic why` = a Go panic (explicit `panic(...)` or an
    index out of range), `.err why` = the MODEL ran out of fuel / the clip model got stuck — never
    produced by the Go code.  Over an EXACT ordered field that neither occurs for a box of positive area
    and a valid orientation is a theorem (`geometry_total`, `aroundBound_total`, `smartWrap_total` in
    OrbProofs/C16.lean); the clip loop itself cannot get stuck in ANY arithmetic since /repo 2c23ded
    (`Clip.line_total_any`; before that fix the Go loop did not terminate at `Float` for a vertex on a
    corner of a general-position box and the twin answered `.err "clip stuck"`).
  * a nil slice and an empty slice are both `[]` (smartclip never returns an empty non-nil value).
  * orientations are Go's `orb.Orientation` values: `CCW = 1`, `CW = -1`.
  * the tables `nexts[CW]`, `nexts[CCW]` (`[11]int` literals), the `pointFor` switch and `pointSide`
    are transcribed by hand from around_bound.go / smart.go (they are unexported); `nexts` and
    `pointFor` are proved equal to the tables factgen regenerates from the Go source
    (`nexts_generated`, `pointFor_generated` in OrbProofs/C16.lean), and all of them are tied to the
    code behaviourally by the `arc` correspondence stream (all 8×8 side/corner pairs, both orientations).
  * `sort.Sort` is modelled as the insertion sort Go runs for `Len() ≤ 12`
    (`for i:=1;i<n;i++ { for j:=i; j>0 && Less(j,j-1); j-- { Swap(j,j-1) } }`), with the same `Less`
    (coincident endpoints are ordered by the cross product of their edge directions; the `≥`
    comparisons on sides 1 and 4 are kept as written) and the same `Swap` (which re-points
    `OtherEnd`).  For more than 12 endpoints Go switches to pdqsort; the result is the same whenever
    no two endpoints tie under `Less` (then `Less` is a strict total order).
  * the model is of the code AFTER the repairs this property led to (/repo 86acb69, 5358bae,
    9b9a9e0, 1a86e66; also 5037fea, fix C16-3 at `bestContainer`, and 43e7a47, fix C16-5 below): `MultiPolygon` returns its input whole only when every outer ring is inside;
    `clipRings` re-joins whenever `r[0] == r[len(r)-1]` and drops zero-length boundary pieces;
    `Before` of a start endpoint is `ls[1]`; `Less` orders coincident endpoints by cross product.
  * fix C16-5: `smartWrap` remembers the index of the piece the ring under construction began with
    (`WrapSt.first`) and takes the loop for complete only at THAT piece's start (`ep.Index == first &&
    ep.Point.Equal(current[0])`): the start of another piece in the same point (a hole touching the shell
    on the box side) is stitched in, not mistaken for the end of the loop.
-/
import Orb.Basic
import Orb.Core
import Orb.Clip

namespace Orb.SmartClip
open Orb Orb.Core

/-! ### tables (around_bound.go) -/

/-- `orb.CCW` -/
def CCW : Int := 1
/-- `orb.CW` -/
def CW : Int := -1

/-- `nexts[orb.CW]` -/
def nextsCW : List Int := [-1, 9, 6, -1, 5, 1, 4, -1, 10, 8, 2]
/-- `nexts[orb.CCW]` -/
def nextsCCW : List Int := [-1, 5, 10, -1, 6, 4, 2, -1, 9, 1, 8]

/-- `nexts[o]` (a missing map key gives the zero array) -/
def nexts (o : Int) : List Int :=
  if o == CW then nextsCW else if o == CCW then nextsCCW else List.replicate 11 0

/-- `next[current]` with Go's bounds check -/
def nextAt (tbl : List Int) (c : Int) : Res String Int :=
  if c < 0 then .panic "index out of range" else
  match tbl[c.toNat]? with
  | some v => .ok v
  | none => .panic "index out of range"

/-- `const notOnSide = 0xFF` -/
def notOnSide : Nat := 255

section model
variable {α : Type} [Add α] [Sub α] [Mul α] [Div α] [LT α] [LE α] [DecidableLT α] [DecidableLE α] [BEq α]
  [OfNat α 0] [OfNat α 2]

/-- smartclip's own `bitCodeOpen` (same text as clip's, literal bit values): on the boundary is outside -/
def bitCodeOpen (b : Bound α) (p : Pt α) : Nat :=
  (if p.x ≤ b.lo.x then 1 else if p.x ≥ b.hi.x then 2 else 0) |||
  (if p.y ≤ b.lo.y then 4 else if p.y ≥ b.hi.y then 8 else 0)

/-- `pointSide`: 4 top, 2 bottom, 3 right, 1 left, tested in that order -/
def pointSide (b : Bound α) (p : Pt α) : Nat :=
  if p.y == b.hi.y then 4
  else if p.y == b.lo.y then 2
  else if p.x == b.hi.x then 3
  else if p.x == b.lo.x then 1
  else notOnSide

/-- `pointFor`: representative point of a side (its midpoint) or corner -/
def pointFor (b : Bound α) (code : Int) : Res String (Pt α) :=
  if code == 1 then .ok ⟨b.lo.x, (b.hi.y + b.lo.y) / 2⟩
  else if code == 2 then .ok ⟨b.hi.x, (b.hi.y + b.lo.y) / 2⟩
  else if code == 4 then .ok ⟨(b.hi.x + b.lo.x) / 2, b.lo.y⟩
  else if code == 5 then .ok ⟨b.lo.x, b.lo.y⟩
  else if code == 6 then .ok ⟨b.hi.x, b.lo.y⟩
  else if code == 8 then .ok ⟨(b.hi.x + b.lo.x) / 2, b.hi.y⟩
  else if code == 9 then .ok ⟨b.lo.x, b.hi.y⟩
  else if code == 10 then .ok ⟨b.hi.x, b.hi.y⟩
  else .panic "invalid code"

/-! ### endpoints and their order (smart.go) -/

/-- `type endpoint struct` -/
structure Endpoint (α : Type) where
  point : Pt α
  start : Bool
  used : Bool
  side : Nat
  index : Nat
  otherEnd : Nat
deriving Repr, Inhabited

/-- `endpoint.Before`: the vertex next to the endpoint on its piece — `ls[1]` for a start,
    `ls[len(ls)-2]` for an end -/
def before (mls : List (List (Pt α))) (e : Endpoint α) : Res String (Pt α) :=
  match mls[e.index]? with
  | none => .panic "index out of range"
  | some ls =>
    if e.start then
      match ls[1]? with
      | some p => .ok p
      | none => .panic "index out of range"
    else if ls.length < 2 then .panic "index out of range"
    else
      match ls[ls.length - 2]? with
      | some p => .ok p
      | none => .panic "index out of range"

/-- `sortableEndpoints.Less` on two endpoint records -/
def lessE (mls : List (List (Pt α))) (a b : Endpoint α) : Res String Bool :=
  if a.side != b.side then .ok (decide (a.side < b.side))
  else if a.side != notOnSide && Core.ptEq a.point b.point then do
    -- coincident endpoints: by the direction of the attached edges, in the order a
    -- counter-clockwise walk of the bound meets them
    let p := a.point
    let na ← before mls a
    let nb ← before mls b
    pure (decide ((na.x - p.x) * (nb.y - p.y) - (na.y - p.y) * (nb.x - p.x) < 0))
  else if a.side == 1 then
    if a.point.y != b.point.y then .ok (decide (a.point.y ≥ b.point.y))
    else do
      let ba ← before mls a
      let bb ← before mls b
      pure (decide (ba.y ≥ bb.y))
  else if a.side == 2 then
    if a.point.x != b.point.x then .ok (decide (a.point.x < b.point.x))
    else do
      let ba ← before mls a
      let bb ← before mls b
      pure (decide (ba.x < bb.x))
  else if a.side == 3 then
    if a.point.y != b.point.y then .ok (decide (a.point.y < b.point.y))
    else do
      let ba ← before mls a
      let bb ← before mls b
      pure (decide (ba.y < bb.y))
  else if a.side == 4 then
    if a.point.x != b.point.x then .ok (decide (a.point.x ≥ b.point.x))
    else do
      let ba ← before mls a
      let bb ← before mls b
      pure (decide (ba.x ≥ bb.x))
  else .panic "unreachable"

/-- `Less(i, j)` of `sortableEndpoints`, or of `sort.Reverse` of it when `rev` -/
def lessIdx (mls : List (List (Pt α))) (rev : Bool) (eps : List (Endpoint α)) (i j : Nat) : Res String Bool :=
  match eps[i]?, eps[j]? with
  | some a, some b => if rev then lessE mls b a else lessE mls a b
  | _, _ => .panic "index out of range"

/-- `sortableEndpoints.Swap(i, j)`: first `eps[eps[i].OtherEnd].OtherEnd = j`, then
    `eps[eps[j].OtherEnd].OtherEnd = i` (in this order), then the two slots are exchanged. -/
def swapE (eps : List (Endpoint α)) (i j : Nat) : List (Endpoint α) :=
  match eps[i]?, eps[j]? with
  | some a, some b =>
    let e1 := eps.modify a.otherEnd fun e => { e with otherEnd := j }
    let e2 := e1.modify b.otherEnd fun e => { e with otherEnd := i }
    match e2[i]?, e2[j]? with
    | some a', some b' => (e2.set i b').set j a'
    | _, _ => e2
  | _, _ => eps

/-- inner loop of Go's insertion sort: `for j := i; j > 0 && Less(j, j-1); j-- { Swap(j, j-1) }` -/
def sortInner (mls : List (List (Pt α))) (rev : Bool) : Nat → List (Endpoint α) → Res String (List (Endpoint α))
  | 0, eps => .ok eps
  | j+1, eps => do
    let b ← lessIdx mls rev eps (j+1) j
    if b then sortInner mls rev j (swapE eps (j+1) j) else pure eps

/-- `sort.Sort` (insertion sort, see the header) of the endpoint slice -/
def sortE (mls : List (List (Pt α))) (rev : Bool) (eps : List (Endpoint α)) : Res String (List (Endpoint α)) :=
  (List.range' 1 (eps.length - 1)).foldlM (fun e i => sortInner mls rev i e) eps

/-! ### aroundBound (around_bound.go) -/

/-- `for target != current { in = append(in, pointFor(box, current)); current = next[current] }` -/
def aroundLoop (box : Bound α) (tbl : List Int) (target : Int) :
    Nat → Int → List (Pt α) → Res String (List (Pt α))
  | 0, _, _ => .err "fuel"
  | fuel+1, current, acc =>
    if target == current then .ok acc
    else do
      let p ← pointFor box current
      let c ← nextAt tbl current
      aroundLoop box tbl target fuel c (acc ++ [p])

/-- `aroundBound(box, in, o)`: connect the last point of `in` to its first around the box edge in
    direction `o`, appending corner / side points and finally the first point. -/
def aroundBound (box : Bound α) (inp : List (Pt α)) (o : Int) : Res String (List (Pt α)) :=
  if o != CCW && o != CW then .panic "invalid orientation" else
  match inp, inp.getLast? with
  | f :: _, some l =>
    let next := nexts o
    let target : Int := bitCodeOpen box f
    let current : Int := bitCodeOpen box l
    if target == 0 || current == 0 then .panic "endpoints must be outside bound" else do
    -- endpoints along one edge: which comes first decides between "connect" and "all the way round"
    let early ← (if current == target then do
        let points : List (Endpoint α) :=
          [ { point := f, start := true, used := false, side := pointSide box f, index := 0, otherEnd := 0 },
            { point := l, start := false, used := false, side := pointSide box l, index := 0, otherEnd := 0 } ]
        let sorted ← sortE [inp] (o != CCW) points
        match sorted with
        | p0 :: _ => pure (!p0.start)
        | [] => pure false
      else pure false : Res String Bool)
    if early then
      (if !(Core.ptEq f l) then pure (inp ++ [f]) else pure inp)
    else do
      let c ← nextAt next current
      let out ← aroundLoop box next target 16 c inp
      pure (out ++ [f])
  | _, _ => .ok []

/-! ### clipRings (smart.go) -/

/-- `Ring.Closed()` -/
def ringClosed (r : List (Pt α)) : Bool :=
  decide (r.length ≥ 4) &&
    (match r.head?, r.getLast? with
     | some f, some l => Core.ptEq f l
     | _, _ => false)

/-- `end[0] == box.Min[0] || box.Max[0] == end[0] || end[1] == box.Min[1] || box.Max[1] == end[1]` -/
def onBoundary (box : Bound α) (p : Pt α) : Bool :=
  p.x == box.lo.x || box.hi.x == p.x || p.y == box.lo.y || box.hi.y == p.y

/-- inner `for j := 0; j < len(out); j++` of the re-joining loop.  A match appends `out[j][1:]` to
    `out[i]`, DECREMENTS `i`, moves the last piece into slot `j` and shrinks `out`; the loop then goes
    on with the next `j` and the old `end` (a second match would use the decremented `i`). -/
def joinInner (end_ : Pt α) : Nat → List (List (Pt α)) → Int → Nat → Res String (List (List (Pt α)) × Int)
  | 0, _, _, _ => .err "fuel"
  | fuel+1, out, i, j =>
    if j ≥ out.length then .ok (out, i)
    else if i == (j : Int) then joinInner end_ fuel out i (j+1)
    else
      match out[j]? with
      | some (h :: tl) =>
        if Core.ptEq h end_ then
          if i < 0 ∨ i ≥ (out.length : Int) then .panic "index out of range"
          else
            let out1 := out.modify i.toNat (· ++ tl)
            let last := out1.getLast?.getD []
            let out2 := (out1.set j last).dropLast
            joinInner end_ fuel out2 (i - 1) (j+1)
        else joinInner end_ fuel out i (j+1)
      | some [] => .panic "index out of range"
      | none => .ok (out, i)

/-- outer `for i := 0; i < len(out); i++` of the re-joining loop -/
def joinOuter (box : Bound α) : Nat → List (List (Pt α)) → Int → Res String (List (List (Pt α)))
  | 0, _, _ => .err "fuel"
  | fuel+1, out, i =>
    if i ≥ (out.length : Int) then .ok out
    else if i < 0 then .panic "index out of range"
    else
      match out[i.toNat]? with
      | none => .ok out
      | some piece =>
        match piece.getLast? with
        | none => .panic "index out of range"
        | some e =>
          if onBoundary box e then joinOuter box fuel out (i + 1)
          else do
            let (out', i') ← joinInner e (out.length + 1) out i 0
            joinOuter box fuel out' (i' + 1)

/-- the body of `for _, r := range rings` in `clipRings`: implicit closing, open-bound clip, re-joining -/
def clipOne (box : Bound α) (r : List (Pt α)) : Res String (List (List (Pt α))) :=
  -- `if len(r) == 0 { continue }`
  if r.isEmpty then .ok [] else do
  let r' ← (if !(ringClosed r) then
      match r.head?, r.getLast? with
      | some f, some l => if box.contains f || box.contains l then pure (r ++ [f]) else pure r
      | _, _ => .panic "index out of range"
    else pure r : Res String (List (Pt α)))
  match Clip.line box true r' with
  | none => .err "clip stuck"
  | some [] => pure []
  | some out =>
    -- `if r[0] == r[len(r)-1]` (the ring as it is now, after the implicit closing)
    match r'.head?, r'.getLast? with
    | some f, some l => if Core.ptEq f l then joinOuter box (2 * out.length + 2) out 0 else pure out
    | _, _ => .panic "index out of range"

/-- `ls[0] == ls[len(ls)-1] && pointSide(box, ls[0]) == notOnSide` -/
def closedInside (box : Bound α) (ls : List (Pt α)) : Res String Bool :=
  match ls.head?, ls.getLast? with
  | some f, some l => .ok (Core.ptEq f l && pointSide box f == notOnSide)
  | _, _ => .panic "index out of range"

/-- the final partition of `clipRings` into open pieces and closed interior rings -/
def partitionPieces (box : Bound α) : List (List (Pt α)) → Res String (List (List (Pt α)) × List (List (Pt α)))
  | [] => .ok ([], [])
  | ls :: rest => do
    -- `len(ls) == 2 && ls[0] == ls[1] && pointSide(box, ls[0]) != notOnSide`: a zero-length touch
    let touch := (match ls with
      | [p, q] => Core.ptEq p q && pointSide box p != notOnSide
      | _ => false)
    let c ← closedInside box ls
    let (op, cl) ← partitionPieces box rest
    if touch then pure (op, cl)
    else if c then pure (op, ls :: cl) else pure (ls :: op, cl)

/-- all pieces of all rings, in order (the `result` slice before the partition) -/
def clipAll (box : Bound α) : List (List (Pt α)) → Res String (List (List (Pt α)))
  | [] => .ok []
  | r :: rest => do
    let a ← clipOne box r
    let b ← clipAll box rest
    pure (a ++ b)

/-- `clipRings(box, rings) (open, closed)` -/
def clipRings (box : Bound α) (rings : List (List (Pt α))) : Res String (List (List (Pt α)) × List (List (Pt α))) := do
  let all ← clipAll box rings
  partitionPieces box all

/-! ### smartWrap (smart.go) -/

/-- the endpoint slice before sorting: start of piece `i` at `2i`, its end at `2i+1` -/
def mkEndpoints (box : Bound α) : Nat → List (List (Pt α)) → Res String (List (Endpoint α))
  | _, [] => .ok []
  | i, r :: rest =>
    match r.head?, r.getLast? with
    | some f, some l => do
      let tl ← mkEndpoints box (i+1) rest
      pure ({ point := f, start := true, used := false, side := pointSide box f, index := i, otherEnd := 2*i+1 } ::
            { point := l, start := false, used := false, side := pointSide box l, index := i, otherEnd := 2*i } :: tl)
    | _, _ => .panic "index out of range"

/-- state of the stitching loop -/
structure WrapSt (α : Type) where
  points : List (Endpoint α)
  current : List (Pt α)
  result : List (List (List (Pt α)))
  /-- `first`: index of the piece `current` starts with (fix C16-5) -/
  first : Nat := 0

/-- the stitching loop `for i := 0; i < 2*len(points); i++`.  `i` is the value of the loop variable
    at the loop test.  (`r[2:]` of the connecting ring is kept as `rTail`: `emptyTwoRing[2:] = []`.) -/
def wrapLoop (box : Bound α) (input : List (List (Pt α))) (o : Int) (n : Nat) :
    Nat → WrapSt α → Nat → Res String (List (List (List (Pt α))))
  | 0, _, _ => .err "fuel"
  | fuel+1, st, i =>
    if i ≥ 2 * n then .ok st.result else
    let k := i % n
    match st.points[k]? with
    | none => .panic "index out of range"
    | some ep =>
      if ep.used then wrapLoop box input o n fuel st (i+1)
      else if !ep.start then
        if st.current.isEmpty then
          match input[ep.index]? with
          | none => .panic "index out of range"
          | some piece =>
            wrapLoop box input o n fuel
              { st with current := piece, first := ep.index, points := st.points.set k { ep with used := true } } (i+1)
        else wrapLoop box input o n fuel st (i+1)
      else if st.current.isEmpty then wrapLoop box input o n fuel st (i+1)
      else
        let pts1 := st.points.set k { ep with used := true }
        match st.current.head?, st.current.getLast? with
        | some cf, some cl => do
          -- previous was end, connect to this start
          let rTail ← (if Core.ptEq ep.point cl then pure []
            else do
              let r ← aroundBound box [ep.point, cl] o
              pure (r.drop 2) : Res String (List (Pt α)))
          if ep.index == st.first && Core.ptEq ep.point cf then
            -- loop complete: back at the start of the piece the ring began with (fix C16-5: the start of
            -- ANOTHER piece in the same point — two rings touching there — goes on)
            let ring := st.current ++ rTail
            wrapLoop box input o n fuel { points := pts1, current := [], result := st.result ++ [[ring]], first := st.first } 0
          else
            match input[ep.index]? with
            | none => .panic "index out of range"
            | some piece =>
              let cur := st.current ++ (if rTail.isEmpty then [] else rTail.dropLast) ++ piece
              if ep.otherEnd ≥ pts1.length then .panic "index out of range" else
              let pts2 := pts1.modify ep.otherEnd fun e => { e with used := true }
              wrapLoop box input o n fuel { points := pts2, current := cur, result := st.result, first := st.first } (ep.otherEnd + 1)
        | _, _ => .panic "index out of range"

/-- `smartWrap(box, input, o)` -/
def smartWrap (box : Bound α) (input : List (List (Pt α))) (o : Int) : Res String (List (List (List (Pt α)))) := do
  let pts ← mkEndpoints box 0 input
  let sorted ← sortE input (o != CCW) pts
  let n := sorted.length
  wrapLoop box input o n ((2*n+2)*(2*n+2)) { points := sorted, current := [], result := [] } 0

/-! ### hole assignment -/

/-- `polygonContains(outer, r)`: some vertex of `r` is inside `outer` by the crossing rule
    `((yi > y) != (yj > y)) && (x < (xj-xi)*(y-yi)/(yj-yi)+xi)` -/
def polygonContains (outer r : List (Pt α)) : Bool :=
  let js := outer.getLast?.toList ++ outer.dropLast
  r.any fun p =>
    (outer.zip js).foldl (fun inside (pi, pj) =>
      if (decide (pi.y > p.y) != decide (pj.y > p.y)) &&
         decide (p.x < (pj.x - pi.x) * (p.y - pi.y) / (pj.y - pi.y) + pi.x) then !inside else inside) false

/-- the loop of `addToMultiPolygon` (after fix C16-3): `best` is the index and outer ring of the innermost
    polygon seen so far whose outer ring contains a vertex of `ring`; a later polygon replaces it when
    `best`'s outer ring contains one of that polygon's outer vertices.  `mp[i][0]` is evaluated for
    EVERY polygon (no early return any more), so a polygon without rings panics wherever it stands. -/
def bestContainer (ring : List (Pt α)) :
    List (List (List (Pt α))) → Nat → Option (Nat × List (Pt α)) → Res String (Option (Nat × List (Pt α)))
  | [], _, best => .ok best
  | pg :: rest, i, best =>
    match pg with
    | [] => .panic "index out of range"
    | outer :: _ =>
      let take := polygonContains outer ring &&
        (match best with
         | none => true
         | some (_, bo) => polygonContains bo outer)
      bestContainer ring rest (i + 1) (if take then some (i, outer) else best)

/-- `addToMultiPolygon`: the ring goes to the INNERMOST polygon whose outer ring contains one of its
    vertices; it is dropped when there is none. -/
def addToMultiPolygon (mp : List (List (List (Pt α)))) (ring : List (Pt α)) :
    Res String (List (List (List (Pt α)))) := do
  match ← bestContainer ring mp 0 none with
  | none => pure mp
  | some (i, _) => pure (mp.modify i (· ++ [ring]))

def addAll (mp : List (List (List (Pt α)))) (rings : List (List (Pt α))) : Res String (List (List (List (Pt α)))) :=
  rings.foldlM addToMultiPolygon mp

/-! ### entry points -/

/-- `smartclip.Ring` (`[]` = nil) -/
def ring (box : Bound α) (r : List (Pt α)) (o : Int) : Res String (List (List (List (Pt α)))) :=
  if r.isEmpty then .ok [] else do
  let (op, cl) ← clipRings box [r]
  if op.isEmpty then
    (if cl.isEmpty then pure [] else pure [[r]])
  else smartWrap box op o

/-- `smartclip.Polygon` -/
def polygon (box : Bound α) (p : List (List (Pt α))) (o : Int) : Res String (List (List (List (Pt α)))) :=
  if p.isEmpty then .ok [] else do
  let (op, cl) ← clipRings box p
  if op.isEmpty then
    (if cl.isEmpty then pure [] else pure [p])
  else do
    let result ← smartWrap box op o
    match result with
    | [pg] => pure [pg ++ cl]
    | _ => addAll result cl

/-- `p[0]` for every polygon that has rings (`if len(p) == 0 { continue }`) -/
def outerRings : List (List (List (Pt α))) → List (List (Pt α))
  | [] => []
  | [] :: rest => outerRings rest
  | (o :: _) :: rest => o :: outerRings rest

/-- `smartclip.MultiPolygon` -/
def multiPolygon (box : Bound α) (mp : List (List (List (Pt α)))) (o : Int) : Res String (List (List (List (Pt α)))) :=
  if mp.isEmpty then .ok [] else do
  let outers := outerRings mp
  let (op, closedOuters) ← clipRings box outers
  if op.isEmpty && closedOuters.isEmpty then pure []              -- everything outside bound
  else if op.isEmpty && closedOuters.length == outers.length then pure mp   -- everything inside bound
  else do
    let innerRings := mp.flatMap fun p => p.drop 1
    let (inners, closedInners) ← clipRings box innerRings
    let result ← smartWrap box (op ++ inners) o
    let result := result ++ closedOuters.map fun r => [r]
    addAll result closedInners

/-- `Geometry.Dimensions()` -/
def dimensions : Geom α → Int
  | .point _ | .multiPoint _ => 0
  | .lineString _ | .multiLineString _ => 1
  | .ring _ | .polygon _ | .multiPolygon _ | .bound _ _ => 2
  | .collection gs => dimsList gs
where
  dimsList : List (Geom α) → Int
    | [] => -1
    | g :: rest => let d := dimensions g; let m := dimsList rest; if d > m then d else m

/-- the tail of `Geometry` after the type switch: nil / single polygon / multi-polygon -/
def wrapMP (mp : List (List (List (Pt α)))) : GVal α :=
  match mp with
  | [] => .nilIface
  | [p] => .val (.polygon p)
  | l => .val (.multiPolygon l)

variable [Min α] [Max α]

/-- plain `clip.Geometry` as a top-level value -/
def plainClip (eb box : Bound α) (g : Geom α) : Res String (GVal α) :=
  match Clip.geometry eb box g with
  | none => .err "clip stuck"
  | some none => .ok .nilIface
  | some (some r) => .ok (.val r)

/-- `smartclip.Geometry` on a non-nil value (typed nil slices behave as empty values).  A collection
    with no two-dimensional member is clipped plainly as a whole; otherwise member by member, nil
    results dropped, a single survivor unwrapped, and NO survivor gives a typed nil `orb.Collection`. -/
def geometry (eb box : Bound α) (o : Int) : Geom α → Res String (GVal α)
  | .ring r => do let mp ← ring box r o; pure (wrapMP mp)
  | .polygon p => do let mp ← polygon box p o; pure (wrapMP mp)
  | .multiPolygon mp => do let r ← multiPolygon box mp o; pure (wrapMP r)
  | .bound a b => plainClip eb box (.bound a b)
  | .point p => plainClip eb box (.point p)
  | .multiPoint p => plainClip eb box (.multiPoint p)
  | .lineString p => plainClip eb box (.lineString p)
  | .multiLineString p => plainClip eb box (.multiLineString p)
  | .collection gs =>
    if dimensions.dimsList gs != 2 then plainClip eb box (.collection gs)
    else do
      let res ← members eb box o gs
      match res with
      | [] => pure (.nilSlice .collection)
      | [g] => pure (.val g)
      | l => pure (.val (.collection l))
where
  members (eb box : Bound α) (o : Int) : List (Geom α) → Res String (List (Geom α))
    | [] => .ok []
    | g :: rest => do
      let c ← geometry eb box o g
      let r ← members eb box o rest
      match c with
      | .val v => pure (v :: r)
      | .nilSlice k => pure (Core.emptyOf k :: r)
      | .nilIface => pure r

/-- `smartclip.Geometry` on a top-level value -/
def geometryV (eb box : Bound α) (o : Int) : GVal α → Res String (GVal α)
  | .nilIface => .ok .nilIface
  | .nilSlice k => geometry eb box o (Core.emptyOf k)
  | .val g => geometry eb box o g

end model

end Orb.SmartClip
