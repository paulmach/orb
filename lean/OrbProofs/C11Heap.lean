/-
  C11 — correctness of the array-based binary max-heap of `Orb.Quadtree`
  (`siftUp`, `heapPush`, `siftDown`, `heapPop`; model of quadtree/maxheap.go), as an instance of `Orb.Sift`.

  Both sift loops only ever swap two positions whose contents are known, so the contents are permuted,
  and a swap of the array is a swap of keys (`key_swap`), which is all `Orb.Sift` asks of a step.
  The drain loop of `KNearestMatching` is heap sort (`drain_sorted`).
-/
import Orb.Quadtree
import OrbProofs.Sift
import Mathlib.Order.Basic
import Mathlib.Order.Defs.LinearOrder
import Mathlib.Data.List.Perm.Basic

namespace Orb.Quadtree
open Orb Orb.Core

variable {α : Type}

/-- key (distance) of slot `k`; `d` beyond the end -/
def key (h : Heap α) (d : α) (k : Nat) : α := if hk : k < h.size then h[k].2 else d

theorem key_lt (h : Heap α) (d : α) {k : Nat} (hk : k < h.size) : key h d k = h[k].2 := dif_pos hk

theorem key_swap (h : Heap α) (d : α) (i j : Nat) (hi : i < h.size) (hj : j < h.size) (k : Nat) :
    key (h.swap i j hi hj) d k = if k = j then key h d i else if k = i then key h d j else key h d k := by
  unfold key
  simp only [Array.size_swap]
  by_cases hk : k < h.size
  · simp only [hk, hi, hj, dite_true, Array.getElem_swap]; split_ifs <;> simp_all
  · have : k ≠ i ∧ k ≠ j := by omega
    simp [hk, this]

variable [LinearOrder α]

/-- max-heap: a key may stand above a not larger one -/
abbrev above : α → α → Prop := fun a b => b ≤ a

/-- max-heap order: no slot holds a larger key than its parent slot -/
def HeapOrd (h : Heap α) : Prop :=
  ∀ j (h0 : 0 < j) (hj : j < h.size), h[j].2 ≤ (h[Sift.parent j]'(Nat.lt_trans (Sift.parent_lt h0) hj)).2

theorem heapOrd_iff (h : Heap α) (d : α) : HeapOrd h ↔ Sift.Ord above (key h d) h.size := by
  constructor
  · intro ho j hj0 hjn
    rw [key_lt _ _ hjn, key_lt _ _ (Nat.lt_trans (Sift.parent_lt hj0) hjn)]
    exact ho j hj0 hjn
  · intro ho j hj0 hjn
    have := ho j hj0 hjn
    rwa [key_lt _ _ hjn, key_lt _ _ (Nat.lt_trans (Sift.parent_lt hj0) hjn)] at this

theorem set_set_eq_swap {β : Type} (h : Array β) (i j : Nat) (hi : i < h.size) (hj : j < h.size) :
    (h.setIfInBounds i h[j]).setIfInBounds j h[i] = h.swap i j hi hj := by
  rw [Array.swap_def]; simp [Array.setIfInBounds, hi, hj]

/-- one round of `siftUp` in swap form: the loop's two writes put back two known values -/
theorem siftUp_succ (pt : Ptr α) (d : α) (fuel i : Nat) (h : Heap α) (hi : i < h.size) (hi0 : i ≠ 0)
    (hid : h[i] = (pt, d)) :
    siftUp pt d (fuel+1) i h =
      if d < (h[Sift.parent i]'(Nat.lt_trans (Sift.parent_lt (Nat.pos_of_ne_zero hi0)) hi)).2 then h
      else siftUp pt d fuel (Sift.parent i)
        (h.swap i (Sift.parent i) hi (Nat.lt_trans (Sift.parent_lt (Nat.pos_of_ne_zero hi0)) hi)) := by
  have hup : Sift.parent i < h.size := Nat.lt_trans (Sift.parent_lt (Nat.pos_of_ne_zero hi0)) hi
  rw [siftUp]
  simp only [hi0, if_false, Sift.parent_shift, Array.getElem?_eq_getElem hup]
  rw [← set_set_eq_swap, hid]

/-- The fuel hypothesis: `siftUp` is run with `h.size`, more than any index. -/
theorem siftUp_spec (pt : Ptr α) (d : α) (fuel : Nat) : ∀ (i : Nat) (h : Heap α) (hi : i < h.size), h[i] = (pt, d) →
    (siftUp pt d fuel i h).toList.Perm h.toList ∧
    (i < fuel → Sift.UpInv above (key h d) h.size i → HeapOrd (siftUp pt d fuel i h)) := by
  induction fuel with
  | zero => intro i h _ _; exact ⟨by simp [siftUp], fun hf => by omega⟩
  | succ fuel ih =>
    intro i h hi hid
    by_cases hi0 : i = 0
    · subst hi0
      simp only [siftUp, if_true]
      exact ⟨.refl _, fun _ inv => (heapOrd_iff h d).2 (inv.ord (Or.inl rfl))⟩
    · have hpi := Sift.parent_lt (Nat.pos_of_ne_zero hi0)
      have hup : Sift.parent i < h.size := by omega
      have hki : key h d i = d := by rw [key_lt _ _ hi, hid]
      rw [siftUp_succ pt d fuel i h hi hi0 hid]
      split_ifs with hlt
      · refine ⟨.refl _, fun _ inv => (heapOrd_iff h d).2 (inv.ord (Or.inr ?_))⟩
        rw [hki, key_lt _ _ hup]; exact hlt.le
      · obtain ⟨hp, ho⟩ := ih _ (h.swap i _ hi hup) (by rw [Array.size_swap]; exact hup) (by simp [hid])
        refine ⟨hp.trans (Array.perm_iff_toList_perm.mp (Array.swap_perm hi hup)), fun hf inv => ho (by omega) ?_⟩
        rw [Array.size_swap]
        refine inv.step (fun _ _ _ => ge_trans) (Nat.pos_of_ne_zero hi0) hi (key_swap h d i _ hi hup) ?_
        rw [hki, key_lt _ _ hup]; exact not_lt.1 hlt

/-- one comparison of the sift-down step: stay at the candidate `cur` or move to position `j` -/
def pick (h : Heap α) (cur : Nat × (Ptr α × α)) (j : Nat) : Nat × (Ptr α × α) :=
  match h[j]? with
  | some x => if cur.2.2 < x.2 then (j, x) else cur
  | none => cur

theorem pick_spec (h : Heap α) (cur : Nat × (Ptr α × α)) (j : Nat) (hc : cur.1 < h.size) (hcur : h[cur.1] = cur.2) :
    ∃ hk : (pick h cur j).1 < h.size, h[(pick h cur j).1] = (pick h cur j).2 ∧
      ((pick h cur j).1 = cur.1 ∨ (pick h cur j).1 = j) ∧ cur.2.2 ≤ (pick h cur j).2.2 ∧
      ∀ hj : j < h.size, h[j].2 ≤ (pick h cur j).2.2 := by
  by_cases hj : j < h.size
  · by_cases hlt : cur.2.2 < h[j].2
    · have e : pick h cur j = (j, h[j]) := by
        unfold pick; rw [Array.getElem?_eq_getElem hj]; exact if_pos hlt
      rw [e]
      exact ⟨hj, rfl, Or.inr rfl, hlt.le, fun _ => le_rfl⟩
    · have e : pick h cur j = cur := by
        unfold pick; rw [Array.getElem?_eq_getElem hj]; exact if_neg hlt
      rw [e]
      exact ⟨hc, hcur, Or.inl rfl, le_rfl, fun _ => not_lt.mp hlt⟩
  · have e : pick h cur j = cur := by
      unfold pick; rw [Array.getElem?_eq_none (Nat.not_lt.mp hj)]
    rw [e]
    exact ⟨hc, hcur, Or.inl rfl, le_rfl, fun hj' => absurd hj' hj⟩

/-- one unfolding of `siftDown`: the two comparisons of the step are two `pick`s -/
theorem siftDown_step (last : Ptr α × α) (fuel i : Nat) (h : Heap α) (hi : i < h.size) :
    siftDown last (fuel+1) i h =
      if (pick h (pick h (i, h[i]) (2*i+1)) (2*i+2)).1 = i then h
      else siftDown last fuel (pick h (pick h (i, h[i]) (2*i+1)) (2*i+2)).1
        ((h.setIfInBounds i (pick h (pick h (i, h[i]) (2*i+1)) (2*i+2)).2).setIfInBounds
          (pick h (pick h (i, h[i]) (2*i+1)) (2*i+2)).1 last) := by
  rw [siftDown]
  simp only [Sift.right_shift, Array.getElem?_eq_getElem hi]
  rfl

/-- one round of `siftDown` in swap form: `ci` is the slot holding the largest of `i` and its children -/
theorem siftDown_succ (last : Ptr α × α) (fuel i : Nat) (h : Heap α) (hi : i < h.size)
    (hid : h[i] = last) :
    ∃ (ci : Nat) (hci : ci < h.size), (ci = i ∨ ci = 2*i+1 ∨ ci = 2*i+2) ∧
      (∀ c (hc : c < h.size), (c = i ∨ c = 2*i+1 ∨ c = 2*i+2) → h[c].2 ≤ h[ci].2) ∧
      siftDown last (fuel+1) i h =
        if ci = i then h else siftDown last fuel ci (h.swap i ci hi hci) := by
  obtain ⟨h1, e1, w1, m1, l1⟩ := pick_spec h (i, h[i]) (2*i+1) hi rfl
  obtain ⟨h2, e2, w2, m2, l2⟩ := pick_spec h _ (2*i+2) h1 e1
  refine ⟨_, h2, ?_, ?_, ?_⟩
  · rcases w2 with w2 | w2
    · rw [w2]; exact w1.imp id Or.inl
    · exact Or.inr (Or.inr w2)
  · intro c hc hcc
    rw [e2]
    rcases hcc with rfl | rfl | rfl
    · exact m1.trans m2
    · exact (l1 hc).trans m2
    · exact l2 hc
  · rw [siftDown_step last fuel i h hi, ← e2, ← hid, set_set_eq_swap]


/-- The fuel hypothesis: each step moves to a child, so `h.size - i` steps suffice. -/
theorem siftDown_spec (last : Ptr α × α) (fuel : Nat) : ∀ (i : Nat) (h : Heap α) (hi : i < h.size), h[i] = last →
    (siftDown last fuel i h).toList.Perm h.toList ∧
    (h.size ≤ fuel + i → Sift.DownInv above (key h last.2) h.size i → HeapOrd (siftDown last fuel i h)) := by
  induction fuel with
  | zero => intro i h hi _; exact ⟨by simp [siftDown], fun hf => by omega⟩
  | succ fuel ih =>
    intro i h hi hid
    obtain ⟨ci, hci, hcc, hmax, heq⟩ := siftDown_succ last fuel i h hi hid
    have hk : ∀ c (hc : c < h.size), (c = i ∨ c = 2*i+1 ∨ c = 2*i+2) → above (key h last.2 ci) (key h last.2 c) :=
      fun c hc hcc => by rw [key_lt _ _ hci, key_lt _ _ hc]; exact hmax c hc hcc
    rw [heq]
    split_ifs with hcii
    · subst hcii
      exact ⟨.refl _, fun _ inv => (heapOrd_iff h _).2
        (inv.ord fun c hc0 hcn hpc => hk c hcn (Or.inr (Sift.parent_child.1 ⟨hc0, hpc⟩)))⟩
    · have hic : ci = 2*i+1 ∨ ci = 2*i+2 := by omega
      obtain ⟨hp, ho⟩ := ih ci (h.swap i ci hi hci) (by simpa using hci) (by simp [hid])
      refine ⟨hp.trans (Array.perm_iff_toList_perm.mp (Array.swap_perm hi hci)), fun hf inv =>
        ho (by simp only [Array.size_swap]; omega) ?_⟩
      rw [Array.size_swap]
      exact inv.step (Sift.parent_child.2 hic) hci (key_swap h _ i ci hi hci) (hk i hi (Or.inl rfl))
        (fun c hc0 hcn hpc => hk c hcn (Or.inr (Sift.parent_child.1 ⟨hc0, hpc⟩)))

theorem heapOrd_empty : HeapOrd (#[] : Heap α) := by
  intro j _ hj; simp at hj

theorem heapOrd_top_max (h : Heap α) (ho : HeapOrd h) (top : Ptr α × α) (ht : h[0]? = some top) :
    ∀ e ∈ h.toList, e.2 ≤ top.2 := by
  intro e he
  obtain ⟨h0, rfl⟩ := Array.getElem?_eq_some_iff.mp ht
  rw [Array.mem_toList_iff] at he
  obtain ⟨i, hi, rfl⟩ := Array.mem_iff_getElem.mp he
  have := ((heapOrd_iff h h[0].2).1 ho).root (fun _ _ _ => ge_trans) (fun _ => le_rfl) i hi
  rwa [key_lt _ _ hi, key_lt _ _ h0] at this

theorem heapPush_perm (h : Heap α) (p : Ptr α) (d : α) :
    (heapPush h p d).toList.Perm ((p, d) :: h.toList) := by
  unfold heapPush
  refine (siftUp_spec p d _ _ _ (by simp) (by simp)).1.trans ?_
  simp only [Array.toList_push]
  exact List.perm_append_singleton _ _

theorem heapPush_ord (h : Heap α) (p : Ptr α) (d : α) (ho : HeapOrd h) : HeapOrd (heapPush h p d) := by
  unfold heapPush
  simp only [Array.size_push, Nat.add_sub_cancel]
  apply (siftUp_spec p d _ _ _ (by simp) (by simp)).2 (by omega)
  rw [Array.size_push]
  refine Sift.UpInv.of_push ((heapOrd_iff h d).1 ho) (fun j hj => ?_)
  simp [key, hj, Nat.lt_succ_of_lt hj, Array.getElem_push]

theorem heapPop_ord (h : Heap α) (ho : HeapOrd h) : HeapOrd (heapPop h) := by
  unfold heapPop
  split
  · exact ho
  · rename_i last hlast
    simp only
    split_ifs with hs
    · intro j _ hj; omega
    · have hs' : 0 < h.size - 1 := by simp at hs; omega
      apply (siftDown_spec last _ 0 _ (by simpa using hs') (by simp)).2 (by simp)
      rw [Array.size_setIfInBounds, Array.size_pop]
      refine Sift.DownInv.of_pop ((heapOrd_iff h last.2).1 ho) (fun j hj0 hj => ?_)
      have : j < h.size := by omega
      simp [key, hj, this, Nat.ne_of_lt hj0]

theorem heapPop_perm (h : Heap α) (top : Ptr α × α) (ht : h[0]? = some top) :
    h.toList.Perm (top :: (heapPop h).toList) := by
  obtain ⟨h0, rfl⟩ := Array.getElem?_eq_some_iff.mp ht
  unfold heapPop
  rw [show h.back? = some (h[h.size-1]) by rw [Array.back?_eq_getElem?, Array.getElem?_eq_getElem]]
  simp only
  split_ifs with hs
  · obtain ⟨x, rfl⟩ := Array.size_eq_one_iff.1 (show h.size = 1 by simp at hs; omega)
    simp
  · have hs' : 1 < h.size := by simp at hs; omega
    exact (Sift.perm_pop_root h hs').trans (List.Perm.cons _ (siftDown_spec _ _ 0 _ (by simp; omega)
      (by rw [Array.getElem_setIfInBounds (by simp; omega)]; simp)).1.symm)

theorem heapPush_size (h : Heap α) (p : Ptr α) (d : α) : (heapPush h p d).size = h.size + 1 := by
  have := (heapPush_perm h p d).length_eq
  simpa using this

theorem heapPop_spec (h : Heap α) (ho : HeapOrd h) (hs : 0 < h.size) :
    ∃ top, h[0]? = some top ∧ HeapOrd (heapPop h) ∧ h.toList.Perm (top :: (heapPop h).toList) ∧
      ∀ e ∈ h.toList, e.2 ≤ top.2 :=
  ⟨h[0], by simp [hs], heapPop_ord h ho, heapPop_perm h _ (by simp [hs]), heapOrd_top_max h ho _ (by simp [hs])⟩

theorem drain_sorted (n : Nat) : ∀ (h : Heap α) (acc : List (Ptr α)), HeapOrd h → h.size = n →
    ∃ es : List (Ptr α × α), es.Perm h.toList ∧ es.Pairwise (fun a b => a.2 ≤ b.2) ∧
      drain n h acc = es.map Prod.fst ++ acc := by
  induction n with
  | zero =>
    intro h acc _ hs
    exact ⟨[], by rw [List.eq_nil_of_length_eq_zero (l := h.toList) (by simpa using hs)], List.Pairwise.nil, rfl⟩
  | succ n ih =>
    intro h acc ho hs
    obtain ⟨top, ht, ho', hperm, hmax⟩ := heapPop_spec h ho (by omega)
    obtain ⟨es, hp, hsrt, he⟩ := ih (heapPop h) (top.1 :: acc) ho' (by have := hperm.length_eq; simp at this; omega)
    refine ⟨es ++ [top], (List.perm_append_singleton _ _).trans ((hp.cons top).trans hperm.symm), ?_, ?_⟩
    · refine List.pairwise_append.2 ⟨hsrt, List.pairwise_singleton _ _, fun a ha b hb => ?_⟩
      rw [List.mem_singleton.1 hb]
      exact hmax a (hperm.mem_iff.2 (List.mem_cons_of_mem _ (hp.mem_iff.1 ha)))
    · simp only [drain, ht, he, List.map_append, List.map_cons, List.map_nil, List.append_assoc, List.singleton_append]

end Orb.Quadtree
