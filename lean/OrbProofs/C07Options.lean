/-
  C07 — the option list of clip.LineString / clip.MultiLineString (model `Orb.Clip.applyOptions`,
  lean/Orb/ClipOptions.lean): the LAST option wins, no option means the closed bound, and the clip
  depends on the list through that value only.  The statements are in OrbProofs/C07.lean.
-/
import Orb.ClipOptions

namespace Orb.Clip
open Orb Orb.Core

theorem foldl_apply_openBound (opts : List Opt) (o : Options) :
    (opts.foldl Opt.apply o).openBound = (opts.getLast?.map Opt.yes).getD o.openBound := by
  induction opts generalizing o with
  | nil => rfl
  | cons x xs ih =>
    rw [List.foldl_cons, ih]
    cases xs with
    | nil => cases x; rfl
    | cons y ys =>
      rw [List.getLast?_cons_cons]
      cases h : (y :: ys).getLast? with
      | none => simp [List.getLast?_eq_none_iff] at h
      | some z => rfl

/-- the list asks for the closed bound: it is empty or its last entry is `OpenBound(false)` -/
def AsksClosed (opts : List Opt) : Prop := opts = [] ∨ opts.getLast? = some (Opt.openBound false)

theorem asksClosed_flag (opts : List Opt) (h : AsksClosed opts) : (opts.getLast?.map Opt.yes).getD false = false := by
  rcases h with h | h
  · subst h; rfl
  · rw [h]; rfl

end Orb.Clip
