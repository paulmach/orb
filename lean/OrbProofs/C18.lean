/-
  C18 — Spherical measures are symmetric, mutually inverse and match closed forms.
  PROPERTY THEOREMS about the model `Orb.Geo` (geo/distance.go, area.go, length.go, bound.go).

  Numbers range over an arbitrary ordered field; `math.Sin/Cos/Asin/Atan2/Sqrt/Abs`, `math.Pi`
  and `orb.EarthRadius` are the uninterpreted fields of `F : Fn α`.  Whatever a theorem needs to
  know about them is a named hypothesis of that theorem (`sin` odd, `abs` even, `abs ≥ 0`,
  `abs x ∈ {x, −x}`, range of `atan2` on the first quadrant, `sqrt ≥ 0`, `R ≥ 0`, `π ≥ 0`, `cos ≥ 0`,
  `min a b ≤ b`, `min` of non-negatives non-negative).  The ring and length theorems are algebraic
  identities of the code's formulas, the distance theorems identities and bounds: exact arithmetic,
  every ring length, closed and unclosed input.

  NOT proved (spherical trigonometry over ℝ and a numeric error bound — kept visible below as
  `…_full : Prop`, measured by the correspondence check with the property's tolerances):
  destination-at-distance, midpoint equidistance and half-way, 1e-5 agreement of the two distances.
-/
import OrbProofs.C18Lemmas

namespace Orb.Geo

-- every theorem of a section is stated over the section's ordered field, also where the proof uses no order
set_option linter.unusedSectionVars false

section ring
variable {α : Type} [Field α] [LinearOrder α] [IsStrictOrderedRing α] (F : Fn α)

/-- The hand-rewired `lo/mi/hi` triples never index outside the ring (no index panic),
    for closed and unclosed rings of every length ≥ 3. -/
theorem ringIdx_in_range (r : List (Pt α)) (h : 3 ≤ r.length) (i : Nat) (hi : i < ringL r) :
    (ringIdx (ringL r) i).1 < r.length ∧ (ringIdx (ringL r) i).2.1 < r.length ∧
    (ringIdx (ringL r) i).2.2 < r.length := by
  have hL := ringL_cases r
  obtain ⟨m, hm⟩ : ∃ m, ringL r = m + 3 := ⟨ringL r - 3, by omega⟩
  rw [hm] at hi hL ⊢
  rcases Nat.lt_or_ge i m with h1 | h1
  · rw [ringIdx_no_wrap m i h1]; simp only; omega
  · obtain rfl | rfl | rfl : i = m ∨ i = m + 1 ∨ i = m + 2 := by omega
    · rw [ringIdx_wrap_hi]; simp only; omega
    · rw [ringIdx_wrap_mi]; simp only; omega
    · rw [ringIdx_wrap_lo]; simp only; omega

/-- THE claim the property singles out: the rewired loop computes
    `−R²/2 · Σ_k (λ_{k+1} − λ_{k−1})·sin φ_k` over the cyclic list of distinct vertices
    (closing vertex dropped when present), for closed and unclosed input of every length ≥ 3. -/
theorem ringArea_eq_cyclic_sum (r : List (Pt α)) (h : 3 ≤ r.length) :
    ringArea F r = -(cyclicSum F (openVerts r)) * F.R * F.R / 2 := by
  unfold ringArea
  rw [if_neg (by omega), ringLoop_eq_cyclic F r h]

/-- The same value is the cyclic sum over the raw list: a repeated closing vertex, read as one
    more cyclic vertex, contributes nothing. -/
theorem ringArea_eq_cyclic_sum_raw (r : List (Pt α)) (h : 3 ≤ r.length) :
    ringArea F r = -(cyclicSum F r) * F.R * F.R / 2 := by
  rw [ringArea_eq_cyclic_sum F r h, cyclicSum_openVerts]

/-- `ringArea` as the sum over the directed edges of the closed polygon: the form in which closing,
    rotating and reversing are read off.  No condition on the length: under three vertices the guard of
    `ringArea` answers 0, and the edge sum vanishes because `edge` is antisymmetric. -/
theorem ringArea_eq_edge (v : List (Pt α)) :
    ringArea F v = -(Contains.edgeSumOf (edge F) v) * F.R * F.R / 2 := by
  rcases Nat.lt_or_ge v.length 3 with h | h
  · have h0 : Contains.edgeSumOf (edge F) v = 0 := by
      match v, h with
      | [], _ => rfl
      | [p], _ => simp [Contains.edgeSumOf, EvenOdd.edges, edge_self]
      | [p, q], _ => simp [Contains.edgeSumOf, EvenOdd.edges, edge_swap F p q]
    rw [ringArea, if_pos h, h0]; simp
  · rw [ringArea_eq_cyclic_sum_raw F v h, cyclicSum_eq_edgeSumOf]

/-- Closing a ring explicitly or leaving it to the implicit closing gives the same area. -/
theorem ringArea_close (v : List (Pt α)) :
    ringArea F (closeRing v) = ringArea F v := by
  cases v with
  | nil => rfl
  | cons p w => rw [ringArea_eq_edge, ringArea_eq_edge, closeRing, Contains.edgeSumOf_close _ (edge_self F)]

/-- Rotating the start of the vertex list (every rotation is `a ++ b ↦ b ++ a`) leaves the
    signed area unchanged. -/
theorem ringArea_rotate (a b : List (Pt α)) :
    ringArea F (b ++ a) = ringArea F (a ++ b) := by
  rw [ringArea_eq_edge, ringArea_eq_edge, Contains.edgeSumOf_rotate]

/-- Rotating the start of an explicitly closed ring (which means re-closing it) leaves the signed
    area unchanged. -/
theorem ringArea_rotate_closed (a b : List (Pt α)) :
    ringArea F (closeRing (b ++ a)) = ringArea F (closeRing (a ++ b)) := by
  rw [ringArea_close, ringArea_close, ringArea_rotate]

/-- Reversing the ring negates the signed area. -/
theorem ringArea_reverse (r : List (Pt α)) :
    ringArea F r.reverse = -ringArea F r := by
  rw [ringArea_eq_edge, ringArea_eq_edge, Contains.edgeSumOf_reverse _ (edge_swap F)]; ring

/-- `Area` of a ring (the absolute value) is unchanged by reversal. -/
theorem area_ring_reverse (habs : ∀ x, F.abs (-x) = F.abs x) (r : List (Pt α)) :
    area F (.ring r.reverse) = area F (.ring r) := by
  simp only [area, ringArea_reverse, habs]

/-- `Area` of a ring is unchanged by rotating the start of the vertex list. -/
theorem area_ring_rotate (a b : List (Pt α)) :
    area F (.ring (b ++ a)) = area F (.ring (a ++ b)) := by
  simp only [area, ringArea_rotate]

/-- Closed form for a longitude/latitude box: `ToRing` of the box has signed area
    `R² · Δλ · (sin φ₂ − sin φ₁)` with `Δλ` the width in radians. -/
theorem box_area_closed_form (lo hi : Pt α) :
    ringArea F (toRing lo hi) =
      F.R * F.R * deg2rad F (hi.x - lo.x) * (F.sin (deg2rad F hi.y) - F.sin (deg2rad F lo.y)) := by
  rw [ringArea_eq_edge]
  simp only [toRing, Contains.edgeSumOf, Contains.edges_cons, Contains.chain,
    Contains.lastD', List.map_cons, List.map_nil, List.sum_cons, List.sum_nil, edge, lam, sn, deg2rad]
  ring

/-- `Area` of a bound is the absolute value of the closed form of its box. -/
theorem area_bound (lo hi : Pt α) :
    area F (.bound lo hi) =
      F.abs (F.R * F.R * deg2rad F (hi.x - lo.x) * (F.sin (deg2rad F hi.y) - F.sin (deg2rad F lo.y))) := by
  simp only [area, box_area_closed_form]

/-- Polygon area is the outer ring's absolute area minus the holes' absolute areas. -/
theorem polygon_area (o : List (Pt α)) (hs : List (List (Pt α))) :
    polygonArea F (o :: hs) = F.abs (ringArea F o) - (hs.map fun h => F.abs (ringArea F h)).sum := by
  simp only [polygonArea]
  exact foldl_sub_eq _ _ _

/-- The area of a multi-polygon is the sum of the areas of its polygons. -/
theorem multi_area_sum (mp : List (List (List (Pt α)))) :
    multiPolygonArea F mp = (mp.map (polygonArea F)).sum := by
  unfold multiPolygonArea
  rw [foldl_add_zero]

/-- The area of a collection is the sum of the areas of its members. -/
theorem collection_area_sum (gs : List (Geom α)) :
    area F (.collection gs) = (gs.map (area F)).sum := by
  simp only [area, area_go_eq, zero_add]

end ring

section length
variable {α : Type} [Field α] [LinearOrder α] [IsStrictOrderedRing α]

/-- Geodesic length is the sum of the segment distances `df(ls[i], ls[i-1])`. -/
theorem length_sum (df : Pt α → Pt α → α) (ls : List (Pt α)) :
    lineLength df ls = ((ls.zip ls.tail).map fun pq => df pq.2 pq.1).sum := by
  cases ls with
  | nil => simp [lineLength]
  | cons p rest => simp only [lineLength, lineLength_go_eq, zero_add, List.tail_cons]

/-- The length of a multi-line-string is the sum of the lengths of its members. -/
theorem length_multiLineString (df : Pt α → Pt α → α) (ls : List (List (Pt α))) :
    length df (.multiLineString ls) = (ls.map (lineLength df)).sum := by
  simp only [length]; rw [foldl_add_zero]

/-- The length of a polygon is the sum of the lengths of its rings. -/
theorem length_polygon (df : Pt α → Pt α → α) (p : List (List (Pt α))) :
    length df (.polygon p) = (p.map (lineLength df)).sum := by
  simp only [length, polygonLength_eq]

/-- The length of a multi-polygon is the sum over its polygons of the lengths of their rings. -/
theorem length_multiPolygon (df : Pt α → Pt α → α) (mp : List (List (List (Pt α)))) :
    length df (.multiPolygon mp) = (mp.map fun p => (p.map (lineLength df)).sum).sum := by
  simp only [length]; rw [foldl_add_zero]
  congr 2; funext p; exact polygonLength_eq df p

/-- The length of a collection is the sum of the lengths of its members. -/
theorem length_collection (df : Pt α → Pt α → α) (gs : List (Geom α)) :
    length df (.collection gs) = (gs.map (length df)).sum := by
  simp only [length, length_go_eq, zero_add]

end length

section distance
variable {α : Type} [Field α] [LinearOrder α] [IsStrictOrderedRing α] (F : Fn α)

/-- Great-circle (haversine) distance is symmetric, given only that `sin` is odd. -/
theorem haversine_symm (hsin : ∀ x, F.sin (-x) = -F.sin x) (p q : Pt α) :
    distanceHaversine F p q = distanceHaversine F q p := by
  have h : havA F p q = havA F q p := by
    unfold havA
    simp only [deg2rad_sub_antisymm F p.y q.y, deg2rad_sub_antisymm F p.x q.x, neg_div, hsin]; ring
  unfold distanceHaversine
  simp only [h]

/-- The equirectangular distance is symmetric, given only that `abs` is even. -/
theorem distance_symm (habs : ∀ x, F.abs (-x) = F.abs x) (p q : Pt α) :
    distance F p q = distance F q p := by
  unfold distance
  simp only [deg2rad_sub_antisymm F p.y q.y, deg2rad_sub_antisymm F p.x q.x, add_comm p.y q.y, habs, neg_mul_neg]

/-- Haversine distance is at most half the circumference `π·R`, given `R ≥ 0`, `sqrt ≥ 0` and
    `atan2 y x ≤ π/2` on the closed first quadrant. -/
theorem haversine_le_half_circumference (hR : 0 ≤ F.R) (hsqrt : ∀ x, 0 ≤ F.sqrt x)
    (hatan : ∀ y x, 0 ≤ y → 0 ≤ x → F.atan2 y x ≤ F.pi / 2) (p q : Pt α) :
    distanceHaversine F p q ≤ F.pi * F.R :=
  calc distanceHaversine F p q ≤ 2 * F.R * (F.pi / 2) :=
        mul_le_mul_of_nonneg_left (hatan _ _ (hsqrt _) (hsqrt _)) (mul_nonneg zero_le_two hR)
    _ = F.pi * F.R := by ring

/-- Haversine distance is non-negative, given `R ≥ 0`, `sqrt ≥ 0` and `0 ≤ atan2 y x` on the closed
    first quadrant. -/
theorem haversine_nonneg (hR : 0 ≤ F.R) (hsqrt : ∀ x, 0 ≤ F.sqrt x)
    (hatan : ∀ y x, 0 ≤ y → 0 ≤ x → 0 ≤ F.atan2 y x) (p q : Pt α) :
    0 ≤ distanceHaversine F p q :=
  mul_nonneg (mul_nonneg zero_le_two hR) (hatan _ _ (hsqrt _) (hsqrt _))

/-- The clamp `a = math.Min(a, 1)` (fix eb6ce31) keeps the argument of the second square root
    non-negative for every field value of `a`, given `min a b ≤ b` (the law is witnessed for
    `exampleFn` below): no negative argument of `sqrt(1 - a)` for (nearly) antipodal points, where `a`
    rounds to `1 + ulp`.  This is a statement over an ordered field, where there is no NaN; Go's
    `math.Min(NaN, 1)` is NaN, so on floats a NaN `a` (non-finite coordinates only) still propagates —
    the driver's clause `haversine-half-circumference nan-near-antipodal` judges the float outcome. -/
theorem haversine_sqrt_arg_nonneg (hmin : ∀ a b, F.min a b ≤ b) (p q : Pt α) :
    0 ≤ 1 - F.min (havA F p q) 1 := sub_nonneg.mpr (hmin _ _)

/-- Both square-root arguments of `DistanceHaversine` are non-negative for latitudes whose cosine is
    non-negative (±90°), given `min a b ≤ b` and `min` of non-negatives non-negative. -/
theorem haversine_sqrt_args_nonneg (hmin : ∀ a b, F.min a b ≤ b)
    (hmin0 : ∀ a b, 0 ≤ a → 0 ≤ b → 0 ≤ F.min a b) (p q : Pt α)
    (hp : 0 ≤ F.cos (deg2rad F p.y)) (hq : 0 ≤ F.cos (deg2rad F q.y)) :
    0 ≤ F.min (havA F p q) 1 ∧ 0 ≤ 1 - F.min (havA F p q) 1 :=
  ⟨hmin0 _ _ (havA_nonneg F p q hp hq) zero_le_one, haversine_sqrt_arg_nonneg F hmin p q⟩

/-- The antimeridian fold as a bare inequality: for any `x` with `abs x ≤ 2π`, replacing `abs x`
    by `2π − abs x` when it exceeds `π` lands in `[0, π]`.  (`hpi` is not used by the proof.) -/
theorem fold_le_pi (x : α) (h2 : F.abs x ≤ 2 * F.pi) (hpi : 0 ≤ F.pi) :
    (if F.pi < F.abs x then 2 * F.pi - F.abs x else F.abs x) ≤ F.pi ∧
    (0 ≤ F.abs x → 0 ≤ (if F.pi < F.abs x then 2 * F.pi - F.abs x else F.abs x)) := by
  have _ := hpi
  constructor
  · split_ifs with h
    · rw [two_mul, sub_le_iff_le_add]
      exact (add_le_add_iff_left _).2 h.le
    · exact not_lt.mp h
  · intro h0
    split_ifs with h
    · exact sub_nonneg.mpr h2
    · exact h0

/-- The antimeridian fold, stated on `distance` itself: for longitudes within ±180° (the property's
    quantifier) `geo.Distance` is `√(Δφ² + (f·cos φ_m)²)·R` where the folded longitude difference
    `f = lonFold F p q` lies in `[0, π]` — the short way round, also for pairs straddling the
    antimeridian.  Needs only `abs ≥ 0`, `abs x ∈ {x, −x}` and `π ≥ 0`. -/
theorem distance_fold_le_pi (habs0 : ∀ x, 0 ≤ F.abs x) (habs : ∀ x, F.abs x = x ∨ F.abs x = -x)
    (hpi : 0 ≤ F.pi) (p q : Pt α) (hp1 : -180 ≤ p.x) (hp2 : p.x ≤ 180) (hq1 : -180 ≤ q.x) (hq2 : q.x ≤ 180) :
    (0 ≤ lonFold F p q ∧ lonFold F p q ≤ F.pi) ∧
    distance F p q =
      F.sqrt (deg2rad F (p.y - q.y) * deg2rad F (p.y - q.y) +
        (lonFold F p q * F.cos (deg2rad F ((p.y + q.y) / 2))) *
        (lonFold F p q * F.cos (deg2rad F ((p.y + q.y) / 2)))) * F.R := by
  -- |Δλ| ≤ 360° is at most 2π radians, so the fold applies
  have h180 : (0 : α) ≤ 180 := by norm_num
  have hx1 : deg2rad F (p.x - q.x) ≤ 2 * F.pi :=
    calc (p.x - q.x) * F.pi / 180 ≤ (180 - -180) * F.pi / 180 :=
          div_le_div_of_nonneg_right (mul_le_mul_of_nonneg_right (sub_le_sub hp2 hq1) hpi) h180
      _ = 2 * F.pi := by ring
  have hx2 : -(2 * F.pi) ≤ deg2rad F (p.x - q.x) :=
    calc -(2 * F.pi) = (-180 - 180) * F.pi / 180 := by ring
      _ ≤ (p.x - q.x) * F.pi / 180 :=
          div_le_div_of_nonneg_right (mul_le_mul_of_nonneg_right (sub_le_sub hp1 hq2) hpi) h180
  have h2 : F.abs (deg2rad F (p.x - q.x)) ≤ 2 * F.pi := by
    rcases habs (deg2rad F (p.x - q.x)) with h | h
    · rw [h]; exact hx1
    · rw [h]; exact neg_le.mp hx2
  have h := fold_le_pi F (deg2rad F (p.x - q.x)) h2 hpi
  exact ⟨⟨h.2 (habs0 _), h.1⟩, rfl⟩

/-! Full statements that are NOT proved here (measured by the correspondence check). -/

/-- Travelling `d` on bearing `β` lands at haversine distance `d` from the start. -/
def dest_distance_full (lim89 lim5000km : α) : Prop :=
  ∀ (p : Pt α) (β d : α), -lim89 ≤ p.y → p.y ≤ lim89 → 0 ≤ d → d ≤ lim5000km →
    distanceHaversine F p (pointAtBearingAndDistance F p β d) = d

/-- The midpoint is equidistant from both ends — for pairs at least `margin` short of antipodal
    (`H(p,q) < πR − margin`; the check uses `margin` = 1 km).  Without the exclusion the statement is
    false over ℝ: for `p = (0,0)`, `q = (180,0)` the formula gives `m = p`, and `0 ≠ πR`; close to
    antipodal the midpoint is ill-conditioned. -/
def midpoint_equidistant_full (margin : α) : Prop :=
  ∀ (p q : Pt α), distanceHaversine F p q < F.pi * F.R - margin →
    distanceHaversine F p (midpoint F p q) = distanceHaversine F (midpoint F p q) q

/-- The midpoint is half-way: twice its distance from either end is the distance between the ends
    (same exclusion as `midpoint_equidistant_full`). -/
def midpoint_halfway_full (margin : α) : Prop :=
  ∀ (p q : Pt α), distanceHaversine F p q < F.pi * F.R - margin →
    2 * distanceHaversine F p (midpoint F p q) = distanceHaversine F p q

/-- Haversine and equirectangular distance agree to one part in 10⁵ under 10 km below 80°. -/
def equirect_agreement_full (lim80 lim10km : α) : Prop :=
  ∀ (p q : Pt α), F.abs p.y < lim80 → F.abs q.y < lim80 → distanceHaversine F p q < lim10km →
    F.abs (distance F p q - distanceHaversine F p q) * 100000 ≤ distanceHaversine F p q

end distance

/-- Non-vacuity: a concrete unclosed triangle with non-zero area, the same closed, and reversed, over the concrete `Fn ℚ`
    `exampleFn` (C18Lemmas), which satisfies every hypothesis used above (the two examples that follow). -/
example : ringArea exampleFn [⟨0, 0⟩, ⟨60, 0⟩, ⟨60, 60⟩] = 2 ∧
    ringArea exampleFn [⟨0, 0⟩, ⟨60, 0⟩, ⟨60, 60⟩, ⟨0, 0⟩] = 2 ∧
    ringArea exampleFn [⟨60, 60⟩, ⟨60, 0⟩, ⟨0, 0⟩] = -2 := by
  refine ⟨?_, ?_, ?_⟩ <;> decide +kernel

example : (∀ x, exampleFn.sin (-x) = -exampleFn.sin x) ∧ (∀ x, exampleFn.abs (-x) = exampleFn.abs x) ∧
    (0 : Rat) ≤ exampleFn.R ∧ (∀ x, 0 ≤ exampleFn.sqrt x) ∧
    (∀ y x : Rat, 0 ≤ y → 0 ≤ x → 0 ≤ exampleFn.atan2 y x ∧ exampleFn.atan2 y x ≤ exampleFn.pi / 2) :=
  exampleFn_laws

/-- The hypotheses of `haversine_sqrt_arg_nonneg`, `haversine_sqrt_args_nonneg` and `distance_fold_le_pi`. -/
example : (∀ a b : Rat, exampleFn.min a b ≤ b) ∧
    (∀ a b : Rat, 0 ≤ a → 0 ≤ b → 0 ≤ exampleFn.min a b) ∧
    (∀ x : Rat, 0 ≤ exampleFn.abs x) ∧ (∀ x : Rat, exampleFn.abs x = x ∨ exampleFn.abs x = -x) ∧
    (0 : Rat) ≤ exampleFn.pi ∧ (∀ x : Rat, 0 ≤ exampleFn.cos x) := exampleFn_laws2

/-- The fold is exercised by a concrete pair straddling the antimeridian: 179° vs −179° folds
    `|358°|` to `2π − 358·π/180 = π/90` (with `π := 3`: `1/30`), not to `358·π/180`. -/
example : lonFold exampleFn ⟨179, 0⟩ ⟨-179, 0⟩ = 1 / 30 ∧ lonFold exampleFn ⟨10, 0⟩ ⟨-20, 0⟩ = 1 / 2 := by
  refine ⟨?_, ?_⟩ <;> decide +kernel

end Orb.Geo
