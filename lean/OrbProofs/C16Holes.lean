/-
  C16 lemmas: the hole assignment.  `bestContainer` returns the last polygon of the scan whose outer ring contains a
  vertex of the ring and lies (by the same vertex test) inside the best one so far (`bestContainer_spec`, `addTo_spec`);
  `addAll` returns on polygons that have rings and keeps a property of single rings (`addAll_total'`, `addAll_pres`).
-/
import OrbProofs.C16Tables
import OrbProofs.ListLemmas
import Mathlib.Data.List.Basic

namespace Orb.SmartClip
open Orb Orb.Core

variable {α : Type} [Field α] [LinearOrder α] [IsStrictOrderedRing α]

set_option linter.unusedSectionVars false

/-- the replacement test of the `addToMultiPolygon` loop: the polygon with this outer ring contains the
    ring and is (by the vertex test) inside the best one so far -/
def takeB (ring : List (Pt α)) (best : Option (Nat × List (Pt α))) (outer : List (Pt α)) : Bool :=
  polygonContains outer ring &&
    (match best with
     | none => true
     | some (_, bo) => polygonContains bo outer)

theorem bestContainer_nil (ring : List (Pt α)) (i : Nat) (best : Option (Nat × List (Pt α))) :
    bestContainer ring [] i best = .ok best := rfl

theorem bestContainer_cons_nil (ring : List (Pt α)) (rest : List (List (List (Pt α)))) (i : Nat)
    (best : Option (Nat × List (Pt α))) :
    bestContainer ring ([] :: rest) i best = .panic "index out of range" := rfl

theorem bestContainer_cons (ring outer : List (Pt α)) (holes : List (List (Pt α)))
    (rest : List (List (List (Pt α)))) (i : Nat) (best : Option (Nat × List (Pt α))) :
    bestContainer ring ((outer :: holes) :: rest) i best =
      bestContainer ring rest (i + 1) (if takeB ring best outer then some (i, outer) else best) := rfl

theorem bestContainer_total (ring : List (Pt α)) : ∀ (mp : List (List (List (Pt α)))) (i : Nat)
    (best : Option (Nat × List (Pt α))), (∀ pg ∈ mp, pg ≠ []) → ∃ b, bestContainer ring mp i best = .ok b := by
  intro mp
  induction mp with
  | nil => intro i best _; exact ⟨best, rfl⟩
  | cons pg rest ih =>
    intro i best h
    cases pg with
    | nil => exact absurd rfl (h [] List.mem_cons_self)
    | cons outer holes =>
      rw [bestContainer_cons]
      exact ih _ _ (fun x hx => h x (List.mem_cons_of_mem _ hx))

theorem bestContainer_spec (ring : List (Pt α)) : ∀ (mp : List (List (List (Pt α)))) (i : Nat)
    (best b : Option (Nat × List (Pt α))), bestContainer ring mp i best = .ok b →
    (b = best ∧ ∀ pg ∈ mp, ∃ outer holes, pg = outer :: holes ∧ takeB ring best outer = false) ∨
    (∃ k outer holes, mp[k]? = some (outer :: holes) ∧ b = some (i + k, outer) ∧
      polygonContains outer ring = true ∧
      ∀ k' pg, k < k' → mp[k']? = some pg → ∃ o' hs, pg = o' :: hs ∧ takeB ring (some (i + k, outer)) o' = false) := by
  intro mp
  induction mp with
  | nil =>
    intro i best b h
    rw [bestContainer_nil, Res.ok.injEq] at h
    exact Or.inl ⟨h.symm, by simp⟩
  | cons pg rest ih =>
    intro i best b h
    cases pg with
    | nil => rw [bestContainer_cons_nil] at h; cases h
    | cons outer holes =>
      rw [bestContainer_cons] at h
      rcases ih _ _ _ h with ⟨hb, hno⟩ | ⟨k, o, hs, hk, hb, hc, hlater⟩
      · by_cases ht : takeB ring best outer = true
        · rw [if_pos ht] at hb hno
          refine Or.inr ⟨0, outer, holes, rfl, hb, ?_, ?_⟩
          · simp only [takeB, Bool.and_eq_true] at ht
            exact ht.1
          · intro k' pg hk' hpg
            cases k' with
            | zero => exact absurd hk' (Nat.lt_irrefl 0)
            | succ k' =>
              rw [List.getElem?_cons_succ] at hpg
              exact hno pg (List.mem_of_getElem? hpg)
        · rw [if_neg ht] at hb hno
          refine Or.inl ⟨hb, ?_⟩
          intro pg hpg
          rcases List.mem_cons.1 hpg with rfl | hpg
          · exact ⟨outer, holes, rfl, by simpa using ht⟩
          · exact hno pg hpg
      · refine Or.inr ⟨k + 1, o, hs, by rw [List.getElem?_cons_succ]; exact hk, ?_, hc, ?_⟩
        · rw [hb]; congr 2; omega
        · intro k' pg hk' hpg
          cases k' with
          | zero => exact absurd hk' (Nat.not_lt_zero _)
          | succ k' =>
            rw [List.getElem?_cons_succ] at hpg
            have e : i + (k + 1) = i + 1 + k := by omega
            rw [e]
            exact hlater k' pg (Nat.lt_of_succ_lt_succ hk') hpg

theorem addTo_unfold (mp : List (List (List (Pt α)))) (ring : List (Pt α)) :
    addToMultiPolygon mp ring = bestContainer ring mp 0 none >>= fun b =>
      match b with
      | none => pure mp
      | some (i, _) => pure (mp.modify i (· ++ [ring])) := rfl

theorem addTo_spec (mp : List (List (List (Pt α)))) (ring : List (Pt α)) (out : List (List (List (Pt α))))
    (h : addToMultiPolygon mp ring = .ok out) :
    (out = mp ∧ ∀ pg ∈ mp, ∃ outer holes, pg = outer :: holes ∧ polygonContains outer ring = false) ∨
    (∃ j outer holes, mp[j]? = some (outer :: holes) ∧ out = mp.modify j (· ++ [ring]) ∧
      polygonContains outer ring = true ∧
      ∀ k pg, j < k → mp[k]? = some pg → ∃ o' hs, pg = o' :: hs ∧
        (polygonContains o' ring && polygonContains outer o') = false) := by
  rw [addTo_unfold] at h
  obtain ⟨b, hb, h⟩ := Res.bind_eq_ok h
  rcases bestContainer_spec ring mp 0 none b hb with ⟨rfl, hno⟩ | ⟨k, outer, holes, hk, rfl, hc, hlater⟩
  · simp only [resA_pure_eq, Res.ok.injEq] at h
    refine Or.inl ⟨h.symm, ?_⟩
    intro pg hpg
    obtain ⟨o, hs, e, ht⟩ := hno pg hpg
    exact ⟨o, hs, e, by simpa [takeB] using ht⟩
  · simp only [resA_pure_eq, Res.ok.injEq, Nat.zero_add] at h
    refine Or.inr ⟨k, outer, holes, hk, h.symm, hc, ?_⟩
    intro k' pg hk' hpg
    obtain ⟨o', hs, e, ht⟩ := hlater k' pg hk' hpg
    exact ⟨o', hs, e, by simpa [takeB] using ht⟩

theorem addTo_mem (mp : List (List (List (Pt α)))) (ring : List (Pt α)) : ∀ out,
    addToMultiPolygon mp ring = .ok out → ∀ pg ∈ out, pg ∈ mp ∨ ∃ pg0 ∈ mp, pg = pg0 ++ [ring] := by
  intro out h pg hpg
  rcases addTo_spec mp ring out h with ⟨rfl, _⟩ | ⟨j, _, _, _, rfl, _, _⟩
  · exact Or.inl hpg
  · exact mem_modify (· ++ [ring]) mp j pg hpg

theorem addTo_total (mp : List (List (List (Pt α)))) (ring : List (Pt α)) (h : ∀ pg ∈ mp, pg ≠ []) :
    ∃ out, addToMultiPolygon mp ring = .ok out ∧ out.length = mp.length ∧
      ∀ pg ∈ out, pg ∈ mp ∨ ∃ pg0 ∈ mp, pg = pg0 ++ [ring] := by
  obtain ⟨b, hb⟩ := bestContainer_total ring mp 0 none h
  rw [addTo_unfold, hb]
  cases b with
  | none => exact ⟨mp, rfl, rfl, fun pg hpg => Or.inl hpg⟩
  | some p => exact ⟨_, rfl, List.length_modify _ _ _, mem_modify (· ++ [ring]) mp p.1⟩

theorem addAll_cons (mp : List (List (List (Pt α)))) (r : List (Pt α)) (rings : List (List (Pt α))) :
    addAll mp (r :: rings) = addToMultiPolygon mp r >>= fun mp' => addAll mp' rings := rfl

theorem addAll_total' (mp : List (List (List (Pt α)))) (rings : List (List (Pt α))) (h : ∀ pg ∈ mp, pg ≠ []) :
    ∃ out, addAll mp rings = .ok out ∧ (∀ pg ∈ out, pg ≠ []) ∧ out.length = mp.length := by
  refine foldlM_res_tot (fun m : List (List (List (Pt α))) => (∀ pg ∈ m, pg ≠ []) ∧ m.length = mp.length)
    addToMultiPolygon rings mp ⟨h, rfl⟩ fun a ⟨ha, hl⟩ r _ => ?_
  obtain ⟨b, hb, hlen, hm⟩ := addTo_total a r ha
  refine ⟨b, hb, fun pg hpg => ?_, hlen.trans hl⟩
  rcases hm pg hpg with h' | ⟨pg0, _, rfl⟩
  · exact ha pg h'
  · simp

theorem addAll_pres (P : List (Pt α) → Prop) (rings : List (List (Pt α)))
    (mp out : List (List (List (Pt α)))) (h : addAll mp rings = .ok out)
    (hmp : ∀ pg ∈ mp, pg ≠ [] ∧ ∀ rg ∈ pg, P rg) (hr : ∀ rg ∈ rings, P rg) :
    ∀ pg ∈ out, pg ≠ [] ∧ ∀ rg ∈ pg, P rg := by
  refine foldlM_res_inv (fun mp => ∀ pg ∈ mp, pg ≠ [] ∧ ∀ rg ∈ pg, P rg) _ rings mp out ?_ h hmp
  intro mp r hr' mp' h1 hmp pg hpg
  rcases addTo_mem mp r mp' h1 pg hpg with h' | ⟨pg0, h', rfl⟩
  · exact hmp pg h'
  · exact ⟨by simp, List.forall_mem_append.2 ⟨(hmp pg0 h').2, by simpa using hr r hr'⟩⟩

end Orb.SmartClip
