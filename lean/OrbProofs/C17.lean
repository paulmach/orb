/-
  C17 — Resampling returns the requested number of evenly spaced on-line points: property theorems about the
  model `Orb.Resample` (resample/line_string.go).  Coordinates and distances range over an arbitrary ordered
  field (exact arithmetic; floating-point rounding is not modelled); the distance function `df` is arbitrary with
  `0 ≤ df a b`, `int(x)` an arbitrary `trunc` that is the floor on non-negative values.

  "Equally spaced in distance along the line" has two readings.  `Spaced`: arc length inside a segment is
  parameter × df(a, b) — holds for every non-negative `df`.  `SpacedDf`: the distance to the point is measured
  with the `df` that was passed in — holds when `df` is linear along segments (`LinearAlong`; true of the planar
  distance) and is FALSE without that (`spacing_df_needs_linear`; for the code: geo.Distance, known finding
  C17-geo-spacing-nonlinear).
-/
import OrbProofs.C17Lemmas
import Generated.PkgState

namespace Orb.Resample

set_option linter.unusedSectionVars false

section field
variable {K : Type} [Field K] [LinearOrder K] [IsStrictOrderedRing K]

/-- Non-positive `N` returns nil. -/
theorem resample_nonpos (df : Pt K → Pt K → K) (ls : Line K) (n : Int) (hn : n ≤ 0) :
    resample df ls n = .ok none := by
  simp [resample, hn]

/-- Non-positive `d` returns nil (nil / empty line included: the guard comes first). -/
theorem interval_nonpos (trunc : K → Int) (df : Pt K → Pt K → K) (ls : Line K) (d : K) (hd : d ≤ 0) :
    toInterval trunc df ls d = .ok none := by
  simp [toInterval, hd]

/-- A line with fewer than two vertices (nil, empty, one vertex) is returned as it is. -/
theorem short_identity (df : Pt K → Pt K → K) (ls : Line K) (n : Int) (hlen : ls.pts.length ≤ 1) (hn : 0 < n) :
    resample df ls n = .ok ls := by
  have h0 : ¬ n ≤ 0 := by omega
  simp [resample, h0, edgeCases_short ls n hlen]

/-- `ToInterval` returns a line with fewer than two vertices (nil, empty, one vertex) as it is. -/
theorem interval_short_identity (trunc : K → Int) (df : Pt K → Pt K → K) (ls : Line K) (d : K)
    (hlen : ls.pts.length ≤ 1) (hd : 0 < d) :
    toInterval trunc df ls d = .ok ls := by
  have hd' : ¬ d ≤ 0 := not_le.mpr hd
  simp [toInterval, hd', hlen]

/-- A line whose vertices all coincide is padded with that vertex when `n > len`. -/
theorem all_equal_pad (df : Pt K → Pt K → K) (ps : List (Pt K)) (p0 : Pt K) (n : Int)
    (hlen : 2 ≤ ps.length) (heq : ∀ p ∈ ps, p = p0) (hn : (ps.length : Int) < n) :
    resample df (some ps) n = .ok (some (ps ++ List.replicate (n.toNat - ps.length) p0)) := by
  rw [resample_all_equal df ps p0 n hlen heq (by omega), if_pos hn]

/-- A line whose vertices all coincide is truncated to the requested count when `0 < n ≤ len`. -/
theorem all_equal_truncate (df : Pt K → Pt K → K) (ps : List (Pt K)) (p0 : Pt K) (n : Int)
    (hlen : 2 ≤ ps.length) (heq : ∀ p ∈ ps, p = p0) (hn : 0 < n) (hn' : n ≤ (ps.length : Int)) :
    resample df (some ps) n = .ok (some (ps.take n.toNat)) := by
  rw [resample_all_equal df ps p0 n hlen heq hn, if_neg (by omega)]

/-- Resampling a line whose vertices all coincide gives `n` copies of the vertex. -/
theorem all_equal_pad_truncate (df : Pt K → Pt K → K) (ps : List (Pt K)) (p0 : Pt K) (n : Int)
    (hlen : 2 ≤ ps.length) (heq : ∀ p ∈ ps, p = p0) (hn : 0 < n) :
    resample df (some ps) n = .ok (some (List.replicate n.toNat p0)) := by
  rw [resample_all_equal df ps p0 n hlen heq hn, pad_trunc_replicate ps p0 n heq (by omega)]

/-- Count and endpoints together, whether the vertices all coincide or not; the next two theorems are its parts. -/
theorem resample_count_endpoints (df : Pt K → Pt K → K) (hdf : NonNeg df) (ps : List (Pt K)) (n : Int)
    (hlen : 2 ≤ ps.length) (hpos : 0 < lineLength df ps) (hn : 1 ≤ n) :
    ∃ out, resample df (some ps) n = .ok (some out) ∧ (out.length : Int) = n ∧ out.head? = ps.head? ∧
      (2 ≤ n → out.getLast? = ps.getLast?) := by
  cases hne : allEq ps with
  | false =>
    obtain ⟨out, _, _, h1, h2, h3, h4, _⟩ := resample_main_spec df hdf ps n hlen hpos hne hn
    exact ⟨out, h1, h2, h3, h4⟩
  | true =>
    match ps, hlen, hne with
    | p0 :: rest, hlen, hne =>
      have heq := (allEq_cons_iff p0 rest).mp hne
      have hN : 0 < n.toNat := by omega
      refine ⟨List.replicate n.toNat p0, all_equal_pad_truncate df _ p0 n hlen heq (by omega), ?_, ?_, ?_⟩
      · simp; omega
      · rw [List.head?_replicate]; simp; omega
      · intro _
        have hr := List.eq_replicate_of_mem heq
        rw [hr, List.getLast?_replicate, List.getLast?_replicate]
        simp; omega

/-- Exactly `n` points (whether the vertices all coincide or not). -/
theorem resample_count (df : Pt K → Pt K → K) (hdf : NonNeg df) (ps : List (Pt K)) (n : Int)
    (hlen : 2 ≤ ps.length) (hpos : 0 < lineLength df ps) (hn : 1 ≤ n) :
    ∃ out, resample df (some ps) n = .ok (some out) ∧ (out.length : Int) = n := by
  obtain ⟨out, h1, h2, _⟩ := resample_count_endpoints df hdf ps n hlen hpos hn
  exact ⟨out, h1, h2⟩

/-- The result starts at the first vertex and, for `n ≥ 2`, ends at the last. -/
theorem resample_endpoints (df : Pt K → Pt K → K) (hdf : NonNeg df) (ps : List (Pt K)) (n : Int)
    (hlen : 2 ≤ ps.length) (hpos : 0 < lineLength df ps) (hn : 1 ≤ n) :
    ∃ out, resample df (some ps) n = .ok (some out) ∧ out.head? = ps.head? ∧
      (2 ≤ n → out.getLast? = ps.getLast?) := by
  obtain ⟨out, h1, _, h3, h4⟩ := resample_count_endpoints df hdf ps n hlen hpos hn
  exact ⟨out, h1, h3, h4⟩

/-- Every point lies on the line: the `k`-th on segment `seg k` at parameter `par k ∈ [0,1]`. -/
theorem resample_on_line (df : Pt K → Pt K → K) (hdf : NonNeg df) (ps : List (Pt K)) (n : Int)
    (hlen : 2 ≤ ps.length) (hpos : 0 < lineLength df ps) (hne : allEq ps = false) (hn : 1 ≤ n) :
    ∃ out seg par, resample df (some ps) n = .ok (some out) ∧ OnLine ps out seg par := by
  obtain ⟨out, seg, par, h1, _, _, _, h5, _⟩ := resample_main_spec df hdf ps n hlen hpos hne hn
  exact ⟨out, seg, par, h1, h5⟩

/-- The resampled points lie on the line in travel order: `(seg k, par k)` is lexicographically
    non-decreasing in `k`. -/
theorem resample_order (df : Pt K → Pt K → K) (hdf : NonNeg df) (ps : List (Pt K)) (n : Int)
    (hlen : 2 ≤ ps.length) (hpos : 0 < lineLength df ps) (hne : allEq ps = false) (hn : 1 ≤ n) :
    ∃ out seg par, resample df (some ps) n = .ok (some out) ∧ OnLine ps out seg par ∧
      Ordered out.length seg par := by
  obtain ⟨out, seg, par, h1, _, _, _, h5, h6, _⟩ := resample_main_spec df hdf ps n hlen hpos hne hn
  exact ⟨out, seg, par, h1, h5, h6⟩

/-- The `n` resampled points lie on the line in travel order and are equally spaced: the arc length
    from the start to the `k`-th point is `k·total/(n-1)`. -/
theorem resample_spacing (df : Pt K → Pt K → K) (hdf : NonNeg df) (ps : List (Pt K)) (n : Int)
    (hlen : 2 ≤ ps.length) (hpos : 0 < lineLength df ps) (hne : allEq ps = false) (hn : 1 ≤ n) :
    ∃ out seg par, resample df (some ps) n = .ok (some out) ∧ (out.length : Int) = n ∧
      OnLine ps out seg par ∧ Ordered out.length seg par ∧ Spaced df ps out.length seg par := by
  obtain ⟨out, seg, par, h1, h2, _, _, h5, h6, h7⟩ := resample_main_spec df hdf ps n hlen hpos hne hn
  exact ⟨out, seg, par, h1, h2, h5, h6, h7⟩

/-- The resampled points are equally spaced IN TERMS OF THE DISTANCE FUNCTION PASSED IN, for a `df` that is linear
    along segments. -/
theorem resample_spacing_df (df : Pt K → Pt K → K) (hdf : NonNeg df) (hlin : LinearAlong df)
    (ps : List (Pt K)) (n : Int)
    (hlen : 2 ≤ ps.length) (hpos : 0 < lineLength df ps) (hne : allEq ps = false) (hn : 1 ≤ n) :
    ∃ out seg par, resample df (some ps) n = .ok (some out) ∧ (out.length : Int) = n ∧
      OnLine ps out seg par ∧ Ordered out.length seg par ∧ SpacedDf df ps out seg := by
  obtain ⟨out, seg, par, h1, h2, _, _, h5, h6, h7⟩ := resample_main_spec df hdf ps n hlen hpos hne hn
  exact ⟨out, seg, par, h1, h2, h5, h6, spacedDf_of_spaced df hlin ps out seg par h5 h7⟩

/-- Consecutive resampled points are exactly `total/(n-1)` apart, measured with `df` along the line,
    for a `df` that is linear along segments. -/
theorem resample_gap_df (df : Pt K → Pt K → K) (hdf : NonNeg df) (hlin : LinearAlong df)
    (ps : List (Pt K)) (n : Int)
    (hlen : 2 ≤ ps.length) (hpos : 0 < lineLength df ps) (hne : allEq ps = false) (hn : 1 ≤ n) :
    ∃ out seg par, resample df (some ps) n = .ok (some out) ∧ (out.length : Int) = n ∧
      OnLine ps out seg par ∧ Ordered out.length seg par ∧
      ∀ k, k + 1 < out.length →
        alongDf df ps (seg (k + 1)) (out.getD (k + 1) ⟨0, 0⟩) - alongDf df ps (seg k) (out.getD k ⟨0, 0⟩)
          = lineLength df ps / ((out.length - 1 : Nat) : K) := by
  obtain ⟨out, seg, par, h1, h2, h3, h4, h5⟩ := resample_spacing_df df hdf hlin ps n hlen hpos hne hn
  exact ⟨out, seg, par, h1, h2, h3, h4, fun k hk => gap_of_spacedDf df ps out seg h5 k hk⟩

/-- `LinearAlong` holds for every distance function whose square is the Euclidean squared
    distance (planar.Distance in exact arithmetic). -/
theorem linearAlong_of_euclid (df : Pt K → Pt K → K) (hdf : NonNeg df)
    (hsq : ∀ a b, df a b * df a b = (a.x - b.x) * (a.x - b.x) + (a.y - b.y) * (a.y - b.y)) :
    LinearAlong df := by
  intro a b τ h0 _
  have h1 : df a (lerp a b τ) * df a (lerp a b τ) = (τ * df a b) * (τ * df a b) := by
    rw [hsq a (lerp a b τ)]
    have : (τ * df a b) * (τ * df a b) = τ * τ * (df a b * df a b) := by ring
    rw [this, hsq a b]
    simp only [lerp]
    ring
  exact (mul_self_inj (hdf _ _) (mul_nonneg h0 (hdf _ _))).mp h1

/-- `LinearAlong` holds for the Manhattan distance. -/
theorem linearAlong_manhattan : LinearAlong (fun a b : Pt K => |a.x - b.x| + |a.y - b.y|) := by
  intro a b τ h0 _
  simp only [lerp]
  have e1 : a.x - (a.x + τ * (b.x - a.x)) = τ * (a.x - b.x) := by ring
  have e2 : a.y - (a.y + τ * (b.y - a.y)) = τ * (a.y - b.y) := by ring
  rw [e1, e2, abs_mul, abs_mul, abs_of_nonneg h0]
  ring

/-- The hypothesis `LinearAlong` of `resample_spacing_df` cannot be dropped.  A latitude-weighted
    distance (the rational analogue of geo.Distance: the east-west part is scaled by the mean
    latitude of the two points) is non-negative, `Resample` of the segment (0,0)–(2,2) to 3 points
    returns the coordinate midpoint (1,1), and the two halves measure 3/2 and 5/2: the result is
    equally spaced in the parameter (`resample_spacing`) but NOT in the distance function passed in. -/
theorem spacing_df_needs_linear :
    ∃ df : Pt Rat → Pt Rat → Rat, NonNeg df ∧
      resample df (some [⟨0, 0⟩, ⟨2, 2⟩]) 3 = .ok (some [⟨0, 0⟩, ⟨1, 1⟩, ⟨2, 2⟩]) ∧
      df ⟨0, 0⟩ ⟨1, 1⟩ = 3 / 2 ∧ df ⟨1, 1⟩ ⟨2, 2⟩ = 5 / 2 ∧
      ¬ SpacedDf df [⟨0, 0⟩, ⟨2, 2⟩] [⟨0, 0⟩, ⟨1, 1⟩, ⟨2, 2⟩] (fun _ => 0) := by
  refine ⟨fun a b => |a.y - b.y| + |a.x - b.x| * |(a.y + b.y) / 2|, ?_, by decide +kernel,
    by decide +kernel, by decide +kernel, ?_⟩
  · intro a b
    exact add_nonneg (abs_nonneg _) (mul_nonneg (abs_nonneg _) (abs_nonneg _))
  · intro h
    have h1 := h 1 (by decide)
    revert h1
    decide +kernel

/-- For a distance function with `df p p = 0`, a line whose vertices all coincide has computed
    length zero. -/
theorem allEq_length_zero (df : Pt K → Pt K → K) (h0 : ∀ p, df p p = 0) (ps : List (Pt K))
    (he : allEq ps = true) : lineLength df ps = 0 := by
  rw [lineLength_eq_sum]
  refine List.sum_eq_zero fun x hx => ?_
  obtain ⟨a, ha, b, hb, rfl⟩ := mem_dists df hx
  match ps, he with
  | p0 :: rest, he =>
    have heq := (allEq_cons_iff p0 rest).mp he
    rw [heq a ha, heq b hb, h0]

/-- `ToInterval` is `Resample` to `int(total/d) + 1` points. -/
theorem interval_eq_resample (trunc : K → Int) (df : Pt K → Pt K → K) (ls : Line K) (d : K)
    (hd : 0 < d) (hn : 0 < trunc (lineLength df ls.pts / d) + 1) :
    toInterval trunc df ls d = resample df ls (trunc (lineLength df ls.pts / d) + 1) := by
  have hd' : ¬ d ≤ 0 := not_le.mpr hd
  by_cases hlen : ls.pts.length ≤ 1
  · rw [short_identity df ls _ hlen hn]
    simp [toInterval, hd', hlen]
  match hp : ls.pts, hlen, hn with
  | [], hlen, _ => simp at hlen
  | p :: rest, hlen, hn =>
    have h0 : ¬ (trunc (lineLength df (p :: rest) / d) + 1 ≤ 0) := by omega
    simp only [toInterval, resample, hd', h0, if_false, hp, hlen, precompute_cons]

/-- `ToInterval` on a non-nil line is `Resample` to `int(total/d) + 1` points, and `int(total/d) ≥ 0`. -/
theorem interval_some (trunc : K → Int) (htr : IsFloor trunc) (df : Pt K → Pt K → K) (hdf : NonNeg df)
    (ps : List (Pt K)) (d : K) (hd : 0 < d) :
    0 ≤ trunc (lineLength df ps / d) ∧
    toInterval trunc df (some ps) d = resample df (some ps) (trunc (lineLength df ps / d) + 1) := by
  have hn0 := floor_nonneg trunc htr _ (div_nonneg (lineLength_nonneg df hdf ps) hd.le)
  exact ⟨hn0, interval_eq_resample trunc df (some ps) d hd
    (by simp only [Line.pts, Option.getD_some]; omega)⟩

/-- `⌊total/d⌋ + 1` points. -/
theorem interval_count (trunc : K → Int) (htr : IsFloor trunc) (df : Pt K → Pt K → K) (hdf : NonNeg df)
    (ps : List (Pt K)) (d : K) (hlen : 2 ≤ ps.length) (hpos : 0 < lineLength df ps) (hd : 0 < d) :
    ∃ out, toInterval trunc df (some ps) d = .ok (some out) ∧
      ∃ m : Nat, (m : K) ≤ lineLength df ps / d ∧ lineLength df ps / d < (m : K) + 1 ∧ out.length = m + 1 := by
  have hx : 0 ≤ lineLength df ps / d := div_nonneg hpos.le hd.le
  obtain ⟨hn0, he⟩ := interval_some trunc htr df hdf ps d hd
  rw [he]
  obtain ⟨out, h1, h2⟩ := resample_count df hdf ps _ hlen hpos (show 1 ≤ trunc (lineLength df ps / d) + 1 by omega)
  obtain ⟨hf1, hf2⟩ := htr _ hx
  obtain ⟨m, hm⟩ := Int.eq_ofNat_of_zero_le hn0
  rw [hm] at hf1 hf2 h2
  refine ⟨out, h1, m, by exact_mod_cast hf1, by exact_mod_cast hf2, by exact_mod_cast h2⟩

/-- The points of `ToInterval` start and end at the endpoints, lie on the line in travel order and
    are equally spaced. -/
theorem interval_sampling (trunc : K → Int) (htr : IsFloor trunc) (df : Pt K → Pt K → K) (hdf : NonNeg df)
    (ps : List (Pt K)) (d : K) (hlen : 2 ≤ ps.length) (hpos : 0 < lineLength df ps)
    (hne : allEq ps = false) (hd : 0 < d) :
    ∃ out seg par, toInterval trunc df (some ps) d = .ok (some out) ∧
      out.head? = ps.head? ∧ (2 ≤ out.length → out.getLast? = ps.getLast?) ∧
      OnLine ps out seg par ∧ Ordered out.length seg par ∧ Spaced df ps out.length seg par := by
  obtain ⟨hn0, he⟩ := interval_some trunc htr df hdf ps d hd
  rw [he]
  obtain ⟨out, seg, par, h1, h2, h3, h4, h5, h6, h7⟩ :=
    resample_main_spec df hdf ps _ hlen hpos hne (show 1 ≤ trunc (lineLength df ps / d) + 1 by omega)
  refine ⟨out, seg, par, h1, h3, ?_, h5, h6, h7⟩
  intro h; apply h4; omega

/-- The points of `ToInterval` are equally spaced in terms of the distance function passed in, when
    it is linear along segments. -/
theorem interval_spacing_df (trunc : K → Int) (htr : IsFloor trunc) (df : Pt K → Pt K → K) (hdf : NonNeg df)
    (hlin : LinearAlong df) (ps : List (Pt K)) (d : K) (hlen : 2 ≤ ps.length) (hpos : 0 < lineLength df ps)
    (hne : allEq ps = false) (hd : 0 < d) :
    ∃ out seg par, toInterval trunc df (some ps) d = .ok (some out) ∧
      OnLine ps out seg par ∧ Ordered out.length seg par ∧ SpacedDf df ps out seg := by
  obtain ⟨out, seg, par, h1, _, _, h4, h5, h6⟩ := interval_sampling trunc htr df hdf ps d hlen hpos hne hd
  exact ⟨out, seg, par, h1, h4, h5, spacedDf_of_spaced df hlin ps out seg par h4 h6⟩

/-- `ToInterval` of a line whose vertices all coincide gives `int(total/d) + 1` copies of the vertex. -/
theorem interval_all_equal (trunc : K → Int) (htr : IsFloor trunc) (df : Pt K → Pt K → K) (hdf : NonNeg df)
    (ps : List (Pt K)) (p0 : Pt K) (d : K) (hlen : 2 ≤ ps.length) (heq : ∀ p ∈ ps, p = p0) (hd : 0 < d) :
    toInterval trunc df (some ps) d =
      .ok (some (List.replicate (trunc (lineLength df ps / d) + 1).toNat p0)) := by
  obtain ⟨hn0, he⟩ := interval_some trunc htr df hdf ps d hd
  rw [he]
  exact all_equal_pad_truncate df ps p0 _ hlen heq (by omega)

/-- When the vertices differ but the computed length is zero (distances below float resolution),
    resampling to `n ≥ 2` points gives `n - 1` copies of the first vertex and the last vertex. -/
theorem resample_zero_length (df : Pt K → Pt K → K) (hdf : NonNeg df) (ps : List (Pt K)) (n : Int)
    (hlen : 2 ≤ ps.length) (hne : allEq ps = false) (hzero : lineLength df ps = 0) (hn : 2 ≤ n) :
    ∃ p0 last, ps.head? = some p0 ∧ ps.getLast? = some last ∧
      resample df (some ps) n = .ok (some (List.replicate (n.toNat - 1) p0 ++ [last])) := by
  match ps, hlen, hne, hzero with
  | p0 :: p1 :: rest, hlen, hne, hzero =>
    obtain ⟨N, rfl⟩ := Int.eq_ofNat_of_zero_le (show 0 ≤ n by omega)
    refine ⟨p0, (p0 :: p1 :: rest).getLast (by simp), rfl, List.getLast?_eq_some_getLast _, ?_⟩
    rw [resample_eq_core df _ N hlen hne (by omega), resampleCore_eq df hdf p0 p1 rest N (by exact_mod_cast hn)]
    simp only [hzero, tgt, zero_mul, zero_div, pointAt_zero df hdf, List.map_const', List.length_range,
      Int.toNat_natCast]

/-- `Resample` returns a value (no panic, no endless loop) for every line — nil, empty,
    degenerate — and every `N`. -/
theorem resample_total (df : Pt K → Pt K → K) (hdf : NonNeg df) (ls : Line K) (n : Int) :
    (resample df ls n).isOk = true := by
  by_cases hn : n ≤ 0
  · simp [resample, hn]; rfl
  by_cases hlen : ls.pts.length ≤ 1
  · simp [resample, hn, edgeCases_short ls n hlen]; rfl
  match ls, hlen with
  | none, hlen => simp [Line.pts] at hlen
  | some ps, hlen =>
    simp only [Line.pts, Option.getD_some] at hlen
    have hlen2 : 2 ≤ ps.length := by omega
    cases hne : allEq ps with
    | true =>
      match ps, hlen2, hne with
      | p0 :: rest, hlen2, hne =>
        rw [resample_all_equal df _ p0 n hlen2 ((allEq_cons_iff p0 rest).mp hne) (by omega)]; rfl
    | false =>
      rw [resample_eq_core df ps n hlen2 hne (by omega)]
      obtain ⟨N, rfl⟩ := Int.eq_ofNat_of_zero_le (show 0 ≤ n by omega)
      match ps, hlen2 with
      | p0 :: p1 :: rest, _ =>
        by_cases h1 : N = 1
        · subst h1; rw [Nat.cast_one, resampleCore_one]; rfl
        · rw [resampleCore_eq df hdf p0 p1 rest N (by omega)]; rfl

/-- `ToInterval` returns a value for every line (nil and empty included) and every `d`. -/
theorem interval_total (trunc : K → Int) (htr : IsFloor trunc) (df : Pt K → Pt K → K) (hdf : NonNeg df)
    (ls : Line K) (d : K) :
    (toInterval trunc df ls d).isOk = true := by
  by_cases hd : d ≤ 0
  · rw [interval_nonpos trunc df ls d hd]; rfl
  have hd' : 0 < d := not_le.mp hd
  have hn0 := floor_nonneg trunc htr _ (div_nonneg (lineLength_nonneg df hdf ls.pts) hd'.le)
  rw [interval_eq_resample trunc df ls d hd' (by omega)]
  exact resample_total df hdf ls _

end field

/-! ### nothing outside the call (facts regenerated from the Go source by factgen, `Generated/PkgState.lean`)

  The model `Orb.Resample` is a pure function of the line, the distance function and `N` / `d`.  For
  the code that is a claim about more than one call: the result must not depend on the calls made
  before, on the memory the argument lives in, or on what other goroutines do.  Dynamically this is
  sampled (harness/c17_state.go: every call is repeated out of one reused vertex buffer whose
  contents change in between; concurrent callers); statically, package resample has nowhere to keep
  anything: no package-level variable, no goroutine, no import but orb.  (Trusted: factgen's
  extraction — the kernel checks the tables, not the extractor.) -/

open Generated.PkgState in
/-- Package resample was found, and it declares no package-level variable that can carry state from
    one call to the next or between goroutines (no cache, no scratch slice, no counter, no pool):
    the list of its `var`s that are neither error values nor constants in disguise is empty. -/
theorem no_package_state : packages.contains "resample" = true ∧ stateVars "resample" = [] := by decide +kernel

open Generated.PkgState in
/-- Package resample declares no package-level variable of any kind. -/
theorem no_package_vars : varsOf "resample" = [] := by decide +kernel

open Generated.PkgState in
/-- It starts no goroutine, imports nothing but package orb (no sync, no sync/atomic, no reflect, no
    runtime, no os, no pointer arithmetic: nothing that holds state or identifies memory), and the only
    package-qualified "call" in it is the conversion `orb.LineString(points)`: whatever it computes
    it computes from its arguments, with `Point.Equal` and the caller's distance function. -/
theorem resample_self_contained :
    lookup goStmts "resample" = some [] ∧
    lookup imports "resample" = some ["github.com/paulmach/orb"] ∧
    lookup extCalls "resample" = some ["orb.LineString"] := by decide +kernel

/-- Non-vacuity: the L-shaped line (0,0)–(4,0)–(4,2) of length 6 (Manhattan distance) resampled to
    4 points and to interval 2; an all-equal line padded to 3; the nil and the empty line. -/
example :
    let df : Pt Rat → Pt Rat → Rat := fun a b => |a.x - b.x| + |a.y - b.y|
    let ps : List (Pt Rat) := [⟨0, 0⟩, ⟨4, 0⟩, ⟨4, 2⟩]
    lineLength df ps = 6 ∧ allEq ps = false ∧
    resample df (some ps) 4 = .ok (some [⟨0, 0⟩, ⟨2, 0⟩, ⟨4, 0⟩, ⟨4, 2⟩]) ∧
    toInterval Rat.floor df (some ps) 2 = .ok (some [⟨0, 0⟩, ⟨2, 0⟩, ⟨4, 0⟩, ⟨4, 2⟩]) ∧
    resample df (some [⟨1, 1⟩, ⟨1, 1⟩]) 3 = .ok (some [⟨1, 1⟩, ⟨1, 1⟩, ⟨1, 1⟩]) ∧
    toInterval Rat.floor df none 2 = .ok none ∧ toInterval Rat.floor df (some []) 2 = .ok (some []) := by
  decide +kernel

/-- Non-vacuity of `resample_spacing_df`: the Manhattan distance over `Rat` satisfies both hypotheses,
    and on the L-shaped line the four points are 0, 2, 4, 6 along the line measured with it. -/
example :
    let df : Pt Rat → Pt Rat → Rat := fun a b => |a.x - b.x| + |a.y - b.y|
    let ps : List (Pt Rat) := [⟨0, 0⟩, ⟨4, 0⟩, ⟨4, 2⟩]
    NonNeg df ∧ LinearAlong df ∧
    alongDf df ps 0 ⟨2, 0⟩ = 2 ∧ alongDf df ps 0 ⟨4, 0⟩ = 4 ∧ alongDf df ps 1 ⟨4, 2⟩ = 6 := by
  refine ⟨fun a b => add_nonneg (abs_nonneg _) (abs_nonneg _), linearAlong_manhattan,
    by decide +kernel, by decide +kernel, by decide +kernel⟩

end Orb.Resample
