/-
  C05 (MVT share): the decoder never panics and terminates (the loops' fuel suffices) on every
  word list; the capacity requested by its own `make` calls is bounded by the size of the input.
-/
import OrbProofs.C03Line

namespace Orb.MVT
open Orb

/-- Outcome predicate: `Q` on success, `E` on error (the allocation bound must hold then too), never a
    panic; both speak of the decoder state as well.  (`Res.Post` has neither the error clause nor the state.) -/
def PostD {α : Type} (m : DM α) (Q : α → GD → Prop) (E : GD → Prop) : Prop :=
  match m with
  | (.ok a, s) => Q a s
  | (.err _, s) => E s
  | (.panic _, _) => False

theorem PostD.bind {α β : Type} {m : DM α} {f : α → GD → DM β} {Q : α → GD → Prop} {E : GD → Prop}
    {Q' : β → GD → Prop} {E' : GD → Prop}
    (h : PostD m Q E) (hf : ∀ a s, Q a s → PostD (f a s) Q' E') (hE : ∀ s, E s → E' s) :
    PostD (bindD m f) Q' E' := by
  rcases m with ⟨r, s⟩
  cases r with
  | ok a => exact hf a s h
  | err e => exact hE s h
  | panic w => exact h.elim

theorem PostD.mono {α : Type} {m : DM α} {Q Q' : α → GD → Prop} {E E' : GD → Prop}
    (h : PostD m Q E) (hQ : ∀ a s, Q a s → Q' a s) (hE : ∀ s, E s → E' s) : PostD m Q' E' := by
  rcases m with ⟨r, s⟩
  cases r with
  | ok a => exact hQ a s h
  | err e => exact hE s h
  | panic w => exact h.elim

theorem PostD.noPanic {α : Type} {m : DM α} {Q : α → GD → Prop} {E : GD → Prop}
    (h : PostD m Q E) : m.1.isPanic = false := by
  rcases m with ⟨r, s⟩
  cases r <;> first | rfl | exact h.elim

theorem PostD.state {α : Type} {m : DM α} {Q : α → GD → Prop} {E : GD → Prop} {P : GD → Prop}
    (h : PostD m Q E) (hQ : ∀ a s, Q a s → P s) (hE : ∀ s, E s → P s) : P m.2 := by
  rcases m with ⟨r, s⟩
  cases r with
  | ok a => exact hQ a s h
  | err e => exact hE s h
  | panic w => exact h.elim

/-! The primitives advance exactly (`Step`), their errors are `Quiet`; a composite is a chain of steps, and
    what it has to show at its ends is arithmetic about the totals of the chain: `Bnd` wherever it stops,
    `Dec` after a full round of a loop. -/

/-- `s'` is `s` after reading `c` words and requesting `a` slots. -/
def Step (c a : Nat) (s s' : GD) : Prop :=
  s'.ws.length + c = s.ws.length ∧ s'.used = s.used + c ∧ s'.count = s.count ∧ s'.alloc = s.alloc + a

/-- Error of a primitive: nothing requested, nothing un-read. -/
def Quiet (s s' : GD) : Prop := s'.alloc = s.alloc ∧ s'.ws.length ≤ s.ws.length

/-- Where every decoder ends, success or error: the slots requested are bounded by the words there were. -/
def Bnd (s s' : GD) : Prop := s'.alloc ≤ s.alloc + s.ws.length

/-- A round of a loop: something was read, the accounting is intact, `alloc + unread` did not grow. -/
def Dec (s s' : GD) : Prop :=
  GD.Balanced s' ∧ s'.ws.length < s.ws.length ∧ s'.alloc + s'.ws.length ≤ s.alloc + s.ws.length

section rules
variable {c a c' a' n f : Nat} {s s1 s2 s' : GD}

theorem Step.trans (h1 : Step c a s s1) (h2 : Step c' a' s1 s2) : Step (c + c') (a + a') s s2 := by
  obtain ⟨x1, x2, x3, x4⟩ := h1
  obtain ⟨y1, y2, y3, y4⟩ := h2
  exact ⟨by rw [← x1, ← y1, Nat.add_assoc, Nat.add_comm c'], by rw [y2, x2, Nat.add_assoc], y3.trans x3,
    by rw [y4, x4, Nat.add_assoc]⟩

theorem Step.alloc (k : Nat) (s : GD) : Step 0 k s { s with alloc := s.alloc + k } := ⟨rfl, rfl, rfl, rfl⟩

/-- The "data cut short" guard, seen from the start of the chain: the points announced are there. -/
theorem Step.guard (h : Step c a s s') (hI : GD.Balanced s) (hg : s'.used + 2 * n ≤ s'.count) :
    c + 2 * n ≤ s.ws.length := by
  unfold Step GD.Balanced at *; omega

theorem Step.bnd (h : Step c a s s') (ha : a ≤ s.ws.length) : Bnd s s' := by
  unfold Step Bnd at *; omega

theorem Step.quiet (h : Step c a s s1) (hq : Quiet s1 s') (ha : a ≤ s.ws.length) : Bnd s s' := by
  unfold Step Quiet Bnd at *; omega

theorem Step.quiet0 (h : Step c 0 s s1) (hq : Quiet s1 s') : Quiet s s' := by
  unfold Step Quiet at *; omega

theorem Quiet.bnd (h : Quiet s s') : Bnd s s' := by
  unfold Quiet Bnd at *; omega

theorem Step.dec (h : Step c a s s') (hI : GD.Balanced s) (hc : 0 < c) (ha : a ≤ c) : Dec s s' := by
  unfold Step Dec GD.Balanced at *; omega

theorem Dec.step (h : Dec s s1) (h2 : Step c 0 s1 s2) : Dec s s2 := by
  unfold Step Dec GD.Balanced at *; omega

theorem Dec.bnd (h : Dec s s1) (hb : Bnd s1 s') : Bnd s s' := by
  unfold Dec Bnd at *; omega

theorem Dec.fuel (h : Dec s s1) (hf : s.ws.length ≤ f + 1) : s1.ws.length ≤ f := by
  unfold Dec at h; omega
end rules

theorem cmdAndCount_post (s : GD) :
    PostD (cmdAndCount s)
      (fun cc s' => Step 1 0 s s' ∧ (cc.1 ≠ cClosePath → s'.used + 2 * cc.2 ≤ s'.count))
      (Quiet s) := by
  unfold cmdAndCount
  rcases h : s.ws with _ | ⟨v, rest⟩
  · simp [PostD, Quiet, h]
  · simp only
    split
    · simp [PostD, Quiet, h]
    · rename_i hc
      rw [two_mul_shr3_toNat] at hc
      simp only [not_and, Nat.not_lt] at hc
      exact ⟨⟨by simp [h], rfl, rfl, rfl⟩, hc⟩

theorem nextPoint_post (s : GD) : PostD (nextPoint s) (fun _ s' => Step 2 0 s s') (Quiet s) := by
  unfold nextPoint
  rcases h : s.ws with _ | ⟨vx, _ | ⟨vy, r2⟩⟩ <;> simp [PostD, Step, Quiet, h]

theorem nextPoints_post (n : Nat) (s : GD) :
    PostD (nextPoints n s) (fun _ s' => Step (2 * n) 0 s s') (Quiet s) := by
  induction n generalizing s with
  | zero => simp [nextPoints, PostD, Step]
  | succ n ih =>
    unfold nextPoints
    refine (nextPoint_post s).bind ?_ (fun _ h => h)
    intro p s1 h1
    refine (ih s1).bind ?_ (fun _ => h1.quiet0)
    intro ps s2 h2
    exact Nat.mul_succ 2 n ▸ Nat.add_comm _ _ ▸ h1.trans h2

theorem decodeLine_post (s : GD) (hI : GD.Balanced s) :
    PostD (decodeLine s) (fun l s' => l ≠ [] ∧ Dec s s') (Bnd s) := by
  unfold decodeLine
  refine (cmdAndCount_post s).bind ?_ (fun _ => Quiet.bnd)
  intro cc s1 ⟨a1, _⟩
  split
  · exact a1.bnd (Nat.zero_le _)
  refine (nextPoint_post s1).bind ?_ (fun _ h => a1.quiet h (Nat.zero_le _))
  intro first s2 a2
  refine (cmdAndCount_post s2).bind ?_ (fun _ h => (a1.trans a2).quiet h (Nat.zero_le _))
  intro cc2 s3 ⟨a3, hg⟩
  have a := (a1.trans a2).trans a3
  split
  · exact a.bnd (Nat.zero_le _)
  rename_i hL
  -- the LineTo count has passed the guard: its points are there
  have hg := a.guard hI (hg (by rw [show cc2.1 = cLineTo by simpa using hL]; decide))
  have a' := a.trans (Step.alloc (cc2.2 + 1) s3)
  refine (nextPoints_post cc2.2 _).bind ?_ (fun _ h => a'.quiet h (by omega))
  intro ps s4 a4
  exact ⟨List.cons_ne_nil _ _, (a'.trans a4).dec hI (by omega) (by omega)⟩

theorem done_iff (s : GD) : s.done = true ↔ s.ws.length = 0 := by
  cases h : s.ws <;> simp [GD.done, h]

theorem lsLoop_post (f : Nat) (mls : List (List (Pt Int))) (s : GD)
    (hf : s.ws.length ≤ f) (hI : GD.Balanced s) :
    PostD (lsLoop f mls s) (fun _ => Bnd s) (Bnd s) := by
  induction f generalizing mls s with
  | zero =>
    have hd : s.done = true := (done_iff s).2 (by omega)
    simp [lsLoop, hd, PostD, Bnd]
  | succ f ih =>
    unfold lsLoop
    split
    · simp [PostD, Bnd]
    refine (decodeLine_post s hI).bind ?_ (fun _ h => h)
    intro ls s1 ⟨_, d⟩
    split
    · exact d.bnd (Nat.le_add_right _ _)
    · exact (ih _ s1 (d.fuel hf) d.1).mono (fun _ _ => d.bnd) (fun _ => d.bnd)

theorem pgLoop_post (ori : List (Pt Int) → Int) (f : Nat) (mp : List (List (List (Pt Int))))
    (p : List (List (Pt Int))) (s : GD) (hf : s.ws.length ≤ f) (hI : GD.Balanced s) :
    PostD (pgLoop ori f mp p s) (fun _ => Bnd s) (Bnd s) := by
  induction f generalizing mp p s with
  | zero =>
    have hd : s.done = true := (done_iff s).2 (by omega)
    simp only [pgLoop, hd, if_true]
    split <;> simp [PostD, Bnd]
  | succ f ih =>
    unfold pgLoop
    split
    · split <;> simp [PostD, Bnd]
    refine (decodeLine_post s hI).bind ?_ (fun _ h => h)
    intro ls s1 ⟨hne, d1⟩
    refine (cmdAndCount_post s1).bind ?_ (fun _ h => d1.bnd h.bnd)
    intro cc s2 ⟨a2, _⟩
    have d := d1.step a2
    have hrec : ∀ mp p, PostD (pgLoop ori f mp p s2) (fun _ => Bnd s) (Bnd s) := fun mp p =>
      (ih mp p s2 (d.fuel hf) d.1).mono (fun _ _ => d.bnd) (fun _ => d.bnd)
    cases ls with
    | nil => exact absurd rfl hne
    | cons h t =>
      dsimp -zeta only
      extract_lets r
      split
      · exact hrec _ _
      split <;> exact hrec _ _

theorem decodePoint_post (s : GD) (hI : GD.Balanced s) :
    PostD (decodePoint s) (fun _ => Bnd s) (Bnd s) := by
  unfold decodePoint
  refine (cmdAndCount_post s).bind ?_ (fun _ => Quiet.bnd)
  intro cc s1 ⟨a1, hg⟩
  split
  · exact a1.bnd (Nat.zero_le _)
  rename_i hM
  have hg := a1.guard hI (hg (by rw [show cc.1 = cMoveTo by simpa using hM]; decide))
  split
  · exact (nextPoint_post s1).bind (fun _ _ a2 => (a1.trans a2).bnd (Nat.zero_le _))
      (fun _ h => a1.quiet h (Nat.zero_le _))
  · have a' := a1.trans (Step.alloc cc.2 s1)
    exact (nextPoints_post cc.2 _).bind (fun _ _ a2 => (a'.trans a2).bnd (by omega))
      (fun _ h => a'.quiet h (by omega))

theorem decodeGeometryIter_post (ori : List (Pt Int) → Int) (gt : Int) (ws : List W) (a : Nat) :
    PostD (decodeGeometryIter ori gt ws a) (fun _ s' => s'.alloc ≤ a + ws.length)
      (fun s' => s'.alloc ≤ a + ws.length) := by
  by_cases h : 2 ≤ ws.length
  · rw [decodeGeometryIter_eq ori gt a h]
    have hI := (inStep_start ws a).2.2.2
    split
    · exact decodePoint_post _ hI
    split
    · exact lsLoop_post _ _ _ (Nat.le_refl _) hI
    split
    · exact pgLoop_post _ _ _ _ _ (Nat.le_refl _) hI
    · simp [PostD, GD.start]
  · unfold decodeGeometryIter
    rw [if_pos (by omega)]
    simp [PostD]

theorem decodeGeometryIter_noPanic (ori : List (Pt Int) → Int) (gt : Int) (ws : List W) (a : Nat) :
    (decodeGeometryIter ori gt ws a).1.isPanic = false :=
  (decodeGeometryIter_post ori gt ws a).noPanic

/-- Capacity requested by `make(orb.MultiPoint, 0, count)` / `make(orb.LineString, 0, count+1)`
    is bounded by the number of words of the field, for every type and every word list. -/
theorem decodeGeometryIter_alloc_le (ori : List (Pt Int) → Int) (gt : Int) (ws : List W) (a : Nat) :
    (decodeGeometryIter ori gt ws a).2.alloc ≤ a + ws.length :=
  (decodeGeometryIter_post ori gt ws a).state (fun _ _ h => h) (fun _ h => h)

theorem decodeTags_noPanic (keys : List String) (vals : List DVal) (ws : List W)
    (m : List (String × DVal)) : (decodeTags keys vals ws m).isPanic = false := by
  fun_induction decodeTags keys vals ws m <;> simp_all [Res.isPanic]

theorem decodeFeature_spec (ori : List (Pt Int) → Int) (keys : List String) (vals : List DVal)
    (a : Nat) (f : VTFeature) :
    (decodeFeature ori keys vals a f).1.isPanic = false ∧
      (decodeFeature ori keys vals a f).2 ≤ a + (f.tags.length + f.geometry.length) := by
  unfold decodeFeature
  have ht := decodeTags_noPanic keys vals f.tags []
  split
  · simp [Res.isPanic]
  · rename_i w hw
    rw [hw] at ht; simp [Res.isPanic] at ht
  · split
    · simp [Res.isPanic]
    · have h1 := decodeGeometryIter_noPanic ori f.gtype f.geometry a
      have h2 := decodeGeometryIter_alloc_le ori f.gtype f.geometry a
      split <;> rename_i heq <;> rw [heq] at h1 h2 <;> simp [Res.isPanic] at h1 h2 ⊢ <;> omega

theorem decodeFeatures_spec (ori : List (Pt Int) → Int) (keys : List String) (vals : List DVal)
    (a : Nat) (fs : List VTFeature) :
    (decodeFeatures ori keys vals a fs).1.isPanic = false ∧
      (decodeFeatures ori keys vals a fs).2 ≤
        a + (fs.map fun f => f.tags.length + f.geometry.length).sum := by
  induction fs generalizing a with
  | nil => simp [decodeFeatures, Res.isPanic]
  | cons f fs ih =>
    unfold decodeFeatures
    have h1 := decodeFeature_spec ori keys vals a f
    split <;> rename_i heq <;> rw [heq] at h1 <;> simp only [Res.isPanic] at h1
    · rename_i x a1
      have h2 := ih a1
      split <;> rename_i heq2 <;> rw [heq2] at h2 <;>
        simp [Res.isPanic, List.map_cons, List.sum_cons] at h2 ⊢ <;> omega
    · simp [Res.isPanic, List.map_cons, List.sum_cons] at h1 ⊢; omega
    · simp at h1

theorem decodeLayer_spec (ori : List (Pt Int) → Int) (a : Nat) (l : VTLayer) :
    (decodeLayer ori a l).1.isPanic = false ∧ (decodeLayer ori a l).2 ≤ a + vtSize [l] := by
  unfold decodeLayer
  have h := decodeFeatures_spec ori l.keys (l.values.map decodeTVal) (a + l.features.length)
    l.features
  split <;> rename_i heq <;> rw [heq] at h <;> simp [Res.isPanic, vtSize] at h ⊢ <;> omega

theorem decodeLayers_spec (ori : List (Pt Int) → Int) (a : Nat) (t : List VTLayer) :
    (decodeLayers ori a t).1.isPanic = false ∧
      (decodeLayers ori a t).2 ≤ a + vtSize t := by
  induction t generalizing a with
  | nil => simp [decodeLayers, Res.isPanic, vtSize]
  | cons l ls ih =>
    unfold decodeLayers
    have h1 := decodeLayer_spec ori a l
    split <;> rename_i heq <;> rw [heq] at h1 <;> simp only [Res.isPanic] at h1
    · rename_i x a1
      have h2 := ih a1
      split <;> rename_i heq2 <;> rw [heq2] at h2 <;>
        simp [Res.isPanic, vtSize, List.map_cons, List.sum_cons] at h1 h2 ⊢ <;> omega
    · simp [Res.isPanic, vtSize, List.map_cons, List.sum_cons] at h1 ⊢; omega
    · simp at h1

end Orb.MVT
