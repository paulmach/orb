/-
  C02 — the documented JSON hooks (`Orb.GeoJSON.hookMG` / `hookUG`: the `marshalJSON` /
  `unmarshalJSON` sites a value reaches).
-/
import Orb.GeoJSONExt

namespace Orb.GeoJSON
open Orb

mutual
/-- reading costs at most twice the calls of writing (a coordinate kind: `jsonGeometry`, then the
    coordinates), and at least as many -/
theorem hookUG_bounds' : ∀ n : NG, hookMG n ≤ hookUG n ∧ hookUG n ≤ 2 * hookMG n
  | .nilIface => by simp [hookMG, hookUG]
  | .nilCollection => by simp [hookMG, hookUG]
  | .collection [] => by simp [hookMG, hookUG]
  | .collection (g :: gs) => by
    have h1 := hookUG_bounds' g
    have h2 := hookUGs_bounds' gs
    simp only [hookMG, hookUG]
    omega
  | .point _ => by simp [hookMG, hookUG]
  | .multiPoint _ => by simp [hookMG, hookUG]
  | .lineString _ => by simp [hookMG, hookUG]
  | .multiLineString _ => by simp [hookMG, hookUG]
  | .ring _ => by simp [hookMG, hookUG]
  | .polygon _ => by simp [hookMG, hookUG]
  | .multiPolygon _ => by simp [hookMG, hookUG]
  | .bound _ _ => by simp [hookMG, hookUG]
theorem hookUGs_bounds' : ∀ gs : List NG, hookMGs gs ≤ hookUGs gs ∧ hookUGs gs ≤ 2 * hookMGs gs
  | [] => by simp [hookMGs, hookUGs]
  | g :: gs => by
    have h1 := hookUG_bounds' g
    have h2 := hookUGs_bounds' gs
    simp only [hookMGs, hookUGs]
    omega
end

end Orb.GeoJSON
