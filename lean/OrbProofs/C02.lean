/-
  C02 — GeoJSON (JSON and BSON) round-trips geometry, feature, collection; and the GeoJSON share of
  C05 (the decoders on arbitrary documents).  The theorems are about the model `Orb.GeoJSON`
  (geojson/geometry.go, feature.go, feature_collection.go, bbox.go) at the level of the document tree
  `Json`: the reflection-driven serialisers (encoding/json, mongo-driver bson) are trusted, text ⇄ tree
  is not modelled; the correspondence run compares the trees Go writes with `geomDoc` / `featureDoc` /
  `fcDoc`, and Go's decode outcomes with `geomOfDoc` / `featureOfDoc` / `fcOfDoc`.

  Quantifier: Go values as they can exist (`okG`, `okFeature`, `okFC`: finite coordinates, no EMPTY
  collection as a member of a collection, id absent / string / number, properties a Go map of
  JSON-representable values, foreign members not named type / bbox / features); for bson additionally
  no multi-geometry of length 0 (`nonEmptyMulti`).  Where the code falls short of the property the full
  statement is a `def …_full : Prop` with its refutation (`geom_roundtrip_full`,
  `doc_wellformed_nil_full`); `geom_receiver_history_full` is the one such statement that holds.

  Totality: the model has an explicit `.panic` outcome wherever the Go code dereferences a pointer that
  a decode can leave nil or indexes a slice, and the check the Go code makes before it is a separate `if`
  in the caller.  The `_total` theorems say that each check covers its dereference, the `_check_needed`
  ones show the panic behind it.
-/
import OrbProofs.C02Lemmas
import OrbProofs.C02FC
import OrbProofs.C02Total
import OrbProofs.C02Nil
import OrbProofs.C02Recv
import OrbProofs.C02Hook

namespace Orb.GeoJSON

/-- `UnmarshalGeometry(NewGeometry(g).MarshalJSON())` resp. the bson pair: the canonical value
    (ring and bound as the one-ring polygon, members likewise), bit-identical coordinates. -/
theorem geom_roundtrip (c : Codec) (g : G) (hok : okG g = true) (hb : c = .json ∨ nonEmptyMulti g = true)
    (hne : isEmptyColl g = false) : geomOfDoc c (geomDoc c (.val g)) = .ok (.val (canonG g)) := by
  rw [geomDoc_val c g hne, geomOfDoc, decode_geomJ c g hok hb hne]
  rfl

/-- `json.Unmarshal` into a `*Geometry` pointer, for every top-level Go value: an empty (or nil)
    collection comes back as the null geometry, a typed nil slice as itself. -/
theorem geom_roundtrip_ptr (v : V) (hok : okV v = true) :
    geomPtrOfDoc (geomDoc .json v) = .ok (canonV v) := by
  have hd : geomDoc .json v = geomMember .json v := rfl
  rw [hd]
  rcases decode_geomMember .json v hok (Or.inl rfl) with ⟨hn, hc⟩ | hdec
  · rw [hn, hc]; rfl
  · rw [geomPtrOfDoc_ne_null _ (decodeGeometry_ok_ne_null _ _ _ hdec), geomOfDoc, hdec]; rfl

theorem empty_collection_rejected :
    geomOfDoc .json (geomDoc .json (.val (.collection []))) = .err .invalid := rfl

/-- The full statement of the property's geometry clause for the `UnmarshalGeometry` entry point:
    every geometry with finite coordinates, nested collections included. -/
def geom_roundtrip_full : Prop :=
  ∀ g : G, finiteG g = true → geomOfDoc .json (geomDoc .json (.val g)) = .ok (canonV (.val g))

/-- … which is FALSE: (a) a collection with an empty collection as a member is written as
    `"geometries":[null]`, which the decoder rejects (invalid geometry);
    (b) a top-level empty collection is written as `null`, which `UnmarshalGeometry` rejects. -/
theorem geom_roundtrip_full_false : ¬ geom_roundtrip_full := by
  intro h
  have := h (.collection []) (by decide)
  rw [empty_collection_rejected] at this
  cases this

theorem nested_empty_collection_rejected (c : Codec) :
    geomDoc c (.val (.collection [.collection []])) = nullMemberDoc ∧
    geomOfDoc c nullMemberDoc = .err .invalid :=
  ⟨by cases c <;> rfl, by rw [geomOfDoc, decode_nullMember]; rfl⟩

/-- bson: `omitempty` drops the coordinates of an empty multi-geometry and the decoder then fails.
    (`_false`: the round trip fails for this value; there is no `…_full` statement that it refutes.) -/
theorem bson_empty_coordinates_false :
    geomDoc .bson (.val (.multiPoint [])) = .obj [("type", .str "MultiPoint")] ∧
    geomOfDoc .bson (geomDoc .bson (.val (.multiPoint []))) = .err .json := ⟨rfl, rfl⟩

/-- RFC 7946 shape: "type" names the kind, "coordinates" is nested exactly depth(kind) ∈
    {1,2,2,3,3,4} deep, collections use "geometries" (recursively). -/
theorem doc_wellformed (c : Codec) (g : G) (hok : okG g = true) (hb : c = .json ∨ nonEmptyMulti g = true)
    (hne : isEmptyColl g = false) : wellformed (geomDoc c (.val g)) = true := by
  rw [geomDoc_val c g hne]; exact geomJ_wellformed c g hok hb hne

/-- marshalling the decoded value again gives the same document (byte-identical JSON, the
    serialiser being deterministic) -/
theorem remarshal_fixed (v : V) (hok : okV v = true) (hr : noNilRing v = true) :
    ∃ w, geomPtrOfDoc (geomDoc .json v) = .ok w ∧ geomDoc .json w = geomDoc .json v :=
  ⟨canonV v, geom_roundtrip_ptr v hok, geomDoc_canonV .json v (noNilRing_ne v hr)⟩

theorem remarshal_fixed_bson (g : G) (hok : okG g = true) (hb : nonEmptyMulti g = true)
    (hne : isEmptyColl g = false) :
    ∃ w, geomOfDoc .bson (geomDoc .bson (.val g)) = .ok w ∧ geomDoc .bson w = geomDoc .bson (.val g) :=
  ⟨.val (canonG g), geom_roundtrip .bson g hok (Or.inr hb) hne,
    canonV_val g hne ▸ geomDoc_canonV .bson (.val g) (by simp)⟩

/-- same id, bbox, properties (empty ↦ nil), geometry (canonical; empty collection ↦ nil) -/
theorem feature_roundtrip (c : Codec) (f : Feature) (hok : okFeature f = true)
    (hb : c = .json ∨ okFeatureB f = true) :
    featureOfDoc c false (featureDoc c f) = .ok (canonF f) := feature_roundtrip' c f hok hb

theorem feature_remarshal_fixed (c : Codec) (f : Feature) (hok : okFeature f = true)
    (hr : noNilRing f.geom = true) : featureDoc c (canonF f) = featureDoc c f := by
  obtain ⟨id, typ, bbox, geom, props⟩ := f
  simp only [okFeature, Bool.and_eq_true] at hok
  obtain ⟨⟨⟨hid, hv⟩, hbb⟩, hp⟩ := hok
  have hidv := okId_map_valOf id hid
  have hbx : bboxMember (canonBBox bbox) = bboxMember bbox := by
    cases bbox with
    | none => rfl
    | some bb => cases bb <;> rfl
  have hpr : propsDoc (canonProps props) = propsDoc props := by
    cases props with
    | none => rfl
    | some ps =>
      cases ps with
      | nil => rfl
      | cons p ps =>
        have h1 : okMembers (p :: ps) = true := by simpa using hp
        simp [propsDoc, canonProps, normVal_ok _ h1]
  simp only [featureDoc, featureDocG, canonF, hidv, hbx, hpr, geomMember_canonV c geom (noNilRing_ne _ hr)]

/-- same bbox, features (each canonical), foreign members (none ↦ nil map) -/
theorem fc_roundtrip (c : Codec) (x : FC) (hok : okFC x = true) (hb : c = .json ∨ okFCB x = true) :
    fcOfDoc c false (fcDoc c x) = .ok (canonFC x) := by
  obtain ⟨hbb, hfs, hE, hres⟩ := okFC_spec x hok
  have hF := decodeFeatures_map c (x.features.getD []) fun f hf => by
    obtain ⟨g, rfl, hg⟩ := hfs f hf
    refine ⟨g, rfl, hg, hb.imp id fun hb => ?_⟩
    have h2 := List.all_eq_true.1 (by simpa [okFCB] using hb) (some g) hf
    simpa [okFeatureB] using h2
  obtain ⟨h1, h2, h3, h4⟩ := lookupLast_reserved x.bbox (.arr ((x.features.getD []).map (featureMember c)))
  have hfil : (x.extra.getD []).filter (fun kv => !reservedKey kv.1) = x.extra.getD [] :=
    List.filter_eq_self.2 fun kv hkv => by
      obtain ⟨a, b, d⟩ := hres kv hkv
      simp [reservedKey, a, b, d]
  have hbbox : fcBBoxOf c (x.bbox.map bboxJ) = .ok x.bbox := by
    cases hx : x.bbox with
    | none => rfl
    | some bb => simp [fcBBoxOf, bboxOf_bboxJ c bb (by simpa [hx] using hbb)]
  -- the foreign members stand in front and have no reserved key: the lookups see the reserved members only
  rw [fcDoc_eq c x hok, fcOfDoc_obj, normKeys_idem, decodeFCMap_normKeys,
    lookupLast_append_of_none _ _ _ fun kv hkv => (hres kv hkv).1,
    lookupLast_append_of_none _ _ _ fun kv hkv => (hres kv hkv).2.1,
    lookupLast_append_of_none _ _ _ fun kv hkv => (hres kv hkv).2.2,
    List.filter_append, h1, h2, h3, h4, hfil, List.append_nil, normKeys_sorted _ ((okMembers_iff _).1 hE).2,
    fcExtrasOf_ok c x.extra hE, hbbox]
  simp [fcTypeOf, fcFeaturesOf, hF, Res.map, Res.bind, canonFC]

theorem fc_remarshal_fixed (c : Codec) (x : FC) (hok : okFC x = true)
    (hr : (x.features.getD []).all (fun f => match f with | some f => noNilRing f.geom | none => true) = true) :
    fcDoc c (canonFC x) = fcDoc c x := by
  obtain ⟨_, hfs, hE, _⟩ := okFC_spec x hok
  have hfeat : ((x.features.getD []).map fun f => f.map canonF).map (featureMember c) =
      (x.features.getD []).map (featureMember c) := by
    rw [List.map_map]
    apply List.map_congr_left
    intro f hf
    obtain ⟨g, rfl, h1⟩ := hfs f hf
    have h2 : noNilRing g.geom = true := by simpa using List.all_eq_true.1 hr (some g) hf
    simp [featureMember, feature_remarshal_fixed c g h1 h2]
  simp only [fcDoc, fcDocG, canonFC, canonProps_getD _ hE, Option.getD_some, hfeat]

/-! ### C05 (GeoJSON share): the decoders on arbitrary documents -/

/-- no geometry decoder panics, whatever the document (json and bson; `UnmarshalGeometry` and
    `json.Unmarshal` into a pointer) -/
theorem geometry_total (c : Codec) (j : Json) :
    (geomOfDoc c j).isPanic = false ∧ (geomPtrOfDoc j).isPanic = false := by
  have hc := fun c => (decodeGeometry_noPanic c j).1
  constructor
  · simpa [geomOfDoc, Res.isPanic_map] using hc c
  · cases j <;> first | rfl | simpa [geomPtrOfDoc, geomOfDoc, Res.isPanic_map] using hc .json

/-- no feature decoder panics (`rawNull`: the input is exactly the bytes `null`) -/
theorem feature_total (c : Codec) (rawNull : Bool) (j : Json) : (featureOfDoc c rawNull j).isPanic = false :=
  feature_total' c rawNull j

theorem feature_ptr_total (j : Json) : (featurePtrOfDoc j).isPanic = false := by
  cases j with
  | null => rfl
  | _ =>
    simp only [featurePtrOfDoc, Res.isPanic_map]
    exact feature_total' .json false _

theorem fc_total (c : Codec) (rawNull : Bool) (j : Json) : (fcOfDoc c rawNull j).isPanic = false := by
  cases j with
  | obj ms =>
    rw [fcOfDoc_obj]
    exact Res.np_ite rfl (Res.np_bind (decodeFCMap_noPanic c _) fun _ _ => Res.np_ite rfl rfl)
  | null => unfold fcOfDoc; split <;> first | rfl | (cases c <;> rfl)
  | _ => unfold fcOfDoc; split <;> rfl

theorem fc_ptr_total (j : Json) : (fcPtrOfDoc j).isPanic = false := by
  cases j with
  | null => rfl
  | _ =>
    simp only [fcPtrOfDoc, Res.isPanic_map]
    exact fc_total .json false _

/-- the checks are what the totality theorems rest on: behind each stands a panic (`typed_check_needed` belongs to
    `typed_total`, `bbox_check_needed` to `bbox_bound_total`, both below) -/
theorem members_check_needed (ms : List (Option DG)) (h : hasNilMember ms = true) :
    (membersGeometry ms).isPanic = true := by
  induction ms with
  | nil => simp [hasNilMember] at h
  | cons m ms ih =>
    cases m with
    | none => rfl
    | some d =>
      have := ih (by simpa [hasNilMember] using h)
      simp only [membersGeometry, memberGeometry]
      revert this
      cases membersGeometry ms <;> simp [Res.isPanic]

theorem feature_check_needed : (featureFinishPtr none).isPanic = true := rfl

theorem typed_check_needed : (derefCoords none).isPanic = true := rfl

/-- no typed helper decoder (`geojson.Point` … `geojson.MultiPolygon`; `k` ranges over their six
    kinds) panics, whatever the document: the `g == nil` check stands before the dereference that JSON
    `null` (a nil `*Geometry`) would reach (`typed_check_needed`). -/
theorem typed_total (c : Codec) (k : Kind) (j : Json) : (typedOfDoc c k j).isPanic = false := by
  rw [typedOfDoc_eq]
  refine Res.Post.np (P := fun _ => True) (Res.Post.bind ((typedGeomPtr_post c j).mono fun p hp => ?_))
  cases p with
  | some d =>
    simp only [Option.isNone_some, Bool.false_eq_true, and_false, if_false, derefCoords, Res.bind_ok]
    split <;> trivial
  | none => simp [(hp rfl).1, Res.Post]

/-- JSON `null` through a typed helper is rejected like `UnmarshalGeometry(null)` -/
theorem typed_null_rejected (k : Kind) : typedOfDoc .json k .null = .err .invalid := rfl

/-- a `null` member of a geometry collection is an error, not a nil dereference … -/
theorem null_member_rejected (c : Codec) : geomOfDoc c nullMemberDoc = .err .invalid :=
  (nested_empty_collection_rejected c).2

/-- … also as the geometry of a feature … -/
theorem feature_null_member_rejected (c : Codec) :
    featureOfDoc c false (.obj [("type", .str "Feature"), ("geometry", nullMemberDoc)]) = .err .invalid := by
  -- the error of the "geometry" field's Unmarshaler aborts the decode of the feature
  have h := decode_nullMember c
  rw [nullMemberDoc] at h
  simp [featureOfDoc_obj, decodeFMembers, fStep_type, fStep_geometry_eq, fGeomField, nullMemberDoc, h, Res.bind]

/-- a white-space padded `null` DOCUMENT, by contrast (the model's `rawNull = false` with document `.null`), is
    accepted: it decodes to the null feature (the `doc == nil` check of fix 87467ba). -/
theorem feature_padded_null : (featureOfDoc .json false .null).isOk = true := by decide

/-! ### typed helper types, the decoded `Type` field, bbox.go -/

/-- `geojson.K(x)` round-trips through its own type and is rejected by the five others -/
theorem typed_roundtrip (c : Codec) (g : G) (k : Kind) (hk : typedKind g = true) (hok : okG g = true)
    (hb : c = .json ∨ nonEmptyMulti g = true) :
    typedOfDoc c k (geomDoc c (.val g)) = if g.kind = k then .ok (.val g) else .err .notType := by
  obtain ⟨hcan, hne⟩ := typed_canon g hk
  obtain ⟨ms, hms⟩ := geomJ_head c g hne
  have hdec := decode_geomJ c g hok hb hne
  rw [geomDoc_val c g hne]
  rw [typedOfDoc_eq, hms, typedGeomPtr_obj, ← hms, hdec, hcan]
  simp [Res.map, Res.bind, derefCoords, assertKind_val k g hk, kind_beq_iff]

/-- the decoded `Geometry.Type` names the kind the value comes back as, which is the "type"
    member of the document -/
theorem decoded_type (c : Codec) (g : G) (hok : okG g = true) (hb : c = .json ∨ nonEmptyMulti g = true)
    (hne : isEmptyColl g = false) :
    typeOfV (.val (canonG g)) = kindName g.kind ∧
    ∃ ms, geomDoc c (.val g) = .obj (("type", .str (kindName g.kind)) :: ms) :=
  ⟨typeOfV_canonG g, by rw [geomDoc_val c g hne]; exact geomJ_head c g hne⟩

/-- `BBox.Bound()` never panics: `Valid()` covers its four index expressions … -/
theorem bbox_bound_total (bb : Option (List UInt64)) : (bboxBound bb).isPanic = false := by
  unfold bboxBound
  split
  · rfl
  · rename_i hv
    cases bb with
    | none => simp [bboxValid] at hv
    | some l =>
      have hv' : 4 ≤ l.length := by
        simp only [bboxValid, Bool.not_eq_true, Bool.not_eq_false', Bool.and_eq_true, decide_eq_true_eq] at hv
        exact hv.1
      have h0 : 0 < l.length := by omega
      have h1 : 1 < l.length := by omega
      have h2 : l.length / 2 < l.length := by omega
      have h3 : l.length / 2 + 1 < l.length := by omega
      simp [Option.getD, bboxAt_lt l 0 h0, bboxAt_lt l 1 h1, bboxAt_lt l _ h2, bboxAt_lt l _ h3, Res.bind, Res.isPanic]

/-- … each of which panics beyond the length -/
theorem bbox_check_needed (l : List UInt64) (i : Nat) (h : l.length ≤ i) : (bboxAt l i).isPanic = true := by
  simp [bboxAt, List.getElem?_eq_none h, Res.isPanic]

/-- `NewBBox(b)` is valid and `NewBBox(b).Bound() = b` (bit-identical); an invalid bbox gives the
    zero bound -/
theorem bbox_roundtrip (a b : Pt UInt64) :
    bboxValid (some (newBBox a b)) = true ∧ bboxBound (some (newBBox a b)) = .ok (a, b) := by
  have hv : bboxValid (some [a.x, a.y, b.x, b.y]) = true := by simp [bboxValid]
  refine ⟨hv, ?_⟩
  simp [bboxBound, newBBox, hv, bboxAt, Res.bind]

theorem bbox_invalid_zero (bb : Option (List UInt64)) (h : bboxValid bb = false) :
    bboxBound bb = .ok (⟨0, 0⟩, ⟨0, 0⟩) := by
  simp [bboxBound, h]

/-! ### values with nil members (`orb.Polygon{nil}`, `orb.Collection{orb.MultiPoint(nil)}`, …) -/

/-- on a value without nil members the marshalling model with nil-ness (`geomDocN`, the one the
    correspondence run uses) is `geomDoc`: the theorems above speak about it -/
theorem geomDocN_nilfree (c : Codec) (v : V) (hv : okV v = true) :
    geomDocN c (CoreNil.ofGVal v) = geomDoc c v := by
  unfold geomDocN geomDoc
  rw [(ofGVal_spec v hv).2.2 c]

/-- The round-trip clause over Go values WITH nil members (any nil ring / line / polygon, typed-nil
    collection members): what `NewGeometry(v)` wrote — `null`s included — decodes (json and bson) to
    a value denoting the canonical geometry of `v` read with its nil slices as empty ones.
    (`toGeom` forgets the nil-ness of the decoded TOP-LEVEL slice: `"coordinates":null` comes back
    as a typed nil.) -/
theorem geom_roundtrip_nil (c : Codec) (n : NG) (hok : okG (forgetNil n) = true)
    (hb : c = .json ∨ nonEmptyMulti (forgetNil n) = true) (hne : isEmptyColl (forgetNil n) = false) :
    ∃ v, geomOfDoc c (geomDocN c n) = .ok v ∧ v.toGeom = canonG (forgetNil n) :=
  ⟨_, geomOfDocN_eq c n hok hb hne, canonV_toV_toGeom n hne⟩

/-- `orb.Polygon{nil}`: the nil ring is written as `null` inside "coordinates" (json and bson) —
    not the RFC 7946 shape — although decoding gives the polygon with one empty ring back -/
theorem nil_ring_doc (c : Codec) :
    geomDocN c (.polygon (some [none])) = .obj [("type", .str "Polygon"), ("coordinates", .arr [.null])] ∧
    wellformed (geomDocN c (.polygon (some [none]))) = false ∧
    geomOfDoc c (geomDocN c (.polygon (some [none]))) = .ok (.val (.polygon [[]])) ∧
    wellformed (geomDoc c (.val (forgetNil (.polygon (some [none]))))) = true := by
  have hd : geomDocN c (.polygon (some [none])) = .obj [("type", .str "Polygon"), ("coordinates", .arr [.null])] := by
    cases c <;> rfl
  exact ⟨hd, hd ▸ rfl, geomOfDocN_eq c _ rfl (Or.inr rfl) rfl, doc_wellformed c (.polygon [[]]) rfl (Or.inr rfl) rfl⟩

/-- The shape clause over Go values WITH nil members: every such polygon / multi line string /
    multi polygon / collection with finite coordinates marshals to an RFC 7946 shaped document … -/
def doc_wellformed_nil_full : Prop :=
  ∀ n : NG, hasNilIfaceMember n = false → okG (forgetNil n) = true → isEmptyColl (forgetNil n) = false →
    wellformed (geomDocN .json n) = true

/-- … which is FALSE: a nil ring (line, polygon) is written as `null` inside "coordinates", a typed-nil
    member of a collection as `"coordinates":null`.  The value still round-trips (nil read as
    empty), and the same value without nil-ness is written well-formed.
    Known finding C02-nil-member-null. -/
theorem doc_wellformed_nil_full_false : ¬ doc_wellformed_nil_full := by
  intro h
  have := h (.polygon (some [none])) (by decide) (by decide) (by decide)
  rw [(nil_ring_doc .json).2.1] at this
  cases this

theorem nil_member_doc :
    geomDocN .json (.collection [.multiPoint none]) =
      .obj [("type", .str "GeometryCollection"),
        ("geometries", .arr [.obj [("type", .str "MultiPoint"), ("coordinates", .null)]])] ∧
    wellformed (geomDocN .json (.collection [.multiPoint none])) = false ∧
    geomOfDoc .json (geomDocN .json (.collection [.multiPoint none])) = .ok (.val (.collection [.multiPoint []])) :=
  ⟨rfl, rfl, geomOfDocN_eq .json _ rfl (Or.inl rfl) rfl⟩


/-! ### hand-built `geojson.Geometry` values (`Orb.GeoJSONExt`)

`newGeometryMarshallDoc` converts rings, bounds and collections a SECOND time, for `Geometry` values
whose fields were set directly (the typed helper types do it; `&geojson.Geometry{Coordinates: b}`).
These are the statements about that second copy. -/

/-- a hand-built value holding one geometry in `Coordinates` writes what `NewGeometry` writes (every
    kind but the collection without members, which `NewGeometry` writes as `null`) -/
theorem hand_doc_eq (c : Codec) (ty : String) (n : NG) (h1 : n.isNilIface = false)
    (h2 : emptyCollCoords n = false) : hgMember c (.mk ty n []) = geomMemberN c n := by
  cases n with
  | nilIface => simp [CoreNil.NGeom.isNilIface] at h1
  | nilCollection => simp [emptyCollCoords] at h2
  | collection gs =>
    cases gs with
    | nil => simp [emptyCollCoords] at h2
    | cons g gs =>
      simp [hgMember, hgMembers, hgBody, hgCoordsPart, geomMemberN, geomMembersN, CoreNil.NGeom.isNilIface]
  | point p => simp [hgMember, hgMembers, hgBody, hgCoordsPart, geomMemberN, CoreNil.NGeom.isNilIface]
  | bound a b => simp [hgMember, hgMembers, hgBody, hgCoordsPart, geomMemberN, CoreNil.NGeom.isNilIface]
  | ring ps => simp [hgMember, hgMembers, hgBody, hgCoordsPart, geomMemberN, CoreNil.NGeom.isNilIface]
  | multiPoint ps =>
    by_cases hc : c = Codec.bson ∧ lenN ps = 0 <;>
      simp [hgMember, hgMembers, hgBody, hgCoordsPart, geomMemberN, coordDoc, CoreNil.NGeom.isNilIface, hc]
  | lineString ps =>
    by_cases hc : c = Codec.bson ∧ lenN ps = 0 <;>
      simp [hgMember, hgMembers, hgBody, hgCoordsPart, geomMemberN, coordDoc, CoreNil.NGeom.isNilIface, hc]
  | multiLineString ps =>
    by_cases hc : c = Codec.bson ∧ lenN ps = 0 <;>
      simp [hgMember, hgMembers, hgBody, hgCoordsPart, geomMemberN, coordDoc, CoreNil.NGeom.isNilIface, hc]
  | polygon ps =>
    by_cases hc : c = Codec.bson ∧ lenN ps = 0 <;>
      simp [hgMember, hgMembers, hgBody, hgCoordsPart, geomMemberN, coordDoc, CoreNil.NGeom.isNilIface, hc]
  | multiPolygon ps =>
    by_cases hc : c = Codec.bson ∧ lenN ps = 0 <;>
      simp [hgMember, hgMembers, hgBody, hgCoordsPart, geomMemberN, coordDoc, CoreNil.NGeom.isNilIface, hc]

/-- "ring and bound as the equivalent polygon", for the hand-built path: five positions in ONE ring,
    nested three deep -/
theorem hand_bound_doc (c : Codec) (ty : String) (a b : Pt UInt64) :
    hgMember c (.mk ty (.bound a b) []) =
      .obj [("type", .str "Polygon"), ("coordinates", .arr [ptsJ (boundRing a b)])] ∧
    wellformed (hgMember c (.mk ty (.bound a b) [])) = true := by
  have h : hgMember c (.mk ty (.bound a b) []) =
      .obj [("type", .str "Polygon"), ("coordinates", .arr [ptsJ (boundRing a b)])] :=
    hand_doc_eq c ty (.bound a b) rfl rfl
  exact ⟨h, h ▸ wellformed_coord _ 3 _ rfl (coordDepth_ptss [boundRing a b])⟩

theorem hand_ring_doc (c : Codec) (ty : String) (ps : List (Pt UInt64)) :
    hgMember c (.mk ty (.ring (some ps)) []) =
      .obj [("type", .str "Polygon"), ("coordinates", .arr [ptsJ ps])] :=
  hand_doc_eq c ty (.ring (some ps)) rfl rfl

/-- the value's `Type` string is not what is written -/
theorem hand_type_ignored (c : Codec) (ty ty' : String) (n : NG) (gs : List HG) :
    hgMember c (.mk ty n gs) = hgMember c (.mk ty' n gs) := by
  simp [hgMember]

/-- the round-trip clause for `json.Marshal(&geojson.Geometry{Coordinates: x})` / `bson.Marshal(…)` -/
theorem hand_roundtrip (c : Codec) (ty : String) (n : NG) (hok : okG (forgetNil n) = true)
    (hb : c = .json ∨ nonEmptyMulti (forgetNil n) = true) (hne : isEmptyColl (forgetNil n) = false) :
    ∃ v, geomOfDoc c (hgTop c (.mk ty n [])) = .ok v ∧ v.toGeom = canonG (forgetNil n) := by
  have hv := decode_geomMemberN c n hok hb hne
  obtain ⟨h1, h2⟩ := isNilIface_emptyCollCoords_false n hne
  have hm := hand_doc_eq c ty n h1 h2
  -- at the top level bson has no `null` short cut; the document is not `null`, so that makes no difference
  have ht : hgTop c (.mk ty n []) = geomMemberN c n := by
    cases c with
    | json => exact hm
    | bson => exact (hand_top_bson_eq_member ty n [] (hm ▸ decodeGeometry_ok_ne_null _ _ _ hv)).trans hm
  exact ⟨_, by rw [ht, geomOfDoc, hv]; rfl, canonV_toV_toGeom n hne⟩

/-! ### receivers: "the decode is a function of the document" -/

/-- a new `Geometry` receiver observes what `geomOfDoc` says -/
theorem geomInto_fresh (c : Codec) (j : Json) : (geomInto c {} j).map (·.geometry) = geomOfDoc c j :=
  geomInto_geometry c {} j

/-- `(*Geometry).UnmarshalJSON/BSON` into a receiver with an earlier value: exactly as into a new one.
    (Every arm of `GRecv.assign` sets both fields, fix 497cb4d, so the hypotheses `h1`, `h2` about the field of
    the other switch arm are not used; `assign_any` (C02Recv.lean) is the statement without them.) -/
theorem geom_receiver_same_arm (old : GRecv) (d : DG) (h1 : d.isColl = false → old.geoms = none)
    (h2 : d.isColl = true → old.coords = none) : old.assign d = ({} : GRecv).assign d :=
  assign_any old d

/-- `hc`, `hg` are not used either (`geomInto_any`): what the receiver held does not matter at all -/
theorem geom_receiver_clean (c : Codec) (old : GRecv) (j : Json) (hc : old.coords = none)
    (hg : old.geoms = none) : geomInto c old j = geomInto c {} j := geomInto_any c old j

/-- receiver history does not matter for `(*Geometry).UnmarshalJSON/BSON`: the full statement
    `geom_receiver_history_full` (OrbProofs/C02Recv.lean; known finding C02-geometry-receiver-reuse is
    repaired by fix 497cb4d) -/
theorem geom_receiver_history : geom_receiver_history_full := by
  intro c old r r0 j h h0
  rw [geomInto_any, h0] at h
  cases h; rfl

/-- `Feature`, `FeatureCollection`, the six typed helpers: every success path assigns the whole value -/
theorem feature_receiver_history (c : Codec) (rawNull : Bool) (old old' : Feature) (j : Json)
    (h : (featureOfDoc c rawNull j).isOk = true) :
    featureInto c rawNull old j = featureInto c rawNull old' j := by
  simp only [featureInto]
  cases hf : featureOfDoc c rawNull j <;> simp_all [Res.isOk]

theorem fc_receiver_history (c : Codec) (rawNull : Bool) (old old' : FC) (j : Json) :
    fcInto c rawNull old j = fcInto c rawNull old' j := rfl

theorem typed_receiver_history (c : Codec) (k : Kind) (old old' : V) (j : Json)
    (h : (typedOfDoc c k j).isOk = true) : typedInto c k old j = typedInto c k old' j := by
  simp only [typedInto]
  cases hf : typedOfDoc c k j <;> simp_all [Res.isOk]

/-! ### the documented JSON hooks (`geojson.CustomJSONMarshaler` / `CustomJSONUnmarshaler`)

The correspondence run installs pass-through hooks and counts their calls per step of a case (op
`hook`); `hookMG` / `hookUG` are what the dispatch of geojson/json.go prescribes for a value. -/

/-- the marshal hook is reached exactly when something other than `null` is written (the `null`
    short cut of `Geometry.MarshalJSON` is the only path around `marshalJSON`) -/
theorem hook_marshal_reached (c : Codec) (n : NG) : hookMG n = 0 ↔ geomMemberN c n = .null := by
  cases n with
  | nilIface => simp [hookMG, geomMemberN]
  | nilCollection => simp [hookMG, geomMemberN]
  | collection gs =>
    cases gs with
    | nil => simp [hookMG, geomMemberN]
    | cons g gs => simp [hookMG, geomMemberN]
  | point p => simp [hookMG, geomMemberN]
  | bound a b => simp [hookMG, geomMemberN]
  | ring ps => simp [hookMG, geomMemberN]
  | multiPoint ps => simp [hookMG, geomMemberN, coordDoc_ne_null]
  | lineString ps => simp [hookMG, geomMemberN, coordDoc_ne_null]
  | multiLineString ps => simp [hookMG, geomMemberN, coordDoc_ne_null]
  | polygon ps => simp [hookMG, geomMemberN, coordDoc_ne_null]
  | multiPolygon ps => simp [hookMG, geomMemberN, coordDoc_ne_null]

/-- … and what was written through the marshal hook — only that — is read through the unmarshal hook -/
theorem hook_unmarshal_reached (n : NG) : hookUG n = 0 ↔ hookMG n = 0 := by
  have := hookUG_bounds' n
  omega

/-- reading calls the hook at least as often as writing and at most twice as often -/
theorem hook_calls_bounds (n : NG) : hookMG n ≤ hookUG n ∧ hookUG n ≤ 2 * hookMG n := hookUG_bounds' n

example :
    let n : NG := .collection [.point ⟨0, 0⟩, .collection [.lineString (some [⟨0, 0⟩])]]
    hookMG n = 4 ∧ hookUG n = 6 := by
  constructor <;> simp [hookMG, hookMGs, hookUG, hookUGs]

/-- a feature with a null geometry decoded into a receiver that holds a point: no geometry afterwards -/
example :
    (featureInto .json false { geom := .val (.point ⟨0, 0⟩) }
      (.obj [("type", .str "Feature"), ("geometry", .null), ("properties", .null)])).geom = .nilIface := by
  rfl

/-- a multi polygon with a nil polygon and a nil ring satisfies the hypotheses of
    `geom_roundtrip_nil`, and comes back with both read as empty -/
example :
    let n : NG := .multiPolygon (some [none, some [none, some [⟨0, 0⟩]]])
    okG (forgetNil n) = true ∧ isEmptyColl (forgetNil n) = false ∧ nonEmptyMulti (forgetNil n) = true ∧
      geomOfDoc .json (geomDocN .json n) = .ok (.val (.multiPolygon [[], [[], [⟨0, 0⟩]]])) := by
  refine ⟨by decide, by decide, by decide, rfl⟩

/-- the typed totality hypothesis is satisfiable and the theorem says something: a Point document
    decodes through `geojson.Point` and is refused by `geojson.Polygon` -/
example :
    typedOfDoc .json .point (.obj [("type", .str "Point"), ("coordinates", .arr [.num 0, .num 0])]) = .ok (.val (.point ⟨0, 0⟩)) ∧
    typedOfDoc .bson .polygon (.obj [("type", .str "Point"), ("coordinates", .arr [.num 0, .num 0])]) = .err .notType := by
  constructor <;> rfl


/-- a nested collection with a ring, a bound and a negative zero satisfies the quantifier, and its
    document is the expected one -/
example :
    let g : G := .collection [.point ⟨0x8000000000000000, 0x3ff0000000000000⟩,
      .collection [.ring [⟨0, 0⟩, ⟨0x3ff0000000000000, 0⟩, ⟨0, 0⟩]], .bound ⟨0, 0⟩ ⟨0x4000000000000000, 0x4000000000000000⟩]
    okG g = true ∧ isEmptyColl g = false ∧ nonEmptyMulti g = true ∧
      geomOfDoc .json (geomDoc .json (.val g)) = .ok (.val (canonG g)) := by
  refine ⟨by decide, by decide, by decide, ?_⟩
  exact geom_roundtrip .json _ (by decide) (Or.inl rfl) (by decide)

example :
    okFeature {
      id := some (.num 0x4014000000000000)
      bbox := some [0, 0, 0x3ff0000000000000, 0x3ff0000000000000]
      geom := .val (.multiPoint [⟨0, 0⟩])
      props := some [("a", .arr [.null, .bool true]), ("b", .obj [("x", .str "y"), ("z", .num 0)])] } = true := by
  decide

example :
    okFC { features := some [some { geom := .val (.point ⟨0, 0⟩) }], extra := some [("name", .str "x")] } = true := by
  decide

end Orb.GeoJSON
