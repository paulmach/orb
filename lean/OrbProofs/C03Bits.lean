/-
  Two's-complement facts about `BitVec` at any width, used by the 32-bit zigzag of the geometry
  commands and the 64-bit zigzag of `sint64` values.
-/

namespace Orb.MVT

theorem sshiftRight_top {w : Nat} (x : BitVec (w+1)) :
    x.sshiftRight w = if x.msb then BitVec.allOnes (w+1) else 0#(w+1) := by
  ext i hi
  have hm : x.msb = x[w] := by simp [BitVec.msb_eq_getLsbD_last]
  rw [BitVec.getElem_sshiftRight]
  by_cases h0 : w + i < w + 1
  · have : i = 0 := by omega
    subst this
    cases h : x.msb <;> simp [← hm, h]
  · cases h : x.msb <;> simp [h0]

/-- Zigzag at any width.  The low bit of the code is the sign; `m` turns it into the mask (zeros
    or ones) that undoes the xor — Go writes that mask differently at 32 and at 64 bits. -/
theorem zigzag_core {w : Nat} (x : BitVec (w+1)) (m : BitVec (w+1) → BitVec (w+1))
    (m0 : m 0#(w+1) = 0#(w+1)) (m1 : m 1#(w+1) = BitVec.allOnes (w+1)) :
    (((x <<< 1) ^^^ x.sshiftRight w) >>> 1) ^^^ m (((x <<< 1) ^^^ x.sshiftRight w) &&& 1#(w+1)) = x := by
  have hm : x.msb = x[w] := by simp [BitVec.msb_eq_getLsbD_last]
  rw [sshiftRight_top]
  cases h : x.msb
  · rw [if_neg (by simp), BitVec.xor_zero]
    have h1 : x <<< 1 &&& 1#(w+1) = 0#(w+1) := by
      ext i hi
      simp [BitVec.getElem_and, BitVec.getElem_shiftLeft]
      omega
    rw [h1, m0, BitVec.xor_zero]
    ext i hi
    simp only [BitVec.getElem_ushiftRight, BitVec.getLsbD_shiftLeft]
    by_cases hi2 : 1 + i < w + 1
    · simp [hi2, BitVec.getLsbD_eq_getElem hi]
    · have : i = w := by omega
      subst this
      simp [hi2, ← hm, h]
  · rw [if_pos rfl, BitVec.xor_allOnes]
    have h1 : ~~~(x <<< 1) &&& 1#(w+1) = 1#(w+1) := by
      ext i hi
      simp [BitVec.getElem_and, BitVec.getElem_shiftLeft]
      exact fun h => Or.inl h
    rw [h1, m1, BitVec.xor_allOnes]
    ext i hi
    simp only [BitVec.getElem_not, BitVec.getElem_ushiftRight, BitVec.getLsbD_not, BitVec.getLsbD_shiftLeft]
    by_cases hi2 : 1 + i < w + 1
    · simp [hi2, BitVec.getLsbD_eq_getElem hi]
    · have : i = w := by omega
      subst this
      simp [hi2, ← hm, h]

end Orb.MVT
