/-
  C11 — the k-nearest visitor (array max-heap of the k best so far): its invariant `NearP` through the
  pruned traversal (`visit_sound_lim`), and the drained heap as the answer `Spec` asks for (`kNearest_correct`).
-/
import OrbProofs.C11Visit
import OrbProofs.C11Heap

namespace Orb.Quadtree
open Orb Orb.Core

set_option linter.unusedSectionVars false

variable {α : Type} [Field α] [LinearOrder α] [IsStrictOrderedRing α]

/-- the part of the invariant that does not mention the pruning bound: the heap holds at most `k`
    candidates, `D` are the candidates dropped so far, and nothing dropped is closer than anything kept -/
structure NearCore (pt : Pt α) (cand : Ptr α → Bool) (k : Nat) (seen : List (Ptr α)) (h : Heap α)
    (D : List (Ptr α)) : Prop where
  ord : HeapOrd h
  size_le : h.size ≤ k
  ent : ∀ e ∈ h.toList, e.2 = distSq e.1.p pt
  perm : (h.toList.map Prod.fst ++ D).Perm (seen.filter cand)
  le : ∀ e ∈ h.toList, ∀ y ∈ D, e.2 ≤ distSq y.p pt

theorem NearCore.perm_seen {pt : Pt α} {cand : Ptr α → Bool} {k : Nat} {seen seen' : List (Ptr α)} {h : Heap α}
    {D : List (Ptr α)} (hc : NearCore pt cand k seen h D) (hp : seen.Perm seen') : NearCore pt cand k seen' h D :=
  ⟨hc.ord, hc.size_le, hc.ent, hc.perm.trans (hp.filter _), hc.le⟩

theorem NearCore.skip_one {pt : Pt α} {cand : Ptr α → Bool} {k : Nat} {seen : List (Ptr α)} {h : Heap α}
    {D : List (Ptr α)} (hc : NearCore pt cand k seen h D) (p : Ptr α) (hp : cand p = false) :
    NearCore pt cand k (p :: seen) h D :=
  ⟨hc.ord, hc.size_le, hc.ent, by rw [List.filter_cons, hp]; exact hc.perm, hc.le⟩

theorem NearCore.drop {pt : Pt α} {cand : Ptr α → Bool} {k : Nat} {seen : List (Ptr α)} {h : Heap α}
    {D : List (Ptr α)} (hc : NearCore pt cand k seen h D) (ys : List (Ptr α))
    (hys : ∀ e ∈ h.toList, ∀ y ∈ ys, e.2 ≤ distSq y.p pt) :
    NearCore pt cand k (ys ++ seen) h (ys.filter cand ++ D) := by
  refine ⟨hc.ord, hc.size_le, hc.ent, ?_, ?_⟩
  · rw [List.filter_append]
    exact (List.perm_append_comm_assoc _ _ _).trans (List.Perm.append_left _ hc.perm)
  · intro e he y hy
    rcases List.mem_append.mp hy with hy | hy
    · exact hys e he y (List.mem_filter.mp hy).1
    · exact hc.le e he y hy

theorem NearCore.push_fit {pt : Pt α} {cand : Ptr α → Bool} {k : Nat} {seen : List (Ptr α)} {h : Heap α}
    {D : List (Ptr α)} (hc : NearCore pt cand k seen h D) (p : Ptr α) (hp : cand p = true)
    (hd : ∀ y ∈ D, distSq p.p pt ≤ distSq y.p pt) (hfit : (heapPush h p (distSq p.p pt)).size ≤ k) :
    NearCore pt cand k (p :: seen) (heapPush h p (distSq p.p pt)) D := by
  have hperm := heapPush_perm h p (distSq p.p pt)
  refine ⟨heapPush_ord h p _ hc.ord, hfit, ?_, ?_, ?_⟩
  · intro e he
    rcases List.mem_cons.mp (hperm.mem_iff.mp he) with rfl | he
    · rfl
    · exact hc.ent e he
  · rw [List.filter_cons, hp]
    have h1 : ((heapPush h p (distSq p.p pt)).toList.map Prod.fst).Perm (p :: h.toList.map Prod.fst) := by
      simpa using hperm.map Prod.fst
    exact (h1.append_right D).trans (List.Perm.cons p hc.perm)
  · intro e he y hy
    rcases List.mem_cons.mp (hperm.mem_iff.mp he) with rfl | he
    · exact hd y hy
    · exact hc.le e he y hy

theorem NearCore.push_pop {pt : Pt α} {cand : Ptr α → Bool} {k : Nat} {seen : List (Ptr α)} {h : Heap α}
    {D : List (Ptr α)} (hc : NearCore pt cand k seen h D) (p : Ptr α) (hp : cand p = true)
    (hd : ∀ y ∈ D, distSq p.p pt ≤ distSq y.p pt) (hover : (heapPush h p (distSq p.p pt)).size > k) :
    ∃ top1 : Ptr α, NearCore pt cand k (p :: seen) (heapPop (heapPush h p (distSq p.p pt))) (top1 :: D) ∧
      (heapPop (heapPush h p (distSq p.p pt))).size = k := by
  have hsz := heapPush_size h p (distSq p.p pt)
  have hfit := hc.size_le
  -- the un-popped heap, with capacity k+1
  have hc1 : NearCore pt cand (k+1) (p :: seen) (heapPush h p (distSq p.p pt)) D :=
    NearCore.push_fit ⟨hc.ord, by omega, hc.ent, hc.perm, hc.le⟩ p hp hd (by omega)
  generalize heapPush h p (distSq p.p pt) = h1 at *
  obtain ⟨top1, -, ho', hperm, hmax⟩ := heapPop_spec h1 hc1.ord (by omega)
  have hpsz := hperm.length_eq
  simp only [Array.length_toList, List.length_cons] at hpsz
  have hsub : ∀ e ∈ (heapPop h1).toList, e ∈ h1.toList := fun e he => hperm.mem_iff.mpr (List.mem_cons_of_mem _ he)
  refine ⟨top1.1, ⟨ho', by omega, fun e he => hc1.ent e (hsub e he), ?_, ?_⟩, by omega⟩
  · exact List.perm_middle.trans (((hperm.map Prod.fst).symm.append_right D).trans hc1.perm)
  · intro e he y hy
    rcases List.mem_cons.mp hy with rfl | hy
    · rw [← hc1.ent top1 (hperm.mem_iff.mpr List.mem_cons_self)]; exact hmax e (hsub e he)
    · exact hc1.le e (hsub e he) y hy

/-- state invariant of the nearest visitor after the pointers `seen` have been accounted for:
    until the heap first overflows the limit is the user's and nothing has been dropped; afterwards the
    heap is full and the limit / pruning box are those of its maximum. -/
def NearP (sqrt : α → α) (pt : Pt α) (filter : Ptr α → Bool) (k : Nat) (md : Option α) (B : Bound α)
    (seen : List (Ptr α)) (st : NearSt α) : Prop :=
  ∃ D, NearCore pt (fun x => filter x && within pt md x) k seen st.heap D ∧
    ((st.maxD = md.map (fun m => m * m) ∧ st.bnd = B ∧ D = []) ∨
     (st.heap.size = k ∧ ∃ top, st.heap[0]? = some top ∧ st.maxD = some top.2 ∧
        st.bnd = boxAround pt (sqrt top.2)))

theorem under_sq_eq_within (pt : Pt α) (md : Option α) (p : Ptr α) :
    under (md.map fun m => m * m) (distSq p.p pt) = within pt md p := by
  cases md <;> rfl

theorem NearP.reject {sqrt : α → α} {pt : Pt α} {f : Ptr α → Bool} {k : Nat} {md : Option α} {B : Bound α}
    {seen : List (Ptr α)} {st : NearSt α} (hP : NearP sqrt pt f k md B seen st) (y : Ptr α)
    (hu : under st.maxD (distSq y.p pt) = false) : NearP sqrt pt f k md B (y :: seen) st := by
  -- before the first overflow such a pointer is beyond the user's limit, afterwards no nearer than the farthest kept
  obtain ⟨D, hc, ⟨hmd, hb, hD⟩ | ⟨hsz, top, ht, hmd, hb⟩⟩ := hP
  · rw [hmd, under_sq_eq_within] at hu
    exact ⟨D, hc.skip_one y (by simp [hu]), Or.inl ⟨hmd, hb, hD⟩⟩
  · rw [hmd] at hu
    refine ⟨[y].filter _ ++ D, hc.drop [y] fun e he z hz => ?_, Or.inr ⟨hsz, top, ht, hmd, hb⟩⟩
    rw [List.mem_singleton.mp hz]
    exact (heapOrd_top_max st.heap hc.ord top ht e he).trans (not_lt.mp (of_decide_eq_false hu))

theorem near_visit_step {sqrt : α → α} (pt : Pt α) (filter : Ptr α → Bool) (k : Nat) (hk : 0 < k)
    (md : Option α) (B : Bound α) (seen : List (Ptr α)) (st : NearSt α) (p : Ptr α) (path : List Nat)
    (hP : NearP sqrt pt filter k md B seen st) :
    NearP sqrt pt filter k md B (p :: seen) ((nearestVisitor sqrt pt filter k).visit st p path) := by
  rw [nearestVisitor_step]
  cases hf : filter p with
  | false =>
    obtain ⟨D, hc, hph⟩ := hP
    exact ⟨D, hc.skip_one p (by simp [hf]), hph⟩
  | true =>
    cases hu : under st.maxD (distSq p.p pt) with
    | false => exact NearP.reject hP p hu
    | true =>
      simp only [Bool.not_true, Bool.false_eq_true, if_false]
      obtain ⟨D, hc, hph⟩ := hP
      -- under the limit: `p` is a candidate and no farther than anything dropped
      have hcd : within pt md p = true ∧ ∀ y ∈ D, distSq p.p pt ≤ distSq y.p pt := by
        rcases hph with ⟨hmd, hb, hD⟩ | ⟨hsz, top, ht, hmd, hb⟩
        · rw [hmd, under_sq_eq_within] at hu
          exact ⟨hu, by subst hD; simp⟩
        · rw [hmd] at hu
          have hlt := of_decide_eq_true hu
          have htm : top ∈ st.heap.toList := Array.mem_toList_iff.2 (Array.mem_of_getElem? ht)
          refine ⟨?_, fun y hy => hlt.le.trans (hc.le top htm y hy)⟩
          -- the top of the heap is a candidate, hence within the user's limit
          have hmem : top.1 ∈ seen.filter (fun x => filter x && within pt md x) :=
            hc.perm.mem_iff.mp (List.mem_append_left _ (List.mem_map.mpr ⟨top, htm, rfl⟩))
          have hwt : within pt md top.1 = true := by
            have := (List.mem_filter.mp hmem).2
            simp only [Bool.and_eq_true] at this
            exact this.2
          cases md with
          | none => rfl
          | some m =>
            simp only [within, decide_eq_true_eq] at hwt ⊢
            rw [← hc.ent top htm] at hwt
            exact hlt.trans hwt
      have hcand : (fun x => filter x && within pt md x) p = true := by simp [hf, hcd.1]
      unfold pushed
      by_cases hover : (heapPush st.heap p (distSq p.p pt)).size > k
      · rw [if_pos hover]
        obtain ⟨top1, hc', hsz'⟩ := hc.push_pop p hcand hcd.2 hover
        -- `0 < k`: after the pop the heap still has a top (the model's branch "unreachable for k ≥ 1")
        have ht := Array.getElem?_eq_getElem (xs := heapPop (heapPush st.heap p (distSq p.p pt))) (i := 0) (by omega)
        rw [ht]
        exact ⟨top1 :: D, hc', Or.inr ⟨hsz', _, ht, rfl, rfl⟩⟩
      · rw [if_neg hover]
        have hc' := hc.push_fit p hcand hcd.2 (by omega)
        rcases hph with ⟨hmd, hb, hD⟩ | ⟨hsz, top, ht, hmd, hb⟩
        · exact ⟨D, hc', Or.inl ⟨hmd, hb, hD⟩⟩
        · exfalso
          have := heapPush_size st.heap p (distSq p.p pt)
          omega

theorem kNearest_visit {sqrt : α → α} (hs : SqrtUp sqrt) (q : QT α) (pt : Pt α) (k : Nat) (hk : 0 < k)
    (f : Ptr α → Bool) (md : Option α) (h : QInv q) :
    NearP sqrt pt f k md q.bound (contents q.root)
      (visit (nearestVisitor sqrt pt f k) q.root (rootCell q.bound) []
        ⟨#[], q.bound, md.map fun m => m * m⟩) := by
  refine visit_sound_lim (nearestVisitor sqrt pt f k) q.root q.bound (·.maxD) hs pt (NearP sqrt pt f k md q.bound)
    (fun l l' st hp ⟨D, hc, hph⟩ => ⟨D, hc.perm_seen hp, hph⟩) ?_
    (fun seen st p path _ hP => near_visit_step pt f k hk md q.bound seen st p path hP)
    (fun seen st y hP hu => NearP.reject hP y hu) _ h
    ⟨[], ⟨heapOrd_empty, by simp, by simp, by simp, by simp⟩, Or.inl ⟨rfl, rfl, rfl⟩⟩
  rintro seen st ⟨D, hc, ⟨-, hb, -⟩ | ⟨-, top, ht, hmd, hb⟩⟩
  · exact Or.inl hb
  · refine Or.inr ⟨_, hmd, ?_, hb⟩
    rw [hc.ent top (Array.mem_toList_iff.2 (Array.mem_of_getElem? ht))]; exact distSq_nonneg _ _

theorem kNearest_correct (sqrt : α → α) (hs : SqrtUp sqrt) (q : QT α) (pt : Pt α) (k : Nat) (f : Ptr α → Bool)
    (md : Option α) (h : QInv q) :
    Spec q.bound (contents q.root) (.kNearest pt k f md) (.ptrs (kNearest sqrt q pt k f md)) (contents q.root) := by
  refine ⟨List.Perm.refl _, ?_⟩
  rw [kNearest_eq_from, kNearestFrom_eq_visit, Option.or_none]
  by_cases hk : k = 0
  · rw [if_pos hk, hk]
    exact ⟨_, List.Perm.refl _, by simp, List.Pairwise.nil, by simp⟩
  rw [if_neg hk]
  obtain ⟨D, hc, hph⟩ := kNearest_visit hs q pt k (Nat.pos_of_ne_zero hk) f md h
  generalize visit (nearestVisitor sqrt pt f k) q.root (rootCell q.bound) []
    ⟨#[], q.bound, md.map fun m => m * m⟩ = st at hc hph ⊢
  -- the answer is the heap's entries `es` in ascending order of key, and a key is its pointer's distance
  obtain ⟨es, hp, hsrt, he⟩ := drain_sorted st.heap.size st.heap [] hc.ord rfl
  have hent : ∀ e ∈ es, e.2 = distSq e.1.p pt := fun e he => hc.ent e (hp.mem_iff.1 he)
  rw [he, List.append_nil]
  refine ⟨D, (((hp.map _).append_right D).trans hc.perm), ?_, ?_, ?_⟩
  · have hlen := hc.perm.length_eq
    rw [← hlen, List.length_map, hp.length_eq]
    simp only [List.length_append, List.length_map, Array.length_toList]
    rcases hph with ⟨-, -, hD⟩ | ⟨hsz, -⟩
    · have := hc.size_le; subst hD; simp; omega
    · omega
  · refine List.pairwise_map.2 (hsrt.imp_of_mem fun {a b} ha hb hab => ?_)
    rwa [hent a ha, hent b hb] at hab
  · intro x hx y hy
    obtain ⟨e, he', rfl⟩ := List.mem_map.mp hx
    rw [← hent e he']
    exact hc.le e (hp.mem_iff.1 he') y hy

end Orb.Quadtree
