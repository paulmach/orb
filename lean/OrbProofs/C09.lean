/-
  C09 — Point-in-ring/polygon answers match exact even-odd geometry.
  PROPERTY THEOREMS about the model `Orb.Contains` (planar/contains.go) and the spec `Orb.EvenOdd`, with the
  ring- and polygon-level lemmas for an arbitrary nudge they are instances of.

  Coordinates range over an arbitrary linearly ordered field (the spec only needs an ordered commutative ring).
  Section `model`: the `math.Nextafter` nudge as the infinitesimal `Nudge.inf` (see Orb/Contains.lean).  Section
  `finite`: the nudge the Go code really performs, `Nudge.real next` — the instance `OrbProofs/C09Tie.lean` ties Go's
  `rayIntersect` to — for ANY `next` with `p.x < next p.x`, and for the concrete `next x = x + ε`: the exact per-edge
  condition under which the finite nudge answers what the infinitesimal one answers, hence `RingContains` = the closed
  even-odd region, and the two facts that need no condition on the size of the nudge (points of the boundary).
  What stays outside the theorems: the ROUNDING of `−` and `/` in float64 (ordered-field arithmetic is exact); the
  driver checks `edgeNudgeOK` with the real one-ulp step on every exact-spec case, so that there the answer rests on
  these theorems plus order-exactness of the float slopes, not on sampling.
-/
import OrbProofs.C09Lemmas
import Mathlib.Algebra.Order.AbsoluteValue.Basic
import Mathlib.Tactic.NormNum

namespace Orb.Contains
open Orb Orb.Core Orb.EvenOdd

-- the lemmas of a section are all stated over its ordered ring or field, also those that use less of it
set_option linter.unusedSectionVars false

section spec
variable {α : Type} [CommRing α] [LinearOrder α] [IsStrictOrderedRing α]

/-- The region does not depend on which vertex the ring starts at (every rotation). -/
theorem inside_rotate (a b : List (Pt α)) (p : Pt α) : inside (b ++ a) p = inside (a ++ b) p := by
  rw [inside_eq_insideE, inside_eq_insideE, insideE_perm (edges_rotate_perm a b) p]

theorem inside_rotateLeft (r : List (Pt α)) (k : Nat) (p : Pt α) : inside (r.rotateLeft k) p = inside r p := by
  unfold List.rotateLeft
  simp only [] -- the body starts with `have len := r.length`
  split_ifs with h
  · rfl
  · rw [inside_rotate, List.take_append_drop]

/-- … nor on its direction. -/
theorem inside_reverse (r : List (Pt α)) (p : Pt α) : inside r.reverse p = inside r p := by
  rw [inside_eq_insideE, inside_eq_insideE, insideE_perm (edges_reverse_perm r) p, insideE_swap]

/-- An explicitly closed ring (first vertex repeated at the end) has the region of the implicitly closed one. -/
theorem inside_close (v : Pt α) (t : List (Pt α)) (p : Pt α) : inside (v :: t ++ [v]) p = inside (v :: t) p := by
  rw [inside_eq_insideE, inside_eq_insideE, insideE_perm (edges_close_perm v t) p]
  exact insideE_cons_self v _ p ⟨lastD' v t, by rw [edges_cons]; exact List.mem_cons_self ..⟩

end spec

section model
variable {α : Type} [Field α] [LinearOrder α] [IsStrictOrderedRing α]

/-- `rayIntersect` reports `on` exactly for points of the closed segment (vertices, vertical and
    horizontal edges included) … -/
theorem rayIntersect_on (p s e : Pt α) : (rayIntersect Nudge.inf p s e).2 = onSeg s e p := by
  rw [ray_eq]; cases onSeg s e p <;> rfl

/-- … and otherwise `intersects` exactly when the upward ray crosses the edge under the half-open rule
    `min s.x e.x ≤ p.x < max s.x e.x` (every alignment: ray through a vertex, local extremum, horizontal edge). -/
theorem rayIntersect_crosses (p s e : Pt α) (h : onSeg s e p = false) :
    (rayIntersect Nudge.inf p s e).1 = crossesAbove s e p := by
  rw [ray_eq, h]; rfl

theorem ringContains_out (N : Nudge α) (eb : Bound α) (r : List (Pt α)) (p : Pt α)
    (h : (multiPointBound eb r).contains p = false) : ringContains N eb r p = .ok false := by
  unfold ringContains; rw [h]; rfl

theorem ringContains_tally (N : Nudge α) (eb : Bound α) (v : Pt α) (t : List (Pt α)) (p : Pt α)
    (h : (multiPointBound eb (v :: t)).contains p = true) :
    ringContains N eb (v :: t) p = .ok (tally N p ((v, lastD' v t) :: chain (v :: t))) := by
  unfold ringContains
  rw [h]
  simp only [Bool.not_true, Bool.false_eq_true, if_false]
  rw [getLast?_getD_eq, tally, List.any_cons, List.countP_cons, ringLoop_tally, parity_add_ite]
  generalize (((chain (v :: t)).countP fun se => (rayIntersect N p se.1 se.2).1) % 2 == 1) = d
  generalize (chain (v :: t)).any (fun se => (rayIntersect N p se.1 se.2).2) = o
  cases (rayIntersect N p v (lastD' v t)).2 <;> cases (rayIntersect N p v (lastD' v t)).1 <;> cases d <;> cases o <;> rfl

theorem not_contains_nil (eb : Bound α) (he : eb.isEmpty = true) (p : Pt α) :
    (multiPointBound eb []).contains p = false :=
  Bool.eq_false_iff.2 fun hb => (isEmpty_iff' eb).1 he ⟨p, (contains_iff' _ _).1 hb⟩

theorem ringContains_ok (N : Nudge α) (eb : Bound α) (he : eb.isEmpty = true) (r : List (Pt α)) (p : Pt α) :
    ∃ b, ringContains N eb r p = .ok b := by
  cases hb : (multiPointBound eb r).contains p with
  | false => exact ⟨false, ringContains_out N eb r p hb⟩
  | true =>
    cases r with
    | nil => rw [not_contains_nil eb he p] at hb; cases hb
    | cons v t => exact ⟨_, ringContains_tally N eb v t p hb⟩

/-- `RingContains` = the closed even-odd region of the implicitly closed ring; it never panics
    (the bound pre-test rejects only points outside the region, the empty ring included). -/
theorem ringContains_iff_inside (eb : Bound α) (he : eb.isEmpty = true) (r : List (Pt α)) (p : Pt α) :
    ringContains Nudge.inf eb r p = .ok (inside r p) := by
  cases hb : (multiPointBound eb r).contains p with
  | false =>
    rw [ringContains_out _ eb r p hb, inside_of_not_contains eb r p hb]
  | true =>
    cases r with
    | nil => rw [not_contains_nil eb he p] at hb; cases hb
    | cons v t =>
      -- the code tests the closing edge as `(first, last)`, the specification lists it as `(last, first)`
      rw [ringContains_tally _ eb v t p hb, tally_inf, inside_eq_insideE, edges_cons, insideE, insideE, List.any_cons,
        List.any_cons, List.countP_cons, List.countP_cons, onSeg_swap v, crossesAbove_swap v]

/-- hence the answer is independent of start vertex, direction and explicit closing -/
theorem ringContains_rotate (eb : Bound α) (he : eb.isEmpty = true) (a b : List (Pt α)) (p : Pt α) :
    ringContains Nudge.inf eb (b ++ a) p = ringContains Nudge.inf eb (a ++ b) p := by
  rw [ringContains_iff_inside eb he, ringContains_iff_inside eb he, inside_rotate]

theorem ringContains_reverse (eb : Bound α) (he : eb.isEmpty = true) (r : List (Pt α)) (p : Pt α) :
    ringContains Nudge.inf eb r.reverse p = ringContains Nudge.inf eb r p := by
  rw [ringContains_iff_inside eb he, ringContains_iff_inside eb he, inside_reverse]

theorem ringContains_close (eb : Bound α) (he : eb.isEmpty = true) (v : Pt α) (t : List (Pt α)) (p : Pt α) :
    ringContains Nudge.inf eb (v :: t ++ [v]) p = ringContains Nudge.inf eb (v :: t) p := by
  rw [ringContains_iff_inside eb he, ringContains_iff_inside eb he, inside_close]

/-! The entry points are loops over the level below; what they answer needs nothing about the answers `f`, `g` of
    that level but that they are answers (no error, no panic). -/

theorem holesLoop_of_ok (N : Nudge α) (eb : Bound α) (p : Pt α) (f : List (Pt α) → Bool) (holes : List (List (Pt α)))
    (h : ∀ rg ∈ holes, ringContains N eb rg p = .ok (f rg)) :
    holesLoop N eb p holes = .ok (holes.all fun h => !f h) := by
  induction holes with
  | nil => rfl
  | cons hd t ih =>
    rw [holesLoop, h hd (List.mem_cons_self ..), List.all_cons]
    have ih' := ih fun rg hrg => h rg (List.mem_cons_of_mem _ hrg)
    cases f hd
    · simpa using ih'
    · rfl

theorem polygonContains_of_ok (N : Nudge α) (eb : Bound α) (f : List (Pt α) → Bool) (outer : List (Pt α))
    (holes : List (List (Pt α))) (p : Pt α) (h : ∀ rg ∈ outer :: holes, ringContains N eb rg p = .ok (f rg)) :
    polygonContains N eb (outer :: holes) p = .ok (f outer && holes.all fun h => !f h) := by
  rw [polygonContains, h outer (List.mem_cons_self ..)]
  have hh := holesLoop_of_ok N eb p f holes fun rg hrg => h rg (List.mem_cons_of_mem _ hrg)
  cases f outer
  · rfl
  · simpa using hh

theorem multiPolygonContains_of_ok (N : Nudge α) (eb : Bound α) (g : List (List (Pt α)) → Bool)
    (mp : List (List (List (Pt α)))) (p : Pt α) (h : ∀ pg ∈ mp, polygonContains N eb pg p = .ok (g pg)) :
    multiPolygonContains N eb mp p = .ok (mp.any g) := by
  induction mp with
  | nil => rfl
  | cons pg t ih =>
    rw [multiPolygonContains, h pg (List.mem_cons_self ..), List.any_cons]
    have ih' := ih fun q hq => h q (List.mem_cons_of_mem _ hq)
    cases g pg
    · simpa using ih'
    · rfl

theorem polygonContains_of_rings (N : Nudge α) (eb : Bound α) (outer : List (Pt α)) (holes : List (List (Pt α)))
    (p : Pt α) (h : ∀ rg ∈ outer :: holes, ringContains N eb rg p = .ok (inside rg p)) :
    polygonContains N eb (outer :: holes) p = .ok (inside outer p && holes.all fun h => !inside h p) :=
  polygonContains_of_ok N eb (inside · p) outer holes p h

theorem multiPolygonContains_of_rings (N : Nudge α) (eb : Bound α) (mp : List (List (List (Pt α))))
    (hne : ∀ pg ∈ mp, pg ≠ []) (p : Pt α)
    (h : ∀ pg ∈ mp, ∀ rg ∈ pg, ringContains N eb rg p = .ok (inside rg p)) :
    multiPolygonContains N eb mp p = .ok (mp.any fun pg => polyInside pg p) :=
  multiPolygonContains_of_ok N eb (polyInside · p) mp p fun pg hpg => by
    cases pg with
    | nil => exact absurd rfl (hne [] hpg)
    | cons outer holes => exact polygonContains_of_rings N eb outer holes p (h _ hpg)

theorem polygonContains_of_hole (N : Nudge α) (eb : Bound α) (outer : List (Pt α)) (holes : List (List (Pt α)))
    (p : Pt α) (hok : ∀ rg ∈ outer :: holes, ∃ b, ringContains N eb rg p = .ok b)
    (hole : List (Pt α)) (hm : hole ∈ holes) (hb : ringContains N eb hole p = .ok true) :
    polygonContains N eb (outer :: holes) p = .ok false := by
  -- every ring answers, so it answers whether its answer is `true`
  have hf : ∀ rg ∈ outer :: holes, ringContains N eb rg p = .ok (decide (ringContains N eb rg p = .ok true)) :=
    fun rg hrg => by
      obtain ⟨b, hb'⟩ := hok rg hrg
      rw [hb']; cases b <;> rfl
  rw [polygonContains_of_ok N eb _ outer holes p hf,
    Bool.and_eq_false_imp.2 fun _ => List.all_eq_false.2 ⟨hole, hm, by rw [hb]; exact Bool.false_ne_true⟩]

/-- A polygon contains a point iff its outer ring does and no hole does. -/
theorem polygonContains_iff (eb : Bound α) (he : eb.isEmpty = true) (outer : List (Pt α))
    (holes : List (List (Pt α))) (p : Pt α) :
    polygonContains Nudge.inf eb (outer :: holes) p = .ok (inside outer p && holes.all fun h => !inside h p) :=
  polygonContains_of_rings _ eb outer holes p fun rg _ => ringContains_iff_inside eb he rg p

/-- A multi-polygon (of polygons that have an outer ring) contains a point iff any member does. -/
theorem multiPolygonContains_iff (eb : Bound α) (he : eb.isEmpty = true) (mp : List (List (List (Pt α))))
    (hne : ∀ pg ∈ mp, pg ≠ []) (p : Pt α) :
    multiPolygonContains Nudge.inf eb mp p = .ok (mp.any fun pg => polyInside pg p) :=
  multiPolygonContains_of_rings _ eb mp hne p fun _ _ rg _ => ringContains_iff_inside eb he rg p

end model

section finite
variable {α : Type} [Field α] [LinearOrder α] [IsStrictOrderedRing α]

/-- the condition does not depend on the direction of the edge -/
theorem edgeNudgeOK_swap (next : α → α) (p s e : Pt α) : edgeNudgeOK next p e s = edgeNudgeOK next p s e := by
  unfold edgeNudgeOK
  rcases lt_trichotomy s.x e.x with h | h | h
  · simp only [if_pos h, if_neg h.not_gt]
  · simp only [h, lt_irrefl, if_false, decide_false, Bool.and_false, Bool.false_and, Bool.false_eq_true]
  · simp only [if_pos h, if_neg h.not_gt]

/-- PER EDGE, EXACTLY.  For any finite nudge (`p.x < next p.x`), `rayIntersect` answers what it answers with
    the infinitesimal nudge IF AND ONLY IF `edgeNudgeOK next p s e` (Orb/Contains.lean): unless the query
    is level with the left endpoint `l` of a non-vertical edge `l r` (and is not `l`) nothing is required;
    there, below `l`: `next p.x ≤ r.x` and (`p.y < r.y` or the nudged point is still strictly under the
    edge's line); above `l`: the nudged point has left the edge's box or is still strictly over its line. -/
theorem rayIntersect_finite_nudge_iff (next : α → α) (p s e : Pt α) (hn : p.x < next p.x) :
    rayIntersect (Nudge.real next) p s e = rayIntersect Nudge.inf p s e ↔ edgeNudgeOK next p s e = true := by
  rcases le_or_gt s.x e.x with h | h
  · exact finite_nudge_iff_of_le next p s e hn h
  · rw [ray_swap _ p s e h, ray_swap _ p s e h, ← edgeNudgeOK_swap next p s e]
    exact finite_nudge_iff_of_le next p e s hn h.le

theorem edgeNudgeOK_of_onSeg (next : α → α) (p s e : Pt α) (h : onSeg s e p = true) :
    edgeNudgeOK next p s e = true := by
  rcases le_total s.x e.x with hx | hx
  · exact (edgeNudgeOK_iff_of_le next p s e hx).2 fun a => absurd a (not_levelLeft_of_onSeg p s e h)
  · rw [← edgeNudgeOK_swap]
    exact (edgeNudgeOK_iff_of_le next p e s hx).2 fun a =>
      absurd a (not_levelLeft_of_onSeg p e s (by rw [onSeg_swap]; exact h))

/-- On the closed segment every finite nudge reports `on`, whatever its size. -/
theorem rayIntersect_real_on (next : α → α) (p s e : Pt α) (hn : p.x < next p.x) (h : onSeg s e p = true) :
    rayIntersect (Nudge.real next) p s e = (false, true) := by
  rw [(rayIntersect_finite_nudge_iff next p s e hn).2 (edgeNudgeOK_of_onSeg next p s e h), ray_eq, h]; rfl

theorem tally_congr (N₁ N₂ : Nudge α) (p : Pt α) (E : List (Pt α × Pt α))
    (h : ∀ se ∈ E, rayIntersect N₁ p se.1 se.2 = rayIntersect N₂ p se.1 se.2) : tally N₁ p E = tally N₂ p E := by
  have h2 : (E.any fun se => (rayIntersect N₁ p se.1 se.2).2) = E.any fun se => (rayIntersect N₂ p se.1 se.2).2 := by
    rw [Bool.eq_iff_iff, List.any_eq_true, List.any_eq_true]
    exact ⟨fun ⟨x, hx, a⟩ => ⟨x, hx, h x hx ▸ a⟩, fun ⟨x, hx, a⟩ => ⟨x, hx, (h x hx).symm ▸ a⟩⟩
  rw [tally, tally, h2, List.countP_congr fun se hse => by rw [h se hse]]

theorem ringContains_real_eq_inf (next : α → α) (eb : Bound α) (r : List (Pt α)) (p : Pt α) (hn : p.x < next p.x)
    (h : ∀ se ∈ edges r, edgeNudgeOK next p se.1 se.2 = true) :
    ringContains (Nudge.real next) eb r p = ringContains Nudge.inf eb r p := by
  cases r with
  | nil => rfl
  | cons v t =>
    cases hb : (multiPointBound eb (v :: t)).contains p with
    | false => rw [ringContains_out _ eb _ p hb, ringContains_out _ eb _ p hb]
    | true =>
      rw [ringContains_tally _ eb v t p hb, ringContains_tally _ eb v t p hb]
      rw [edges_cons] at h
      refine congrArg _ (tally_congr _ _ p _ fun se hse => (rayIntersect_finite_nudge_iff next p _ _ hn).2 ?_)
      rcases List.mem_cons.1 hse with rfl | hse
      · rw [edgeNudgeOK_swap]; exact h (lastD' v t, v) (List.mem_cons_self ..)
      · exact h se (List.mem_cons_of_mem _ hse)

/-- On the boundary `RingContains` answers `true` with every finite nudge, whatever its size.  (`he` is the property's
    precondition; the proof does not use it: a ring with a boundary point is not empty.) -/
theorem ringContains_real_on_boundary (next : α → α) (eb : Bound α) (he : eb.isEmpty = true) (r : List (Pt α))
    (p : Pt α) (hn : p.x < next p.x) (hb : onBoundary r p = true) :
    ringContains (Nudge.real next) eb r p = .ok true := by
  have _ := he -- (not needed: a ring with a boundary point is not empty)
  cases r with
  | nil => simp [onBoundary, edges] at hb
  | cons v t =>
    -- a boundary point is in the region, hence inside the bound
    have hc : (multiPointBound eb (v :: t)).contains p = true := by
      by_contra hc
      have := inside_of_not_contains eb (v :: t) p (Bool.eq_false_iff.2 hc)
      rw [inside, hb] at this
      cases this
    rw [onBoundary, edges_cons, List.any_eq_true] at hb
    obtain ⟨se, hse, ho⟩ := hb
    rw [ringContains_tally _ eb v t p hc, tally, List.any_eq_true.2, Bool.true_or]
    rcases List.mem_cons.1 hse with rfl | hse
    · exact ⟨_, List.mem_cons_self .., by rw [rayIntersect_real_on next p _ _ hn (by rw [onSeg_swap]; exact ho)]⟩
    · exact ⟨se, List.mem_cons_of_mem _ hse, by rw [rayIntersect_real_on next p _ _ hn ho]⟩

/-- RING LEVEL, any finite nudge: if, off the boundary, every edge of the implicitly closed ring meets the exact
    per-edge condition, `RingContains` = the closed even-odd region. -/
theorem ringContains_finite_nudge_exact (next : α → α) (eb : Bound α) (he : eb.isEmpty = true) (r : List (Pt α))
    (p : Pt α) (hn : p.x < next p.x)
    (h : onBoundary r p = false → ∀ se ∈ edges r, edgeNudgeOK next p se.1 se.2 = true) :
    ringContains (Nudge.real next) eb r p = .ok (inside r p) := by
  cases hb : onBoundary r p with
  | true =>
    rw [ringContains_real_on_boundary next eb he r p hn hb, inside, hb]; rfl
  | false =>
    rw [ringContains_real_eq_inf next eb r p hn (h hb), ringContains_iff_inside eb he]

theorem sub_mul_neg_of_abs {c d x : α} (hc : c < 0) (hd : d ≤ 0) (h : x * |d| < |c|) : c - d * x < 0 := by
  rw [abs_of_nonpos hd, abs_of_neg hc, mul_neg, neg_lt_neg_iff, mul_comm] at h
  exact sub_neg.2 h

theorem sub_mul_pos_of_abs {c d x : α} (hc : 0 < c) (hd : 0 ≤ d) (h : x * |d| < |c|) : 0 < c - d * x := by
  rw [abs_of_nonneg hd, abs_of_pos hc, mul_comm] at h
  exact sub_pos.2 h

theorem edgeNudgeOK_of_small_of_le (ε : α) (p l r : Pt α) (h : l.x ≤ r.x)
    (ge : p.x < r.x → p.x + ε ≤ r.x)
    (hs : l.x ≠ r.x → p.x = min l.x r.x → min l.y r.y ≤ p.y → p.y ≤ max l.y r.y →
      ε * |r.y - l.y| < |EvenOdd.cross l r p|) :
    edgeNudgeOK (· + ε) p l r = true := by
  refine (edgeNudgeOK_iff_of_le _ p l r h).2 fun c => ?_
  have hs' := hs c.2.1.ne (c.1.trans (min_eq_left h).symm)
  -- the cross product is affine in the abscissa
  have hC : EvenOdd.cross l r ⟨p.x + ε, p.y⟩ = EvenOdd.cross l r p - (r.y - l.y) * ε := by
    rw [EvenOdd.cross, EvenOdd.cross, add_sub_right_comm, mul_add, sub_add_eq_sub_sub]
  rw [hC]
  split_ifs with c4
  · exact ⟨ge (c.1 ▸ c.2.1), (lt_or_ge p.y r.y).imp_right fun c5 =>
      sub_mul_neg_of_abs (cross_neg_of_levelLeft c c4) (sub_nonpos.2 (c5.trans c4.le))
        (hs' (min_le_of_right_le c5) (le_max_of_le_left c4.le))⟩
  · have c4' : l.y < p.y := lt_of_le_of_ne (not_lt.1 c4) (Ne.symm c.2.2)
    exact fun _ c5 => sub_mul_pos_of_abs (cross_pos_of_levelLeft c c4') (sub_nonneg.2 (c4'.le.trans c5))
      (hs' (min_le_of_left_le c4'.le) (le_max_of_le_right c5))

theorem edgeNudgeOK_of_small (ε : α) (p s e : Pt α)
    (gs : p.x < s.x → p.x + ε ≤ s.x) (ge : p.x < e.x → p.x + ε ≤ e.x)
    (hs : s.x ≠ e.x → p.x = min s.x e.x → min s.y e.y ≤ p.y → p.y ≤ max s.y e.y →
      ε * |e.y - s.y| < |EvenOdd.cross s e p|) :
    edgeNudgeOK (· + ε) p s e = true := by
  rcases le_or_gt s.x e.x with h | h
  · exact edgeNudgeOK_of_small_of_le ε p s e h ge hs
  · rw [← edgeNudgeOK_swap]
    refine edgeNudgeOK_of_small_of_le ε p e s h.le gs ?_
    intro a b c d
    rw [cross_swap, abs_neg, abs_sub_comm]
    exact hs a.symm (by rw [min_comm]; exact b) (by rw [min_comm]; exact c) (by rw [max_comm]; exact d)

/-- EDGE LEVEL, the concrete nudge `next x = x + ε`, `ε > 0`.  Sufficient: `ε` is at most the gap to either
    endpoint abscissa on the right of the query, and — only if the query is level with the edge's LEFT
    endpoint, the edge is not vertical and its `y`-range contains `p.y` — `ε·|e.y − s.y| < |cross s e p|`,
    i.e. `ε` is smaller than the horizontal distance from `p` to the edge's line (the gap that decides the
    slope comparison `rs ⋚ ds`). -/
theorem rayIntersect_finite_nudge (ε : α) (hε : 0 < ε) (p s e : Pt α)
    (gs : p.x < s.x → p.x + ε ≤ s.x) (ge : p.x < e.x → p.x + ε ≤ e.x)
    (hs : s.x ≠ e.x → p.x = min s.x e.x → min s.y e.y ≤ p.y → p.y ≤ max s.y e.y →
      ε * |e.y - s.y| < |EvenOdd.cross s e p|) :
    rayIntersect (Nudge.real (· + ε)) p s e = rayIntersect Nudge.inf p s e :=
  (rayIntersect_finite_nudge_iff _ p s e (show p.x < p.x + ε from lt_add_of_pos_right _ hε)).2 (edgeNudgeOK_of_small ε p s e gs ge hs)

/-- RING LEVEL, the concrete nudge `next x = x + ε`, `ε > 0`.  If — off the boundary; on it nothing is required — every
    edge meets the sufficient condition of `rayIntersect_finite_nudge` (the gaps taken to the vertex abscissae), then
    `RingContains`, computed with the real nudge, is the closed even-odd region of the implicitly closed ring. -/
theorem ringContains_finite_nudge (ε : α) (hε : 0 < ε) (eb : Bound α) (he : eb.isEmpty = true)
    (r : List (Pt α)) (p : Pt α)
    (hgap : onBoundary r p = false → ∀ v ∈ r, p.x < v.x → p.x + ε ≤ v.x)
    (hslope : onBoundary r p = false → ∀ se ∈ edges r, se.1.x ≠ se.2.x → p.x = min se.1.x se.2.x →
      min se.1.y se.2.y ≤ p.y → p.y ≤ max se.1.y se.2.y →
      ε * |se.2.y - se.1.y| < |EvenOdd.cross se.1 se.2 p|) :
    ringContains (Nudge.real (· + ε)) eb r p = .ok (inside r p) :=
  ringContains_finite_nudge_exact _ eb he r p (show p.x < p.x + ε from lt_add_of_pos_right _ hε) fun hb se hse =>
    have hm := mem_edges (s := se.1) (e := se.2) hse
    edgeNudgeOK_of_small ε p se.1 se.2 (hgap hb _ hm.1) (hgap hb _ hm.2) (hslope hb se hse)

/-- every edge meets the exact per-edge condition, or the point is on the boundary (where nothing is required) -/
def NudgeCond (next : α → α) (r : List (Pt α)) (p : Pt α) : Prop :=
  (∀ se ∈ edges r, edgeNudgeOK next p se.1 se.2 = true) ∨ onBoundary r p = true

omit [IsStrictOrderedRing α] in
/-- WHAT THE DRIVER EVALUATES on every exact-spec case (with `next` the real one-ulp step of the query abscissa):
    every edge meets the exact condition, or the point is on the boundary … -/
theorem nudgeCond_iff (next : α → α) (r : List (Pt α)) (p : Pt α) :
    NudgeCond next r p ↔
      (((edges r).all fun se => edgeNudgeOK next p se.1 se.2) || onBoundary r p) = true := by
  simp [NudgeCond, List.all_eq_true]

/-- … which gives `RingContains` = even-odd region with that finite nudge …  (The prime belongs to the name the driver
    quotes; there is no unprimed `ringContains_of_nudgeCond`.) -/
theorem ringContains_of_nudgeCond' (next : α → α) (eb : Bound α) (he : eb.isEmpty = true) (r : List (Pt α))
    (p : Pt α) (hn : p.x < next p.x) (c : NudgeCond next r p) :
    ringContains (Nudge.real next) eb r p = .ok (inside r p) := by
  apply ringContains_finite_nudge_exact next eb he r p hn
  intro hb
  rcases c with c | c
  · exact c
  · rw [hb] at c; exact absurd c (by simp)

/-- `NudgeCond` as a predicate of the edge list -/
def NudgeCondE (next : α → α) (p : Pt α) (E : List (Pt α × Pt α)) : Prop :=
  (∀ se ∈ E, edgeNudgeOK next p se.1 se.2 = true) ∨ (E.any fun se => onSeg se.1 se.2 p) = true

theorem nudgeCondE_perm (next : α → α) (p : Pt α) {E F : List (Pt α × Pt α)} (h : E.Perm F) :
    NudgeCondE next p E ↔ NudgeCondE next p F := by
  unfold NudgeCondE
  rw [List.any_eq_true, List.any_eq_true]
  exact or_congr (forall_congr' fun se => by rw [h.mem_iff]) (exists_congr fun se => by rw [h.mem_iff])

theorem nudgeCondE_swap (next : α → α) (p : Pt α) (E : List (Pt α × Pt α)) :
    NudgeCondE next p (E.map Prod.swap) ↔ NudgeCondE next p E := by
  unfold NudgeCondE
  rw [List.any_map, List.forall_mem_map]
  refine or_congr (forall_congr' fun se => ?_) ?_
  · rw [Prod.fst_swap, Prod.snd_swap, edgeNudgeOK_swap]
  · rw [show ((fun se : Pt α × Pt α => onSeg se.1 se.2 p) ∘ Prod.swap) = fun se => onSeg se.1 se.2 p from
      funext fun se => onSeg_swap _ _ _]

theorem nudgeCondE_cons (next : α → α) (p : Pt α) (e : Pt α × Pt α) (E : List (Pt α × Pt α))
    (he : edgeNudgeOK next p e.1 e.2 = true) (c : NudgeCondE next p E) : NudgeCondE next p (e :: E) :=
  c.imp (fun c => List.forall_mem_cons.2 ⟨he, c⟩) fun c => by rw [List.any_cons, c, Bool.or_true]

/-- … and passes from a ring to every rotation, to its reversal and to its explicit closing (so it is evaluated on
    the base ring of a case only). -/
theorem nudgeCond_rotate (next : α → α) (a b : List (Pt α)) (p : Pt α) (c : NudgeCond next (a ++ b) p) :
    NudgeCond next (b ++ a) p :=
  (nudgeCondE_perm next p (edges_rotate_perm a b)).2 c

theorem nudgeCond_reverse (next : α → α) (r : List (Pt α)) (p : Pt α) (c : NudgeCond next r p) :
    NudgeCond next r.reverse p :=
  (nudgeCondE_perm next p (edges_reverse_perm r)).2 ((nudgeCondE_swap next p _).2 c)

theorem nudgeCond_close (next : α → α) (v : Pt α) (t : List (Pt α)) (p : Pt α) (c : NudgeCond next (v :: t) p) :
    NudgeCond next (v :: t ++ [v]) p :=
  (nudgeCondE_perm next p (edges_close_perm v t)).2 (nudgeCondE_cons next p (v, v) _ (by simp [edgeNudgeOK]) c)

/-- ENTRY POINTS with a finite nudge: `PolygonContains` = inside the outer ring and in no hole … -/
theorem polygonContains_finite_nudge_exact (next : α → α) (eb : Bound α) (he : eb.isEmpty = true)
    (outer : List (Pt α)) (holes : List (List (Pt α))) (p : Pt α) (hn : p.x < next p.x)
    (h : ∀ rg ∈ outer :: holes, onBoundary rg p = false → ∀ se ∈ edges rg, edgeNudgeOK next p se.1 se.2 = true) :
    polygonContains (Nudge.real next) eb (outer :: holes) p =
      .ok (inside outer p && holes.all fun h => !inside h p) :=
  polygonContains_of_rings _ eb outer holes p fun rg hrg => ringContains_finite_nudge_exact next eb he rg p hn (h rg hrg)

/-- … and `MultiPolygonContains` = any member. -/
theorem multiPolygonContains_finite_nudge_exact (next : α → α) (eb : Bound α) (he : eb.isEmpty = true)
    (mp : List (List (List (Pt α)))) (hne : ∀ pg ∈ mp, pg ≠ []) (p : Pt α) (hn : p.x < next p.x)
    (h : ∀ pg ∈ mp, ∀ rg ∈ pg, onBoundary rg p = false → ∀ se ∈ edges rg, edgeNudgeOK next p se.1 se.2 = true) :
    multiPolygonContains (Nudge.real next) eb mp p = .ok (mp.any fun pg => polyInside pg p) :=
  multiPolygonContains_of_rings _ eb mp hne p fun pg hpg rg hrg =>
    ringContains_finite_nudge_exact next eb he rg p hn (h pg hpg rg hrg)

/-- HOLE BOUNDARIES.  "No hole contains the point" uses the CLOSED region of the hole: a point on a hole's
    boundary (a hole vertex included) is NOT in the polygon — `PolygonContains` answers `false` — although the
    function's comment says "Points on the boundary are considered in" (true of the outer ring's boundary only,
    and there only if no hole contains the point).  With the infinitesimal nudge … -/
theorem polygonContains_on_hole_boundary (eb : Bound α) (he : eb.isEmpty = true)
    (outer : List (Pt α)) (holes : List (List (Pt α))) (p : Pt α)
    (hole : List (Pt α)) (hm : hole ∈ holes) (hb : onBoundary hole p = true) :
    polygonContains Nudge.inf eb (outer :: holes) p = .ok false :=
  polygonContains_of_hole _ eb outer holes p (fun rg _ => ⟨_, ringContains_iff_inside eb he rg p⟩) hole hm
    (by rw [ringContains_iff_inside eb he, inside, hb]; rfl)

/-- … and with every finite nudge, whatever its size and whatever it does on the other rings. -/
theorem polygonContains_real_on_hole_boundary (next : α → α) (eb : Bound α) (he : eb.isEmpty = true)
    (outer : List (Pt α)) (holes : List (List (Pt α))) (p : Pt α) (hn : p.x < next p.x)
    (hole : List (Pt α)) (hm : hole ∈ holes) (hb : onBoundary hole p = true) :
    polygonContains (Nudge.real next) eb (outer :: holes) p = .ok false :=
  polygonContains_of_hole _ eb outer holes p (fun rg _ => ringContains_ok _ eb he rg p) hole hm
    (ringContains_real_on_boundary next eb he hole p hn hb)

end finite

/-- (note, outside the property's quantifier) a polygon with no rings indexes `p[0]`: the code panics -/
theorem polygonContains_nil {α : Type} [Sub α] [Div α] [OfNat α 0] [BEq α] [LT α] [LE α] [DecidableLT α] [DecidableLE α]
    [Min α] [Max α] (N : Nudge α) (eb : Bound α) (p : Pt α) :
    (polygonContains N eb [] p).isPanic = true := rfl

/-- Non-vacuity: a concrete triangle, a point strictly inside, a vertex, a point on the closing edge,
    a point level with a vertex but outside, evaluated by the spec over `Int`. -/
example : inside ([⟨0, 0⟩, ⟨4, 0⟩, ⟨4, 4⟩] : List (Pt Int)) ⟨3, 1⟩ = true ∧
    inside ([⟨0, 0⟩, ⟨4, 0⟩, ⟨4, 4⟩] : List (Pt Int)) ⟨4, 4⟩ = true ∧
    inside ([⟨0, 0⟩, ⟨4, 0⟩, ⟨4, 4⟩] : List (Pt Int)) ⟨2, 2⟩ = true ∧
    inside ([⟨0, 0⟩, ⟨4, 0⟩, ⟨4, 4⟩] : List (Pt Int)) ⟨0, 4⟩ = false ∧
    inside ([⟨0, 0⟩, ⟨4, 0⟩, ⟨4, 4⟩] : List (Pt Int)) ⟨1, 2⟩ = false := by decide

/-- Non-vacuity of the finite-nudge hypotheses, and their sharpness.  Triangle `(0,2) (4,0) (4,4)`, query `(0,1)`
    directly below the left vertex: the slope condition reads `ε·2 < 4`.  `ε = 1` meets the hypotheses of
    `ringContains_finite_nudge`; … -/
example : let r : List (Pt ℚ) := [⟨0, 2⟩, ⟨4, 0⟩, ⟨4, 4⟩]; let p : Pt ℚ := ⟨0, 1⟩
    (∀ v ∈ r, p.x < v.x → p.x + 1 ≤ v.x) ∧
    (∀ se ∈ edges r, se.1.x ≠ se.2.x → p.x = min se.1.x se.2.x → min se.1.y se.2.y ≤ p.y → p.y ≤ max se.1.y se.2.y →
      1 * |se.2.y - se.1.y| < |EvenOdd.cross se.1 se.2 p|) := by
  decide +kernel

/-- … at `ε = 2` the nudged point `(2,1)` lies ON the edge `(0,2) (4,0)` and `rayIntersect` with that finite
    nudge differs from the infinitesimal one (it reports `on` for a point that is not on the ring). -/
example : rayIntersect (Nudge.real (· + (2 : ℚ))) (⟨0, 1⟩ : Pt ℚ) ⟨0, 2⟩ ⟨4, 0⟩ ≠
    rayIntersect Nudge.inf (⟨0, 1⟩ : Pt ℚ) ⟨0, 2⟩ ⟨4, 0⟩ := by
  intro h
  have := (rayIntersect_finite_nudge_iff (· + (2 : ℚ)) (⟨0, 1⟩ : Pt ℚ) ⟨0, 2⟩ ⟨4, 0⟩ (by norm_num)).1 h
  norm_num [edgeNudgeOK] at this

end Orb.Contains
