/-
  C12 lemmas: Douglas-Peucker for an arbitrary segment-distance function `dist`: the kept indices, the
  work-list loop against the recursive definition, error bound, nesting; the recursion as a relation
  (`DPL`): read on indices it is what `dpRec` computes (whence the range and order of the kept indices and
  that fuel does not matter), read on points it is free of indices: a run on `a :: mid ++ [b]` returns the two ends
  and what the relation keeps of `mid` (`dpWith_eq`), whence idempotence.
-/
import OrbProofs.C12Basic
import Mathlib.Data.List.Basic

set_option linter.unusedSectionVars false

namespace Orb.Simplify
open Orb

theorem getD_set_true (mask : List Bool) (m i : Nat) :
    (mask.set m true).getD i false = true ↔ mask.getD i false = true ∨ (i = m ∧ m < mask.length) := by
  simp only [List.getD_eq_getElem?_getD, List.getElem?_set]
  by_cases h : m = i
  · subst h
    by_cases h2 : m < mask.length <;> simp [h2]
  · simp [h]; omega

theorem getD_set_true_of_lt (mask : List Bool) (m i : Nat) (hm : m < mask.length) :
    (mask.set m true).getD i false = true ↔ mask.getD i false = true ∨ i = m := by
  rw [getD_set_true, and_iff_left hm]

theorem mem_maskIdx (mask : List Bool) (i : Nat) :
    i ∈ maskIdx mask ↔ i < mask.length ∧ mask.getD i false = true := by
  simp [maskIdx]

theorem maskIdx_pairwise (mask : List Bool) : (maskIdx mask).Pairwise (· < ·) :=
  List.Pairwise.filter _ List.pairwise_lt_range

theorem getD_replicate_false (n i : Nat) : (List.replicate n false).getD i false = false := by
  simp only [List.getD_eq_getElem?_getD, List.getElem?_replicate]
  split <;> rfl

theorem maskIdx_ends (mask : List Bool) (n : Nat) (hl : mask.length = n + 1) (h0 : mask.getD 0 false = true)
    (hn : mask.getD n false = true) : (maskIdx mask).head? = some 0 ∧ (maskIdx mask).getLast? = some n := by
  unfold maskIdx
  rw [hl]
  constructor
  · rw [List.range_succ_eq_map, List.filter_cons_of_pos (by simpa using h0)]; rfl
  · rw [List.range_succ, List.filter_append, List.filter_cons_of_pos (by simpa using hn), List.filter_nil,
      List.getLast?_append, List.getLast?_singleton]; rfl

theorem pairwise_lt_ext {l₁ l₂ : List Nat} (h₁ : l₁.Pairwise (· < ·)) (h₂ : l₂.Pairwise (· < ·))
    (h : ∀ i, i ∈ l₁ ↔ i ∈ l₂) : l₁ = l₂ := by
  apply List.Perm.eq_of_pairwise (le := (· < ·)) _ h₁ h₂
  · exact (List.perm_ext_iff_of_nodup (h₁.imp Nat.ne_of_lt) (h₂.imp Nat.ne_of_lt)).2 h
  · intro a b _ _ hab hba; omega

theorem adjacent_mem {β : Type} {l : List β} {i j : β} (h : Adjacent l i j) : i ∈ l ∧ j ∈ l := by
  obtain ⟨l1, l2, rfl⟩ := h
  simp

section anyArithmetic
variable {α : Type} [Mul α] [LT α] [DecidableLT α] [OfNat α 0]

omit [Mul α] in
theorem dpWorker_mono (dist : Pt α → Pt α → Pt α → α) (ls : List (Pt α)) (tsq : α) :
    ∀ (fuel : Nat) (stack : List (Nat × Nat)) (mask mask' : List Bool),
      dpWorker dist ls tsq fuel stack mask = some mask' →
      mask'.length = mask.length ∧ ∀ i, mask.getD i false = true → mask'.getD i false = true := by
  intro fuel
  induction fuel with
  | zero =>
    intro stack mask mask' h
    cases stack with
    | nil => simp [dpWorker] at h; subst h; simp
    | cons p rest => simp [dpWorker] at h
  | succ fuel ih =>
    intro stack mask mask' h
    cases stack with
    | nil => simp [dpWorker] at h; subst h; simp
    | cons p rest =>
      obtain ⟨s, e⟩ := p
      simp only [dpWorker] at h
      split at h
      · obtain ⟨h1, h2⟩ := ih _ _ _ h
        refine ⟨by simpa using h1, fun i hi => h2 i ?_⟩
        exact (getD_set_true _ _ _).2 (Or.inl hi)
      · exact ih _ _ _ h

theorem dpMask_ends (dist : Pt α → Pt α → Pt α → α) (t : α) (ls : List (Pt α)) (mask : List Bool)
    (h : dpMask dist t ls = some mask) :
    mask.length = ls.length ∧ (0 < ls.length → mask.getD 0 false = true ∧ mask.getD (ls.length - 1) false = true) := by
  unfold dpMask at h
  obtain ⟨h1, h2⟩ := dpWorker_mono _ _ _ _ _ _ _ h
  refine ⟨by simpa using h1, fun hn => ⟨h2 _ ?_, h2 _ ?_⟩⟩
  · rw [getD_set_true, getD_set_true]
    by_cases h : 0 = ls.length - 1
    · right; simp; omega
    · left; right; simp; omega
  · rw [getD_set_true]
    right; simp; omega

theorem dpWith_kept (dist : Pt α → Pt α → Pt α → α) (t : α) (ls out : List (Pt α))
    (h : dpSimplifyWith dist t ls = .ok out) :
    ∃ idx, (dpMask dist t ls).map maskIdx = some idx ∧ KeptAt ls idx out := by
  unfold dpSimplifyWith at h
  split at h
  · simp at h
  · rename_i hn
    split at h
    · simp at h
    · rename_i mask hm
      obtain ⟨h1, h2⟩ := dpMask_ends _ _ _ _ hm
      obtain ⟨h3, h4⟩ := h2 (by omega)
      obtain ⟨k, hk⟩ : ∃ k, ls.length = k + 1 := ⟨ls.length - 1, by omega⟩
      have hs : (maskIdx mask).Sublist (List.range ls.length) := h1 ▸ List.filter_sublist
      rw [hk] at h4
      obtain ⟨hd, lst⟩ := maskIdx_ends mask k (h1.trans hk) h3 h4
      refine ⟨maskIdx mask, by simp [hm], hs, hd, by rw [hk]; exact lst, ?_⟩
      injection h with h
      rw [← h, compact_eq_filterMap _ _ hs]

end anyArithmetic

section scan
variable {α : Type} [LinearOrder α]

/-- one step of the inner scan for the distance-by-index function `d` -/
def scanF (d : Nat → α) (m : α × Nat) (i : Nat) : α × Nat := if m.1 < d i then (d i, i) else m

theorem scanF_pos {d : Nat → α} {m : α × Nat} {i : Nat} (h : m.1 < d i) : scanF d m i = (d i, i) := by
  unfold scanF; rw [if_pos h]

theorem scanF_neg {d : Nat → α} {m : α × Nat} {i : Nat} (h : ¬ m.1 < d i) : scanF d m i = m := by
  unfold scanF; rw [if_neg h]

theorem scan_max (d : Nat → α) : ∀ (l : List Nat) (m : α × Nat),
    m.1 ≤ (l.foldl (scanF d) m).1 ∧ ∀ k ∈ l, d k ≤ (l.foldl (scanF d) m).1 := by
  intro l
  induction l with
  | nil => intro m; exact ⟨le_refl _, fun k hk => by cases hk⟩
  | cons i l ih =>
    intro m
    obtain ⟨h1, h2⟩ := ih (scanF d m i)
    have hm : m.1 ≤ (scanF d m i).1 ∧ d i ≤ (scanF d m i).1 := by
      by_cases hlt : m.1 < d i
      · rw [scanF_pos hlt]; exact ⟨le_of_lt hlt, le_refl _⟩
      · rw [scanF_neg hlt]; exact ⟨le_refl _, not_lt.1 hlt⟩
    refine ⟨hm.1.trans h1, fun k hk => ?_⟩
    rcases List.mem_cons.1 hk with rfl | hk
    · exact hm.2.trans h1
    · exact h2 k hk

theorem scan_first [Zero α] (d : Nat → α) (a : Nat) : ∀ len : Nat,
    let r := (List.range' a len).foldl (scanF d) ((0 : α), 0)
    r = (0, 0) ∨ (a ≤ r.2 ∧ r.2 < a + len ∧ r.1 = d r.2 ∧ 0 < r.1 ∧ ∀ k, a ≤ k → k < r.2 → d k < r.1) := by
  intro len
  induction len with
  | zero => exact Or.inl rfl
  | succ len ih =>
    simp only [List.range'_concat, List.foldl_append, List.foldl_cons, List.foldl_nil, one_mul]
    simp only at ih
    obtain ⟨h0, hmax⟩ := scan_max d (List.range' a len) ((0 : α), 0)
    generalize (List.range' a len).foldl (scanF d) ((0 : α), 0) = r' at ih h0 hmax
    by_cases hlt : r'.1 < d (a + len)
    · rw [scanF_pos hlt]
      exact Or.inr ⟨by simp, by simp, rfl, lt_of_le_of_lt h0 hlt,
        fun k hk1 hk2 => lt_of_le_of_lt (hmax k (List.mem_range'_1.2 ⟨hk1, hk2⟩)) hlt⟩
    · rw [scanF_neg hlt]
      exact ih.imp id fun ⟨h1, h2, h3⟩ => ⟨h1, by omega, h3⟩

end scan

section points
variable {α : Type} [LinearOrder α] {β : Type}

/-- `DPL`, Douglas-Peucker on a list, as a relation: between the kept ends `a`, `b` the recursion keeps `out` of what lies in
    between, `mid`.  `split`: `m` is the first maximum of the scan and exceeds the threshold.  Read on
    indices (`β = Nat`, `dist = distAt`) it is what `dpRec` computes; read on points it is free of indices. -/
inductive DPL (dist : β → β → β → α) (tsq : α) : β → List β → β → List β → Prop
  | stop {a b mid} : (∀ x ∈ mid, dist a b x ≤ tsq) → DPL dist tsq a mid b []
  | split {a b l1 m l2 r1 r2} : tsq < dist a b m → (∀ x ∈ l1, dist a b x < dist a b m) →
      (∀ x ∈ l2, dist a b x ≤ dist a b m) → DPL dist tsq a l1 m r1 → DPL dist tsq m l2 b r2 →
      DPL dist tsq a (l1 ++ m :: l2) b (r1 ++ m :: r2)

variable {dist : β → β → β → α} {tsq : α}

theorem DPL.sublist {a b : β} {mid out : List β} (h : DPL dist tsq a mid b out) : out.Sublist mid := by
  induction h with
  | stop _ => exact List.nil_sublist _
  | split _ _ _ _ _ ih1 ih2 => exact ih1.append (ih2.cons_cons _)

/-- what is kept is kept again when it is all there is: the dropped points took no part in any scan's
    first maximum -/
theorem DPL.stable {a b : β} {mid out : List β} (h : DPL dist tsq a mid b out) :
    DPL dist tsq a out b out := by
  induction h with
  | stop _ => exact .stop (fun _ hx => by cases hx)
  | split hm h1 h2 d1 d2 ih1 ih2 =>
    exact .split hm (fun x hx => h1 x (d1.sublist.subset hx)) (fun x hx => h2 x (d2.sublist.subset hx)) ih1 ih2

/-- the relation is functional: the first maximum of a scan is unique -/
theorem DPL.det {a b : β} {mid r r' : List β} (h : DPL dist tsq a mid b r) (h' : DPL dist tsq a mid b r') :
    r = r' := by
  induction h generalizing r' with
  | stop hs =>
    cases h' with
    | stop _ => rfl
    | split hm _ _ _ _ => exact absurd (hs _ (by simp)) (not_le.2 hm)
  | @split a b l1 m l2 r1 r2 hm h1 h2 d1 d2 ih1 ih2 =>
    generalize hmid : l1 ++ m :: l2 = mid at h'
    cases h' with
    | stop hs => exact absurd (hs m (by rw [← hmid]; simp)) (not_le.2 hm)
    | @split _ _ l1' m' l2' r1' r2' hm' h1' h2' d1' d2' =>
      obtain ⟨rfl, e2⟩ : l1 = l1' ∧ m :: l2 = m' :: l2' := by
        rcases List.append_eq_append_iff.1 hmid with ⟨c, e1, e2⟩ | ⟨c, e1, e2⟩
        · cases c with
          | nil => exact ⟨by simpa using e1.symm, by simpa using e2⟩
          | cons x c =>
            -- `m` would lie before `m'`: then `m' ∈ l2` and `m ∈ l1'`
            obtain ⟨rfl, rfl⟩ : m = x ∧ l2 = c ++ m' :: l2' := by simpa using e2
            exact absurd (h1' m (by rw [e1]; simp)) (not_lt.2 (h2 m' (by simp)))
        · cases c with
          | nil => exact ⟨by simpa using e1, by simpa using e2.symm⟩
          | cons x c =>
            obtain ⟨rfl, rfl⟩ : m' = x ∧ l2' = c ++ m :: l2 := by simpa using e2
            exact absurd (h1 m' (by rw [e1]; simp)) (not_lt.2 (h2' m (by simp)))
      obtain ⟨rfl, rfl⟩ : m = m' ∧ l2 = l2' := by simpa using e2
      rw [ih1 d1', ih2 d2']

theorem DPL.map {γ : Type} (f : γ → β) {a b : γ} {mid out : List γ}
    (h : DPL (fun a b x => dist (f a) (f b) (f x)) tsq a mid b out) :
    DPL dist tsq (f a) (mid.map f) (f b) (out.map f) := by
  induction h with
  | stop hs =>
    refine .stop fun x hx => ?_
    obtain ⟨y, hy, rfl⟩ := List.mem_map.1 hx
    exact hs y hy
  | split hm h1 h2 _ _ ih1 ih2 =>
    rw [List.map_append, List.map_cons, List.map_append, List.map_cons]
    refine .split hm (fun x hx => ?_) (fun x hx => ?_) ih1 ih2
    · obtain ⟨y, hy, rfl⟩ := List.mem_map.1 hx; exact h1 y hy
    · obtain ⟨y, hy, rfl⟩ := List.mem_map.1 hx; exact h2 y hy

def between {β : Type} (ls : List β) (s e : Nat) : List β := (ls.drop (s + 1)).take (e - s - 1)

theorem map_range'_between {β : Type} (z : β) (ls : List β) {s e : Nat} (he : e ≤ ls.length) :
    (List.range' (s + 1) (e - s - 1)).map (fun i => ls.getD i z) = between ls s e := by
  apply List.ext_getElem
  · simp only [between, List.length_map, List.length_range', List.length_take, List.length_drop]; omega
  · intro i h1 h2
    simp only [List.length_map, List.length_range'] at h1
    simp only [between, List.getElem_map, List.getElem_range', List.getElem_take, List.getElem_drop]
    rw [List.getD_eq_getElem?_getD, List.getElem?_eq_getElem (by omega)]
    simp

theorem range'_split {s m e : Nat} (h1 : s < m) (h2 : m < e) :
    List.range' (s + 1) (e - s - 1) = List.range' (s + 1) (m - s - 1) ++ m :: List.range' (m + 1) (e - m - 1) := by
  rw [show e - s - 1 = (m - s - 1) + ((e - m - 1) + 1) by omega, ← List.range'_append, List.range'_succ,
    show s + 1 + 1 * (m - s - 1) = m by omega]

end points

section ordered
variable {α : Type} [Field α] [LinearOrder α] [IsStrictOrderedRing α]
variable (dist : Pt α → Pt α → Pt α → α) (ls : List (Pt α))

def distAt (s e i : Nat) : α := dist (ls.getD s ⟨0, 0⟩) (ls.getD e ⟨0, 0⟩) (ls.getD i ⟨0, 0⟩)

theorem dpScan_eq (s e : Nat) :
    dpScan dist ls s e = (List.range' (s + 1) (e - (s + 1))).foldl (scanF (distAt dist ls s e)) (0, 0) := rfl

theorem dpScan_max (s e k : Nat) (h1 : s < k) (h2 : k < e) : distAt dist ls s e k ≤ (dpScan dist ls s e).1 :=
  (scan_max (distAt dist ls s e) _ _).2 k (List.mem_range'_1.2 ⟨by omega, by omega⟩)

theorem dpScan_first (s e : Nat) :
    dpScan dist ls s e = (0, 0) ∨
    (s < (dpScan dist ls s e).2 ∧ (dpScan dist ls s e).2 < e ∧
      (dpScan dist ls s e).1 = distAt dist ls s e (dpScan dist ls s e).2 ∧ 0 < (dpScan dist ls s e).1 ∧
      ∀ k, s < k → k < (dpScan dist ls s e).2 → distAt dist ls s e k < (dpScan dist ls s e).1) := by
  have := scan_first (distAt dist ls s e) (s + 1) (e - (s + 1))
  simp only [← dpScan_eq] at this
  exact this.imp id fun ⟨h1, h2, h3, h4, h5⟩ => ⟨by omega, by omega, h3, h4, fun k hk1 hk2 => h5 k (by omega) hk2⟩

variable (tsq : α)

theorem dpScan_split (h0 : 0 ≤ tsq) (s e : Nat) (h : tsq < (dpScan dist ls s e).1) :
    s < (dpScan dist ls s e).2 ∧ (dpScan dist ls s e).2 < e := by
  rcases dpScan_first dist ls s e with h1 | ⟨h1, h2, _⟩
  · rw [h1] at h; exact absurd (lt_of_le_of_lt h0 h) (lt_irrefl _)
  · exact ⟨h1, h2⟩

theorem dpRec_succ (F s e : Nat) : dpRec dist ls tsq (F + 1) s e =
    if tsq < (dpScan dist ls s e).1 then
      dpRec dist ls tsq F s (dpScan dist ls s e).2 ++ (dpScan dist ls s e).2 :: dpRec dist ls tsq F (dpScan dist ls s e).2 e
    else [] := rfl

theorem dpRec_DPL (h0 : 0 ≤ tsq) : ∀ F s e, s < e → e - s < F →
    DPL (distAt dist ls) tsq s (List.range' (s + 1) (e - s - 1)) e (dpRec dist ls tsq F s e) := by
  intro F
  induction F with
  | zero => intro s e _ h; omega
  | succ F ih =>
    intro s e hse hF
    rw [dpRec_succ]
    by_cases hlt : tsq < (dpScan dist ls s e).1
    · rw [if_pos hlt]
      rcases dpScan_first dist ls s e with h | ⟨h1, h2, h3, _, h5⟩
      · rw [h] at hlt; exact absurd (lt_of_le_of_lt h0 hlt) (lt_irrefl _)
      have h6 := dpScan_max dist ls s e
      rw [h3] at hlt h5 h6
      generalize (dpScan dist ls s e).2 = m at *
      rw [range'_split h1 h2]
      refine .split hlt (fun x hx => ?_) (fun x hx => ?_) (ih s m h1 (by omega)) (ih m e h2 (by omega))
      · rw [List.mem_range'_1] at hx; exact h5 x (by omega) (by omega)
      · rw [List.mem_range'_1] at hx; exact h6 x (by omega) (by omega)
    · rw [if_neg hlt]
      refine .stop (fun x hx => ?_)
      rw [List.mem_range'_1] at hx
      exact le_trans (dpScan_max dist ls s e x (by omega) (by omega)) (not_lt.1 hlt)

/-- `dpRec` with canonical fuel -/
def dpR (s e : Nat) : List Nat := dpRec dist ls tsq (e - s + 1) s e

theorem dpR_eq (h0 : 0 ≤ tsq) (F s e : Nat) (hse : s < e) (h : e - s < F) :
    dpRec dist ls tsq F s e = dpR dist ls tsq s e :=
  (dpRec_DPL dist ls tsq h0 F s e hse h).det (dpRec_DPL dist ls tsq h0 _ s e hse (Nat.lt_succ_self _))

theorem dpR_unfold (h0 : 0 ≤ tsq) (s e : Nat) : dpR dist ls tsq s e =
    if tsq < (dpScan dist ls s e).1 then
      dpR dist ls tsq s (dpScan dist ls s e).2 ++ (dpScan dist ls s e).2 :: dpR dist ls tsq (dpScan dist ls s e).2 e
    else [] := by
  show dpRec dist ls tsq (e - s + 1) s e = _
  rw [dpRec_succ]
  split
  · rename_i hlt
    obtain ⟨h1, h2⟩ := dpScan_split dist ls tsq h0 s e hlt
    rw [dpR_eq dist ls tsq h0 (e - s) s _ h1 (by omega), dpR_eq dist ls tsq h0 (e - s) _ e h2 (by omega)]
  · rfl

theorem dpR_DPL (h0 : 0 ≤ tsq) (s e : Nat) (hse : s < e) :
    DPL (distAt dist ls) tsq s (List.range' (s + 1) (e - s - 1)) e (dpR dist ls tsq s e) :=
  dpRec_DPL dist ls tsq h0 _ s e hse (Nat.lt_succ_self _)

theorem dpR_DPL_points (h0 : 0 ≤ tsq) (s e : Nat) (hse : s < e) (he : e < ls.length) :
    DPL dist tsq (ls.getD s ⟨0, 0⟩) (between ls s e) (ls.getD e ⟨0, 0⟩)
      ((dpR dist ls tsq s e).map fun i => ls.getD i ⟨0, 0⟩) := by
  have := (dpR_DPL dist ls tsq h0 s e hse).map (fun i => ls.getD i (⟨0, 0⟩ : Pt α))
  rwa [map_range'_between _ ls (Nat.le_of_lt he)] at this

/-- What a stack entry `(s, e)` costs the work-list loop at most: it is popped once and, if split, replaced by
    two entries covering `e - s` between them, so `2 (e - s) - 1` iterations (1 for an entry that cannot split).
    The start entry `(0, n - 1)` stays within `dpMask`'s fuel `2 n + 1`. -/
def stackCost (p : Nat × Nat) : Nat := max 1 (2 * (p.2 - p.1) - 1)

/-- the pairs on the stack are required in range so that every `mask[maxIndex] = 1` lands -/
theorem dpWorker_spec (h0 : 0 ≤ tsq) : ∀ (fuel : Nat) (stack : List (Nat × Nat)) (mask : List Bool),
    (stack.map stackCost).sum ≤ fuel → (∀ p ∈ stack, p.2 < mask.length) →
    ∃ mask', dpWorker dist ls tsq fuel stack mask = some mask' ∧ mask'.length = mask.length ∧
      ∀ i, mask'.getD i false = true ↔
        mask.getD i false = true ∨ ∃ p ∈ stack, i ∈ dpR dist ls tsq p.1 p.2 := by
  intro fuel
  induction fuel with
  | zero =>
    intro stack mask h _
    cases stack with
    | nil => exact ⟨mask, rfl, rfl, by simp⟩
    | cons p rest => simp [stackCost] at h
  | succ fuel ih =>
    intro stack mask h hr
    cases stack with
    | nil => exact ⟨mask, rfl, rfl, by simp⟩
    | cons p rest =>
      obtain ⟨s, e⟩ := p
      rw [List.map_cons, List.sum_cons] at h
      have hmu : 1 ≤ stackCost (s, e) := Nat.le_max_left _ _
      have he : e < mask.length := hr (s, e) List.mem_cons_self
      have hrest : ∀ p ∈ rest, p.2 < mask.length := fun p hp => hr p (List.mem_cons_of_mem _ hp)
      rw [dpWorker]
      simp only [List.exists_mem_cons_iff]
      rw [dpR_unfold dist ls tsq h0 s e]
      split
      · rename_i hlt
        obtain ⟨h1, h2⟩ := dpScan_split dist ls tsq h0 s e hlt
        generalize (dpScan dist ls s e).2 = m at h1 h2 ⊢
        have hm : m < mask.length := by omega
        obtain ⟨mask', hw, hl, hi⟩ := ih ((m, e) :: (s, m) :: rest) (mask.set m true)
          (by simp only [List.map_cons, List.sum_cons, stackCost] at h ⊢; omega)
          (by simp only [List.length_set, List.forall_mem_cons]; exact ⟨he, hm, hrest⟩)
        refine ⟨mask', hw, by simpa using hl, fun i => ?_⟩
        -- both sides are the same disjunction, up to the order of its members
        rw [hi i, getD_set_true_of_lt _ _ _ hm]
        simp only [List.exists_mem_cons_iff]
        simp only [List.mem_append, List.mem_cons, or_assoc, or_left_comm]
      · obtain ⟨mask', hw, hl, hi⟩ := ih rest mask (by omega) hrest
        exact ⟨mask', hw, hl, fun i => by rw [hi i]; simp⟩

theorem dpMask_spec (t : α) (hn : 0 < ls.length) :
    ∃ mask', dpMask dist t ls = some mask' ∧ mask'.length = ls.length ∧
      ∀ i, mask'.getD i false = true ↔
        i = 0 ∨ i = ls.length - 1 ∨ i ∈ dpR dist ls (t * t) 0 (ls.length - 1) := by
  unfold dpMask
  obtain ⟨mask', h1, h2, h3⟩ := dpWorker_spec dist ls (t * t) (mul_self_nonneg t) (2 * ls.length + 1)
    [(0, ls.length - 1)] (((List.replicate ls.length false).set 0 true).set (ls.length - 1) true)
    (by simp [stackCost]; omega) (by simp; omega)
  refine ⟨mask', h1, by simpa using h2, fun i => ?_⟩
  rw [h3 i, getD_set_true_of_lt _ _ _ (by simp; omega), getD_set_true_of_lt _ _ _ (by simpa using hn),
    getD_replicate_false]
  simp only [List.mem_singleton, exists_eq_left, Bool.false_eq_true, false_or, or_assoc]

theorem dpMask_idx (t : α) (hn : 2 ≤ ls.length) :
    (dpMask dist t ls).map maskIdx =
      some (0 :: dpR dist ls (t * t) 0 (ls.length - 1) ++ [ls.length - 1]) := by
  obtain ⟨mask', h1, h2, h3⟩ := dpMask_spec dist ls t (by omega)
  rw [h1, Option.map_some]
  congr 1
  -- the right side is a sublist of `0 :: [1, …, n-2] ++ [n-1]`, hence increasing and in range
  have hsub : (0 :: dpR dist ls (t * t) 0 (ls.length - 1) ++ [ls.length - 1]).Sublist (List.range ls.length) := by
    have := ((dpR_DPL dist ls (t * t) (mul_self_nonneg t) 0 (ls.length - 1) (by omega)).sublist.append
      (List.Sublist.refl [ls.length - 1])).cons_cons 0
    have hr : 0 :: List.range' (0 + 1) (ls.length - 1 - 0 - 1) ++ [ls.length - 1] = List.range ls.length := by
      obtain ⟨k, hk⟩ : ∃ k, ls.length = k + 2 := ⟨ls.length - 2, by omega⟩
      rw [hk, List.range_eq_range', show k + 2 = (k + 1) + 1 from rfl, List.range'_concat]
      simp [List.range'_succ]
    rw [← hr]; exact this
  apply pairwise_lt_ext (maskIdx_pairwise _) (List.pairwise_lt_range.sublist hsub)
  intro i
  rw [mem_maskIdx, h2, h3 i]
  simp only [List.cons_append, List.mem_cons, List.mem_append, List.mem_nil_iff, or_false]
  constructor
  · rintro ⟨-, h | h | h⟩ <;> simp [h]
  · intro h
    exact ⟨List.mem_range.1 (hsub.subset (by simpa using h)), by tauto⟩

theorem dpWith_points (t : α) (out : List (Pt α)) (hn2 : 2 ≤ ls.length) (h : dpSimplifyWith dist t ls = .ok out) :
    out = ls.getD 0 ⟨0, 0⟩ :: ((dpR dist ls (t * t) 0 (ls.length - 1)).map fun i => ls.getD i ⟨0, 0⟩) ++
      [ls.getD (ls.length - 1) ⟨0, 0⟩] := by
  obtain ⟨idx, hm, hk⟩ := dpWith_kept dist t ls out h
  rw [dpMask_idx dist ls _ hn2] at hm
  injection hm with hm
  rw [hk.eq, ← map_getD_eq_filterMap ls idx ⟨0, 0⟩ hk.lt, ← hm]
  simp

theorem dpWith_total (t : α) (h : ls ≠ []) : ∃ out, dpSimplifyWith dist t ls = .ok out := by
  have hn : 0 < ls.length := List.length_pos_iff.2 h
  obtain ⟨mask', h1, -, -⟩ := dpMask_spec dist ls t hn
  unfold dpSimplifyWith
  rw [if_neg (by omega), h1]
  exact ⟨_, rfl⟩

/-- one point: the scan is empty, and its maximum `0` is not above the threshold -/
theorem dpWith_one (t : α) (a : Pt α) : dpSimplifyWith dist t [a] = .ok [a] := by
  simp [dpSimplifyWith, dpMask, dpWorker, dpScan, not_lt.2 (mul_self_nonneg t), maskIdx, compact]

/-- the `r` is unique, by `DPL.det` -/
theorem dpWith_eq (t : α) (a b : Pt α) (mid : List (Pt α)) :
    ∃ r, DPL dist (t * t) a mid b r ∧ dpSimplifyWith dist t (a :: (mid ++ [b])) = .ok (a :: (r ++ [b])) := by
  obtain ⟨out, h⟩ := dpWith_total dist (a :: (mid ++ [b])) t (by simp)
  have e := dpWith_points dist _ t out (by simp) h
  have D := dpR_DPL_points dist (a :: (mid ++ [b])) (t * t) (mul_self_nonneg t) 0 (mid.length + 1) (by omega) (by simp)
  have hlen : (a :: (mid ++ [b])).length - 1 = mid.length + 1 := by simp
  have hm : between (a :: (mid ++ [b])) 0 (mid.length + 1) = mid := by simp [between]
  have hb : (a :: (mid ++ [b])).getD (mid.length + 1) ⟨0, 0⟩ = b := by simp [List.getD_eq_getElem?_getD]
  rw [hm, hb] at D
  rw [hlen, hb] at e
  exact ⟨_, D, by rw [h, e]; rfl⟩

theorem dpWith_of_DPL (t : α) (a b : Pt α) (mid r : List (Pt α)) (h : DPL dist (t * t) a mid b r) :
    dpSimplifyWith dist t (a :: (mid ++ [b])) = .ok (a :: (r ++ [b])) := by
  obtain ⟨r', h', e⟩ := dpWith_eq dist t a b mid
  rw [e, h.det h']

theorem dpRec_mono (tsq₁ tsq₂ : α) (h12 : tsq₁ ≤ tsq₂) : ∀ F s e,
    (dpRec dist ls tsq₂ F s e).Sublist (dpRec dist ls tsq₁ F s e) := by
  intro F
  induction F with
  | zero => intro s e; simp [dpRec]
  | succ F ih =>
    intro s e
    rw [dpRec_succ, dpRec_succ]
    by_cases h : tsq₂ < (dpScan dist ls s e).1
    · rw [if_pos h, if_pos (lt_of_le_of_lt h12 h)]
      exact List.Sublist.append (ih _ _) (List.Sublist.cons_cons _ (ih _ _))
    · rw [if_neg h]; exact List.nil_sublist _

theorem dpRec_within (tsq : α) (h0 : 0 ≤ tsq) : ∀ F s e, s < e → e - s < F → ∀ i j,
    Adjacent (s :: dpRec dist ls tsq F s e ++ [e]) i j → ∀ k, i < k → k < j → distAt dist ls i j k ≤ tsq := by
  intro F
  induction F with
  | zero => intro s e _ h; omega
  | succ F ih =>
    intro s e hse hF i j hadj k hik hkj
    rw [dpRec_succ] at hadj
    split at hadj
    · rename_i hlt
      obtain ⟨h1, h2⟩ := dpScan_split dist ls tsq h0 s e hlt
      have : s :: (dpRec dist ls tsq F s (dpScan dist ls s e).2 ++ (dpScan dist ls s e).2 ::
          dpRec dist ls tsq F (dpScan dist ls s e).2 e) ++ [e] =
          (s :: dpRec dist ls tsq F s (dpScan dist ls s e).2) ++ (dpScan dist ls s e).2 ::
          (dpRec dist ls tsq F (dpScan dist ls s e).2 e ++ [e]) := by simp
      rw [this] at hadj
      rcases adjacent_split hadj with h | h
      · exact ih s _ h1 (by omega) i j h k hik hkj
      · exact ih _ e h2 (by omega) i j h k hik hkj
    · rename_i hlt
      obtain ⟨rfl, rfl⟩ := adjacent_pair hadj
      exact le_trans (dpScan_max dist ls _ _ k hik hkj) (not_lt.1 hlt)

theorem dpWith_within (t : α) (idx : List Nat) (h : (dpMask dist t ls).map maskIdx = some idx) :
    ∀ i j, Adjacent idx i j → ∀ k, i < k → k < j → ∀ a b p, ls[i]? = some a → ls[j]? = some b → ls[k]? = some p →
      dist a b p ≤ t * t := by
  intro i j hadj k hik hkj a b p ha hb hp
  have hj : j < ls.length := by
    by_contra hc
    rw [List.getElem?_eq_none (by omega)] at hb
    simp at hb
  have h0 := mul_self_nonneg t
  rw [dpMask_idx dist ls t (by omega), ← dpR_eq dist ls (t * t) h0 ls.length 0 _ (by omega) (by omega)] at h
  injection h with h
  subst h
  have := dpRec_within dist ls (t * t) h0 _ _ _ (by omega) (by omega) i j hadj k hik hkj
  simpa [distAt, List.getD_eq_getElem?_getD, ha, hb, hp] using this

theorem dpWith_nested (t₁ t₂ : α) (h0 : 0 ≤ t₁) (h12 : t₁ ≤ t₂) (o₁ o₂ : List (Pt α))
    (h₁ : dpSimplifyWith dist t₁ ls = .ok o₁) (h₂ : dpSimplifyWith dist t₂ ls = .ok o₂) : o₂.Sublist o₁ := by
  by_cases hn2 : 2 ≤ ls.length
  · rw [dpWith_points dist ls t₁ o₁ hn2 h₁, dpWith_points dist ls t₂ o₂ hn2 h₂]
    exact List.Sublist.cons_cons _ (((dpRec_mono dist ls _ _ (mul_self_le_mul_self h0 h12) _ _ _).map _).append
      (List.Sublist.refl _))
  · rcases ls with _ | ⟨a, _ | ⟨b, l⟩⟩
    · cases h₁
    · rw [dpWith_one] at h₁ h₂; cases h₁; cases h₂; exact List.Sublist.refl _
    · simp at hn2

theorem dpWith_idem (t : α) (out : List (Pt α)) (h : dpSimplifyWith dist t ls = .ok out) :
    dpSimplifyWith dist t out = .ok out := by
  rcases ls with _ | ⟨a, rest⟩
  · cases h
  rcases List.eq_nil_or_concat rest with rfl | ⟨mid, b, rfl⟩
  · rw [dpWith_one] at h; cases h
    exact dpWith_one dist t a
  · -- what was kept between the end points is kept again when it is all there is
    rw [List.concat_eq_append] at h
    obtain ⟨r, D, e⟩ := dpWith_eq dist t a b mid
    rw [e] at h; cases h
    exact dpWith_of_DPL dist t a b r r D.stable

end ordered

end Orb.Simplify
