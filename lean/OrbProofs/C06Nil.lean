/-
  Lemmas for the part of C06 that is about NIL MEMBERS (model `Orb.CoreNil`): nil slices at every
  level, typed nil and nil-interface members of collections.
-/
import Orb.CoreNil
import OrbProofs.C06Lemmas

namespace Orb.CoreNil
open Orb Orb.Core

variable {α : Type}

theorem clonePts_eq (a : NPts α) : clonePts a = a := by cases a <;> rfl

theorem clonePtss_eq (a : NPtss α) : clonePtss a = a := by
  cases a with
  | none => rfl
  | some l =>
    have : (clonePts : NPts α → NPts α) = id := funext clonePts_eq
    simp [clonePtss, this]

theorem clonePtsss_eq (a : NPtsss α) : clonePtsss a = a := by
  cases a with
  | none => rfl
  | some l =>
    have : (clonePtss : NPtss α → NPtss α) = id := funext clonePtss_eq
    simp [clonePtsss, this]

theorem cloneN_both : (∀ g : NGeom α, cloneN g = g) ∧ (∀ gs : List (NGeom α), cloneNList gs = gs) := by
  apply NGeom.ind2 <;> intros <;>
    simp_all [cloneN, cloneNList, clonePts_eq, clonePtss_eq, clonePtsss_eq]

section equality
variable [BEq α] [LawfulBEq α]

theorem ptsEqN_iff (a b : NPts α) : ptsEqN a b = true ↔ ptsOf a = ptsOf b := by
  simp [ptsEqN, ptsEq_iff]

theorem ptssEqL_iff (l m : List (NPts α)) : ptssEqL l m = true ↔ l.map ptsOf = m.map ptsOf := by
  induction l generalizing m with
  | nil => cases m <;> simp [ptssEqL]
  | cons a l ih => cases m <;> simp [ptssEqL, ptsEqN_iff, ih]

theorem ptssEqN_iff (a b : NPtss α) : ptssEqN a b = true ↔ ptssOf a = ptssOf b := by
  simp [ptssEqN, ptssOf, ptssEqL_iff]

theorem ptsssEqL_iff (l m : List (NPtss α)) : ptsssEqL l m = true ↔ l.map ptssOf = m.map ptssOf := by
  induction l generalizing m with
  | nil => cases m <;> simp [ptsssEqL]
  | cons a l ih => cases m <;> simp [ptsssEqL, ptssEqN_iff, ih]

theorem ptsssEqN_iff (a b : NPtsss α) : ptsssEqN a b = true ↔ ptsssOf a = ptsssOf b := by
  simp [ptsssEqN, ptsssOf, ptsssEqL_iff]

omit [BEq α] [LawfulBEq α] in
theorem map_some_inj {β : Type} (l m : List β) : l.map some = m.map some ↔ l = m :=
  List.map_inj_right (fun _ _ h => Option.some.inj h)

omit [BEq α] [LawfulBEq α] in
theorem map_some_map_some_inj {β : Type} (l m : List (List β)) :
    (l.map fun rs => some (rs.map some)) = (m.map fun rs => some (rs.map some)) ↔ l = m :=
  List.map_inj_right (fun a b h => (map_some_inj a b).1 (Option.some.inj h))

/- `equalN` is compiled by well-founded recursion on the pair: the proofs about it open it once with
   `equalN.eq_def` and let the `match` compute on constructors. -/

theorem equalN_both :
    (∀ g h : NGeom α, equalN g h = true ↔ normN g = normN h) ∧
    (∀ gs hs : List (NGeom α), equalNList gs hs = true ↔ normNList gs = normNList hs) := by
  apply NGeom.ind2
  case nilIface => intro h; rw [equalN.eq_def]; cases h <;> simp [normN]
  case point => intro p h; rw [equalN.eq_def]; cases h <;> simp [normN, ptEq_iff]
  case multiPoint => intro p h; rw [equalN.eq_def]; cases h <;> simp [normN, ptsEqN_iff]
  case lineString => intro p h; rw [equalN.eq_def]; cases h <;> simp [normN, ptsEqN_iff]
  case multiLineString => intro p h; rw [equalN.eq_def]; cases h <;> simp [normN, ptssEqN_iff, map_some_inj]
  case ring => intro p h; rw [equalN.eq_def]; cases h <;> simp [normN, ptsEqN_iff]
  case polygon => intro p h; rw [equalN.eq_def]; cases h <;> simp [normN, ptssEqN_iff, map_some_inj]
  case multiPolygon => intro p h; rw [equalN.eq_def]; cases h <;> simp [normN, ptsssEqN_iff, map_some_map_some_inj]
  case bound => intro a b h; rw [equalN.eq_def]; cases h <;> simp [normN, ptEq_iff]
  case nilCollection =>
    intro h
    rw [equalN.eq_def]
    cases h with
    | collection hs => cases hs <;> simp [equalNList, normN, normNList]
    | _ => simp [normN]
  case collection =>
    intro gs ih h
    rw [equalN.eq_def]
    cases h with
    | collection hs => simp [normN, ih hs]
    | nilCollection => simpa [normN, normNList] using ih []
    | _ => simp [normN]
  case nil => intro hs; cases hs <;> simp [equalNList, normNList]
  case cons =>
    intro g gs ihg ihgs hs
    cases hs with
    | nil => simp [equalNList, normNList]
    | cons h hs => simp [equalNList, normNList, ihg h, ihgs hs]

end equality

theorem ptssOf_some_map_some (ls : List (List (Pt α))) : ptssOf (some (ls.map some)) = ls := by
  simp [ptssOf, ptsOf, Function.comp_def]

theorem ptsssOf_some_map_some (ps : List (List (List (Pt α)))) :
    ptsssOf (some (ps.map fun rs => some (rs.map some))) = ps := by
  simp [ptsssOf, ptssOf_some_map_some, Function.comp_def]

/- the member loops are maps: the collection cases below are then facts about lists -/

theorem normNList_eq_map (gs : List (NGeom α)) : normNList gs = gs.map normN := by
  induction gs with
  | nil => rfl
  | cons g gs ih => rw [normNList, ih, List.map_cons]

theorem stripList_eq_filterMap (gs : List (NGeom α)) : stripList gs = gs.filterMap strip := by
  induction gs with
  | nil => rfl
  | cons g gs ih =>
    rw [stripList, List.filterMap_cons]
    cases h : strip g <;> simp [ih]

theorem strip_ofGeom (g : Geom α) : strip (ofGeom g) = some g := by
  induction g using Geom.ind with
  | collection gs ih =>
    rw [ofGeom, strip, ofGeomList_eq_map, stripList_eq_filterMap, List.filterMap_map,
      List.filterMap_congr (f := strip ∘ ofGeom) (g := some) ih, List.filterMap_some]
  | _ => simp [ofGeom, strip, ptsOf, ptssOf_some_map_some, ptsssOf_some_map_some]

theorem normN_ofGeom (g : Geom α) : normN (ofGeom g) = ofGeom g := by
  induction g using Geom.ind with
  | collection gs ih =>
    rw [ofGeom, normN, ofGeomList_eq_map, normNList_eq_map, List.map_map, List.map_congr_left (f := normN ∘ ofGeom) ih]
  | _ => simp [ofGeom, normN, ptsOf, ptssOf_some_map_some, ptsssOf_some_map_some]

theorem strip_eq_none_iff (g : NGeom α) : strip g = none ↔ g = .nilIface := by
  cases g <;> simp [strip]

/- without `LawfulBEq`: agreement with `Core.equal`, which needs no law of `==` -/
section agreement
variable [BEq α]

theorem ptssEqL_map_some (l m : List (List (Pt α))) : ptssEqL (l.map some) (m.map some) = ptssEq l m := by
  induction l generalizing m with
  | nil => cases m <;> simp [ptssEqL, ptssEq]
  | cons a l ih => cases m <;> simp [ptssEqL, ptssEq, ptsEqN, ptsOf, ih]

theorem ptsssEqL_map_some (l m : List (List (List (Pt α)))) :
    ptsssEqL (l.map fun rs => some (rs.map some)) (m.map fun rs => some (rs.map some)) = ptsssEq l m := by
  induction l generalizing m with
  | nil => cases m <;> simp [ptsssEqL, ptsssEq]
  | cons a l ih => cases m <;> simp [ptsssEqL, ptsssEq, ptssEqN, ptssEqL_map_some, ih]

theorem equalN_ofGeom (g h : Geom α) : equalN (ofGeom g) (ofGeom h) = equal g h := by
  induction g using Geom.ind generalizing h with
  | collection gs ih =>
    rw [equalN.eq_def]
    cases h <;> simp only [ofGeom, equal]
    rename_i hs
    induction gs generalizing hs with
    | nil => cases hs <;> simp [ofGeomList, equalNList, equal.go]
    | cons g gs ih2 =>
      cases hs with
      | nil => simp [ofGeomList, equalNList, equal.go]
      | cons h hs =>
        simp only [ofGeomList, equalNList, equal.go]
        rw [ih g (List.mem_cons_self ..) h, ih2 (fun g hg => ih g (List.mem_cons_of_mem _ hg)) hs]
  | _ =>
    rw [equalN.eq_def]
    cases h <;>
      simp [ofGeom, equal, ptsEqN, ptsOf, ptssEqN, ptsssEqN, ptssEqL_map_some, ptsssEqL_map_some]

theorem equalN_nilSlice_left (k : Kind) (h : NGeom α) :
    equalN (ofGVal (.nilSlice k)) h = equalN (ofGeom (emptyOf k)) h := by
  rw [equalN.eq_def, equalN.eq_def]
  cases k <;> cases h <;> try rfl
  -- left: `Collection(nil)` on both sides is `true` at once, against the empty member loop
  exact equalNList.eq_1.symm

theorem equalN_nilSlice_right (k : Kind) (g : NGeom α) :
    equalN g (ofGVal (.nilSlice k)) = equalN g (ofGeom (emptyOf k)) := by
  rw [equalN.eq_def, equalN.eq_def]
  cases k <;> cases g <;> try rfl
  exact equalNList.eq_1.symm

theorem equalN_nilIface_ofGeom (g : Geom α) :
    equalN .nilIface (ofGeom g) = false ∧ equalN (ofGeom g) .nilIface = false := by
  rw [equalN.eq_def, equalN.eq_def]
  cases g <;> exact ⟨rfl, rfl⟩

end agreement

section bounds
variable [LT α] [DecidableLT α] [Min α] [Max α]

/-- `boundN` is `Core.bound` of the stripped value; the clauses about the two loops of `Collection.Bound`
    (`boundStart`, `boundRest`) are what the induction needs.  No law of the order is used: any arithmetic, float64 too. -/
theorem boundN_both (eb : Bound α) :
    (∀ g : NGeom α, boundN eb g = (strip g).elim eb (bound eb)) ∧
    (∀ gs : List (NGeom α), boundStart eb gs = bound eb (.collection (stripList gs)) ∧
      ∀ b, boundRest eb gs b = (stripList gs).foldl (fun b g => b.union (bound eb g)) b) := by
  apply NGeom.ind2
  case collection => intro gs ih; rw [boundN, strip, Option.elim, ih.1]
  case nil => exact ⟨(bound_collection_nil eb).symm, fun _ => rfl⟩
  case cons =>
    intro g gs ihg ihgs
    cases hs : strip g with
    | none =>
      rw [(strip_eq_none_iff g).1 hs]
      refine ⟨?_, fun b => ?_⟩
      · rw [boundStart, stripList]; simp only [strip]; exact ihgs.1
      · rw [boundRest, stripList]; simp only [strip]; exact ihgs.2 b
    | some g' =>
      have hn : g ≠ .nilIface := fun h => by rw [h, strip] at hs; cases hs
      have hl : stripList (g :: gs) = g' :: stripList gs := by rw [stripList, hs]
      rw [hs, Option.elim] at ihg
      refine ⟨?_, fun b => ?_⟩
      · rw [boundStart.eq_3 eb g gs (fun h => hn h), hl, ihgs.2, ihg, bound_collection_cons]
      · rw [boundRest.eq_3 eb b g gs (fun h => hn h), hl, ihgs.2, ihg]; rfl
  -- the members that are not collections: both sides call the same per-kind method
  all_goals intros; simp only [boundN, strip, bound, bound_collection_nil, Option.elim]

end bounds

end Orb.CoreNil
