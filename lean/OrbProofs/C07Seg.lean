/-
  C07, segment level: paths as lists of segments (`segsOf`, `OnPath`, `OnPieces`; `lerp`, `OnSeg` and the box
  predicates are in `Segment`), the four half-plane excesses `exc` (affine along a segment: `exc_lerp`), and how
  the region codes read in terms of them.
-/
import Orb.Clip
import OrbProofs.ClipLoop
import OrbProofs.Segment
import OrbProofs.EdgeList
import Mathlib.Algebra.Order.Field.Basic
import Mathlib.Tactic.Ring

set_option linter.unusedSectionVars false

namespace Orb.Clip
open Orb Orb.Core Generated.Params

section vocab
variable {α : Type} [Field α] [LinearOrder α] [IsStrictOrderedRing α]

/-- consecutive vertex pairs of a path (the same function as `Contains.chain` of OrbProofs/EdgeList.lean:
    `chain_eq_segsOf`) -/
def segsOf : List (Pt α) → List (Pt α × Pt α)
  | a :: b :: rest => (a, b) :: segsOf (b :: rest)
  | _ => []

/-- `q` lies on the polyline `ps` (a path with fewer than two vertices has no points) -/
def OnPath (ps : List (Pt α)) (q : Pt α) : Prop := ∃ s ∈ segsOf ps, OnSeg s.1 s.2 q

/-- `q` lies on one of the pieces -/
def OnPieces (out : List (List (Pt α))) (q : Pt α) : Prop := ∃ piece ∈ out, OnPath piece q

end vocab

variable {α : Type} [Field α] [LinearOrder α] [IsStrictOrderedRing α]

@[simp] theorem lerp_x (a b : Pt α) (t : α) : (lerp a b t).x = a.x + t * (b.x - a.x) := rfl
@[simp] theorem lerp_y (a b : Pt α) (t : α) : (lerp a b t).y = a.y + t * (b.y - a.y) := rfl

theorem segsOf_cons_cons (a b : Pt α) (r : List (Pt α)) :
    segsOf (a :: b :: r) = (a, b) :: segsOf (b :: r) := rfl

theorem chain_eq_segsOf (l : List (Pt α)) : Contains.chain l = segsOf l := by
  induction l with
  | nil => rfl
  | cons a l ih =>
    cases l with
    | nil => rfl
    | cons b t => rw [segsOf_cons_cons, Contains.chain, ih]

theorem segsOf_append_pair (l : List (Pt α)) (x y : Pt α) :
    segsOf (l ++ [x, y]) = segsOf (l ++ [x]) ++ [(x, y)] := by
  rw [← chain_eq_segsOf, ← chain_eq_segsOf, Contains.chain_append]; rfl

theorem mem_endpoint : ∀ (piece : List (Pt α)) (v : Pt α), v ∈ piece → 2 ≤ piece.length →
    ∃ s ∈ segsOf piece, v = s.1 ∨ v = s.2
  | z :: w :: l, v, hv, _ => by
    rw [← chain_eq_segsOf]
    rcases List.mem_cons.1 hv with rfl | hv
    · exact ⟨(v, w), List.mem_cons_self, Or.inl rfl⟩
    · obtain ⟨a, ha⟩ := Contains.exists_chain_snd (w :: l) z v hv
      exact ⟨(a, v), ha, Or.inr rfl⟩

theorem exists_mem_segsOf {piece : List (Pt α)} (h : 2 ≤ piece.length) : ∃ s, s ∈ segsOf piece := by
  match piece, h with
  | a :: b :: r, _ => exact ⟨(a, b), by rw [segsOf_cons_cons]; exact List.mem_cons_self⟩

/-- signed excess of `p` over the edge `k` (8 top, 4 bottom, 2 right, 1 left): positive = strictly
    beyond the edge, zero = on its line -/
def exc (box : Bound α) (k : Nat) (p : Pt α) : α :=
  if k = 8 then p.y - box.hi.y else if k = 4 then box.lo.y - p.y
  else if k = 2 then p.x - box.hi.x else box.lo.x - p.x

def Edge (k : Nat) : Prop := k = 8 ∨ k = 4 ∨ k = 2 ∨ k = 1

theorem Edge.top : Edge 8 := Or.inl rfl
theorem Edge.bottom : Edge 4 := Or.inr (Or.inl rfl)
theorem Edge.right : Edge 2 := Or.inr (Or.inr (Or.inl rfl))
theorem Edge.left : Edge 1 := Or.inr (Or.inr (Or.inr rfl))

@[simp] theorem exc_8 (box : Bound α) (p : Pt α) : exc box 8 p = p.y - box.hi.y := rfl
@[simp] theorem exc_4 (box : Bound α) (p : Pt α) : exc box 4 p = box.lo.y - p.y := rfl
@[simp] theorem exc_2 (box : Bound α) (p : Pt α) : exc box 2 p = p.x - box.hi.x := rfl
@[simp] theorem exc_1 (box : Bound α) (p : Pt α) : exc box 1 p = box.lo.x - p.x := rfl

theorem exc_lerp (box : Bound α) (k : Nat) (a b : Pt α) (t : α) :
    exc box k (lerp a b t) = (1 - t) * exc box k a + t * exc box k b := by
  unfold exc lerp; split_ifs <;> ring

theorem inBox_iff {box : Bound α} {p : Pt α} : InBox box p ↔ ∀ k, Edge k → exc box k p ≤ 0 := by
  constructor
  · rintro ⟨h1, h2, h3, h4⟩ k (rfl | rfl | rfl | rfl)
    exacts [sub_nonpos.2 h4, sub_nonpos.2 h3, sub_nonpos.2 h2, sub_nonpos.2 h1]
  · intro h
    exact ⟨sub_nonpos.1 (h 1 .left), sub_nonpos.1 (h 2 .right), sub_nonpos.1 (h 4 .bottom),
      sub_nonpos.1 (h 8 .top)⟩

theorem inOpenBox_iff {box : Bound α} {p : Pt α} :
    InOpenBox box p ↔ ∀ k, Edge k → exc box k p < 0 := by
  constructor
  · rintro ⟨h1, h2, h3, h4⟩ k (rfl | rfl | rfl | rfl)
    exacts [sub_neg.2 h4, sub_neg.2 h3, sub_neg.2 h2, sub_neg.2 h1]
  · intro h
    exact ⟨sub_neg.1 (h 1 .left), sub_neg.1 (h 2 .right), sub_neg.1 (h 4 .bottom), sub_neg.1 (h 8 .top)⟩

theorem InOpenBox.inBox {box : Bound α} {p : Pt α} (h : InOpenBox box p) : InBox box p :=
  ⟨h.1.le, h.2.1.le, h.2.2.1.le, h.2.2.2.le⟩

theorem inBox_lerp {box : Bound α} {a b : Pt α} (ha : InBox box a) (hb : InBox box b) {t : α}
    (h0 : 0 ≤ t) (h1 : t ≤ 1) : InBox box (lerp a b t) := by
  rw [inBox_iff] at *
  intro k hk
  rw [exc_lerp]
  exact convex_nonpos h0 h1 (ha k hk) (hb k hk)

theorem inBox_of_onSeg {box : Bound α} {a b q : Pt α} (ha : InBox box a) (hb : InBox box b)
    (hq : OnSeg a b q) : InBox box q := by
  obtain ⟨t, h0, h1, rfl⟩ := hq
  exact inBox_lerp ha hb h0 h1

/-- weak reading of a code, shared by `bitCode` and `bitCodeOpen`: a set bit puts the point weakly
    beyond that edge, a clear bit weakly within it -/
def W (box : Bound α) (c : Nat) (p : Pt α) : Prop :=
  c < 16 ∧ ∀ k, Edge k → (c &&& k ≠ 0 → 0 ≤ exc box k p) ∧ (c &&& k = 0 → exc box k p ≤ 0)

theorem bitCode_bit {box : Bound α} (hb : BoxOK box) (p : Pt α) {k : Nat} (hk : Edge k) :
    bitCode box p &&& k ≠ 0 ↔ 0 < exc box k p := by
  obtain ⟨h1, h2, h4, h8⟩ := code4_bits (decide (p.x < box.lo.x)) (decide (p.x > box.hi.x))
    (decide (p.y < box.lo.y)) (decide (p.y > box.hi.y))
  rw [bitCode_eq_code4]
  rcases hk with rfl | rfl | rfl | rfl
  · rw [h8, exc_8, sub_pos, decide_eq_false_iff_not, decide_eq_true_iff]
    exact ⟨fun h => h.2, fun h => ⟨not_lt.2 (hb.2.trans h).le, h⟩⟩
  · rw [h4, exc_4, sub_pos, decide_eq_true_iff]
  · rw [h2, exc_2, sub_pos, decide_eq_false_iff_not, decide_eq_true_iff]
    exact ⟨fun h => h.2, fun h => ⟨not_lt.2 (hb.1.trans h).le, h⟩⟩
  · rw [h1, exc_1, sub_pos, decide_eq_true_iff]

theorem bitCodeOpen_bit {box : Bound α} (hb : BoxOK box) (p : Pt α) {k : Nat} (hk : Edge k) :
    bitCodeOpen box p &&& k ≠ 0 ↔ 0 ≤ exc box k p := by
  obtain ⟨h1, h2, h4, h8⟩ := code4_bits (decide (p.x ≤ box.lo.x)) (decide (p.x ≥ box.hi.x))
    (decide (p.y ≤ box.lo.y)) (decide (p.y ≥ box.hi.y))
  rw [bitCodeOpen_eq_code4]
  rcases hk with rfl | rfl | rfl | rfl
  · rw [h8, exc_8, sub_nonneg, decide_eq_false_iff_not, decide_eq_true_iff]
    exact ⟨fun h => h.2, fun h => ⟨not_le.2 (hb.2.trans_le h), h⟩⟩
  · rw [h4, exc_4, sub_nonneg, decide_eq_true_iff]
  · rw [h2, exc_2, sub_nonneg, decide_eq_false_iff_not, decide_eq_true_iff]
    exact ⟨fun h => h.2, fun h => ⟨not_le.2 (hb.1.trans_le h), h⟩⟩
  · rw [h1, exc_1, sub_nonneg, decide_eq_true_iff]

theorem bitCode_eq_zero_iff {box : Bound α} {p : Pt α} : bitCode box p = 0 ↔ InBox box p := by
  simp only [bitCode_eq_code4, code4_eq_zero, decide_eq_false_iff_not, not_lt, InBox, gt_iff_lt]

theorem bitCodeOpen_eq_zero_iff {box : Bound α} {p : Pt α} : bitCodeOpen box p = 0 ↔ InOpenBox box p := by
  simp only [bitCodeOpen_eq_code4, code4_eq_zero, decide_eq_false_iff_not, not_le, InOpenBox, ge_iff_le]

theorem onEdgeValue_of_inBox {box : Bound α} {p : Pt α} (hin : InBox box p) (hc : bitCodeOpen box p ≠ 0) :
    OnEdgeValue box p := by
  by_contra hne
  simp only [OnEdgeValue, not_or] at hne
  obtain ⟨n1, n2, n3, n4⟩ := hne
  exact hc (bitCodeOpen_eq_zero_iff.2 ⟨lt_of_le_of_ne hin.1 (Ne.symm n1), lt_of_le_of_ne hin.2.1 n2,
    lt_of_le_of_ne hin.2.2.1 (Ne.symm n3), lt_of_le_of_ne hin.2.2.2 n4⟩)

theorem W_bitCode {box : Bound α} (hb : BoxOK box) (p : Pt α) : W box (bitCode box p) p := by
  refine ⟨bitCode_lt16 box p, fun k hk => ⟨fun h => ((bitCode_bit hb p hk).1 h).le, fun h => ?_⟩⟩
  by_contra hc
  exact (bitCode_bit hb p hk).2 (not_le.1 hc) h

theorem W_bitCodeOpen {box : Bound α} (hb : BoxOK box) (p : Pt α) : W box (bitCodeOpen box p) p := by
  refine ⟨bitCodeOpen_lt16 box p, fun k hk => ⟨fun h => (bitCodeOpen_bit hb p hk).1 h, fun h => ?_⟩⟩
  by_contra hc
  exact (bitCodeOpen_bit hb p hk).2 (not_le.1 hc).le h

theorem W_zero_inBox {box : Bound α} {p : Pt α} (h : W box 0 p) : InBox box p := by
  rw [inBox_iff]
  intro k hk
  exact ((h.2 k hk).2 (Nat.zero_and k))

theorem Edge.mem {k : Nat} (h : Edge k) : k ∈ [8, 4, 2, 1] := by
  rcases h with rfl | rfl | rfl | rfl <;> simp

theorem Edge.of_mem {k : Nat} (h : k ∈ [8, 4, 2, 1]) : Edge k := by
  simpa [Edge] using h

end Orb.Clip
