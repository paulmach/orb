/-
  C08 — Ring/polygon clipping keeps exactly the region inside the box.
  PROPERTY THEOREMS about the model `Orb.Clip` (clip/clip.go `ring`; clip/helpers.go Ring, Polygon,
  MultiPolygon, Collection, Geometry, Bound).  Exact arithmetic over an ordered field.
  The headline clause, region equality, is stated in OrbProofs/C08Ring.lean (`sh_region_full`) and proved in
  OrbProofs/C08Region.lean.
-/
import OrbProofs.C08Lemmas
import OrbProofs.C08Chain
import OrbProofs.C08Counter
import Mathlib.Algebra.Order.Field.Rat

namespace Orb.Clip
open Orb Orb.Core

set_option linter.unusedSectionVars false
set_option linter.unusedVariables false

variable {α : Type} [Field α] [LinearOrder α] [IsStrictOrderedRing α]

/-- The four Sutherland–Hodgman passes never hit `panic("no edge??")`. -/
theorem ring_total (box : Bound α) (inp : List (Pt α)) : ∃ out, ring box inp = some out :=
  ⟨_, C08.ring_eq box inp⟩

/-- PROVENANCE, FOR ANY ARITHMETIC (no exactness, no hypothesis on the box): every vertex of the clipped ring is
    an input vertex AS IT IS (a copy: `v ∈ inp`) or was computed by `intersect`, and then has a coordinate that
    IS an edge value of the box.  "Up to rounding" in the vertex clause can therefore only concern the other
    coordinate of such a point; a copied vertex was compared with the edges as it is and is held to the exact
    test (Driver/C08.lean, `vertsOK`: which coordinate of which pass is computed). -/
theorem ring_vertex_copy_or_computed {β : Type} [Add β] [Sub β] [Mul β] [Div β] [LT β] [LE β] [DecidableLT β]
    [DecidableLE β] [BEq β] [Min β] [Max β] (box : Bound β) (inp out : List (Pt β)) (h : ring box inp = some out) :
    ∀ v ∈ out, v ∈ inp ∨ OnEdgeValue box v := by
  obtain rfl := Option.some.inj ((C08.ring_eq box inp).symm.trans h)
  intro v hv
  -- a pass returns kept vertices and results of `intersect`
  exact C08.passes_ind box _ inp (fun _ l => ∀ v ∈ l, v ∈ inp ∨ OnEdgeValue box v) (fun _ => Or.inl)
    (fun k hk l hl => C08.passC_forall _ _ _ _ (fun _ hp _ => hp)
      (fun a b _ _ _ => Or.inr (intersect_onEdgeValue box k a b _ (C08.intersect_ixB box hk a b))) _ l hl)
    v (C08.mem_closeL hv)

/-- … in particular on the floats the implementation runs on. -/
theorem ring_vertex_copy_or_computed_float (box : Bound Float) (inp out : List (Pt Float))
    (h : ring box inp = some out) : ∀ v ∈ out, v ∈ inp ∨ OnEdgeValue box v :=
  ring_vertex_copy_or_computed box inp out h

/-- `clip.MultiPoint` returns points of its argument only (copies; any arithmetic). -/
theorem multiPoint_vertices_are_input {β : Type} [Add β] [Sub β] [Mul β] [Div β] [LT β] [LE β] [DecidableLT β]
    [DecidableLE β] [BEq β] [Min β] [Max β] (box : Bound β) (mp : List (Pt β)) :
    ∀ v ∈ multiPoint box mp, v ∈ mp := fun _ hv => (List.mem_filter.1 hv).1

/-- Every vertex of the clipped ring lies in the closed box (exact arithmetic: "up to rounding").  `hb` is not
    used by the proof; the hypothesis is the property's precondition. -/
theorem ring_vertices_in_box (box : Bound α) (hb : BoxOK box) (inp out : List (Pt α)) (h : ring box inp = some out) :
    ∀ v ∈ out, InBox box v := by
  obtain ⟨o, ho, hP⟩ := C08.ring_ok box inp
  cases ho.symm.trans h
  exact hP

/-- Every vertex of the clipped ring lies on a segment of the implicitly closed input chain, or is a
    corner of the box (Sutherland–Hodgman emits box corners that lie inside the region).
    Without the corner alternative the statement is false of the code and of any correct clipper:
    `C08.ring_vertices_on_input_false` (C08Counter.lean): box [0,2]², triangle (-3,1),(1,-3),(1,1) yields the
    corner (0,0). -/
theorem ring_vertices_on_chain (box : Bound α) (hb : BoxOK box) (inp out : List (Pt α)) (h : ring box inp = some out) :
    ∀ v ∈ out, (∃ s ∈ C08.cycSegs inp, OnSeg s.1 s.2 v) ∨ C08.IsCorner box v :=
  C08.ring_vertices_on_chain box hb inp out h

/-- Every output vertex inherits every convex property shared by all input vertices (e.g. lying in
    any half-plane or any convex region that contains the input). -/
theorem ring_vertices_in_hull (box : Bound α) (inp out : List (Pt α)) (h : ring box inp = some out)
    (C : Pt α → Prop) (hC : C08.Conv C) (hin : ∀ v ∈ inp, C v) : ∀ v ∈ out, C v :=
  C08.ring_vertices_in_hull box inp out h C hC hin

/-- A ring wholly inside the box comes back unchanged. -/
theorem ring_inside_id (box : Bound α) (inp : List (Pt α)) (hin : ∀ v ∈ inp, InBox box v) :
    ring box inp = some inp := by
  have hp : C08.passes box (C08.closedB inp) inp = inp :=
    C08.passes_ind box _ inp (fun _ l => l = inp) rfl fun k hk l hl => by
      subst hl
      exact C08.passC_id _ _ _ _ fun v hv =>
        (C08.bit_kept box hk v (fun j hj _ => inBox_iff.1 (hin v hv) j hj)).2 (inBox_iff.1 (hin v hv) k hk)
  rw [C08.ring_eq, C08.ringL, hp]
  cases inp with
  | nil => rfl
  | cons f t => simp [C08.closeL, C08.closedB]

/-- "A ring disjoint from the box yields nothing", in the strongest form that is TRUE of the code: a ring
    whose CONVEX HULL misses the box (any convex set `C` containing every vertex and no point of the box —
    a separating line of any direction, not only an edge line of the box) clips to nil.
    The unrestricted clause — "no point of the ring's region or boundary in the closed box ⇒ nil" — is
    FALSE of the code: `C08N.ring_disjoint_full_false` in OrbProofs/C08Nil.lean (a frame with a slit around
    the box; Sutherland–Hodgman leaves a zero-area ring along the box boundary; finding
    C08-sh-boundary-sliver).  The converse direction IS proved there: `C08N.ring_nil_nothing_remains`
    (nil ⇒ no point of the closed region in the open box). -/
theorem ring_hull_disjoint_nil (box : Bound α) (inp : List (Pt α)) (C : Pt α → Prop) (hC : C08.Conv C)
    (hin : ∀ v ∈ inp, C v) (hno : ∀ v, InBox box v → ¬ C v) : ring box inp = some [] := by
  obtain ⟨out, ho, hP⟩ := C08.ring_spec box inp hC hin
  rw [ho, List.eq_nil_iff_forall_not_mem.2 fun v hv => hno v (hP v hv).1 (hP v hv).2]

/-- A ring strictly on the outer side of one box edge yields nothing. -/
theorem ring_disjoint_nil (box : Bound α) (inp : List (Pt α))
    (h : (∀ v ∈ inp, v.x < box.lo.x) ∨ (∀ v ∈ inp, v.x > box.hi.x) ∨ (∀ v ∈ inp, v.y < box.lo.y) ∨ (∀ v ∈ inp, v.y > box.hi.y)) :
    ring box inp = some [] := by
  rcases h with h | h | h | h
  · exact ring_hull_disjoint_nil box inp _ (C08.conv_x_lt box.lo.x) h fun v hb hc => absurd hb.1 (not_le.2 hc)
  · exact ring_hull_disjoint_nil box inp _ (C08.conv_lt_x box.hi.x) h fun v hb hc => absurd hb.2.1 (not_le.2 hc)
  · exact ring_hull_disjoint_nil box inp _ (C08.conv_y_lt box.lo.y) h fun v hb hc => absurd hb.2.2.1 (not_le.2 hc)
  · exact ring_hull_disjoint_nil box inp _ (C08.conv_lt_y box.hi.y) h fun v hb hc => absurd hb.2.2.2 (not_le.2 hc)

/-- A closed ring stays closed. -/
theorem ring_closed (box : Bound α) (inp out : List (Pt α)) (hc : ClosedRing inp) (h : ring box inp = some out)
    (hne : out ≠ []) : ClosedRing out := by
  obtain rfl := Option.some.inj ((C08.ring_eq box inp).symm.trans h)
  refine ⟨hne, ?_⟩
  rw [C08.ringL, C08.closedB_of_closed hc.1 hc.2] at hne ⊢
  rcases C08.closeL_cases true (C08.passes box true inp) with ⟨e, hcl⟩ | ⟨f, t, -, -, e⟩
  · rw [e] at hne ⊢
    cases hp : C08.passes box true inp with
    | nil => exact absurd hp hne
    | cons f t => rw [Contains.getLast?_cons_eq, ← (C08.ptEqB_iff _ _).1 (hcl rfl f t hp)]; rfl
  · rw [e, List.getLast?_append]; simp

/-- Polygon: nil exactly when the outer ring vanishes; vanished holes are dropped, order kept. -/
theorem polygon_spec (box : Bound α) (outer : List (Pt α)) (holes : List (List (Pt α))) :
    ∃ o hs, ring box outer = some o ∧ holes.mapM (ring box) = some hs ∧
      polygon box (outer :: holes) = some (if o = [] then [] else o :: hs.filter (· ≠ [])) := by
  obtain ⟨o, ho⟩ := ring_total box outer
  obtain ⟨hs, hhs⟩ := mapM_total holes fun h _ => ring_total box h
  refine ⟨o, hs, ho, hhs, ?_⟩
  rw [polygon_cons_eq, ho, hhs]
  cases o <;> simp

/-- `clip.Bound` of two non-empty boxes is their intersection.  The non-emptiness hypotheses cannot be
    dropped: with an EMPTY argument `clip.Bound` returns the other box (`C08N.clipBound_empty_arg`; the
    unrestricted statement is refuted, `C08N.clipBound_is_intersection_full_false`; the library's own test
    pins this).  `clip.Geometry` does not hand an empty Bound argument to it but returns nil
    (`C08N.geometry_bound_empty_nil`), and "nil ⇔ no common point" holds for EVERY Bound argument:
    `C08N.geometry_bound_nil_iff`. -/
theorem clipBound_is_intersection (b c : Bound α) (hb : b.isEmpty = false) (hc : c.isEmpty = false) (p : Pt α) :
    InBox (clipBound b c) p ↔ (InBox b p ∧ InBox c p) := by
  simp only [clipBound, hb, hc, Bool.and_self, Bool.false_eq_true, if_false, InBox, max_le_iff, le_min_iff]
  exact ⟨fun ⟨⟨a1, a2⟩, ⟨b1, b2⟩, ⟨c1, c2⟩, ⟨d1, d2⟩⟩ => ⟨⟨a1, b1, c1, d1⟩, ⟨a2, b2, c2, d2⟩⟩,
    fun ⟨⟨a1, b1, c1, d1⟩, ⟨a2, b2, c2, d2⟩⟩ => ⟨⟨a1, a2⟩, ⟨b1, b2⟩, ⟨c1, c2⟩, ⟨d1, d2⟩⟩⟩

/-- The generic entry point never gets stuck, for every geometry kind (collections nested to any depth) … -/
theorem geometry_total (eb box : Bound α) (hb : BoxOK box) (g : Geom α) : ∃ r, geometry eb box g = some r :=
  geometry_total' eb box hb g

/-- … and never returns a vertex outside the box. -/
theorem geometry_vertices_in_box (eb box : Bound α) (hb : BoxOK box) (g r : Geom α)
    (h : geometry eb box g = some (some r)) : ∀ v ∈ gverts r, InBox box v := by
  obtain ⟨r', hr, hP⟩ := C08.geometry_good eb box hb g
  cases hr.symm.trans h
  exact hP r rfl

/-- Non-vacuity: a concrete cut over ℚ (a square cut at a box corner). -/
theorem ring_witness : ring (⟨⟨0, 0⟩, ⟨2, 2⟩⟩ : Bound ℚ) [⟨1, 1⟩, ⟨3, 1⟩, ⟨3, 3⟩, ⟨1, 3⟩, ⟨1, 1⟩] =
    some [⟨1, 1⟩, ⟨2, 1⟩, ⟨2, 2⟩, ⟨1, 2⟩, ⟨1, 1⟩] := by decide +kernel

end Orb.Clip
