/-
  C02 (GeoJSON via JSON and BSON) and the GeoJSON share of C05 — what the decoders do on the pieces of
  the documents the library writes: coordinates, struct-field matching on lower-case keys, every decoder
  step as a `Res.bind` equation, the two shapes of a geometry document, property values as Go holds
  them, the field steps of a feature; the RFC 7946 shape and marshalling the decoded value again.
-/
import Orb.GeoJSON
import OrbProofs.GeomInd
import OrbProofs.ResLemmas

namespace Orb.GeoJSON
open Orb

theorem finite_not_inf {b : UInt64} (h : finite b = true) : isInf b = false := by
  simp only [finite, bne_iff_ne, ne_eq] at h
  simp [isInf, h]

theorem f64Of_num (c : Codec) (b : UInt64) (h : c = .bson ∨ finite b = true) : f64Of c (.num b) = some b := by
  rcases h with rfl | h
  · simp [f64Of]
  · simp [f64Of, finite_not_inf h]

theorem ptOf_ptJ (c : Codec) (p : Pt UInt64) (h : c = .bson ∨ finitePt p = true) : ptOf c (ptJ p) = some p := by
  have hx : f64Of c (.num p.x) = some p.x := f64Of_num c p.x (h.imp id fun h => by simp [finitePt] at h; exact h.1)
  have hy : f64Of c (.num p.y) = some p.y := f64Of_num c p.y (h.imp id fun h => by simp [finitePt] at h; exact h.2)
  simp [ptJ, ptOf, hx, hy]

theorem mapOpt_map {α β γ : Type} (f : β → Option γ) (g : α → β) (h : α → γ) (l : List α)
    (hh : ∀ a ∈ l, f (g a) = some (h a)) : mapOpt f (l.map g) = some (l.map h) := by
  induction l with
  | nil => rfl
  | cons a l ih =>
    have h1 := hh a (by simp)
    have h2 := ih (fun b hb => hh b (by simp [hb]))
    simp [mapOpt, h1, h2]

theorem sliceOf_arr_map {α : Type} (f : Json → Option α) (g : α → Json) (l : List α)
    (h : ∀ a ∈ l, f (g a) = some a) : sliceOf f (.arr (l.map g)) = some (some l) := by
  simp [sliceOf, mapOpt_map f g id l h]

def lowerAscii (ch : Char) : Bool := decide (97 ≤ ch.toNat) && decide (ch.toNat ≤ 122)

theorem foldChar_lower (ch : Char) (h : lowerAscii ch = true) : foldCharJ ch = ch ∧ foldCharB ch = ch := by
  simp only [lowerAscii, Bool.and_eq_true, decide_eq_true_eq] at h
  have h1 : ¬ ('A' ≤ ch ∧ ch ≤ 'Z') := by
    rintro ⟨_, h2⟩
    have : ch.toNat ≤ 90 := h2
    omega
  have h2 : ch.toNat ≠ 0x17f := by omega
  have h3 : ch.toNat ≠ 0x212a := by omega
  have h4 : ch.toNat ≠ 0x130 := by omega
  simp [foldCharJ, foldCharB, h1, h2, h3, h4]

/-- both struct-field matchers leave a lower-case ASCII key alone: the keys the library writes select
    the fields of the same name -/
theorem fieldKey_lower (c : Codec) (k : String) (h : k.toList.all lowerAscii = true) : fieldKey c k = k := by
  have hJ : k.toList.map foldCharJ = k.toList :=
    (List.map_congr_left fun ch hch => (foldChar_lower ch (List.all_eq_true.1 h ch hch)).1).trans (List.map_id' _)
  have hB : k.toList.map foldCharB = k.toList :=
    (List.map_congr_left fun ch hch => (foldChar_lower ch (List.all_eq_true.1 h ch hch)).2).trans (List.map_id' _)
  cases c <;> simp [fieldKey, hJ, hB]

theorem fk_type (c : Codec) : fieldKey c "type" = "type" := fieldKey_lower c _ (by decide)
theorem fk_coordinates (c : Codec) : fieldKey c "coordinates" = "coordinates" := fieldKey_lower c _ (by decide)
theorem fk_geometries (c : Codec) : fieldKey c "geometries" = "geometries" := fieldKey_lower c _ (by decide)
theorem fk_id (c : Codec) : fieldKey c "id" = "id" := fieldKey_lower c _ (by decide)
theorem fk_bbox (c : Codec) : fieldKey c "bbox" = "bbox" := fieldKey_lower c _ (by decide)
theorem fk_geometry (c : Codec) : fieldKey c "geometry" = "geometry" := fieldKey_lower c _ (by decide)
theorem fk_properties (c : Codec) : fieldKey c "properties" = "properties" := fieldKey_lower c _ (by decide)

/-! ### the steps of the decoders: a callee's error or panic is handed on (`Res.bind`, `Res.map`) -/

theorem decodeGeometry_obj (c : Codec) (ms : Members) :
    decodeGeometry c (.obj ms) = (decodeGMembers c ms {}).bind (finishGeometry c) := by
  rw [decodeGeometry]; cases decodeGMembers c ms {} <;> rfl

theorem decodeGMembers_cons (c : Codec) (k : String) (v : Json) (rest : Members) (st : GSt) :
    decodeGMembers c ((k, v) :: rest) st = (gStep c k v st (geomsOf c v)).bind (decodeGMembers c rest) := by
  rw [decodeGMembers]; cases gStep c k v st (geomsOf c v) <;> rfl

theorem decodeFMembers_cons (c : Codec) (k : String) (v : Json) (rest : Members) (st : FSt) :
    decodeFMembers c ((k, v) :: rest) st = (fStep c k v st).bind (decodeFMembers c rest) := by
  rw [decodeFMembers]; cases fStep c k v st <;> rfl

theorem decodeFCMap_eq (c : Codec) (m : Members) :
    decodeFCMap c m =
      (fcTypeOf c (lookupKey "type" m)).bind fun typ => (fcBBoxOf c (lookupKey "bbox" m)).bind fun bb =>
      (fcFeaturesOf c (lookupKey "features" m)).bind fun fs =>
      (fcExtrasOf c (m.filter fun kv => !reservedKey kv.1)).map fun ex =>
        { typ := typ, bbox := bb, features := fs, extra := ex } := by
  unfold decodeFCMap
  cases fcTypeOf c (lookupKey "type" m) <;> try rfl
  cases fcBBoxOf c (lookupKey "bbox" m) <;> try rfl
  cases fcFeaturesOf c (lookupKey "features" m) <;> try rfl
  cases fcExtrasOf c (m.filter fun kv => !reservedKey kv.1) <;> rfl

/-! ### the two shapes of a geometry document: the members fill the fields of the struct -/

theorem decodeGeometry_coordObj (c : Codec) (ty : String) (J : Json) :
    decodeGeometry c (.obj [("type", .str ty), ("coordinates", J)]) = finishGeometry c { ty := ty, coords := some J } := by
  simp [decodeGeometry_obj, decodeGMembers, gStep, gTypeField, fk_type, fk_coordinates, Res.bind]

theorem coordsOf_ne_coll {c : Codec} {ty : String} {J : Json} {r : R V} (h : coordsOf c ty J = some r) :
    ty ≠ "GeometryCollection" := by
  rintro rfl; cases h

theorem decode_coordObj (c : Codec) (ty : String) (J : Json) (v : V) (hk : coordsOf c ty J = some (.ok v)) :
    decodeGeometry c (.obj [("type", .str ty), ("coordinates", J)]) = .ok ⟨v, false⟩ := by
  simp [decodeGeometry_coordObj, finishGeometry, coordsOf_ne_coll hk, hk]

theorem length_ne_zero_of_not_isEmpty {β : Type} {l : List β} (h : (!l.isEmpty) = true) : l.length ≠ 0 := by
  cases l with
  | nil => cases h
  | cons _ _ => exact Nat.succ_ne_zero _

theorem coordDoc_eq (c : Codec) (ty : String) (J : Json) (n : Nat) (h : c = .json ∨ n ≠ 0) :
    coordDoc c ty J n = .obj [("type", .str ty), ("coordinates", J)] := by
  rcases h with rfl | h
  · simp [coordDoc]
  · simp [coordDoc, h]

theorem canonGs_eq_map (gs : List G) : canonG.canonGs gs = gs.map canonG := by
  induction gs with
  | nil => rfl
  | cons g gs ih => simp [canonG.canonGs, ih]

theorem geomsJ_eq_map (c : Codec) (gs : List G) : geomsJ c gs = gs.map (geomJ c) := by
  induction gs with
  | nil => rfl
  | cons g gs ih => simp [geomsJ, ih]

theorem coordDoc_head (c : Codec) (ty : String) (J : Json) (n : Nat) :
    ∃ ms, coordDoc c ty J n = .obj (("type", .str ty) :: ms) := by
  unfold coordDoc; split <;> exact ⟨_, rfl⟩

theorem coordDoc_ne_null (c : Codec) (ty : String) (J : Json) (n : Nat) : coordDoc c ty J n ≠ .null := by
  obtain ⟨ms, hms⟩ := coordDoc_head c ty J n
  rw [hms]; exact Json.noConfusion

theorem geomJ_head (c : Codec) (g : G) (hne : isEmptyColl g = false) :
    ∃ ms, geomJ c g = .obj (("type", .str (kindName g.kind)) :: ms) := by
  cases g with
  | collection gs => cases gs with
    | nil => cases hne
    | cons g0 gs => exact ⟨_, rfl⟩
  | point p => exact ⟨_, rfl⟩
  | ring ps => exact ⟨_, rfl⟩
  | bound a b => exact ⟨_, rfl⟩
  | _ => exact coordDoc_head ..

theorem typeOfV_canonG (g : G) : typeOfV (.val (canonG g)) = kindName g.kind := by
  cases g <;> rfl

theorem geomJ_ne_null (c : Codec) (g : G) (h : isEmptyColl g = false) : geomJ c g ≠ .null := by
  obtain ⟨ms, hms⟩ := geomJ_head c g h
  rw [hms]; exact Json.noConfusion

theorem decodeGeometry_ok_ne_null (c : Codec) (j : Json) (d : DG) (h : decodeGeometry c j = .ok d) : j ≠ .null := by
  rintro rfl
  cases c <;> simp [decodeGeometry] at h

theorem gElemOf_ok (c : Codec) (j : Json) (d : DG) (h : decodeGeometry c j = .ok d) :
    gElemOf j (decodeGeometry c j) = .ok (some d) := by
  have := decodeGeometry_ok_ne_null c j d h
  cases j <;> simp_all [gElemOf, Res.map]

theorem boundRing_finite (a b : Pt UInt64) (ha : finitePt a = true) (hb : finitePt b = true) :
    (boundRing a b).all finitePt = true := by
  simp [finitePt] at ha hb
  simp [boundRing, finitePt, ha, hb]

theorem hasNilMember_map_some (l : List DG) : hasNilMember (l.map some) = false := by
  induction l with
  | nil => rfl
  | cons d l ih => simp [hasNilMember, ih]

/-! ### the member loops of the decoders are `resMapM` -/

theorem membersGeometry_eq (ms : List (Option DG)) : membersGeometry ms = C20M.resMapM memberGeometry ms := by
  induction ms with
  | nil => rfl
  | cons m ms ih =>
    rw [membersGeometry, C20M.resMapM, ih]
    cases memberGeometry m <;> cases C20M.resMapM memberGeometry ms <;> rfl

theorem decodeGElems_eq (c : Codec) (l : List Json) :
    decodeGElems c l = C20M.resMapM (fun j => gElemOf j (decodeGeometry c j)) l := by
  induction l with
  | nil => rfl
  | cons j l ih =>
    rw [decodeGElems, C20M.resMapM, ih]
    cases gElemOf j (decodeGeometry c j) <;> cases C20M.resMapM (fun j => gElemOf j (decodeGeometry c j)) l <;> rfl

theorem decodeFeatures_eq (c : Codec) (l : List Json) : decodeFeatures c l = C20M.resMapM (featureElem c) l := by
  induction l with
  | nil => rfl
  | cons j l ih =>
    rw [decodeFeatures, C20M.resMapM, ih]
    cases featureElem c j <;> cases C20M.resMapM (featureElem c) l <;> rfl

theorem membersGeometry_map_some (l : List DG) :
    membersGeometry (l.map some) = .ok (l.map (·.v.toGeom)) := by
  rw [membersGeometry_eq]
  exact C20M.resMapM_map_ok _ _ _ l fun _ _ => rfl

theorem decodeGeometry_collObj (c : Codec) (ty : String) (L : List Json) :
    decodeGeometry c (.obj [("type", .str ty), ("geometries", .arr L)]) =
      (decodeGElems c L).bind fun ds => finishGeometry c { ty := ty, geoms := some ds } := by
  simp (config := { decide := true }) only [decodeGeometry_obj, decodeGMembers, gStep, gTypeField, gGeomsField,
    geomsOf, fk_type, fk_geometries, if_true, if_false]
  cases decodeGElems c L <;> rfl

theorem decode_collObj (c : Codec) (L : List Json) (ds : List DG)
    (h : decodeGElems c L = .ok (ds.map some)) :
    decodeGeometry c (.obj [("type", .str "GeometryCollection"), ("geometries", .arr L)]) =
      .ok ⟨.val (.collection (ds.map (·.v.toGeom))), false⟩ := by
  simp [decodeGeometry_collObj, h, Res.bind, finishGeometry, hasNilMember_map_some, membersGeometry_map_some]

theorem okGs_iff (gs : List G) :
    okGs gs = true ↔ ∀ g ∈ gs, isEmptyColl g = false ∧ okG g = true := by
  induction gs with
  | nil => simp [okGs]
  | cons g gs ih => simp [okGs, ih, and_assoc]

theorem nonEmptyMultis_iff (gs : List G) :
    nonEmptyMultis gs = true ↔ ∀ g ∈ gs, nonEmptyMulti g = true := by
  induction gs with
  | nil => simp [nonEmptyMultis]
  | cons g gs ih => simp [nonEmptyMultis, ih]

theorem coll_members (c : Codec) (gs : List G) (hok : okG (.collection gs) = true)
    (hb : c = .json ∨ nonEmptyMulti (.collection gs) = true) :
    ∀ g ∈ gs, isEmptyColl g = false ∧ okG g = true ∧ (c = .json ∨ nonEmptyMulti g = true) := by
  intro g hg
  have h := (okGs_iff gs).1 (by simpa [okG] using hok) g hg
  exact ⟨h.1, h.2, hb.imp id fun h => (nonEmptyMultis_iff _).1 (by simpa [nonEmptyMulti] using h) g hg⟩

theorem geomJ_collection_cons (c : Codec) (g : G) (gs : List G) :
    geomJ c (.collection (g :: gs)) =
      .obj [("type", .str "GeometryCollection"), ("geometries", .arr (geomsJ c (g :: gs)))] := by
  simp [geomJ, geomsJ]

theorem geomDoc_val (c : Codec) (g : G) (h : isEmptyColl g = false) : geomDoc c (.val g) = geomJ c g := by
  have hn := geomJ_ne_null c g h
  unfold geomDoc geomMember
  cases c <;> cases hj : geomJ .. <;> simp_all

theorem geomPtrOfDoc_ne_null (j : Json) (h : j ≠ .null) : geomPtrOfDoc j = geomOfDoc .json j := by
  cases j <;> simp_all [geomPtrOfDoc]

/-! ### marshalling the decoded value again -/

theorem geomJ_canonG (c : Codec) : ∀ g : G, geomJ c (canonG g) = geomJ c g := by
  intro g
  induction g using Geom.ind with
  | ring ps => simp [canonG, geomJ, coordDoc, ptssJ]
  | bound a b => simp [canonG, geomJ, coordDoc, ptssJ]
  | collection gs ih =>
    cases gs with
    | nil => rfl
    | cons g0 gs' =>
      have h0 := ih g0 (by simp)
      have hs : geomsJ c (canonG.canonGs gs') = geomsJ c gs' := by
        rw [canonGs_eq_map, geomsJ_eq_map, geomsJ_eq_map, List.map_map]
        exact List.map_congr_left fun g hg => ih g (by simp [hg])
      simp [canonG, canonG.canonGs, geomJ, h0, hs]
  | _ => rfl

theorem geomMember_canonV (c : Codec) (v : V) (hr : v ≠ .nilSlice .ring) :
    geomMember c (canonV v) = geomMember c v := by
  cases v with
  | nilIface => rfl
  | nilSlice k => cases k <;> first | rfl | exact absurd rfl hr
  | val g =>
    cases g with
    | collection gs =>
      cases gs with
      | nil => rfl
      | cons g0 gs' => exact geomJ_canonG c _
    | _ => exact geomJ_canonG c _

theorem noNilRing_ne (v : V) (h : noNilRing v = true) : v ≠ .nilSlice .ring := by
  rintro rfl; simp [noNilRing] at h

theorem geomDoc_canonV (c : Codec) (v : V) (hr : v ≠ .nilSlice .ring) :
    geomDoc c (canonV v) = geomDoc c v := by
  simp [geomDoc, geomMember_canonV c v hr]

/-! ### RFC 7946 shape -/

theorem coordDepth_pt (p : Pt UInt64) : coordDepth 1 (ptJ p) = true := by simp [ptJ, coordDepth]

theorem allDepth_map {α : Type} (d : Nat) (f : α → Json) (l : List α) (h : ∀ a ∈ l, coordDepth d (f a) = true) :
    coordDepth.allDepth d (l.map f) = true := by
  induction l with
  | nil => rfl
  | cons a l ih => simp [coordDepth.allDepth, h a (by simp), ih (fun b hb => h b (by simp [hb]))]

theorem coordDepth_pts (ps : List (Pt UInt64)) : coordDepth 2 (ptsJ ps) = true := by
  simp [ptsJ, coordDepth, allDepth_map 1 ptJ ps (fun p _ => coordDepth_pt p)]

theorem coordDepth_ptss (l : List (List (Pt UInt64))) : coordDepth 3 (ptssJ l) = true := by
  simp [ptssJ, coordDepth, allDepth_map 2 ptsJ l (fun p _ => coordDepth_pts p)]

theorem coordDepth_ptsss (l : List (List (List (Pt UInt64)))) : coordDepth 4 (ptsssJ l) = true := by
  simp [ptsssJ, coordDepth, allDepth_map 3 ptssJ l (fun p _ => coordDepth_ptss p)]

theorem wellformed_coord (ty : String) (d : Nat) (J : Json) (hd : depthOfType ty = some d)
    (h : coordDepth d J = true) : wellformed (.obj [("type", .str ty), ("coordinates", J)]) = true := by
  simp [wellformed, hd, h]

theorem wellformedList_of_forall (l : List Json) (h : ∀ j ∈ l, wellformed j = true) : wellformedList l = true := by
  induction l with
  | nil => rfl
  | cons a l ih => simp [wellformedList, h a (by simp), ih (fun b hb => h b (by simp [hb]))]

theorem geomJ_wellformed (c : Codec) : ∀ g : G, okG g = true → (c = .json ∨ nonEmptyMulti g = true) →
    isEmptyColl g = false → wellformed (geomJ c g) = true := by
  intro g
  induction g using Geom.ind with
  | point p => intro _ _ _; exact wellformed_coord _ 1 _ rfl (coordDepth_pt p)
  | multiPoint ps =>
    intro _ hb _
    rw [geomJ, coordDoc_eq c _ _ _ (hb.imp id length_ne_zero_of_not_isEmpty)]; exact wellformed_coord _ 2 _ rfl (coordDepth_pts ps)
  | lineString ps =>
    intro _ hb _
    rw [geomJ, coordDoc_eq c _ _ _ (hb.imp id length_ne_zero_of_not_isEmpty)]; exact wellformed_coord _ 2 _ rfl (coordDepth_pts ps)
  | multiLineString ls =>
    intro _ hb _
    rw [geomJ, coordDoc_eq c _ _ _ (hb.imp id length_ne_zero_of_not_isEmpty)]; exact wellformed_coord _ 3 _ rfl (coordDepth_ptss ls)
  | ring ps => intro _ _ _; exact wellformed_coord _ 3 _ rfl (coordDepth_ptss [ps])
  | polygon rs =>
    intro _ hb _
    rw [geomJ, coordDoc_eq c _ _ _ (hb.imp id length_ne_zero_of_not_isEmpty)]; exact wellformed_coord _ 3 _ rfl (coordDepth_ptss rs)
  | multiPolygon ps =>
    intro _ hb _
    rw [geomJ, coordDoc_eq c _ _ _ (hb.imp id length_ne_zero_of_not_isEmpty)]; exact wellformed_coord _ 4 _ rfl (coordDepth_ptsss ps)
  | bound a b => intro _ _ _; exact wellformed_coord _ 3 _ rfl (coordDepth_ptss [boundRing a b])
  | collection gs ih =>
    intro hok hb hne
    cases gs with
    | nil => simp [isEmptyColl] at hne
    | cons g0 gs' =>
      have hm := coll_members c _ hok hb
      have hl : wellformedList (geomsJ c (g0 :: gs')) = true := by
        rw [geomsJ_eq_map]
        exact wellformedList_of_forall _ (by
          intro j hj
          obtain ⟨g, hg, rfl⟩ := List.mem_map.1 hj
          exact ih g hg (hm g hg).2.1 (hm g hg).2.2 (hm g hg).1)
      rw [geomJ_collection_cons]
      simp [wellformed, hl]

theorem Json.ind {P : Json → Prop} (hnull : P .null) (hbool : ∀ b, P (.bool b)) (hnum : ∀ b, P (.num b))
    (hstr : ∀ s, P (.str s)) (harr : ∀ l, (∀ j ∈ l, P j) → P (.arr l))
    (hobj : ∀ ms : Members, (∀ kv ∈ ms, P kv.2) → P (.obj ms)) (hbad : P .bad) : ∀ j, P j := by
  intro j
  refine Json.rec (motive_1 := P) (motive_2 := fun l => ∀ j ∈ l, P j)
    (motive_3 := fun ms => ∀ kv ∈ ms, P kv.2) (motive_4 := fun kv => P kv.2)
    hnull hbool hnum hstr harr hobj hbad ?_ ?_ ?_ ?_ ?_ j
  · intro j hj; cases hj
  · intro head tail hh ht j hj
    rcases List.mem_cons.1 hj with rfl | hj
    · exact hh
    · exact ht j hj
  · intro kv hkv; cases hkv
  · intro head tail hh ht kv hkv
    rcases List.mem_cons.1 hkv with rfl | hkv
    · exact hh
    · exact ht kv hkv
  · intro k v hv; exact hv

/-! ### property / id / foreign-member values -/

theorem valOfList_eq_map (l : List Json) : valOfList l = l.map valOf := by
  induction l with
  | nil => rfl
  | cons j l ih => simp [valOfList, ih]

theorem valOfMembers_eq_map (ms : Members) : valOfMembers ms = ms.map fun kv => (kv.1, valOf kv.2) := by
  induction ms with
  | nil => rfl
  | cons kv ms ih => obtain ⟨k, v⟩ := kv; simp [valOfMembers, ih]

theorem okVals_iff (l : List Json) : okVals l = true ↔ ∀ j ∈ l, okVal j = true := by
  induction l with
  | nil => simp [okVals]
  | cons j l ih => simp [okVals, ih]

/-- the keys of a member list are strictly increasing -/
def SortedKeys : Members → Prop
  | [] => True
  | [_] => True
  | (k, _) :: (k', v') :: rest => k < k' ∧ SortedKeys ((k', v') :: rest)

theorem okMembers_iff (ms : Members) :
    okMembers ms = true ↔ (∀ kv ∈ ms, okVal kv.2 = true) ∧ SortedKeys ms := by
  induction ms with
  | nil => simp [okMembers, SortedKeys]
  | cons kv ms ih =>
    obtain ⟨k, v⟩ := kv
    cases ms with
    | nil => simp [okMembers, SortedKeys]
    | cons kv' rest =>
      obtain ⟨k', v'⟩ := kv'
      rw [show okMembers ((k, v) :: (k', v') :: rest) =
        (okVal v && decide (k < k') && okMembers ((k', v') :: rest)) from rfl]
      simp only [Bool.and_eq_true, decide_eq_true_eq, ih, SortedKeys, List.mem_cons, forall_eq_or_imp]
      constructor
      · rintro ⟨⟨a, b⟩, ⟨c, d⟩, e⟩; exact ⟨⟨a, c, d⟩, b, e⟩
      · rintro ⟨⟨a, c, d⟩, b, e⟩; exact ⟨⟨a, b⟩, ⟨c, d⟩, e⟩

theorem normKeys_sorted (ms : Members) (h : SortedKeys ms) : normKeys ms = ms := by
  induction ms with
  | nil => rfl
  | cons kv ms ih =>
    obtain ⟨k, v⟩ := kv
    cases ms with
    | nil => rfl
    | cons kv' rest =>
      obtain ⟨k', v'⟩ := kv'
      have h' : k < k' ∧ SortedKeys ((k', v') :: rest) := h
      rw [normKeys, ih h'.2]
      simp [insertKeep, h'.1]

theorem hasInfList_iff (l : List Json) : hasInfList l = false ↔ ∀ j ∈ l, hasInf j = false := by
  induction l with
  | nil => simp [hasInfList]
  | cons j l ih => simp [hasInfList, ih]

theorem hasInfMembers_iff (ms : Members) : hasInfMembers ms = false ↔ ∀ kv ∈ ms, hasInf kv.2 = false := by
  induction ms with
  | nil => simp [hasInfMembers]
  | cons kv ms ih => obtain ⟨k, v⟩ := kv; simp [hasInfMembers, ih]

theorem hasBadList_iff (l : List Json) : hasBadList l = false ↔ ∀ j ∈ l, hasBad j = false := by
  induction l with
  | nil => simp [hasBadList]
  | cons j l ih => simp [hasBadList, ih]

theorem hasBadMembers_iff (ms : Members) : hasBadMembers ms = false ↔ ∀ kv ∈ ms, hasBad kv.2 = false := by
  induction ms with
  | nil => simp [hasBadMembers]
  | cons kv ms ih => obtain ⟨k, v⟩ := kv; simp [hasBadMembers, ih]

/-- the three things the decoders ask of a property / id / foreign-member value -/
theorem okVal_spec : ∀ j : Json, okVal j = true → valOf j = j ∧ hasInf j = false ∧ hasBad j = false := by
  intro j
  induction j using Json.ind with
  | hnum b => intro h; exact ⟨rfl, by simpa [hasInf] using finite_not_inf (by simpa [okVal] using h), rfl⟩
  | harr l ih =>
    intro h
    have h' := fun j hj => ih j hj ((okVals_iff l).1 (by simpa [okVal] using h) j hj)
    refine ⟨?_, by simpa [hasInf] using (hasInfList_iff l).2 fun j hj => (h' j hj).2.1,
      by simpa [hasBad] using (hasBadList_iff l).2 fun j hj => (h' j hj).2.2⟩
    rw [valOf, valOfList_eq_map, List.map_congr_left fun j hj => (h' j hj).1, List.map_id']
  | hobj ms ih =>
    intro h
    have hm := (okMembers_iff ms).1 (by simpa [okVal] using h)
    have h' := fun kv hkv => ih kv hkv (hm.1 kv hkv)
    refine ⟨?_, by simpa [hasInf] using (hasInfMembers_iff ms).2 fun kv hkv => (h' kv hkv).2.1,
      by simpa [hasBad] using (hasBadMembers_iff ms).2 fun kv hkv => (h' kv hkv).2.2⟩
    rw [valOf, valOfMembers_eq_map, List.map_congr_left (g := id) fun kv hkv => by rw [(h' kv hkv).1]; rfl,
      List.map_id, normKeys_sorted ms hm.2]
  | hbad => intro h; cases h
  | _ => intro _; exact ⟨rfl, rfl, rfl⟩

theorem valOfMembers_ok (ms : Members) (h : okMembers ms = true) : valOfMembers ms = ms := by
  have h' := (okMembers_iff ms).1 h
  rw [valOfMembers_eq_map]
  conv => rhs; rw [← List.map_id ms]
  exact List.map_congr_left fun kv hkv => by
    obtain ⟨k, v⟩ := kv
    simp [(okVal_spec v (h'.1 (k, v) hkv)).1]

theorem normVal_ok (ms : Members) (h : okMembers ms = true) : normKeys (valOfMembers ms) = ms := by
  rw [valOfMembers_ok ms h, normKeys_sorted ms ((okMembers_iff ms).1 h).2]

theorem hasInfMembers_ok (ms : Members) (h : okMembers ms = true) : hasInfMembers ms = false :=
  (hasInfMembers_iff ms).2 fun kv hkv => (okVal_spec kv.2 (((okMembers_iff ms).1 h).1 kv hkv)).2.1

theorem hasBadMembers_ok (ms : Members) (h : okMembers ms = true) : hasBadMembers ms = false :=
  (hasBadMembers_iff ms).2 fun kv hkv => (okVal_spec kv.2 (((okMembers_iff ms).1 h).1 kv hkv)).2.2

theorem bboxOf_bboxJ (c : Codec) (bb : List UInt64) (h : bb.all finite = true) :
    bboxOf c (bboxJ bb) = some (some bb) :=
  sliceOf_arr_map _ _ _ fun b hb => f64Of_num c b (Or.inr (List.all_eq_true.1 h b hb))

theorem fStep_id_some (c : Codec) (j : Json) (st : FSt) (h : okId (some j) = true) :
    fStep c "id" (valOf j) st = .ok { st with id := some j } := by
  cases j <;> simp [okId] at h
  case num b => simp [fStep, fIdField, fk_id, valOf, hasInf, hasBad, finite_not_inf h]
  case str s => simp [fStep, fIdField, fk_id, valOf, hasInf, hasBad]

theorem fStep_id_null (c : Codec) (st : FSt) : fStep c "id" .null st = .ok { st with id := none } := by
  simp [fStep, fIdField, fk_id]

theorem fStep_type (c : Codec) (s : String) (st : FSt) : fStep c "type" (.str s) st = .ok { st with ty := s } := by
  simp (config := { decide := true }) [fStep, fTypeField, fk_type]

theorem fStep_bbox (c : Codec) (bb : List UInt64) (st : FSt) (h : bb.all finite = true) :
    fStep c "bbox" (bboxJ bb) st = .ok { st with bbox := some bb } := by
  simp (config := { decide := true }) [fStep, fBBoxField, fk_bbox, bboxOf_bboxJ c bb h]

theorem fStep_geometry_eq (c : Codec) (v : Json) (st : FSt) : fStep c "geometry" v st = fGeomField c v st := by
  simp (config := { decide := true }) [fStep, fk_geometry]

theorem fStep_geometry_null (c : Codec) (st : FSt) :
    fStep c "geometry" .null st = .ok { st with geom := none } := by
  rw [fStep_geometry_eq]; rfl

theorem fStep_geometry (c : Codec) (j : Json) (d : DG) (st : FSt) (h : decodeGeometry c j = .ok d) :
    fStep c "geometry" j st = .ok { st with geom := some d } := by
  have := decodeGeometry_ok_ne_null c j d h
  rw [fStep_geometry_eq]; cases j <;> simp_all [fGeomField]

theorem fStep_props_null (c : Codec) (st : FSt) :
    fStep c "properties" .null st = .ok { st with props := none } := by
  simp (config := { decide := true }) [fStep, fPropsField, fk_properties]

theorem fStep_props_obj (c : Codec) (ms : Members) (st : FSt) (h : okMembers ms = true) :
    fStep c "properties" (.obj ms) st = .ok { st with props := some ms } := by
  simp (config := { decide := true }) [fStep, fPropsField, fk_properties, normVal_ok ms h, hasInfMembers_ok ms h,
    hasBadMembers_ok ms h]

theorem decodeFMembers_append (c : Codec) (ms1 ms2 : Members) (st : FSt) :
    decodeFMembers c (ms1 ++ ms2) st = (decodeFMembers c ms1 st).bind (decodeFMembers c ms2) := by
  induction ms1 generalizing st with
  | nil => simp [decodeFMembers, Res.bind]
  | cons kv ms1 ih =>
    obtain ⟨k, v⟩ := kv
    simp only [List.cons_append, decodeFMembers]
    cases fStep c k v st <;> simp [ih, Res.bind]

theorem decode_idPart (c : Codec) (id : Option Json) (st : FSt) (h : okId id = true) (h0 : st.id = none) :
    decodeFMembers c (idMember c id) st = .ok { st with id := id } := by
  obtain ⟨i, t, b, g, p, sv⟩ := st
  simp only at h0
  subst h0
  cases id with
  | none => cases c <;> simp [idMember, decodeFMembers, fStep_id_null]
  | some j => simp [idMember, decodeFMembers, fStep_id_some c j _ h]

theorem decode_bboxPart (c : Codec) (bbox : Option (List UInt64)) (st : FSt)
    (h : (bbox.getD []).all finite = true) (h0 : st.bbox = none) :
    decodeFMembers c (bboxMember bbox) st = .ok { st with bbox := canonBBox bbox } := by
  obtain ⟨i, t, b, g, p, sv⟩ := st
  simp only at h0
  subst h0
  cases bbox with
  | none => simp [bboxMember, canonBBox, decodeFMembers]
  | some bb =>
    cases bb with
    | nil => simp [bboxMember, canonBBox, decodeFMembers]
    | cons b bs => simp [bboxMember, canonBBox, decodeFMembers, fStep_bbox c (b :: bs) _ (by simpa using h)]

theorem fStep_propsDoc (c : Codec) (props : Option Members) (st : FSt) (hp : okMembers (props.getD []) = true) :
    fStep c "properties" (propsDoc props) st = .ok { st with props := canonProps props } := by
  cases props with
  | none => simp [propsDoc, canonProps, fStep_props_null]
  | some ps =>
    cases ps with
    | nil => simp [propsDoc, canonProps, fStep_props_null]
    | cons p ps =>
      have h1 : okMembers (p :: ps) = true := by simpa using hp
      simp only [propsDoc, canonProps, normVal_ok _ h1]
      exact fStep_props_obj c _ st h1

end Orb.GeoJSON
