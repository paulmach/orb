/-
  C01: `WF32`, the quantifier of the round-trip theorems; the dispatch of `Decode` as a table from type code to reader
  (`bodyReader`, `decodeWith_eq`), which decoder a successful `Unmarshal` ran (`UnmarshalAs`), the decoders on encoder
  output (what they return, as one equation each, with the nesting depth `collDepth` deciding the outcome), the Scan
  table, and at the end what a non-WKB first byte does (for the prefix retry of `wkb.Scanner`).
-/
import OrbProofs.C01Consume
import OrbProofs.C05Byte

namespace Orb.WKB
open Orb Generated.Params

/-- every slice length fits the 32-bit count field of the format -/
def WF32 : G → Prop
  | .point _ => True
  | .multiPoint ps => ps.length < 2^32
  | .lineString ps => ps.length < 2^32
  | .ring ps => ps.length < 2^32
  | .multiLineString ls => ls.length < 2^32 ∧ ∀ l ∈ ls, l.length < 2^32
  | .polygon rs => rs.length < 2^32 ∧ ∀ r ∈ rs, r.length < 2^32
  | .multiPolygon ps => ps.length < 2^32 ∧ ∀ p ∈ ps, p.length < 2^32 ∧ ∀ r ∈ p, r.length < 2^32
  | .bound _ _ => True
  | .collection gs => gs.length < 2^32 ∧ ∀ g ∈ gs, WF32 g

/-- A reader whose value is made a geometry by `f`: the arms of `bodyReader`.  (Not the local `wrap` inside `unmarshal`
    of Orb/WKB.lean.) -/
def wrap (f : β → G) (rd : Bytes → R (β × Bytes)) (s : Bytes) : R (G × Bytes) :=
  (rd s).bind fun p => .ok (f p.1, p.2)

theorem Codec.wrap_enc {rd : Bytes → R (β × Bytes)} {enc : β → Bytes} {WF : β → Prop} {m : β → Nat}
    (h : Codec rd enc WF m) (f : β → G) (x : β) (rest : Bytes) (hw : WF x) :
    wrap f rd (enc x ++ rest) = .ok (f x, rest) := by
  simp only [Orb.WKB.wrap, h.enc x rest hw, Res.bind_ok]

/-- The table of `Decode`: what is run after a header of type `typ`, and the geometry made of what it returns. -/
def bodyReader (coll : Order → Bytes → R (List G × Bytes)) (o : Order) (typ : Nat) : Bytes → R (G × Bytes) :=
  fun s =>
  if typ = wkb_pointType then wrap .point (readPoint o) s
  else if typ = wkb_multiPointType then wrap .multiPoint (counted o (member wkb_pointType readPoint)) s
  else if typ = wkb_lineStringType then wrap .lineString (readLineString o) s
  else if typ = wkb_multiLineStringType then wrap .multiLineString (counted o (member wkb_lineStringType readLineString)) s
  else if typ = wkb_polygonType then wrap .polygon (readPolygon o) s
  else if typ = wkb_multiPolygonType then wrap .multiPolygon (counted o (member wkb_polygonType readPolygon)) s
  else if typ = wkb_geometryCollectionType then wrap .collection (coll o) s
  else .err .unsupportedGeometry

theorem decodeWith_eq (coll : Order → Bytes → R (List G × Bytes)) (s : Bytes) :
    decodeWith coll s = (readBOT s).bind fun h =>
      (bodyReader coll h.1 h.2.1 h.2.2.2).bind fun q => .ok (q.1, h.2.2.1, q.2) := by
  unfold decodeWith
  cases readBOT s with
  | err e => rfl
  | panic m => rfl
  | ok h =>
    obtain ⟨o, typ, srid, s'⟩ := h
    simp only [Res.bind_ok, bodyReader]
    by_cases t1 : typ = wkb_pointType
    · simp only [if_pos t1, wrap]; cases readPoint o s' <;> rfl
    simp only [if_neg t1]
    by_cases t2 : typ = wkb_multiPointType
    · simp only [if_pos t2, wrap, counted]
      cases readU32 o s' with
      | ok p => simp only [Res.bind_ok, ← readMembers_eq]; cases readMembers wkb_pointType readPoint p.1 p.2 <;> rfl
      | err e => rfl
      | panic m => rfl
    simp only [if_neg t2]
    by_cases t3 : typ = wkb_lineStringType
    · simp only [if_pos t3, wrap]; cases readLineString o s' <;> rfl
    simp only [if_neg t3]
    by_cases t4 : typ = wkb_multiLineStringType
    · simp only [if_pos t4, wrap, counted]
      cases readU32 o s' with
      | ok p =>
        simp only [Res.bind_ok, ← readMembers_eq]; cases readMembers wkb_lineStringType readLineString p.1 p.2 <;> rfl
      | err e => rfl
      | panic m => rfl
    simp only [if_neg t4]
    by_cases t5 : typ = wkb_polygonType
    · simp only [if_pos t5, wrap]; cases readPolygon o s' <;> rfl
    simp only [if_neg t5]
    by_cases t6 : typ = wkb_multiPolygonType
    · simp only [if_pos t6, wrap, counted]
      cases readU32 o s' with
      | ok p => simp only [Res.bind_ok, ← readMembers_eq]; cases readMembers wkb_polygonType readPolygon p.1 p.2 <;> rfl
      | err e => rfl
      | panic m => rfl
    simp only [if_neg t6]
    by_cases t7 : typ = wkb_geometryCollectionType
    · simp only [if_pos t7, wrap]; cases coll o s' <;> rfl
    simp only [if_neg t7]
    rfl

theorem decode_eq (bs : Bytes) :
    decode bs = (decodeStream wkb_MaxCollectionDepth bs).bind fun t => .ok (t.1, t.2.1) := by
  unfold decode; cases decodeStream wkb_MaxCollectionDepth bs <;> rfl

/-- After a header of type `typ` with geometry data `gd`, `Unmarshal bs` returned `g`: the decoder that
    ran and what it returned (a collection is handed, whole, to the stream decoder). -/
inductive UnmarshalAs (bs : Bytes) (o : Order) (gd : Bytes) : Nat → G → Prop
  | point {p} (h : unmarshalPoint o gd = .ok p) : UnmarshalAs bs o gd wkb_pointType (.point p)
  | multiPoint {ps} (h : unmarshalMultiPoint o gd = .ok ps) :
      UnmarshalAs bs o gd wkb_multiPointType (.multiPoint ps)
  | lineString {ps} (h : unmarshalPoints o gd = .ok ps) : UnmarshalAs bs o gd wkb_lineStringType (.lineString ps)
  | multiLineString {ls} (h : unmarshalMultiLineString o gd = .ok ls) :
      UnmarshalAs bs o gd wkb_multiLineStringType (.multiLineString ls)
  | polygon {rs} (h : unmarshalPolygon o gd = .ok rs) : UnmarshalAs bs o gd wkb_polygonType (.polygon rs)
  | multiPolygon {ps} (h : unmarshalMultiPolygon o gd = .ok ps) :
      UnmarshalAs bs o gd wkb_multiPolygonType (.multiPolygon ps)
  | collection {g sr} (h : decode bs = .ok (g, sr)) : UnmarshalAs bs o gd wkb_geometryCollectionType g

theorem unmarshal_of_as {bs b : Bytes} {o : Order} {t srid : Nat} {c : G}
    (hb : unmarshalBOT bs = .ok (o, t, srid, b)) (hA : UnmarshalAs bs o b t c) :
    unmarshal bs = .ok (c, srid) := by
  simp only [unmarshal, hb]
  cases hA with
  | collection h => simp +decide only [↓reduceIte, h]
  | _ h => simp +decide only [↓reduceIte, h]

theorem collDepth_collection (gs : List G) : collDepth (.collection gs) = 1 + collDepth.collDepthList gs := by
  simp only [collDepth]

theorem collDepth_of_not_collection {g : G} (h : ∀ gs, g ≠ .collection gs) : collDepth g = 0 := by
  cases g <;> first | rfl | exact absurd rfl (h _)

theorem collDepthList_le {gs : List G} {n : Nat} :
    collDepth.collDepthList gs ≤ n ↔ ∀ g ∈ gs, collDepth g ≤ n := by
  induction gs with
  | nil => simp [collDepth.collDepthList]
  | cons x xs ih =>
    simp only [collDepth.collDepthList, Nat.max_le, ih, List.mem_cons, forall_eq_or_imp]

/-- Each arm is the codec of its reader, and `body` is the matching encoder (ring and bound are written as the
    polygon they come back as).  `hg`: a collection is the one arm that asks the collection reader. -/
theorem bodyReader_enc (coll : Order → Bytes → R (List G × Bytes)) (o : Order) (g : G) (rest : Bytes) (hw : WF32 g)
    (hg : ∀ gs, g ≠ .collection gs) :
    bodyReader coll o (tcode g) (body o g ++ rest) = .ok (canon g, rest) := by
  cases g with
  | point p => exact (codec_point o).wrap_enc .point p rest trivial
  | multiPoint ps =>
    rw [body, funext (encPoint_eq o 0)]
    exact ((Codec.member codec_point 1 (.inl rfl) o).counted o).wrap_enc .multiPoint ps rest
      ⟨by simpa only [WF32] using hw, fun _ _ => trivial⟩
  | lineString ps => exact (codec_lineString o).wrap_enc .lineString ps rest (by simpa only [WF32] using hw)
  | multiLineString ls =>
    rw [body, funext (encLineString_eq o 0)]
    exact ((Codec.member codec_lineString 2 (.inr (.inl rfl)) o).counted o).wrap_enc .multiLineString ls rest
      (by simpa only [WF32] using hw)
  | ring r => exact (codec_polygon o).wrap_enc .polygon [r] rest ⟨by simp, by simpa [WF32] using hw⟩
  | polygon rs => exact (codec_polygon o).wrap_enc .polygon rs rest (by simpa only [WF32] using hw)
  | multiPolygon ps =>
    rw [body, funext (encPolygon_eq o 0)]
    exact ((Codec.member codec_polygon 3 (.inr (.inr (.inl rfl))) o).counted o).wrap_enc .multiPolygon ps rest
      (by simpa only [WF32] using hw)
  | bound a b => exact (codec_polygon o).wrap_enc .polygon [boundRing a b] rest ⟨by simp, by simp [boundRing]⟩
  | collection gs => exact absurd rfl (hg gs)

/-- `hcoll`: the collection reader, on a count word and the members' encodings, returns the members or
    `ErrNestingTooDeep` by the same test (`_enc_eq`: the outcome on an encoding as one equation). -/
theorem decodeWith_enc_eq (coll : Order → Bytes → R (List G × Bytes)) (o : Order) (srid : Nat) (g : G)
    (rest : Bytes) (hw : WF32 g) (hs : srid < 2 ^ 32) (left : Nat)
    (hcoll : ∀ gs, gs.length < 2 ^ 32 → (∀ g ∈ gs, WF32 g) →
      coll o (u32 o gs.length ++ (encGeom.encList o gs ++ rest)) =
        if 1 + collDepth.collDepthList gs ≤ left then .ok (canon.canonList gs, rest) else .err .nestingTooDeep) :
    decodeWith coll (encGeom o srid g ++ rest) =
      if collDepth g ≤ left then .ok (canon g, srid, rest) else .err .nestingTooDeep := by
  rw [encGeom_eq, List.cons_append, List.append_assoc, decodeWith_eq, readBOT_hdr o _ srid _ (tcode_TC g) hs, Res.bind_ok]
  by_cases hg : ∀ gs, g ≠ .collection gs
  · rw [bodyReader_enc coll o g rest hw hg, if_pos (by rw [collDepth_of_not_collection hg]; exact Nat.zero_le _)]; rfl
  · cases g with
    | collection gs =>
      simp only [WF32] at hw
      simp +decide only [bodyReader, tcode, ↓reduceIte, Orb.WKB.wrap, body, List.append_assoc, hcoll gs hw.1 hw.2,
        collDepth_collection]
      split <;> simp only [Res.bind_ok, Res.bind_err, canon]
    | _ => exact absurd (fun gs h => by cases h) hg

theorem collLoop_enc_eq (dec : Bytes → R (G × Nat × Bytes)) (o : Order) (left : Nat) (e : Err)
    (gs : List G) (rest : Bytes)
    (h : ∀ g ∈ gs, ∀ rest', dec (encGeom o 0 g ++ rest') =
      if collDepth g ≤ left then .ok (canon g, 0, rest') else .err e) :
    collLoop dec gs.length (encGeom.encList o gs ++ rest) =
      if collDepth.collDepthList gs ≤ left then .ok (canon.canonList gs, rest) else .err e := by
  induction gs with
  | nil => simp [collLoop, collDepth.collDepthList, encGeom.encList, canon.canonList]
  | cons x xs ih =>
    have ih' := ih (fun y hy => h y (by simp [hy]))
    simp only [encGeom.encList, List.length_cons, collLoop, List.append_assoc, h x (by simp),
      collDepth.collDepthList, Nat.max_le, canon.canonList]
    by_cases hx : collDepth x ≤ left
    · simp only [hx, if_true, true_and, ih']
      by_cases hxs : collDepth.collDepthList xs ≤ left
      · simp only [hxs, if_true]
      · simp only [hxs, if_false]
    · simp only [hx, if_false, false_and]

theorem readCollectionF_enc (left : Nat) : ∀ (o : Order) (gs : List G) (rest : Bytes),
    gs.length < 2 ^ 32 → (∀ g ∈ gs, WF32 g) →
    readCollectionF left o (u32 o gs.length ++ (encGeom.encList o gs ++ rest)) =
      if 1 + collDepth.collDepthList gs ≤ left then .ok (canon.canonList gs, rest)
      else .err .nestingTooDeep := by
  induction left with
  | zero =>
    intro o gs rest _ _
    rw [if_neg (by omega)]
    rfl
  | succ left ih =>
    intro o gs rest hl hw
    simp only [readCollectionF, readU32_u32_of_lt _ _ _ hl]
    rw [collLoop_enc_eq _ o left .nestingTooDeep gs rest]
    · by_cases hd : collDepth.collDepthList gs ≤ left
      · rw [if_pos hd, if_pos (by omega)]
      · rw [if_neg hd, if_neg (by omega)]
    · exact fun g hg rest' => decodeWith_enc_eq _ o 0 g rest' (hw g hg) (by decide) left fun gs => ih o gs rest'

theorem decodeStream_enc_eq (o : Order) (srid : Nat) (g : G) (hw : WF32 g) (hs : srid < 2^32) (rest : Bytes)
    (left : Nat) :
    decodeStream left (encGeom o srid g ++ rest) =
      if collDepth g ≤ left then .ok (canon g, srid, rest) else .err .nestingTooDeep :=
  decodeWith_enc_eq _ o srid g rest hw hs left fun gs => readCollectionF_enc left o gs rest

theorem decode_enc_eq (o : Order) (srid : Nat) (g : G) (hw : WF32 g) (hs : srid < 2^32) :
    decode (encGeom o srid g) =
      if collDepth g ≤ wkb_MaxCollectionDepth then .ok (canon g, srid) else .err .nestingTooDeep := by
  have := decodeStream_enc_eq o srid g hw hs [] wkb_MaxCollectionDepth
  rw [List.append_nil] at this
  rw [decode_eq, this]
  split <;> rfl

theorem enc_unmarshalAs (o : Order) (srid : Nat) (g : G) (hw : WF32 g)
    (hc : ∀ gs, g = .collection gs → decode (encGeom o srid g) = .ok (canon g, srid)) :
    UnmarshalAs (encGeom o srid g) o (body o g) (tcode g) (canon g) := by
  cases g with
  | point p => exact .point (by simpa only [List.append_nil, body] using unmarshalPoint_encPt o p [])
  | multiPoint ps =>
    simp only [WF32] at hw
    exact .multiPoint (by simpa only [List.append_nil, body] using unmarshalMultiPoint_enc o ps [] hw)
  | lineString ps =>
    simp only [WF32] at hw
    exact .lineString (by simpa only [List.append_nil, body] using unmarshalPoints_enc o ps [] hw)
  | multiLineString ls =>
    simp only [WF32] at hw
    exact .multiLineString (by simpa only [List.append_nil, body] using unmarshalMultiLineString_enc o ls [] hw.1 hw.2)
  | ring r =>
    have := unmarshalPolygon_enc o [r] [] (by simp) (by simpa [WF32] using hw)
    exact .polygon (by simpa only [List.append_nil, body] using this)
  | polygon rs =>
    simp only [WF32] at hw
    exact .polygon (by simpa only [List.append_nil, body] using unmarshalPolygon_enc o rs [] hw.1 hw.2)
  | multiPolygon ps =>
    simp only [WF32] at hw
    exact .multiPolygon (by simpa only [List.append_nil, body] using unmarshalMultiPolygon_enc o ps [] hw.1 hw.2)
  | bound a b =>
    have := unmarshalPolygon_enc o [boundRing a b] [] (by simp) (by simp [boundRing])
    exact .polygon (by simpa only [List.append_nil, body] using this)
  | collection gs => exact .collection (hc gs rfl)

theorem unmarshal_enc_eq (o : Order) (srid : Nat) (g : G) (hw : WF32 g) (hs : srid < 2^32) :
    unmarshal (encGeom o srid g) =
      if collDepth g ≤ wkb_MaxCollectionDepth then .ok (canon g, srid) else .err .nestingTooDeep := by
  cases g with
  | collection gs =>
    have hd := decode_enc_eq o srid _ hw hs
    by_cases hdep : collDepth (.collection gs) ≤ wkb_MaxCollectionDepth
    · rw [if_pos hdep] at hd ⊢
      exact unmarshal_of_as (unmarshalBOT_enc o srid _ hs) (.collection hd)
    · rw [if_neg hdep] at hd ⊢
      simp +decide only [unmarshal, unmarshalBOT_enc o srid _ hs, tcode, ↓reduceIte, hd]
  | _ =>
    rw [unmarshal_of_as (unmarshalBOT_enc o srid _ hs) (enc_unmarshalAs o srid _ hw fun gs h => by cases h), if_pos]
    simp only [collDepth]; exact Nat.zero_le _

/-- For any input the byte decoder and the stream decoder read alike (`hd`).  `hc`: `UnmarshalAs.collection` admits
    whatever the stream decoder returned. -/
theorem scanDest_coerce (bnd : BoundFn) (d : Dest) {bs b : Bytes} {o : Order} {t srid : Nat} {c : G}
    (hb : unmarshalBOT bs = .ok (o, t, srid, b)) (hA : UnmarshalAs bs o b t c)
    (hd : decode bs = .ok (c, srid)) (hc : t = wkb_geometryCollectionType → ∃ gs, c = .collection gs) :
    scanDest bnd d bs =
      (match coerce bnd d c with
       | some v => .ok (v, srid)
       | none => .err .incorrectGeometry) := by
  have hu := unmarshal_of_as hb hA
  cases d with
  | any => simp only [scanDest, hu, coerce]
  | bound => simp only [scanDest, hu, coerce]
  | multiPoint => simp only [scanDest, hu]; cases c <;> rfl
  | collection => simp only [scanDest, hd]; cases c <;> rfl
  | ring =>
    simp only [scanDest, hu]
    cases c with
    | polygon rs => rcases rs with _ | ⟨_, _ | _⟩ <;> rfl
    | _ => rfl
  | point =>
    simp only [scanDest, scanPoint, scanSingle, hb]
    cases hA with
    | point h => simp +decide only [↓reduceIte, h]; rfl
    | multiPoint h => simp +decide only [↓reduceIte, h]; rename_i ps; rcases ps with _ | ⟨_, _ | _⟩ <;> rfl
    | collection h => obtain ⟨gs, rfl⟩ := hc rfl; simp +decide only [↓reduceIte]; rfl
    | _ h => simp +decide only [↓reduceIte]; rfl
  | lineString =>
    simp only [scanDest, scanLineString, scanSingle, hb]
    cases hA with
    | lineString h => simp +decide only [↓reduceIte, h]; rfl
    | multiLineString h => simp +decide only [↓reduceIte, h]; rename_i ps; rcases ps with _ | ⟨_, _ | _⟩ <;> rfl
    | collection h => obtain ⟨gs, rfl⟩ := hc rfl; simp +decide only [↓reduceIte]; rfl
    | _ h => simp +decide only [↓reduceIte]; rfl
  | polygon =>
    simp only [scanDest, scanPolygon, scanSingle, hb]
    cases hA with
    | polygon h => simp +decide only [↓reduceIte, h]; rfl
    | multiPolygon h => simp +decide only [↓reduceIte, h]; rename_i ps; rcases ps with _ | ⟨_, _ | _⟩ <;> rfl
    | collection h => obtain ⟨gs, rfl⟩ := hc rfl; simp +decide only [↓reduceIte]; rfl
    | _ h => simp +decide only [↓reduceIte]; rfl
  | multiLineString =>
    simp only [scanDest, hb]
    cases hA with
    | lineString h => simp +decide only [↓reduceIte, h]; rfl
    | multiLineString h => simp +decide only [↓reduceIte, h]; rfl
    | collection h => obtain ⟨gs, rfl⟩ := hc rfl; simp +decide only [↓reduceIte]; rfl
    | _ h => simp +decide only [↓reduceIte]; rfl
  | multiPolygon =>
    simp only [scanDest, hb]
    cases hA with
    | polygon h => simp +decide only [↓reduceIte, h]; rfl
    | multiPolygon h => simp +decide only [↓reduceIte, h]; rfl
    | collection h => obtain ⟨gs, rfl⟩ := hc rfl; simp +decide only [↓reduceIte]; rfl
    | _ h => simp +decide only [↓reduceIte]; rfl

theorem scanSingle_ok {β : Type} (P : β → Prop) (tS tM : Nat) (single : Order → Bytes → R β)
    (multi : Order → Bytes → R (List β))
    (hsingle : ∀ o d x, single o d = .ok x → P x)
    (hmulti : ∀ o d xs, multi o d = .ok xs → ∀ x ∈ xs, P x)
    {data : Bytes} {x : β} {s : Nat} (h : scanSingle tS tM single multi data = .ok (x, s)) : P x := by
  obtain ⟨o, typ, gd, _, h | h⟩ := scanSingle_inv h
  · exact hsingle _ _ _ h
  · exact hmulti _ _ _ h _ (by simp)

theorem unmarshalBOT_badhdr (b0 : UInt8) (tl : Bytes) (h0 : b0 ≠ 0) (h1 : b0 ≠ 1) (hl : 5 ≤ tl.length) :
    unmarshalBOT (b0 :: tl) = .err .notWKBHeader := by
  have : ¬ (b0 :: tl).length < 6 := by simp only [List.length_cons]; omega
  simp only [unmarshalBOT, byteOrderType, if_neg this, if_neg h0, if_neg h1]

theorem readBOT_badhdr (b0 : UInt8) (tl : Bytes) (h0 : b0 ≠ 0) (h1 : b0 ≠ 1) :
    readBOT (b0 :: tl) = .err .notWKBHeader := by
  simp only [readBOT, if_neg h0, if_neg h1]

theorem scanDest_badhdr (bnd : BoundFn) (d : Dest) (b0 : UInt8) (tl : Bytes) (h0 : b0 ≠ 0) (h1 : b0 ≠ 1)
    (hl : 5 ≤ tl.length) : scanDest bnd d (b0 :: tl) = .err .notWKBHeader := by
  have hb := unmarshalBOT_badhdr b0 tl h0 h1 hl
  have hu : unmarshal (b0 :: tl) = .err .notWKBHeader := by simp only [unmarshal, hb]
  have hd : decode (b0 :: tl) = .err .notWKBHeader := by
    simp only [decode, decodeStream, decodeWith, readBOT_badhdr b0 tl h0 h1]
  cases d <;> simp only [scanDest, scanPoint, scanLineString, scanPolygon, scanSingle, hb, hu, hd]

theorem u32_little_shape (p : Nat) (hp : p < 2 ^ 32) :
    ∃ b1 b2 b3, u32 .little p = [UInt8.ofNat (p % 256), b1, b2, b3] := by
  simp only [u32, Nat.mod_eq_of_lt hp, leBytes]
  exact ⟨_, _, _, rfl⟩

theorem ofNat_mod_ne (p : Nat) (c : Nat) (hc : c < 256) (h : p % 256 ≠ c) : UInt8.ofNat (p % 256) ≠ UInt8.ofNat c := by
  intro he
  have := congrArg UInt8.toNat he
  simp only [UInt8.toNat_ofNat'] at this
  omega

/-- The retry of `wkb.Scanner`: a four-byte prefix whose first byte is no byte-order mark (0, 1) and opens no hex
    framing (`0`, `\`) is refused as a header, found unchanged in the buffer, and stripped. -/
theorem wkbScan_prefix (bnd : BoundFn) (d : Dest) (b0 b1 b2 b3 : UInt8) (data : Bytes) (h0 : b0 ≠ 0) (h1 : b0 ≠ 1)
    (h48 : b0 ≠ 48) (h92 : b0 ≠ 92) (hl : 2 ≤ data.length) :
    wkbScan bnd d (b0 :: b1 :: b2 :: b3 :: data) = (scan bnd d data).bind fun p => .ok p.1 := by
  have hscan : scan bnd d (b0 :: b1 :: b2 :: b3 :: data) = .err .notWKBHeader := by
    rw [scan_raw bnd d _ _ _ h92 h48 (by simp only [List.length_cons]; omega)]
    exact scanDest_badhdr bnd d _ _ h0 h1 (by simp only [List.length_cons]; omega)
  have hrest : sliceFrom (b0 :: b1 :: b2 :: b3 :: data) 4 = .ok data := sliceFrom_append [b0, b1, b2, b3] data 4 rfl
  simp only [wkbScan, hscan, scanBuf_raw _ _ _ h92 h48, hrest]
  cases scan bnd d data <;> rfl

end Orb.WKB
