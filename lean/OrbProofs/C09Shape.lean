/-
  `rayIntersect` once its endpoints are sorted: the two on-vertex tests (`raySorted`), then the abscissa tests, the
  tests on `p.y` and the slope comparison (`rayFrom`).  `ray_sorted` holds for every nudge and uses no law of the
  arithmetic (a case analysis on the code's own tests), so the translation tie and the proofs over an ordered field start
  from the same shape.  Core Lean only.
-/
import Orb.Contains

namespace Orb.Contains
open Orb Orb.Core

variable {α : Type} [Sub α] [Div α] [OfNat α 0] [BEq α] [LT α] [LE α] [DecidableLT α] [DecidableLE α]

/-- the tests on `p.y` that precede the slope comparison, whose answer is `t` -/
def yTests (p s e : Pt α) (t : Bool × Bool) : Bool × Bool :=
  if e.y < s.y then
    if s.y < p.y then (false, false) else if p.y < e.y then (true, false) else t
  else
    if e.y < p.y then (false, false) else if p.y < s.y then (true, false) else t

/-- `rs == ds` and `rs <= ds` of the code, as the nudge answers them -/
def slopeTest (N : Nudge α) (p s e : Pt α) (k : Bool) : Bool × Bool :=
  let c := N.slope (p.y - s.y) p.x k s.x ((e.y - s.y) / (e.x - s.x))
  if c.1 then (false, true) else (c.2, false)

/-- `rayIntersect` for sorted endpoints, after the on-vertex tests; `k`: the abscissa was nudged -/
def rayFrom (N : Nudge α) (p s e : Pt α) (k : Bool) : Bool × Bool :=
  if N.lt p.x k s.x || N.gt p.x k e.x then (false, false) else yTests p s e (slopeTest N p s e k)

/-! At `Nudge.inf` and `Nudge.real next` the hypotheses of `rayFrom_out`, `rayFrom_in` unfold to `decide (…) = true/false`,
so `decide_eq_true h`, `decide_eq_false h` prove them. -/

omit [OfNat α 0] [BEq α] [LE α] [DecidableLE α] in
theorem rayFrom_out (N : Nudge α) (p s e : Pt α) (k : Bool) (h : N.lt p.x k s.x = true ∨ N.gt p.x k e.x = true) :
    rayFrom N p s e k = (false, false) := by
  rw [rayFrom, if_pos (Bool.or_eq_true_iff.2 h)]

omit [OfNat α 0] [BEq α] [LE α] [DecidableLE α] in
theorem rayFrom_in (N : Nudge α) (p s e : Pt α) (k : Bool) (h1 : N.lt p.x k s.x = false) (h2 : N.gt p.x k e.x = false) :
    rayFrom N p s e k = yTests p s e (slopeTest N p s e k) := by
  rw [rayFrom, h1, h2]; rfl

theorem rayFrom_real_at (next : α → α) (p s e : Pt α) :
    rayFrom (Nudge.real next) p s e true = rayFrom Nudge.inf ⟨next p.x, p.y⟩ s e false := rfl

/-- `rayIntersect` for sorted endpoints `a`, `b` -/
def raySorted (N : Nudge α) (p a b : Pt α) : Bool × Bool :=
  if p.x == a.x then
    if p.y == a.y then (false, true)
    else if a.x == b.x && ((decide (b.y < a.y) && decide (p.y ≤ a.y) && decide (b.y ≤ p.y)) ||
                            (decide (a.y < b.y) && decide (p.y ≤ b.y) && decide (a.y ≤ p.y))) then (false, true)
    else rayFrom N p a b true
  else if p.x == b.x then (if p.y == b.y then (false, true) else rayFrom N p a b true)
  else rayFrom N p a b false

omit [OfNat α 0] in
/-- `a`, `b` are `s`, `e` in the order the code continues with -/
theorem ray_sorted (N : Nudge α) (p s e a b : Pt α) (h : (if e.x < s.x then (e, s) else (s, e)) = (a, b)) :
    rayIntersect N p s e = raySorted N p a b := by
  unfold rayIntersect raySorted
  simp only [h]
  cases p.x == a.x
  · cases p.x == b.x
    · rfl
    · cases p.y == b.y <;> rfl
  · cases p.y == a.y
    · generalize (a.x == b.x && _) = c
      cases c <;> rfl
    · rfl

end Orb.Contains
