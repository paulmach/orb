/-
  C19 — lemmas about `Orb.Conc`: what `iter` of the answering step gives, a run under the frame
  condition (a read-only step is the special case `asW`), and the frame condition of the instruction
  machine from a per-instruction predicate.
-/
import Orb.Conc

namespace Orb.C19
open Orb.Conc

theorem iter_answer {T Q A : Type} (answer : T → Q → A) (t : T) (qs : List Q) (done : List A) (n : Nat)
    (h : qs.length ≤ n) :
    iter (answerStep answer t) n ⟨qs, done⟩ = ⟨[], done ++ qs.map (answer t)⟩ := by
  induction n generalizing qs done with
  | zero =>
    have : qs = [] := List.length_eq_zero_iff.mp (Nat.le_zero.mp h)
    subst this
    simp [iter]
  | succ n ih =>
    cases qs with
    | nil =>
      simp only [iter, answerStep]
      have := ih [] done (Nat.zero_le _)
      simpa using this
    | cons q rest =>
      simp only [iter, answerStep]
      have := ih rest (done ++ [answer t q]) (by simpa using h)
      simpa [List.append_assoc] using this

/-- a step that only reads the shared structure, seen as one that may write it: it hands the
    structure back -/
def asW {T S : Type} (f : T → S → S) : T → S → T × S := fun t s => (t, f t s)

theorem run_eq_runW {T S : Type} (f : T → S → S) (s : Sys T S) (σ : List Nat) :
    run f s σ = runW (asW f) s σ := by
  induction σ generalizing s with
  | nil => rfl
  | cons j rest ih => exact ih (step f s j)

theorem asW_frame {T S : Type} (f : T → S → S) : FrameOn (fun _ => True) (asW f) :=
  fun _ _ _ => ⟨rfl, trivial⟩

/-- the induction needs all three conjuncts -/
theorem runW_of_frame {T S : Type} (P : S → Prop) (f : T → S → T × S) (hf : FrameOn P f)
    (s : Sys T S) (hP : ∀ i, P (s.st i)) (σ : List Nat) :
    (runW f s σ).tree = s.tree ∧
    (∀ i, (runW f s σ).st i = iter (fun x => (f s.tree x).2) (σ.count i) (s.st i)) ∧
    ∀ i, P ((runW f s σ).st i) := by
  induction σ generalizing s with
  | nil => exact ⟨rfl, fun i => by simp [runW, iter], hP⟩
  | cons j rest ih =>
    obtain ⟨h1, h2⟩ := hf s.tree (s.st j) (hP j)
    have htree : (stepW f s j).tree = s.tree := h1
    have hP' : ∀ i, P ((stepW f s j).st i) := by
      intro i
      by_cases hij : i = j
      · subst hij; simpa [stepW] using h2
      · simpa [stepW, hij] using hP i
    obtain ⟨ht, hs, hp⟩ := ih (stepW f s j) hP'
    refine ⟨by simpa [runW, htree] using ht, fun i => ?_, fun i => by simpa [runW] using hp i⟩
    have h := hs i
    simp only [runW]
    rw [h, htree]
    by_cases hji : j = i
    · subst hji
      simp [stepW, List.count_cons_self, iter]
    · have : i ≠ j := fun h => hji h.symm
      simp [stepW, this, List.count_cons_of_ne hji]

theorem instr_frame_of {Sh Pr : Type} (Q : Instr Sh Pr → Prop) (hQ : ∀ ins, Q ins → ins.target = .priv) :
    FrameOn (fun th : Thread Sh Pr => ∀ ins ∈ th.prog, Q ins) instrStep := by
  intro sh th hth
  cases hprog : th.prog with
  | nil =>
    refine ⟨by simp [instrStep, hprog], ?_⟩
    simp [instrStep, hprog]
  | cons ins rest =>
    have hin : ins ∈ th.prog := by simp [hprog]
    have hpriv := hQ ins (hth ins hin)
    refine ⟨by simp [instrStep, hprog, Instr.exec, hpriv], ?_⟩
    intro ins' hins'
    have : ins' ∈ rest := by simpa [instrStep, hprog] using hins'
    exact hth ins' (by simp [hprog, this])

end Orb.C19
