/-
  Lemmas for C18.  The cyclic sum of the spec is the sum of `edge F` over the ring's edge list (`edgeSumOf (edge F)` of
  OrbProofs/EdgeList, read by index), on which closing, rotating and reversing a ring are one-line facts; the rewired
  loop of `ringArea` is that cyclic sum with its last two iterations taken together.  Also here: the spec-side fold
  `lonFold` of `geo.Distance` and the concrete `exampleFn` of the non-vacuity examples.
-/
import Orb.Geo
import OrbProofs.ListLemmas
import OrbProofs.EdgeList
import Mathlib.Algebra.Order.Field.Basic
import Mathlib.Algebra.BigOperators.Group.List.Basic
import Mathlib.Tactic.Ring
import Mathlib.Tactic.Linarith
import Mathlib.Tactic.SplitIfs

namespace Orb.Geo

section generic
variable {α : Type} [Field α]

theorem foldl_sub_eq {β : Type} (f : β → α) (l : List β) (acc : α) :
    l.foldl (fun s x => s - f x) acc = acc - (l.map f).sum := by
  induction l generalizing acc with
  | nil => simp
  | cons x l ih => simp only [List.foldl_cons, ih, List.map_cons, List.sum_cons]; ring

theorem sum_loop_eq_cyclic (T C : Nat → α) (m : Nat) (h1 : ∀ i, i < m → T i = C (i + 1))
    (h2 : T m + T (m + 1) = C 0) :
    ((List.range (m + 2)).map T).sum = ((List.range (m + 1)).map C).sum := by
  rw [List.sum_range_succ T, List.sum_range_succ T, List.sum_range_succ' C, add_assoc, h2, add_comm]
  exact congrArg _ (congrArg _ (List.map_congr_left fun i hi => h1 i (List.mem_range.mp hi)))

end generic

section
variable {α : Type} [Field α] [LinearOrder α] (F : Fn α)

/-- longitude in radians -/
def lam (p : Pt α) : α := deg2rad F p.x
/-- sine of the latitude -/
def sn (p : Pt α) : α := F.sin (deg2rad F p.y)

set_option linter.unusedSectionVars false in
theorem ringTerm_eq (lo mi hi : Pt α) :
    ringTerm F lo mi hi = (lam F hi - lam F lo) * sn F mi := rfl

end

section edge
variable {α : Type} [Field α] (F : Fn α)

/-- contribution of the directed edge `(p, q)` -/
def edge (p q : Pt α) : α := lam F q * sn F p - lam F p * sn F q

theorem edge_self (p : Pt α) : edge F p p = 0 := by unfold edge; ring
theorem edge_swap (p q : Pt α) : edge F q p = -edge F p q := by unfold edge; ring

theorem cyclicSum_eq_list (v : List (Pt α)) :
    cyclicSum F v = ((List.range v.length).map fun k =>
      ringTerm F (v.getD ((k + v.length - 1) % v.length) ⟨0, 0⟩) (v.getD k ⟨0, 0⟩)
        (v.getD ((k + 1) % v.length) ⟨0, 0⟩)).sum := by
  unfold cyclicSum
  exact foldl_add_zero _ _

/-- the cyclic sum of the spec is the sum of `edge F` over the ring's edge list: rotating, closing and reversing
    the ring are then facts about that list -/
theorem cyclicSum_eq_edgeSumOf (v : List (Pt α)) : cyclicSum F v = Contains.edgeSumOf (edge F) v := by
  unfold Contains.edgeSumOf edge
  rw [Contains.sum_map_sub, ((Contains.edges_perm_range ⟨0, 0⟩ v).map _).sum_eq, Contains.edges_eq_range ⟨0, 0⟩ v,
    List.map_map, List.map_map, ← Contains.sum_map_sub, cyclicSum_eq_list]
  refine congrArg _ (List.map_congr_left fun k _ => ?_)
  rw [ringTerm, sub_mul]
  rfl

end edge

section loop
variable {α : Type} [Field α] [LinearOrder α] (F : Fn α)

/-! The `lo/mi/hi` triples of a loop of `n + 3` iterations (`ringArea` needs at least 3): no index
    wraps before iteration `n`; then `hi`, then `mi`, then `lo` wrap to the start of the ring. -/

theorem ringIdx_no_wrap (n i : Nat) (hi : i < n) : ringIdx (n + 3) i = (i, i + 1, i + 2) := by
  have h1 : ¬ i = n := by omega
  have h2 : ¬ i = n + 1 := by omega
  have h3 : ¬ i = n + 2 := by omega
  simp [ringIdx, h1, h2, h3]

theorem ringIdx_wrap_hi (n : Nat) : ringIdx (n + 3) n = (n, n + 1, 0) := by
  simp [ringIdx]

theorem ringIdx_wrap_mi (n : Nat) : ringIdx (n + 3) (n + 1) = (n + 1, 0, 0) := by
  simp [ringIdx]

theorem ringIdx_wrap_lo (n : Nat) : ringIdx (n + 3) (n + 2) = (0, 0, 1) := by
  simp [ringIdx]

theorem ringL_cases (r : List (Pt α)) : ringL r = r.length ∨ ringL r = r.length + 1 := by
  unfold ringL; split_ifs <;> simp

theorem openVerts_facts (r : List (Pt α)) (h : 1 ≤ r.length) :
    ringL r = (openVerts r).length + 1 ∧
    ∀ i, i < (openVerts r).length → r.getD i ⟨0, 0⟩ = (openVerts r).getD i ⟨0, 0⟩ := by
  unfold ringL openVerts
  split_ifs with hc
  · exact ⟨rfl, fun _ _ => rfl⟩
  · refine ⟨by simp only [List.length_dropLast]; omega, fun i hi => ?_⟩
    simp only [List.length_dropLast] at hi
    rw [List.getD_eq_getElem?_getD, List.getD_eq_getElem?_getD, List.getElem?_dropLast]
    simp [hi]

theorem ringIdx_cyclic (m i : Nat) (hi : i + 1 < m) : ringIdx (m + 1) i = (i, i + 1, (i + 2) % m) := by
  rcases Nat.lt_or_ge (i + 2) m with h | h
  · obtain ⟨n, rfl⟩ : ∃ n, m = n + 2 := ⟨m - 2, by omega⟩
    rw [ringIdx_no_wrap n i (by omega), Nat.mod_eq_of_lt h]
  · obtain rfl : m = i + 2 := by omega
    rw [ringIdx_wrap_hi, Nat.mod_self]

theorem ringLoop_eq_list (r : List (Pt α)) :
    ringLoop F r = ((List.range (ringL r)).map fun i =>
      ringTerm F (r.getD (ringIdx (ringL r) i).1 ⟨0, 0⟩) (r.getD (ringIdx (ringL r) i).2.1 ⟨0, 0⟩)
        (r.getD (ringIdx (ringL r) i).2.2 ⟨0, 0⟩)).sum := by
  unfold ringLoop
  exact foldl_add_zero _ _

/-- The loop over a ring of `n + 2` distinct vertices runs `n + 3` times; its last two iterations together
    are the cyclic term at vertex 0, the others are the cyclic terms at `1 … n + 1`. -/
theorem ringLoop_eq_cyclic (r : List (Pt α)) (h : 3 ≤ r.length) :
    ringLoop F r = cyclicSum F (openVerts r) := by
  obtain ⟨hL, hget⟩ := openVerts_facts r (by omega)
  obtain ⟨n, hn⟩ : ∃ n, (openVerts r).length = n + 2 :=
    ⟨(openVerts r).length - 2, by rcases ringL_cases r with h1 | h1 <;> omega⟩
  rw [hn] at hget
  rw [ringLoop_eq_list, cyclicSum_eq_list, hL, hn]
  refine sum_loop_eq_cyclic _ _ (n + 1) (fun i hi => ?_) ?_
  · have hi0 : i < n + 2 := Nat.lt_succ_of_lt hi
    simp only [ringIdx_cyclic (n + 2) i (Nat.succ_lt_succ hi), Contains.succ_add_pred_mod _ i hi0]
    rw [hget i hi0, hget (i + 1) (Nat.succ_lt_succ hi), hget _ (Nat.mod_lt _ (Nat.succ_pos _))]
  · have m1 : (0 + (n + 2) - 1) % (n + 2) = n + 1 := by
      rw [Nat.zero_add]; exact Nat.mod_eq_of_lt (Nat.lt_succ_self _)
    have m2 : (0 + 1) % (n + 2) = 1 := Nat.mod_eq_of_lt (Nat.succ_lt_succ (Nat.succ_pos n))
    simp only [ringIdx_wrap_mi, ringIdx_wrap_lo, m1, m2]
    rw [hget (n + 1) (Nat.lt_succ_self _), hget 0 (Nat.succ_pos _), hget 1 (Nat.succ_lt_succ (Nat.succ_pos n)),
      ringTerm_eq, ringTerm_eq, ringTerm_eq, ← add_mul, sub_add_sub_cancel']

/-- the order is asked for the `BEq` on coordinates that `ptNe` compares with -/
theorem eq_of_not_ptNe {β : Type} [LinearOrder β] {a b : Pt β} (h : ¬ ptNe a b = true) : a = b := by
  cases a; cases b
  simp [ptNe] at h
  simp [h]

theorem cyclicSum_openVerts (r : List (Pt α)) : cyclicSum F (openVerts r) = cyclicSum F r := by
  unfold openVerts
  split_ifs with hc
  · rfl
  · rcases r with _ | ⟨p, w⟩
    · rfl
    · rw [cyclicSum_eq_edgeSumOf, cyclicSum_eq_edgeSumOf]
      rcases List.eq_nil_or_concat w with rfl | ⟨t, x, rfl⟩
      · simp [Contains.edgeSumOf, EvenOdd.edges, edge_self]
      · rw [List.concat_eq_append] at hc ⊢
        obtain rfl : p = x :=
          (eq_of_not_ptNe hc).trans ((Contains.lastD'_eq_getD _ p _).symm.trans (Contains.lastD'_concat p t x))
        rw [← List.cons_append, List.dropLast_concat, Contains.edgeSumOf_close _ (edge_self F)]

theorem area_go_eq (gs : List (Geom α)) (acc : α) :
    area.go F gs acc = acc + (gs.map (area F)).sum :=
  accLoop_eq (area.go F) (area F) (fun _ => rfl) (fun _ _ _ => rfl) gs acc

end loop

section length
variable {α : Type} [Field α]

theorem lineLength_go_eq (df : Pt α → Pt α → α) (p : Pt α) (rest : List (Pt α)) (acc : α) :
    lineLength.go df p rest acc =
      acc + (((p :: rest).zip rest).map fun pq => df pq.2 pq.1).sum := by
  induction rest generalizing p acc with
  | nil => simp [lineLength.go]
  | cons q rest ih =>
    simp only [lineLength.go, ih, List.zip_cons_cons, List.map_cons, List.sum_cons]; ring

theorem polygonLength_eq (df : Pt α → Pt α → α) (p : List (List (Pt α))) :
    polygonLength df p = (p.map (lineLength df)).sum := by
  unfold polygonLength; rw [foldl_add_zero]

theorem length_go_eq (df : Pt α → Pt α → α) (gs : List (Geom α)) (acc : α) :
    length.go df gs acc = acc + (gs.map (length df)).sum :=
  accLoop_eq (length.go df) (length df) (fun _ => rfl) (fun _ _ _ => rfl) gs acc

end length

section distance
variable {α : Type} [Field α] (F : Fn α)

theorem deg2rad_sub_antisymm (a b : α) : deg2rad F (a - b) = -deg2rad F (b - a) := by
  unfold deg2rad; ring

variable [LinearOrder α] [IsStrictOrderedRing α]

/-- the haversine `a` term is non-negative when both cosines are (latitudes within ±90°) -/
theorem havA_nonneg (p q : Pt α) (hp : 0 ≤ F.cos (deg2rad F p.y)) (hq : 0 ≤ F.cos (deg2rad F q.y)) :
    0 ≤ havA F p q := by
  have h := mul_nonneg (mul_nonneg hq hp) (mul_self_nonneg (F.sin (deg2rad F (p.x - q.x) / 2)))
  rw [← mul_assoc] at h
  exact add_nonneg (mul_self_nonneg _) h

/-- The antimeridian fold of `geo.Distance`: the absolute longitude difference in radians,
    replaced by `2π − ·` when it exceeds `π` (distance.go:14-17).  Written exactly as the `dLon`
    chain of `Orb.Geo.distance`, so that `distance` is the formula with `lonFold` by `rfl`. -/
def lonFold (F : Fn α) (p1 p2 : Pt α) : α :=
  let dLon := F.abs (deg2rad F (p1.x - p2.x))
  if F.pi < dLon then 2 * F.pi - dLon else dLon

end distance

/-- A concrete `Fn ℚ` for the non-vacuity examples. -/
def exampleFn : Fn Rat where
  sin := fun x => x
  cos := fun _ => 1
  asin := fun x => x
  atan2 := fun _ _ => 1
  sqrt := fun _ => 0
  abs := fun x => if x < 0 then -x else x
  max := fun a b => if a < b then b else a
  min := fun a b => if a < b then a else b
  pi := 3
  R := 2

/-- The laws of `sin`, `abs`, `R`, `sqrt`, `atan2` that theorems of C18 take as hypotheses, for `exampleFn`. -/
theorem exampleFn_laws : (∀ x, exampleFn.sin (-x) = -exampleFn.sin x) ∧ (∀ x, exampleFn.abs (-x) = exampleFn.abs x) ∧
    (0 : Rat) ≤ exampleFn.R ∧ (∀ x, 0 ≤ exampleFn.sqrt x) ∧
    (∀ y x : Rat, 0 ≤ y → 0 ≤ x → 0 ≤ exampleFn.atan2 y x ∧ exampleFn.atan2 y x ≤ exampleFn.pi / 2) := by
  refine ⟨fun x => rfl, ?_, by decide +kernel, fun x => le_refl _,
    fun y x _ _ => ⟨by show (0 : Rat) ≤ 1; decide +kernel, by show (1 : Rat) ≤ 3 / 2; decide +kernel⟩⟩
  intro x
  simp only [exampleFn]
  split_ifs <;> linarith

/-- The remaining laws that theorems of C18 take as hypotheses (of `min`, `abs`, `π`, `cos`), for `exampleFn`. -/
theorem exampleFn_laws2 : (∀ a b : Rat, exampleFn.min a b ≤ b) ∧
    (∀ a b : Rat, 0 ≤ a → 0 ≤ b → 0 ≤ exampleFn.min a b) ∧
    (∀ x : Rat, 0 ≤ exampleFn.abs x) ∧ (∀ x : Rat, exampleFn.abs x = x ∨ exampleFn.abs x = -x) ∧
    (0 : Rat) ≤ exampleFn.pi ∧ (∀ x : Rat, 0 ≤ exampleFn.cos x) := by
  refine ⟨?_, ?_, ?_, ?_, by decide +kernel, fun _ => by show (0 : Rat) ≤ 1; decide +kernel⟩
  · intro a b; simp only [exampleFn]; split_ifs with h
    · exact le_of_lt h
    · exact le_refl _
  · intro a b ha hb; simp only [exampleFn]; split_ifs <;> assumption
  · intro x; simp only [exampleFn]; split_ifs with h
    · linarith
    · exact not_lt.mp h
  · intro x; simp only [exampleFn]; split_ifs
    · exact Or.inr rfl
    · exact Or.inl rfl

end Orb.Geo
