/-
  C08 (region), geometry layer: the Boolean cross-product predicates of the even-odd specification
  (`Orb.EvenOdd.onSeg`, `crossesAbove`) versus the parametric segment predicate `Orb.Clip.OnSeg` of the clipping proofs,
  and the two SPLIT lemmas: cutting an edge `a b` at a point `i` of the edge changes neither "the point is on the edge"
  nor the parity of the upward-ray crossings, whatever the point.  Then the two predicates over an edge list, `crE`
  (parity of the crossings) and `onE` (some edge contains the point): this is how the specification reads a ring.
  Mind the capital: `onSeg : Bool` is the specification's predicate, `OnSeg : Prop` the parametric one; a lemma
  name spells each as it is written.
-/
import OrbProofs.Segment
import OrbProofs.EdgeList
import OrbProofs.EvenOddEdge

namespace Orb.Clip.C08R
open Orb Orb.Core Orb.EvenOdd Orb.Contains Orb.Clip

set_option linter.unusedSectionVars false

variable {α : Type} [Field α] [LinearOrder α] [IsStrictOrderedRing α]

theorem onSeg_of_OnSeg {a b q : Pt α} (h : OnSeg a b q) : onSeg a b q = true := by
  obtain ⟨t, h0, h1, rfl⟩ := h
  rw [onSeg_iff]
  refine ⟨?_, between_lerp _ _ t h0 h1, between_lerp _ _ t h0 h1⟩
  simp only [EvenOdd.cross, lerp]; ring

/-- a point that lies between the ends in one coordinate and is collinear with them is a point of the
    segment: the parameter is read off the coordinate in which the ends differ -/
theorem param_of_collinear {ax bx qx ay by' qy : α} (hne : ax ≠ bx)
    (hb : (ax ≤ qx ∧ qx ≤ bx) ∨ (bx ≤ qx ∧ qx ≤ ax)) (hc : (bx - ax) * (qy - ay) = (by' - ay) * (qx - ax)) :
    ∃ t, 0 ≤ t ∧ t ≤ 1 ∧ qx = ax + t * (bx - ax) ∧ qy = ay + t * (by' - ay) := by
  have hd : bx - ax ≠ 0 := sub_ne_zero.2 (Ne.symm hne)
  have ht : (qx - ax) / (bx - ax) * (bx - ax) = qx - ax := div_mul_cancel₀ _ hd
  have key := param_mid hb
  refine ⟨_, key.1, key.2.1, key.2.2.symm, ?_⟩
  have : (qy - (ay + (qx - ax) / (bx - ax) * (by' - ay))) * (bx - ax) = 0 :=
    calc (qy - (ay + (qx - ax) / (bx - ax) * (by' - ay))) * (bx - ax)
        = (bx - ax) * (qy - ay) - (by' - ay) * ((qx - ax) / (bx - ax) * (bx - ax)) := by ring
      _ = 0 := by rw [ht, hc, sub_self]
  exact sub_eq_zero.1 ((mul_eq_zero.1 this).resolve_right hd)

theorem OnSeg_of_onSeg {a b q : Pt α} (h : onSeg a b q = true) : OnSeg a b q := by
  rw [onSeg_iff] at h
  obtain ⟨hc, hx, hy⟩ := h
  simp only [EvenOdd.cross] at hc
  by_cases hxe : a.x = b.x
  · by_cases hye : a.y = b.y
    · refine ⟨0, le_refl _, zero_le_one, ?_⟩
      rw [lerp_zero]
      apply pt_eq
      · rcases hx with h | h <;> [exact le_antisymm (hxe ▸ h.2) h.1; exact le_antisymm h.2 (hxe ▸ h.1)]
      · rcases hy with h | h <;> [exact le_antisymm (hye ▸ h.2) h.1; exact le_antisymm h.2 (hye ▸ h.1)]
    · obtain ⟨t, t0, t1, ey, ex⟩ := param_of_collinear hye hy (sub_eq_zero.1 hc).symm
      exact ⟨t, t0, t1, pt_eq ex ey⟩
  · obtain ⟨t, t0, t1, ex, ey⟩ := param_of_collinear hxe hx (sub_eq_zero.1 hc)
    exact ⟨t, t0, t1, pt_eq ex ey⟩

theorem onSeg_iff_OnSeg (a b q : Pt α) : onSeg a b q = true ↔ OnSeg a b q :=
  ⟨OnSeg_of_onSeg, onSeg_of_OnSeg⟩

theorem onSeg_split {a b i : Pt α} (h : OnSeg a b i) (q : Pt α) :
    onSeg a b q = (onSeg a i q || onSeg i b q) := by
  rw [Bool.eq_iff_iff, Bool.or_eq_true, onSeg_iff_OnSeg, onSeg_iff_OnSeg, onSeg_iff_OnSeg]
  exact OnSeg_split h q

theorem cross_lerp_left (a b p : Pt α) (t : α) :
    EvenOdd.cross a (lerp a b t) p = t * EvenOdd.cross a b p := by
  simp only [EvenOdd.cross, lerp]; ring

theorem cross_lerp_right (a b p : Pt α) (t : α) :
    EvenOdd.cross (lerp a b t) b p = (1 - t) * EvenOdd.cross a b p := by
  simp only [EvenOdd.cross, lerp]; ring

theorem crossesAbove_le {s e : Pt α} (h : s.x ≤ e.x) (p : Pt α) :
    crossesAbove s e p = true ↔ (s.x ≤ p.x ∧ p.x < e.x ∧ EvenOdd.cross s e p < 0) := by
  rw [crossesAbove_iff]
  constructor
  · rintro (a | a)
    · exact a
    · exact absurd (lt_of_le_of_lt a.1 a.2.1) (not_lt.2 h)
  · exact Or.inl

theorem crossesAbove_split_le {a b : Pt α} (hab : a.x ≤ b.x) (t : α) (t0 : 0 ≤ t) (t1 : t ≤ 1) (p : Pt α) :
    crossesAbove a b p = (crossesAbove a (lerp a b t) p != crossesAbove (lerp a b t) b p) := by
  obtain ⟨hai, hib⟩ : a.x ≤ (lerp a b t).x ∧ (lerp a b t).x ≤ b.x := param_between hab t0 t1
  rcases lt_or_ge p.x (lerp a b t).x with h1 | h1
  · have hz : crossesAbove (lerp a b t) b p = false := (edge_left _ _ p h1 (h1.trans_le hib)).2
    rw [hz, Bool.bne_false, Bool.eq_iff_iff, crossesAbove_le hab, crossesAbove_le hai, cross_lerp_left]
    constructor
    · rintro ⟨h2, _, h4⟩
      have ht : 0 < t := by
        rcases eq_or_lt_of_le t0 with h | h
        · exfalso; rw [← h] at h1; simp only [lerp, zero_mul, add_zero] at h1
          exact absurd (lt_of_le_of_lt h2 h1) (lt_irrefl _)
        · exact h
      exact ⟨h2, h1, mul_neg_of_pos_of_neg ht h4⟩
    · rintro ⟨h2, _, h4⟩
      refine ⟨h2, lt_of_lt_of_le h1 hib, ?_⟩
      by_contra hc
      exact absurd h4 (not_lt.2 (mul_nonneg t0 (not_lt.1 hc)))
  · have hz : crossesAbove a (lerp a b t) p = false := by
      rw [← Bool.not_eq_true, crossesAbove_le hai]
      intro h; exact absurd (lt_of_le_of_lt h1 h.2.1) (lt_irrefl _)
    rw [hz, Bool.false_bne, Bool.eq_iff_iff, crossesAbove_le hab, crossesAbove_le hib, cross_lerp_right]
    constructor
    · rintro ⟨_, h3, h4⟩
      have ht : 0 < 1 - t := by
        rcases eq_or_lt_of_le t1 with h | h
        · exfalso; rw [h] at h1; simp only [lerp, one_mul] at h1
          rw [add_sub_cancel] at h1
          exact absurd (lt_of_lt_of_le h3 h1) (lt_irrefl _)
        · exact sub_pos.2 h
      exact ⟨h1, h3, mul_neg_of_pos_of_neg ht h4⟩
    · rintro ⟨_, h3, h4⟩
      refine ⟨le_trans hai h1, h3, ?_⟩
      by_contra hc
      exact absurd h4 (not_lt.2 (mul_nonneg (sub_nonneg.2 t1) (not_lt.1 hc)))

theorem crossesAbove_split {a b i : Pt α} (h : OnSeg a b i) (p : Pt α) :
    crossesAbove a b p = (crossesAbove a i p != crossesAbove i b p) := by
  obtain ⟨t, t0, t1, rfl⟩ := h
  rcases le_total a.x b.x with hab | hab
  · exact crossesAbove_split_le hab t t0 t1 p
  · rw [crossesAbove_swap b a p, crossesAbove_swap (lerp a b t) a p, crossesAbove_swap b (lerp a b t) p,
      lerp_swap a b t, bne_comm (a := crossesAbove (lerp b a (1 - t)) a p)]
    exact crossesAbove_split_le hab (1 - t) (sub_nonneg.2 t1) (by linarith) p

/-- parity (odd = `true`) of the number of edges crossed by the upward ray from `q`; by unfolding it is `par` of `EdgeList`
    at the crossing test, whose lemmas (`par_cons`, `par_bne`, `par_chain`) are used for it as they stand -/
def crE (E : List (Pt α × Pt α)) (q : Pt α) : Bool := (E.countP fun se => crossesAbove se.1 se.2 q) % 2 == 1

/-- `q` lies on one of the edges -/
def onE (E : List (Pt α × Pt α)) (q : Pt α) : Bool := E.any fun se => onSeg se.1 se.2 q

theorem crE_nil (q : Pt α) : crE [] q = false := rfl
theorem onE_nil (q : Pt α) : onE [] q = false := rfl

theorem crE_cons (s e : Pt α) (E : List (Pt α × Pt α)) (q : Pt α) :
    crE ((s, e) :: E) q = (crossesAbove s e q != crE E q) := par_cons _ _ _

theorem onE_cons (s e : Pt α) (E : List (Pt α × Pt α)) (q : Pt α) :
    onE ((s, e) :: E) q = (onSeg s e q || onE E q) := by
  unfold onE; rw [List.any_cons]

theorem crossings_parity (r : List (Pt α)) (q : Pt α) : (crossings r q % 2 == 1) = crE (edges r) q := rfl
theorem onBoundary_eq (r : List (Pt α)) (q : Pt α) : onBoundary r q = onE (edges r) q := rfl

end Orb.Clip.C08R
