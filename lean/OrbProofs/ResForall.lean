/-
  The member loops characterised by `List.Forall₂` (Batteries): a loop returns `out` iff every member returned the
  corresponding member of `out`.  `resMapM` / `resFilterM` over `Res`, `List.mapM` over `Option` (package clip).
  Then what the proofs read off a `Forall₂`: related members on either side, a filter on the right; and the adding
  `foldlM` loop by the outputs of its members (`foldlM_res_ok_iff`).
-/
import OrbProofs.ResLemmas
import Batteries.Data.List.Basic

namespace Orb.C20M
variable {ε β γ : Type} (f : β → Res ε γ)

theorem resMapM_ok_iff (l : List β) (out : List γ) :
    resMapM f l = .ok out ↔ List.Forall₂ (fun x y => f x = .ok y) l out := by
  constructor
  · intro h
    induction l generalizing out with
    | nil => rw [resMapM] at h; cases h; exact .nil
    | cons x xs ih =>
      rw [resMapM] at h
      cases hx : f x <;> rw [hx] at h <;> try cases h
      cases hr : resMapM f xs <;> rw [hr] at h <;> cases h
      exact .cons hx (ih _ hr)
  · intro h
    induction h with
    | nil => rfl
    | cons h1 _ ih => rw [resMapM, h1, ih]

theorem resFilterM_ok_iff (keep : γ → Bool) (l : List β) (out : List γ) :
    resFilterM f keep l = .ok out ↔
      ∃ ys, List.Forall₂ (fun x y => f x = .ok y) l ys ∧ out = ys.filter keep := by
  unfold resFilterM
  constructor
  · intro h
    cases hr : resMapM f l <;> rw [hr] at h <;> cases h
    exact ⟨_, (resMapM_ok_iff f l _).1 hr, rfl⟩
  · rintro ⟨ys, h1, rfl⟩
    rw [(resMapM_ok_iff f l ys).2 h1]

/-- `Res.map` after the loop (`resMapM_map`, `resMapM_map_ok` are about `List.map` before it) -/
theorem map_resMapM_ok_iff {δ : Type} (g : β → Res ε γ) (φ : List γ → δ) (bs : List β) (x : δ) :
    (resMapM g bs).map φ = .ok x ↔ ∃ os, List.Forall₂ (fun b o => g b = .ok o) bs os ∧ x = φ os := by
  cases h : resMapM g bs with
  | ok os =>
    refine ⟨fun e => ⟨os, (resMapM_ok_iff g bs os).1 h, (Res.ok.inj e).symm⟩, fun ⟨os', h', e⟩ => ?_⟩
    rw [(resMapM_ok_iff g bs os').2 h'] at h
    cases h; rw [e]; rfl
  | err e => exact ⟨nofun, fun ⟨os', h', _⟩ => nomatch h.symm.trans ((resMapM_ok_iff g bs os').2 h')⟩
  | panic w => exact ⟨nofun, fun ⟨os', h', _⟩ => nomatch h.symm.trans ((resMapM_ok_iff g bs os').2 h')⟩

end Orb.C20M

namespace Orb

/-- `Orb.mapM_total` (ListLemmas, core Lean only) is this without the `Forall₂` -/
theorem mapM_some_of_forall {β γ : Type} (f : β → Option γ) (l : List β) (h : ∀ b ∈ l, ∃ c, f b = some c) :
    ∃ cs, l.mapM f = some cs ∧ List.Forall₂ (fun b c => f b = some c) l cs := by
  induction l with
  | nil => exact ⟨[], by simp, List.Forall₂.nil⟩
  | cons b l ih =>
    obtain ⟨c, hc⟩ := h b List.mem_cons_self
    obtain ⟨cs, hcs, hf⟩ := ih (fun x hx => h x (List.mem_cons_of_mem _ hx))
    exact ⟨c :: cs, by simp [List.mapM_cons, hc, hcs], List.Forall₂.cons hc hf⟩

theorem forall₂_mem_left {β γ : Type} {R : β → γ → Prop} : ∀ {l₁ : List β} {l₂ : List γ},
    List.Forall₂ R l₁ l₂ → ∀ {a}, a ∈ l₁ → ∃ b ∈ l₂, R a b
  | _, _, .cons h t, _, ha => (List.mem_cons.1 ha).elim
      (fun e => ⟨_, List.mem_cons_self, e ▸ h⟩)
      fun ha => (forall₂_mem_left t ha).imp fun _ hb => ⟨List.mem_cons_of_mem _ hb.1, hb.2⟩

theorem forall₂_mem_right {β γ : Type} {R : β → γ → Prop} : ∀ {l₁ : List β} {l₂ : List γ},
    List.Forall₂ R l₁ l₂ → ∀ {b}, b ∈ l₂ → ∃ a ∈ l₁, R a b
  | _, _, .cons h t, _, hb => (List.mem_cons.1 hb).elim
      (fun e => ⟨_, List.mem_cons_self, e ▸ h⟩)
      fun hb => (forall₂_mem_right t hb).imp fun _ ha => ⟨List.mem_cons_of_mem _ ha.1, ha.2⟩

theorem exists_forall₂ {β γ : Type} {R : β → γ → Prop} :
    ∀ l : List β, (∀ a ∈ l, ∃ b, R a b) → ∃ l', List.Forall₂ R l l'
  | [], _ => ⟨[], .nil⟩
  | a :: l, h => (h a List.mem_cons_self).elim fun b hb =>
      (exists_forall₂ l fun a ha => h a (List.mem_cons_of_mem _ ha)).elim fun l' hl' => ⟨b :: l', .cons hb hl'⟩

theorem forall₂_imp_mem {β γ : Type} {R S : β → γ → Prop} {l₁ : List β} {l₂ : List γ}
    (h : List.Forall₂ R l₁ l₂) (himp : ∀ a ∈ l₁, ∀ b, R a b → S a b) : List.Forall₂ S l₁ l₂ := by
  induction h with
  | nil => exact List.Forall₂.nil
  | cons hab _ ih =>
    exact List.Forall₂.cons (himp _ (by simp) _ hab) (ih fun a ha b hr => himp a (by simp [ha]) b hr)

/-- what `R` gives every right-hand member: `forall₂_mem_right` followed by `hP` -/
theorem forall₂_right {β γ : Type} {R : β → γ → Prop} {P : γ → Prop} {l₁ : List β} {l₂ : List γ}
    (h : List.Forall₂ R l₁ l₂) (hP : ∀ a b, R a b → P b) : ∀ b ∈ l₂, P b :=
  fun _ hb => (forall₂_mem_right h hb).elim fun a ha => hP a _ ha.2

theorem forall₂_filter_right {β γ : Type} {R : β → γ → Prop} (q : γ → Bool) {l₁ : List β} {l₂ : List γ}
    (h : List.Forall₂ R l₁ l₂) : ∃ k, k.Sublist l₁ ∧ List.Forall₂ R k (l₂.filter q) := by
  induction h with
  | nil => exact ⟨[], List.Sublist.refl _, List.Forall₂.nil⟩
  | @cons a b l₁ l₂ hab _ ih =>
    obtain ⟨k, hk1, hk2⟩ := ih
    by_cases hq : q b = true
    · exact ⟨a :: k, hk1.cons_cons a, by rw [List.filter_cons_of_pos hq]; exact List.Forall₂.cons hab hk2⟩
    · exact ⟨k, hk1.cons a, by rw [List.filter_cons_of_neg hq]; exact hk2⟩

theorem foldlM_res_ok_iff {ε σ β γ : Type} {f : σ → β → Res ε σ} {g : β → Res ε γ} {add : γ → σ → σ}
    (hf : ∀ s b, f s b = (g b).map (add · s)) (bs : List β) (s s' : σ) :
    bs.foldlM f s = .ok s' ↔
      ∃ os, List.Forall₂ (fun b o => g b = .ok o) bs os ∧ s' = os.foldl (fun s o => add o s) s := by
  rw [foldlM_res_eq_resMapM hf, C20M.map_resMapM_ok_iff]

end Orb
