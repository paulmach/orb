/-
  Lemmas for the heap-level part of C06 (`Orb.Heap`): a clone denotes the same value, lives in
  fresh arrays only, and writes outside a footprint are invisible.  Core Lean only.
-/
import Orb.Heap

namespace Orb.Heap
open Orb

variable {α : Type}

theorem HGeom.ind {motive : HGeom α → Prop}
    (h1 : ∀ p, motive (.point p)) (h2 : ∀ a, motive (.multiPoint a))
    (h3 : ∀ a, motive (.lineString a)) (h4 : ∀ as, motive (.multiLineString as))
    (h5 : ∀ a, motive (.ring a)) (h6 : ∀ as, motive (.polygon as))
    (h7 : ∀ ass, motive (.multiPolygon ass)) (h8 : ∀ a b, motive (.bound a b))
    (hc : ∀ gs, (∀ g ∈ gs, motive g) → motive (.collection gs)) : ∀ g, motive g := by
  intro g
  refine HGeom.rec (motive_1 := motive) (motive_2 := fun gs => ∀ g ∈ gs, motive g)
    h1 h2 h3 h4 h5 h6 h7 h8 hc ?_ ?_ g
  · intro g hg; cases hg
  · intro head tail hh ht g hg
    rcases List.mem_cons.1 hg with rfl | hg
    · exact hh
    · exact ht g hg

theorem denoteList_eq_map (σ : Store α) (gs : List (HGeom α)) : denoteList σ gs = gs.map (denote σ) := by
  induction gs with
  | nil => rfl
  | cons g gs ih => rw [denoteList, ih, List.map_cons]

theorem mem_footprintList {gs : List (HGeom α)} {g : HGeom α} (hg : g ∈ gs) {a : Nat}
    (ha : a ∈ footprint g) : a ∈ footprintList gs := by
  induction gs with
  | nil => cases hg
  | cons g' gs ih =>
    rw [footprintList, List.mem_append]
    rcases List.mem_cons.1 hg with rfl | hg
    · exact Or.inl ha
    · exact Or.inr (ih hg)

theorem read_of_le {σ : Store α} {a : Nat} (h : σ.length ≤ a) : read σ a = [] := by
  simp [read, List.getD_eq_getElem?_getD, List.getElem?_eq_none h]

theorem read_append_lt (σ ext : Store α) {a : Nat} (h : a < σ.length) :
    read (σ ++ ext) a = read σ a := by
  simp [read, List.getD_eq_getElem?_getD, List.getElem?_append_left h]

theorem read_append_add (σ ext : Store α) (i : Nat) :
    read (σ ++ ext) (σ.length + i) = read ext i := by
  simp [read, List.getD_eq_getElem?_getD, List.getElem?_append_right]

theorem read_append_length (σ : Store α) (ps : List (Pt α)) (ext : Store α) :
    read (σ ++ ps :: ext) σ.length = ps := by
  simp [read]

theorem map_read_range' (σ ext : Store α) :
    (List.range' σ.length ext.length).map (read (σ ++ ext)) = ext := by
  apply List.ext_getElem
  · simp
  · intro i h1 h2
    simp only [List.getElem_map, List.getElem_range', Nat.one_mul]
    rw [read_append_add]
    simp [read, List.getD_eq_getElem?_getD, List.getElem?_eq_getElem h2]

theorem denote_congr (σ σ' : Store α) (g : HGeom α)
    (h : ∀ a ∈ footprint g, read σ' a = read σ a) : denote σ' g = denote σ g := by
  induction g using HGeom.ind with
  | h1 p => simp [denote]
  | h2 a | h3 a | h5 a => simp [denote, h a (by simp [footprint])]
  | h4 as | h6 as =>
    simp only [denote, footprint] at h ⊢
    congr 1
    exact List.map_congr_left h
  | h7 ass =>
    simp only [denote, footprint] at h ⊢
    congr 1
    apply List.map_congr_left
    intro as has
    apply List.map_congr_left
    intro a ha
    exact h a (List.mem_flatten.2 ⟨as, has, ha⟩)
  | h8 a b => simp [denote]
  | hc gs ih =>
    simp only [denote, denoteList_eq_map]
    congr 1
    exact List.map_congr_left fun g hg => ih g hg fun a ha => h a (mem_footprintList hg ha)

theorem denote_append (σ ext : Store α) (g : HGeom α) (h : WF σ g) :
    denote (σ ++ ext) g = denote σ g :=
  denote_congr σ (σ ++ ext) g fun a ha => read_append_lt σ ext (h a ha)

theorem write_eq_modify (σ : Store α) (a i : Nat) (v : Pt α) :
    write σ a i v = σ.modify a (·.set i v) := by
  induction σ generalizing a with
  | nil => simp [write]
  | cons arr rest ih => cases a <;> simp [write, ih]

/-- reading after an array-wise update that keeps the empty array empty (so that an id that was never
    allocated still reads as empty) -/
theorem read_modify (σ : Store α) (a b : Nat) (f : List (Pt α) → List (Pt α)) (hf : f [] = []) :
    read (σ.modify a f) b = if b = a then f (read σ a) else read σ b := by
  simp only [read, List.getD_eq_getElem?_getD, List.getElem?_modify]
  by_cases h : a = b
  · subst h; cases σ[a]? <;> simp [hf]
  · have h' : ¬ b = a := fun e => h e.symm
    simp [h, h']

theorem write_length (σ : Store α) (a i : Nat) (v : Pt α) : (write σ a i v).length = σ.length := by
  rw [write_eq_modify, List.length_modify]

theorem read_write_ne (σ : Store α) (a b i : Nat) (v : Pt α) (h : b ≠ a) :
    read (write σ a i v) b = read σ b := by
  rw [write_eq_modify, read_modify _ _ _ _ rfl, if_neg h]

theorem read_write_same (σ : Store α) (a i : Nat) (v : Pt α) :
    read (write σ a i v) a = (read σ a).set i v := by
  rw [write_eq_modify, read_modify _ _ _ _ rfl, if_pos rfl]

theorem cloneArrs_append (σ : Store α) (as bs : List Nat) :
    cloneArrs σ (as ++ bs) =
      ((cloneArrs (cloneArrs σ as).1 bs).1, (cloneArrs σ as).2 ++ (cloneArrs (cloneArrs σ as).1 bs).2) := by
  induction as generalizing σ with
  | nil => simp [cloneArrs]
  | cons a as ih => simp [cloneArrs, ih]

theorem cloneArrs_length (σ : Store α) (as : List Nat) :
    (cloneArrs σ as).1.length = σ.length + as.length := by
  induction as generalizing σ with
  | nil => simp [cloneArrs]
  | cons a as ih => simp [cloneArrs, ih, cloneArr, alloc]; omega

theorem cloneArrs_snd (σ : Store α) (as : List Nat) :
    (cloneArrs σ as).2 = List.range' σ.length as.length := by
  induction as generalizing σ with
  | nil => simp [cloneArrs]
  | cons a as ih => simp [cloneArrs, ih, cloneArr, alloc, List.range'_succ]

theorem cloneArrs_store (σ : Store α) (as : List Nat) (h : ∀ a ∈ as, a < σ.length) :
    (cloneArrs σ as).1 = σ ++ as.map (read σ) := by
  induction as generalizing σ with
  | nil => simp [cloneArrs]
  | cons a as ih =>
    have h1 : ∀ b ∈ as, b < (σ ++ [read σ a]).length := fun b hb => by
      have := h b (List.mem_cons_of_mem _ hb); simp; omega
    simp only [cloneArrs, cloneArr, alloc, List.map_cons]
    rw [ih _ h1, List.append_assoc]
    congr 1
    simp only [List.singleton_append, List.cons.injEq, true_and]
    apply List.map_congr_left
    intro b hb
    exact read_append_lt σ _ (h b (List.mem_cons_of_mem _ hb))

theorem cloneArrs_read (σ : Store α) (as : List Nat) (h : ∀ a ∈ as, a < σ.length) :
    (cloneArrs σ as).2.map (read (cloneArrs σ as).1) = as.map (read σ) := by
  rw [cloneArrs_snd, cloneArrs_store σ as h]
  have := map_read_range' σ (as.map (read σ))
  simpa using this

/-- `MultiPolygon.Clone` allocates like one flat loop over all rings -/
theorem cloneArrss_flat (σ : Store α) (ass : List (List Nat)) :
    (cloneArrss σ ass).1 = (cloneArrs σ ass.flatten).1 ∧
    (cloneArrss σ ass).2.flatten = (cloneArrs σ ass.flatten).2 := by
  induction ass generalizing σ with
  | nil => simp [cloneArrss, cloneArrs]
  | cons as ass ih =>
    simp only [cloneArrss, List.flatten_cons, cloneArrs_append]
    exact ⟨(ih _).1, by rw [(ih _).2]⟩

mutual
/-- `orb.Clone` allocates like one flat loop over the footprint -/
theorem clone_flat (σ : Store α) : ∀ g : HGeom α,
    (clone σ g).1 = (cloneArrs σ (footprint g)).1 ∧
    footprint (clone σ g).2 = (cloneArrs σ (footprint g)).2
  | .point p => by simp [clone, footprint, cloneArrs]
  | .multiPoint a => by simp [clone, footprint, cloneArrs]
  | .lineString a => by simp [clone, footprint, cloneArrs]
  | .ring a => by simp [clone, footprint, cloneArrs]
  | .multiLineString as => by simp [clone, footprint]
  | .polygon as => by simp [clone, footprint]
  | .multiPolygon ass => by simpa [clone, footprint] using cloneArrss_flat σ ass
  | .bound a b => by simp [clone, footprint, cloneArrs]
  | .collection gs => by simpa [clone, footprint] using cloneList_flat σ gs
theorem cloneList_flat (σ : Store α) : ∀ gs : List (HGeom α),
    (cloneList σ gs).1 = (cloneArrs σ (footprintList gs)).1 ∧
    footprintList (cloneList σ gs).2 = (cloneArrs σ (footprintList gs)).2
  | [] => by simp [cloneList, footprintList, cloneArrs]
  | g :: gs => by
    have hg := clone_flat σ g
    have hl := cloneList_flat (clone σ g).1 gs
    simp only [cloneList, footprintList, cloneArrs_append]
    rw [hl.1, hl.2, hg.1, hg.2]
    exact ⟨rfl, rfl⟩
end

theorem clone_footprint_eq' (σ : Store α) (g : HGeom α) :
    footprint (clone σ g).2 = List.range' σ.length (footprint g).length := by
  rw [(clone_flat σ g).2, cloneArrs_snd]

theorem clone_length (σ : Store α) (g : HGeom α) :
    (clone σ g).1.length = σ.length + (footprint g).length := by
  rw [(clone_flat σ g).1, cloneArrs_length]

theorem clone_store (σ : Store α) (g : HGeom α) (h : WF σ g) :
    (clone σ g).1 = σ ++ (footprint g).map (read σ) := by
  rw [(clone_flat σ g).1, cloneArrs_store σ _ h]

theorem clone_WF' (σ : Store α) (g : HGeom α) : WF (clone σ g).1 (clone σ g).2 := by
  intro a ha
  rw [clone_footprint_eq', List.mem_range'_1] at ha
  rw [clone_length]
  exact ha.2

theorem cloneArrss_store (σ : Store α) (ass : List (List Nat)) (h : ∀ a ∈ ass.flatten, a < σ.length) :
    (cloneArrss σ ass).1 = σ ++ ass.flatten.map (read σ) := by
  rw [(cloneArrss_flat σ ass).1, cloneArrs_store σ _ h]

theorem cloneArrss_lengths (σ : Store α) (ass : List (List Nat)) :
    (cloneArrss σ ass).2.map List.length = ass.map List.length := by
  induction ass generalizing σ with
  | nil => rfl
  | cons as ass ih => simp [cloneArrss, ih, cloneArrs_snd]

theorem cloneArrss_read (σ : Store α) (ass : List (List Nat)) (h : ∀ a ∈ ass.flatten, a < σ.length) :
    (cloneArrss σ ass).2.map (fun as => as.map (read (cloneArrss σ ass).1)) =
      ass.map (fun as => as.map (read σ)) := by
  -- the rows have the same lengths, and read row after row both sides are the flat loop
  rw [List.eq_iff_flatten_eq]
  constructor
  · rw [← List.map_flatten, ← List.map_flatten, (cloneArrss_flat σ ass).1, (cloneArrss_flat σ ass).2,
      cloneArrs_read σ _ h]
  · simp [List.map_map, Function.comp_def, cloneArrss_lengths]

theorem cloneList_denote (gs : List (HGeom α))
    (ih : ∀ g ∈ gs, ∀ σ : Store α, WF σ g → denote (clone σ g).1 (clone σ g).2 = denote σ g)
    (σ : Store α) (h : ∀ a ∈ footprintList gs, a < σ.length) :
    denoteList (cloneList σ gs).1 (cloneList σ gs).2 = denoteList σ gs := by
  induction gs generalizing σ with
  | nil => simp [cloneList, denoteList]
  | cons g gs ihl =>
    rw [footprintList] at h
    have hg : WF σ g := fun a ha => h a (List.mem_append_left _ ha)
    have hgs : ∀ a ∈ footprintList gs, a < (clone σ g).1.length := fun a ha => by
      have := h a (List.mem_append_right _ ha); rw [clone_length]; omega
    simp only [cloneList, denoteList]
    congr 1
    · rw [(cloneList_flat _ gs).1, cloneArrs_store _ _ hgs, denote_append _ _ _ (clone_WF' σ g)]
      exact ih g (by simp) σ hg
    · rw [ihl (fun g' hg' => ih g' (List.mem_cons_of_mem _ hg')) _ hgs]
      rw [clone_store σ g hg, denoteList_eq_map, denoteList_eq_map]
      exact List.map_congr_left fun g' hg' => denote_append σ _ g' fun a ha =>
        h a (List.mem_append_right _ (mem_footprintList hg' ha))

theorem clone_denote' (σ : Store α) (g : HGeom α) (h : WF σ g) :
    denote (clone σ g).1 (clone σ g).2 = denote σ g := by
  induction g using HGeom.ind generalizing σ with
  | h1 p => simp [clone, denote]
  | h2 a | h3 a | h5 a => simp [clone, denote, cloneArr, alloc, read_append_length]
  | h4 as | h6 as => simp only [clone, denote]; rw [cloneArrs_read σ as h]
  | h7 ass => simp only [clone, denote]; rw [cloneArrss_read σ ass h]
  | h8 a b => simp [clone, denote]
  | hc gs ih =>
    simp only [clone, denote]
    rw [cloneList_denote gs ih σ h]

end Orb.Heap
