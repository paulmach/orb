/-
  C07 — the clauses "the pieces appear in travel order" and "their total length equals the length of the input
  inside the box" of `Orb.Clip.line` (clip/clip.go `line`), for both modes.

  The invariant of the outer loop is `Ann`, on an annotated virtual piece list: every vertex carries its position
  `(i, t)` on the input, and the piece segments are the per-segment results `clipSeg` of the input segments, in input
  order.  What a per-segment result is, in parameters of its segment, is `clipSeg_post`.
-/
import OrbProofs.C07SegLoop
import Mathlib.Data.List.Chain
import Mathlib.Algebra.BigOperators.Group.List.Basic
import Mathlib.Algebra.Order.Field.Rat

set_option linter.unusedSectionVars false

namespace Orb.Clip
open Orb Orb.Core

variable {α : Type} [Field α] [LinearOrder α] [IsStrictOrderedRing α]

/-- the vertex `v` is the point at position `p = (i, t)` of the polyline `inp`: segment index `i`
    (so `i + 1 < inp.length`), parameter `t ∈ [0, 1]`, `v = lerp inp[i] inp[i+1] t` -/
def At (inp : List (Pt α)) (p : Nat × α) (v : Pt α) : Prop :=
  ∃ a b, inp[p.1]? = some a ∧ inp[p.1 + 1]? = some b ∧ 0 ≤ p.2 ∧ p.2 ≤ 1 ∧ v = lerp a b p.2

/-- lexicographic order on positions: the order of travel along the input -/
def PosLE (p q : Nat × α) : Prop := p.1 < q.1 ∨ (p.1 = q.1 ∧ p.2 ≤ q.2)

/-- positions of two consecutive vertices of a piece: further along the same input segment, or the
    first is the end (`t = 1`) of segment `i` and the second lies on segment `i + 1` -/
def Step (p q : Nat × α) : Prop := (q.1 = p.1 ∧ p.2 ≤ q.2) ∨ (q.1 = p.1 + 1 ∧ p.2 = 1)

/-- the per-segment result of the inner loop (the model's loop, started as `lineStep` starts it): the
    accepted sub-segment `(a', b')` of the input segment `s`, or nothing.  `clipSeg box o (a, b)` is `clipPart box o a b` of
    OrbProofs/ClipLoop.lean by `rfl`: this one is declared over an ordered field, the any-arithmetic theorems need the other. -/
def clipSeg (box : Bound α) (isOpen : Bool) (s : Pt α × Pt α) : Option (Pt α × Pt α) :=
  match segLoop box isOpen 8 s.1 s.2 (code box isOpen s.1) (code box isOpen s.2) 0 0 with
  | .accept a' b' _ => some (a', b')
  | _ => none

variable {β : Type} [AddCommMonoid β]

/-- length of a polyline for an arbitrary segment-length function `len` -/
def pathLen (len : Pt α → Pt α → β) (ps : List (Pt α)) : β :=
  ((segsOf ps).map fun s => len s.1 s.2).sum

/-- total length of the pieces -/
def piecesLen (len : Pt α → Pt α → β) (out : List (List (Pt α))) : β :=
  (out.map (pathLen len)).sum

/-- length of the accepted sub-segment of the input segment `s` (zero when rejected) -/
def segInsideLen (box : Bound α) (isOpen : Bool) (len : Pt α → Pt α → β) (s : Pt α × Pt α) : β :=
  match clipSeg box isOpen s with
  | some u => len u.1 u.2
  | none => 0

/-- length of the input inside the box: the sum over the input segments -/
def insideLen (box : Bound α) (isOpen : Bool) (len : Pt α → Pt α → β) (inp : List (Pt α)) : β :=
  ((segsOf inp).map (segInsideLen box isOpen len)).sum

/-- `[s, e]` is the parameter interval of the part of the segment `a b` in the closed box -/
def InsidePart (box : Bound α) (a b : Pt α) (s e : α) : Prop :=
  0 ≤ s ∧ s ≤ e ∧ e ≤ 1 ∧ ∀ t, 0 ≤ t → t ≤ 1 → (InBox box (lerp a b t) ↔ s ≤ t ∧ t ≤ e)

/-- `ℓ` is the length of the part of the segment `a b` in the closed box (semantic, no reference to
    the algorithm) -/
def IsInsideLen (box : Bound α) (len : Pt α → Pt α → β) (a b : Pt α) (ℓ : β) : Prop :=
  (∃ s e, InsidePart box a b s e ∧ ℓ = len (lerp a b s) (lerp a b e)) ∨
  ((∀ t, 0 ≤ t → t ≤ 1 → ¬ InBox box (lerp a b t)) ∧ ℓ = 0)

theorem PosLE.trans {p q r : Nat × α} (h1 : PosLE p q) (h2 : PosLE q r) : PosLE p r := by
  rcases h1 with h1 | ⟨h1, h1'⟩ <;> rcases h2 with h2 | ⟨h2, h2'⟩
  · exact Or.inl (lt_trans h1 h2)
  · exact Or.inl (h2 ▸ h1)
  · exact Or.inl (h1 ▸ h2)
  · exact Or.inr ⟨h1.trans h2, le_trans h1' h2'⟩

/-- needed by `List.IsChain.pairwise` in `clip_order_gen` -/
instance : Trans (PosLE (α := α)) PosLE PosLE := ⟨PosLE.trans⟩

theorem PosLE.refl (p : Nat × α) : PosLE p p := Or.inr ⟨rfl, le_refl _⟩

theorem At.index_lt {inp : List (Pt α)} {p : Nat × α} {v : Pt α} (h : At inp p v) :
    p.1 + 1 < inp.length := by
  obtain ⟨a, b, _, hb, _⟩ := h
  by_contra hc
  rw [List.getElem?_eq_none (not_lt.1 hc)] at hb
  cases hb

theorem At.param {inp : List (Pt α)} {p : Nat × α} {v : Pt α} (h : At inp p v) : 0 ≤ p.2 ∧ p.2 ≤ 1 := by
  obtain ⟨a, b, _, _, h0, h1, _⟩ := h
  exact ⟨h0, h1⟩

/-- (not `OnPath inp v`: the vertex lies on the input segment of index `p.1`) -/
theorem At.onPath {inp : List (Pt α)} {p : Nat × α} {v : Pt α} (h : At inp p v) :
    ∃ a b, inp[p.1]? = some a ∧ inp[p.1 + 1]? = some b ∧ OnSeg a b v := by
  obtain ⟨a, b, ha, hb, h0, h1, rfl⟩ := h
  exact ⟨a, b, ha, hb, onSeg_lerp a b h0 h1⟩

theorem Step.posLE {p q : Nat × α} (h : Step p q) : PosLE p q := by
  rcases h with ⟨h1, h2⟩ | ⟨h1, _⟩
  · exact Or.inr ⟨h1.symm, h2⟩
  · exact Or.inl (by omega)

/-- two consecutive vertices of a piece lie on one common input segment, in order -/
theorem Step.same_segment {inp : List (Pt α)} {p q : Nat × α} {u v : Pt α} (hu : At inp p u)
    (hv : At inp q v) (h : Step p q) : ∃ i s e, s ≤ e ∧ At inp (i, s) u ∧ At inp (i, e) v := by
  rcases h with ⟨h1, h2⟩ | ⟨h1, h2⟩
  · refine ⟨p.1, p.2, q.2, h2, hu, ?_⟩
    rw [← h1]; exact hv
  · obtain ⟨a, b, ha, hb, h0, h1', rfl⟩ := hu
    obtain ⟨c, d, hc, hd, k0, k1, rfl⟩ := hv
    rw [h1, hb] at hc
    cases hc
    refine ⟨q.1, 0, q.2, k0, ⟨b, d, by rw [h1]; exact hb, hd, le_refl _, zero_le_one, ?_⟩,
      ⟨b, d, by rw [h1]; exact hb, hd, k0, k1, rfl⟩⟩
    show lerp a b p.2 = lerp b d 0
    rw [h2, lerp_one, lerp_zero]

theorem At.mono {pre : List (Pt α)} {a b : Pt α} {p : Nat × α} {v : Pt α}
    (h : At (pre ++ [a]) p v) : At (pre ++ [a, b]) p v := by
  obtain ⟨x, y, hx, hy, h0, h1, hv⟩ := h
  have e : pre ++ [a, b] = (pre ++ [a]) ++ [b] := by simp
  rw [e]
  have snoc : ∀ {i : Nat} {z : Pt α}, (pre ++ [a])[i]? = some z → ((pre ++ [a]) ++ [b])[i]? = some z := fun h => by
    rw [List.getElem?_append_left (List.getElem?_eq_some_iff.1 h).1, h]
  exact ⟨x, y, snoc hx, snoc hy, h0, h1, hv⟩

theorem At.lt {pre : List (Pt α)} {a : Pt α} {p : Nat × α} {v : Pt α} (h : At (pre ++ [a]) p v) :
    p.1 < pre.length := by
  have := h.index_lt
  simp at this
  omega

theorem at_new (pre : List (Pt α)) (a b : Pt α) {t : α} (h0 : 0 ≤ t) (h1 : t ≤ 1) :
    At (pre ++ [a, b]) (pre.length, t) (lerp a b t) :=
  ⟨a, b, by simp, by simp, h0, h1, rfl⟩

/-- the inner loop run on the sub-segment `[s, e]` of `a b` accepts a sub-segment `[s', e']` of it,
    and an end whose code is already zero is not moved (as a parameter, not only as a point).  Stated about `segLoopU`,
    which `segLoop_code_eq` identifies with the model's loop. -/
theorem segLoop_param {box : Bound α} (hb : BoxOK box) (a b : Pt α) :
    ∀ (fuel : Nat) (s e : α) (cA cB : Nat), s ≤ e → W box cA (lerp a b s) → W box cB (lerp a b e) →
      ∀ a' b' c, segLoopU box fuel (lerp a b s) (lerp a b e) cA cB = .accept a' b' c →
      ∃ s' e', s ≤ s' ∧ s' ≤ e' ∧ e' ≤ e ∧ a' = lerp a b s' ∧ b' = lerp a b e' ∧
        (cA = 0 → s' = s) ∧ (cB = 0 → e' = e) := by
  intro fuel s e cA cB hse hWA hWB a' b' c h
  have key := segLoopU_spec hb False a b fuel s e cA cB hse hWA hWB (fun h => h.elim)
  rw [h] at key
  obtain ⟨-, -, s', e', k1, k2, k3, ka, kb, -, -, kA, kB, -⟩ := key
  exact ⟨s', e', k1, k2, k3, ka, kb, kA, kB⟩

/-- what the inner loop does on an input segment, as the outer loop calls it.  Stated about `segLoopU`, which
    `segLoop_code_eq` identifies with the model's loop. -/
theorem segLoop_cases {box : Bound α} (hb : BoxOK box) (isOpen : Bool) (a b : Pt α) :
    (segLoopU box 8 a b (code box isOpen a) (code box isOpen b) = .reject ∧ code box isOpen a ≠ 0) ∨
    ∃ s e, 0 ≤ s ∧ s ≤ e ∧ e ≤ 1 ∧
      segLoopU box 8 a b (code box isOpen a) (code box isOpen b) = .accept (lerp a b s) (lerp a b e) 0 ∧
      (code box isOpen a = 0 → s = 0) ∧ (code box isOpen b = 0 → e = 1) := by
  have key := segLoopU_spec_whole hb (isOpen = false) 8 (W_code hb isOpen a) (W_code hb isOpen b)
    (by intro h; subst h; exact ⟨rfl, rfl⟩)
  generalize hr : segLoopU box 8 a b (code box isOpen a) (code box isOpen b) = r at key
  cases r with
  | stuck => exact absurd key (not_le.2 (bitCount_lt_eight _))
  | reject => exact Or.inl ⟨rfl, key.1⟩
  | accept a' b' c =>
    obtain ⟨rfl, -, s, e, k1, k2, k3, rfl, rfl, -, -, kA, kB, -⟩ := key
    exact Or.inr ⟨s, e, k1, k2, k3, rfl, kA, kB⟩

/-- forget the positions -/
def unann (Wl : List (List ((Nat × α) × Pt α))) : List (List (Pt α)) := Wl.map (List.map Prod.snd)

@[simp] theorem unann_append (W1 W2 : List (List ((Nat × α) × Pt α))) :
    unann (W1 ++ W2) = unann W1 ++ unann W2 := by simp [unann]

@[simp] theorem unann_length (Wl : List (List ((Nat × α) × Pt α))) : (unann Wl).length = Wl.length := by
  simp [unann]

theorem unann_singleton (l : List ((Nat × α) × Pt α)) : unann [l] = [l.map Prod.snd] := rfl

/-- the invariant of the outer loop: `Wl` is the (virtual) piece list built from the path, every
    vertex annotated with its position -/
structure Ann (box : Bound α) (isOpen : Bool) (path : List (Pt α))
    (Wl : List (List ((Nat × α) × Pt α))) : Prop where
  /-- every vertex is the point at its position -/
  at_ : ∀ l ∈ Wl, ∀ x ∈ l, At path x.1 x.2
  /-- consecutive vertices of a piece -/
  step : ∀ l ∈ Wl, l.IsChain (fun x y => Step x.1 y.1)
  /-- an earlier piece uses strictly earlier input segments than a later piece -/
  sep : Wl.Pairwise (fun l l' => ∀ x ∈ l, ∀ y ∈ l', x.1.1 < y.1.1)
  /-- the piece segments are the accepted sub-segments, in input order (the clauses of the property read this equation off
      `pieces_segs`, which needs no box hypothesis, not off this field) -/
  segs : (unann Wl).flatMap segsOf = (segsOf path).filterMap (clipSeg box isOpen)

theorem ann_nil (box : Bound α) (isOpen : Bool) {path : List (Pt α)} (h : segsOf path = []) :
    Ann box isOpen path [] :=
  ⟨fun _ hl => (List.not_mem_nil hl).elim, fun _ hl => (List.not_mem_nil hl).elim, List.Pairwise.nil, by rw [h]; rfl⟩

theorem ann_reject {box : Bound α} {isOpen : Bool} {pre : List (Pt α)} {a b : Pt α}
    {Wl : List (List ((Nat × α) × Pt α))} (hA : Ann box isOpen (pre ++ [a]) Wl)
    (hr : clipSeg box isOpen (a, b) = none) : Ann box isOpen (pre ++ [a, b]) Wl := by
  refine ⟨fun l hl x hx => (hA.at_ l hl x hx).mono, hA.step, hA.sep, ?_⟩
  rw [segsOf_append_pair, List.filterMap_append, hA.segs]
  simp [hr]

theorem ann_new {box : Bound α} {isOpen : Bool} {pre : List (Pt α)} {a b : Pt α}
    {Wl : List (List ((Nat × α) × Pt α))} (hA : Ann box isOpen (pre ++ [a]) Wl) {s e : α}
    (h0 : 0 ≤ s) (hse : s ≤ e) (h1 : e ≤ 1)
    (hr : clipSeg box isOpen (a, b) = some (lerp a b s, lerp a b e)) :
    Ann box isOpen (pre ++ [a, b])
      (Wl ++ [[((pre.length, s), lerp a b s), ((pre.length, e), lerp a b e)]]) := by
  refine ⟨?_, ?_, ?_, ?_⟩
  · intro l hl x hx
    rcases List.mem_append.1 hl with h | h
    · exact (hA.at_ l h x hx).mono
    · rw [List.mem_singleton] at h; subst h
      simp only [List.mem_cons, List.not_mem_nil, or_false] at hx
      rcases hx with rfl | rfl
      · exact at_new pre a b h0 (le_trans hse h1)
      · exact at_new pre a b (le_trans h0 hse) h1
  · intro l hl
    rcases List.mem_append.1 hl with h | h
    · exact hA.step l h
    · rw [List.mem_singleton] at h; subst h
      exact List.isChain_pair.2 (Or.inl ⟨rfl, hse⟩)
  · rw [List.pairwise_append]
    refine ⟨hA.sep, List.pairwise_singleton _ _, ?_⟩
    intro l hl l' hl' x hx y hy
    rw [List.mem_singleton] at hl'; subst hl'
    have := (hA.at_ l hl x hx).lt
    simp only [List.mem_cons, List.not_mem_nil, or_false] at hy
    rcases hy with rfl | rfl <;> exact this
  · rw [segsOf_append_pair, List.filterMap_append, ← hA.segs]
    simp [hr, unann, segsOf]

theorem ann_ext {box : Bound α} {isOpen : Bool} {pre : List (Pt α)} {a b : Pt α}
    {done : List (List ((Nat × α) × Pt α))} {cur : List ((Nat × α) × Pt α)} {i : Nat}
    (hA : Ann box isOpen (pre ++ [a]) (done ++ [cur ++ [((i, 1), a)]])) (hi : i + 1 = pre.length)
    {e : α} (h0 : 0 ≤ e) (h1 : e ≤ 1) (hr : clipSeg box isOpen (a, b) = some (a, lerp a b e)) :
    Ann box isOpen (pre ++ [a, b])
      (done ++ [cur ++ [((i, 1), a), ((pre.length, e), lerp a b e)]]) := by
  have hmem : cur ++ [((i, (1 : α)), a)] ∈ done ++ [cur ++ [((i, 1), a)]] :=
    List.mem_append_right _ (List.mem_singleton.2 rfl)
  have e2 : cur ++ [((i, (1 : α)), a), ((pre.length, e), lerp a b e)] =
      (cur ++ [((i, 1), a)]) ++ [((pre.length, e), lerp a b e)] := by simp
  refine ⟨?_, ?_, ?_, ?_⟩
  · intro l hl x hx
    rcases List.mem_append.1 hl with h | h
    · exact (hA.at_ l (List.mem_append_left _ h) x hx).mono
    · rw [List.mem_singleton] at h; subst h
      rw [e2] at hx
      rcases List.mem_append.1 hx with h' | h'
      · exact (hA.at_ _ hmem x h').mono
      · rw [List.mem_singleton] at h'; subst h'
        exact at_new pre a b h0 h1
  · intro l hl
    rcases List.mem_append.1 hl with h | h
    · exact hA.step l (List.mem_append_left _ h)
    · rw [List.mem_singleton] at h; subst h
      rw [e2]
      refine List.IsChain.append (hA.step _ hmem) (List.isChain_singleton _) ?_
      intro x hx y hy
      simp at hx hy
      subst hx; subst hy
      exact Or.inr ⟨hi.symm, rfl⟩
  · have hs := hA.sep
    rw [List.pairwise_append] at hs ⊢
    obtain ⟨hs1, _, hs3⟩ := hs
    refine ⟨hs1, List.pairwise_singleton _ _, ?_⟩
    intro l hl l' hl' x hx y hy
    rw [List.mem_singleton] at hl'; subst hl'
    rw [e2] at hy
    rcases List.mem_append.1 hy with h' | h'
    · exact hs3 l hl _ (List.mem_singleton.2 rfl) x hx y h'
    · rw [List.mem_singleton] at h'; subst h'
      exact (hA.at_ l (List.mem_append_left _ hl) x hx).lt
  · have hs := hA.segs
    rw [segsOf_append_pair, List.filterMap_append, ← hs]
    simp only [unann_append, List.flatMap_append, unann_singleton, List.map_append, List.map_cons,
      List.map_nil, List.flatMap_cons, List.flatMap_nil, List.append_nil]
    rw [segsOf_append_pair]
    simp [hr]

/-- how the state represents the annotated (hence `A`) virtual piece list: the open piece is completed
    by the pending vertex `a`, which is the end (`t = 1`) of the previous input segment -/
def ReprA (st : LineSt α) (pre : List (Pt α)) (a : Pt α) (Wl : List (List ((Nat × α) × Pt α))) : Prop :=
  ∃ done, st.line = done.length ∧
    ((st.out = unann done ∧ Wl = done) ∨
     ∃ cur i, st.out = unann done ++ [cur.map Prod.snd] ∧ st.codeA = 0 ∧ i + 1 = pre.length ∧
       Wl = done ++ [cur ++ [((i, 1), a)]])

/-- over an ordered field the inner loop is the loop without the rounding guards -/
theorem segLoop_code_eq {box : Bound α} (hb : BoxOK box) (isOpen : Bool) (a b : Pt α) :
    segLoop box isOpen 8 a b (code box isOpen a) (code box isOpen b) 0 0 =
      segLoopU box 8 a b (code box isOpen a) (code box isOpen b) :=
  segLoop_eq_segLoopU hb isOpen (W_code hb isOpen a) (W_code hb isOpen b) (bitCount_code_le box isOpen a)
    (bitCount_code_le box isOpen b) (fun ho => by subst ho; exact ⟨rfl, rfl⟩) 8

theorem clipSeg_of_accept {box : Bound α} (hb : BoxOK box) {isOpen : Bool} {a b a' b' : Pt α} {c : Nat}
    (h : segLoopU box 8 a b (code box isOpen a) (code box isOpen b) = .accept a' b' c) :
    clipSeg box isOpen (a, b) = some (a', b') := by
  unfold clipSeg; simp only; rw [segLoop_code_eq hb, h]

theorem clipSeg_of_reject {box : Bound α} (hb : BoxOK box) {isOpen : Bool} {a b : Pt α}
    (h : segLoopU box 8 a b (code box isOpen a) (code box isOpen b) = .reject) :
    clipSeg box isOpen (a, b) = none := by
  unfold clipSeg; simp only; rw [segLoop_code_eq hb, h]

/-- THE per-segment result: it satisfies the post-condition of the inner loop run on the whole segment -/
theorem clipSeg_post {box : Bound α} (hb : BoxOK box) (isOpen : Bool) (a b : Pt α) :
    SegPost box (isOpen = false) a b 0 1 (code box isOpen a) (code box isOpen b) 8
      (match clipSeg box isOpen (a, b) with
       | some u => .accept u.1 u.2 0
       | none => .reject) := by
  have key := segLoopU_spec_whole hb (isOpen = false) 8 (W_code hb isOpen a) (W_code hb isOpen b)
    (by intro h; subst h; exact ⟨rfl, rfl⟩)
  unfold clipSeg
  simp only
  rw [segLoop_code_eq hb]
  generalize segLoopU box 8 a b (code box isOpen a) (code box isOpen b) = r at key
  cases r with
  | stuck => exact absurd key (not_le.2 (bitCount_lt_eight _))
  | reject => exact key
  | accept a' b' c => obtain ⟨rfl, -⟩ := id key; exact key

theorem clipSeg_param {box : Bound α} (hb : BoxOK box) (isOpen : Bool) (a b : Pt α) :
    (match clipSeg box isOpen (a, b) with
     | some u => ∃ s e, 0 ≤ s ∧ s ≤ e ∧ e ≤ 1 ∧ u = (lerp a b s, lerp a b e) ∧
         InBox box (lerp a b s) ∧ InBox box (lerp a b e) ∧
         (code box isOpen a = 0 → s = 0) ∧ (code box isOpen b = 0 → e = 1) ∧
         ∀ t, 0 ≤ t → t ≤ 1 → Reg (isOpen = false) box (lerp a b t) → s ≤ t ∧ t ≤ e
     | none => code box isOpen a ≠ 0 ∧ ∀ t, 0 ≤ t → t ≤ 1 → ¬ Reg (isOpen = false) box (lerp a b t)) := by
  have key := clipSeg_post hb isOpen a b
  cases hc : clipSeg box isOpen (a, b) with
  | none => rw [hc] at key; exact key
  | some u =>
    rw [hc] at key
    obtain ⟨-, -, s, e, h0, hse, h1, ka, kb, hia, hib, kA, kB, hcomp⟩ := key
    exact ⟨s, e, h0, hse, h1, Prod.ext ka kb, ka ▸ hia, kb ▸ hib, kA, kB, hcomp⟩

theorem clipSeg_open_interior {box : Bound α} (hb : BoxOK box) {u s : Pt α × Pt α}
    (h : clipSeg box true u = some s) :
    ∀ t, 0 < t → t < 1 → s.1 ≠ s.2 → InOpenBox box (lerp s.1 s.2 t) := by
  have key := clipSeg_post hb true u.1 u.2
  rw [show (u.1, u.2) = u from rfl, h] at key
  obtain ⟨-, hand, s', e', h0, hse, h1, ka, kb, hia, hib, -⟩ := key
  intro t ht0 ht1 hne
  exact open_interior hb hand hia hib (ka ▸ onSeg_lerp u.1 u.2 h0 (hse.trans h1))
    (kb ▸ onSeg_lerp u.1 u.2 (h0.trans hse) h1) hne ht0 ht1

/-- an end that is moved lies on an edge line (with the open bound a far vertex on the boundary is kept as it is, and
    is on an edge line as well) -/
theorem clipSeg_moved_ends {box : Bound α} (hb : BoxOK box) (isOpen : Bool) {a b a' b' : Pt α}
    (h : clipSeg box isOpen (a, b) = some (a', b')) :
    (code box isOpen a ≠ 0 → OnEdgeValue box a') ∧ (code box isOpen b ≠ 0 → OnEdgeValue box b') := by
  have key := clipSeg_post hb isOpen a b
  rw [h] at key
  obtain ⟨-, -, s', e', -, -, -, -, -, -, hib, -⟩ := key
  obtain ⟨-, h2, -, h4⟩ := clipPart_ends (show clipPart box isOpen a b = some (a', b') from h)
  refine ⟨h2, fun hne => (h4 hne).elim id ?_⟩
  rintro ⟨rfl, hbc⟩
  cases isOpen
  · exact absurd hbc hne
  · exact onEdgeValue_of_inBox hib hne

/-- one step of the outer loop on the annotated piece list -/
theorem lineStep_ord {box : Bound α} (hb : BoxOK box) (isOpen : Bool) (pre : List (Pt α)) (a b : Pt α)
    (st : LineSt α) (Wl : List (List ((Nat × α) × Pt α))) (hcode : st.codeA = code box isOpen a)
    (hA : Ann box isOpen (pre ++ [a]) Wl) (hR : ReprA st pre a Wl) (last : Bool) :
    (lineStep box isOpen st a b last).codeA = code box isOpen b ∧
    ∃ Wl', Ann box isOpen (pre ++ [a, b]) Wl' ∧
      (last = true → (lineStep box isOpen st a b last).out = unann Wl') ∧
      (last = false → ReprA (lineStep box isOpen st a b last) (pre ++ [a]) b Wl') := by
  rcases segLoop_cases hb isOpen a b with ⟨hr, hne⟩ | ⟨s, e, h0, hse, h1, hr, hs0, he1⟩
  · -- rejected: no piece is under construction (its pending vertex would have code 0)
    have hcs := clipSeg_of_reject hb hr
    obtain ⟨done, hl, ⟨ho, rfl⟩ | ⟨cur, i, _, hz, _⟩⟩ := hR
    · rw [lineStep_none last hcode hcs]
      exact ⟨rfl, Wl, ann_reject hA hcs, fun _ => ho, fun _ => ⟨Wl, hl, Or.inl ⟨ho, rfl⟩⟩⟩
    · exact absurd (hcode ▸ hz) hne
  · -- accepted: the sub-segment `[s, e]`
    have hcs := clipSeg_of_accept hb hr
    -- the annotated open piece `cur` (none: `[]`), the annotated start `x` of the sub-segment, and the
    -- annotated piece list after this segment
    obtain ⟨done, cur, x, hl, ho, hx, hA'⟩ : ∃ done cur x, st.line = (unann done).length ∧
        (st.out = unann done ∧ cur.map Prod.snd = [] ∨ st.out = unann done ++ [cur.map Prod.snd]) ∧
        x.2 = lerp a b s ∧
        Ann box isOpen (pre ++ [a, b]) (done ++ [cur ++ [x, ((pre.length, e), lerp a b e)]]) := by
      obtain ⟨done, hl, ⟨ho, rfl⟩ | ⟨cur, i, ho, hz, hi, rfl⟩⟩ := hR
      · exact ⟨Wl, [], ((pre.length, s), lerp a b s), by rw [unann_length]; exact hl, Or.inl ⟨ho, rfl⟩, rfl,
          ann_new hA h0 hse h1 hcs⟩
      · obtain rfl : s = 0 := hs0 (hcode ▸ hz)
        rw [lerp_zero] at hcs
        exact ⟨done, cur, ((i, 1), a), by rw [unann_length]; exact hl, Or.inr ho,
          (lerp_zero a b).symm,
          ann_ext hA hi (le_trans h0 hse) h1 hcs⟩
    have hu : unann (done ++ [cur ++ [x, ((pre.length, e), lerp a b e)]]) =
        unann done ++ [cur.map Prod.snd ++ [lerp a b s, lerp a b e]] := by simp [unann, hx]
    rw [lineStep_some last hcode hcs hl ho]
    by_cases hE : code box isOpen b = 0 ∧ last = false
    · obtain ⟨hE, rfl⟩ := hE
      rw [if_pos ⟨hE, rfl⟩]
      refine ⟨rfl, _, hA', fun h => (nomatch h), fun _ => ⟨done, unann_length done, Or.inr ⟨cur ++ [x], pre.length,
        by simp [hx], hE, by simp, ?_⟩⟩⟩
      rw [he1 hE, lerp_one, List.append_assoc]; rfl
    · rw [if_neg hE]
      refine ⟨rfl, _, hA', fun _ => hu.symm, fun hlast => ⟨_, ?_, Or.inl ⟨hu.symm, rfl⟩⟩⟩
      subst hlast
      have hE' : code box isOpen b ≠ 0 := fun h => hE ⟨h, rfl⟩
      simp [hE']

theorem lineLoop_ord {box : Bound α} (hb : BoxOK box) (isOpen : Bool) :
    ∀ (rest pre : List (Pt α)) (a : Pt α) (st : LineSt α), rest ≠ [] →
      st.codeA = code box isOpen a → (∃ Wl, Ann box isOpen (pre ++ [a]) Wl ∧ ReprA st pre a Wl) →
      ∃ Wl', Ann box isOpen (pre ++ a :: rest) Wl' ∧
        (lineLoop box isOpen st (a :: rest)).out = unann Wl' := by
  intro rest
  induction rest with
  | nil => intro pre a st h; exact absurd rfl h
  | cons b rest ih =>
    rintro pre a st - hcode ⟨Wl, hA, hR⟩
    rw [lineLoop_cons_cons]
    cases rest with
    | nil =>
      obtain ⟨-, Wl', hA', hout, -⟩ := lineStep_ord hb isOpen pre a b st Wl hcode hA hR true
      rw [lineLoop_single]
      exact ⟨Wl', hA', hout rfl⟩
    | cons c rest =>
      obtain ⟨h2, Wl', hA', -, hrep⟩ := lineStep_ord hb isOpen pre a b st Wl hcode hA hR false
      have := ih (pre ++ [a]) b _ (List.cons_ne_nil c rest) h2 ⟨Wl', by rw [List.append_assoc]; exact hA', hrep rfl⟩
      rwa [List.append_assoc] at this

/-- the result of `line` is an annotated piece list satisfying the invariant -/
theorem line_ord {box : Bound α} (hb : BoxOK box) (isOpen : Bool) (inp : List (Pt α))
    (out : List (List (Pt α))) (h : line box isOpen inp = some out) :
    ∃ Wl, Ann box isOpen inp Wl ∧ out = unann Wl := by
  match inp with
  | [] => exact ⟨[], ann_nil box isOpen rfl, (Option.some.inj h).symm⟩
  | [p] => exact ⟨[], ann_nil box isOpen rfl, (Option.some.inj h).symm⟩
  | p :: b :: rest =>
    obtain ⟨Wl, hA, hout⟩ := lineLoop_ord hb isOpen (b :: rest) [] p ⟨[], 0, code box isOpen p, false⟩
      (by simp) rfl ⟨[], ann_nil box isOpen rfl, ⟨[], rfl, Or.inl ⟨rfl, rfl⟩⟩⟩
    rw [line_cons] at h
    exact ⟨Wl, hA, (Option.some.inj h).symm.trans hout⟩

theorem forall₂_map_map {γ δ ε : Type} (R : δ → ε → Prop) (f : γ → δ) (g : γ → ε) :
    ∀ l : List γ, (∀ x ∈ l, R (f x) (g x)) → List.Forall₂ R (l.map f) (l.map g) := fun l h => by
  rw [List.forall₂_map_left_iff, List.forall₂_map_right_iff, List.forall₂_same]; exact h

theorem sum_map_flatMap_segsOf (f : Pt α × Pt α → β) (out : List (List (Pt α))) :
    ((out.flatMap segsOf).map f).sum = (out.map fun p => ((segsOf p).map f).sum).sum := by
  induction out with
  | nil => simp
  | cons p out ih => simp [List.flatMap_cons, ih]

theorem sum_map_filterMap {γ δ : Type} (g : γ → Option δ) (f : δ → β) (l : List γ) :
    ((l.filterMap g).map f).sum =
      (l.map fun s => match g s with | some u => f u | none => 0).sum := by
  induction l with
  | nil => simp
  | cons x l ih =>
    cases hg : g x with
    | none => simp [hg, ih]
    | some u => simp [hg, ih]

theorem lerp_self (a : Pt α) (t : α) : lerp a a t = a := by
  apply pt_eq <;> simp

theorem lerp_inj {a b : Pt α} (hab : a ≠ b) {t t' : α} (h : lerp a b t = lerp a b t') : t = t' := by
  have hx : (lerp a b t).x = (lerp a b t').x := by rw [h]
  have hy : (lerp a b t).y = (lerp a b t').y := by rw [h]
  simp only [lerp_x, lerp_y, add_right_inj] at hx hy
  by_cases h1 : b.x - a.x = 0
  · by_cases h2 : b.y - a.y = 0
    · exact absurd (pt_eq (sub_eq_zero.1 h1).symm (sub_eq_zero.1 h2).symm) hab
    · exact mul_right_cancel₀ h2 hy
  · exact mul_right_cancel₀ h1 hx

/-- closed mode: the accepted sub-segment is, in parametric form, exactly the part of the input segment
    in the closed box; a rejected segment has no point in the box -/
theorem clipSeg_closed_spec {box : Bound α} (hb : BoxOK box) (a b : Pt α) :
    (match clipSeg box false (a, b) with
     | some u => ∃ s e, InsidePart box a b s e ∧ u = (lerp a b s, lerp a b e)
     | none => ∀ t, 0 ≤ t → t ≤ 1 → ¬ InBox box (lerp a b t)) := by
  have h := clipSeg_param hb false a b
  cases hc : clipSeg box false (a, b) with
  | none => rw [hc] at h; exact fun t t0 t1 hin => h.2 t t0 t1 (Or.inr ⟨rfl, hin⟩)
  | some u =>
    rw [hc] at h
    obtain ⟨s, e, h0, hse, h1, rfl, hia, hib, -, -, hcomp⟩ := h
    exact ⟨s, e, ⟨h0, hse, h1, fun t t0 t1 => ⟨fun hin => hcomp t t0 t1 (Or.inr ⟨rfl, hin⟩),
      fun h => inBox_of_onSeg hia hib (onSeg_between a b h.1 h.2)⟩⟩, rfl⟩

theorem insidePart_unique {box : Bound α} {a b : Pt α} {s e s' e' : α}
    (h : InsidePart box a b s e) (h' : InsidePart box a b s' e') : s = s' ∧ e = e' := by
  obtain ⟨h0, hse, h1, hiff⟩ := h
  obtain ⟨h0', hse', h1', hiff'⟩ := h'
  have a1 := (hiff' s h0 (le_trans hse h1)).1 ((hiff s h0 (le_trans hse h1)).2 ⟨le_refl _, hse⟩)
  have a2 := (hiff' e (le_trans h0 hse) h1).1 ((hiff e (le_trans h0 hse) h1).2 ⟨hse, le_refl _⟩)
  have b1 := (hiff s' h0' (le_trans hse' h1')).1
    ((hiff' s' h0' (le_trans hse' h1')).2 ⟨le_refl _, hse'⟩)
  have b2 := (hiff e' (le_trans h0' hse') h1').1
    ((hiff' e' (le_trans h0' hse') h1').2 ⟨hse', le_refl _⟩)
  exact ⟨le_antisymm b1.1 a1.1, le_antisymm a2.2 b2.2⟩

/-- the length the model attributes to an input segment is the length of its part in the closed box -/
theorem segInsideLen_spec {box : Bound α} (hb : BoxOK box) (len : Pt α → Pt α → β) (a b : Pt α) :
    IsInsideLen box len a b (segInsideLen box false len (a, b)) := by
  have h := clipSeg_closed_spec hb a b
  unfold segInsideLen
  cases hc : clipSeg box false (a, b) with
  | none =>
    rw [hc] at h
    exact Or.inr ⟨h, rfl⟩
  | some u =>
    rw [hc] at h
    obtain ⟨s, e, hp, rfl⟩ := h
    exact Or.inl ⟨s, e, hp, rfl⟩

/-- … and that length is determined by the segment and the box alone -/
theorem isInsideLen_unique {box : Bound α} {len : Pt α → Pt α → β} {a b : Pt α} {ℓ ℓ' : β}
    (h : IsInsideLen box len a b ℓ) (h' : IsInsideLen box len a b ℓ') : ℓ = ℓ' := by
  rcases h with ⟨s, e, hp, rfl⟩ | ⟨hn, rfl⟩ <;> rcases h' with ⟨s', e', hp', rfl⟩ | ⟨hn', rfl⟩
  · obtain ⟨rfl, rfl⟩ := insidePart_unique hp hp'
    rfl
  · obtain ⟨h0, hse, h1, hiff⟩ := hp
    exact absurd ((hiff s h0 (le_trans hse h1)).2 ⟨le_refl _, hse⟩) (hn' s h0 (le_trans hse h1))
  · obtain ⟨h0, hse, h1, hiff⟩ := hp'
    exact absurd ((hiff s' h0 (le_trans hse h1)).2 ⟨le_refl _, hse⟩) (hn s' h0 (le_trans hse h1))
  · rfl

theorem pieces_segs {box : Bound α} {isOpen : Bool} {inp : List (Pt α)} {out : List (List (Pt α))}
    (h : Pieces box isOpen inp out) : out.flatMap segsOf = (segsOf inp).filterMap (clipSeg box isOpen) := by
  have e : ∀ a b : Pt α, clipSeg box isOpen (a, b) = clipPart box isOpen a b := fun _ _ => rfl
  induction h with
  | nil => rfl
  | one a => rfl
  | reject hcs _ _ _ ih => rw [segsOf_cons_cons, List.filterMap_cons, e, hcs, ih]
  | leave hcs _ _ ih => rw [segsOf_cons_cons, List.filterMap_cons, e, hcs, ← ih]; rfl
  | stop hcs _ => rw [segsOf_cons_cons, List.filterMap_cons, e, hcs]; rfl
  | runOn hcs _ _ ih =>
    rw [segsOf_cons_cons, List.filterMap_cons, e, hcs, ← ih]
    simp only [List.flatMap_cons, segsOf_cons_cons, List.cons_append]

set_option linter.unusedVariables false in
/-- STRUCTURE (both modes): reading the output piece after piece, its segments are exactly the accepted
    sub-segments of the input segments, in the order of the input — each accepted input segment
    contributes exactly one piece segment, a rejected one none.  (`hb` is not used by the proof; the hypothesis is the
    property's precondition.) -/
theorem clip_segments_gen (box : Bound α) (hb : BoxOK box) (isOpen : Bool) (inp : List (Pt α))
    (out : List (List (Pt α))) (h : line box isOpen inp = some out) :
    out.flatMap segsOf = (segsOf inp).filterMap (clipSeg box isOpen) :=
  pieces_segs (pieces_of_line h)

/-- TRAVEL ORDER (both modes): every output vertex can be given a position `(i, t)` on the input such that consecutive
    vertices of a piece are `Step`s, the positions read piece after piece never go back in the order of travel, and
    two different pieces never use the same input segment. -/
theorem clip_order_gen (box : Bound α) (hb : BoxOK box) (isOpen : Bool) (inp : List (Pt α))
    (out : List (List (Pt α))) (h : line box isOpen inp = some out) :
    ∃ pos : List (List (Nat × α)),
      List.Forall₂ (List.Forall₂ (At inp)) pos out ∧
      (∀ l ∈ pos, l.IsChain Step) ∧
      pos.flatten.Pairwise PosLE ∧
      pos.Pairwise (fun l l' => ∀ p ∈ l, ∀ q ∈ l', p.1 < q.1) := by
  obtain ⟨Wl, hA, rfl⟩ := line_ord hb isOpen inp out h
  have hstep : ∀ l ∈ Wl.map (List.map Prod.fst), l.IsChain (Step (α := α)) := by
    intro l hl
    obtain ⟨l0, hl0, rfl⟩ := List.mem_map.1 hl
    rw [List.isChain_map]
    exact hA.step l0 hl0
  have hsep : (Wl.map (List.map Prod.fst)).Pairwise
      (fun l l' => ∀ p ∈ l, ∀ q ∈ l', p.1 < q.1) := by
    rw [List.pairwise_map]
    refine hA.sep.imp ?_
    intro l l' hll p hp q hq
    obtain ⟨x, hx, rfl⟩ := List.mem_map.1 hp
    obtain ⟨y, hy, rfl⟩ := List.mem_map.1 hq
    exact hll x hx y hy
  refine ⟨Wl.map (List.map Prod.fst), ?_, hstep, ?_, hsep⟩
  · exact forall₂_map_map _ _ _ Wl fun l hl => forall₂_map_map _ _ _ l fun x hx => hA.at_ l hl x hx
  · rw [List.pairwise_flatten]
    refine ⟨?_, hsep.imp ?_⟩
    · intro l hl
      exact ((hstep l hl).imp fun p q hpq => Step.posLE hpq).pairwise
    · intro l l' hll p hp q hq
      exact Or.inl (hll p hp q hq)

/-- LENGTH (both modes), for an arbitrary segment-length function: the total length of the pieces is
    the sum, over the input segments, of the length of the accepted sub-segment. -/
theorem clip_length_gen (box : Bound α) (hb : BoxOK box) (isOpen : Bool) (len : Pt α → Pt α → β)
    (inp : List (Pt α)) (out : List (List (Pt α))) (h : line box isOpen inp = some out) :
    piecesLen len out = insideLen box isOpen len inp := by
  have hs := clip_segments_gen box hb isOpen inp out h
  unfold piecesLen insideLen pathLen
  rw [← sum_map_flatMap_segsOf (fun s => len s.1 s.2) out, hs, sum_map_filterMap]
  congr 1
  apply List.map_congr_left
  intro s _
  unfold segInsideLen
  cases clipSeg box isOpen s <;> rfl

/-- C07 (structure): the piece segments are exactly the inside parts of the input segments, once each,
    in input order. -/
theorem clip_segments (box : Bound α) (hb : BoxOK box) (inp : List (Pt α)) (out : List (List (Pt α)))
    (h : line box false inp = some out) :
    out.flatMap segsOf = (segsOf inp).filterMap (clipSeg box false) :=
  clip_segments_gen box hb false inp out h

/-- C07 "pieces appear in travel order". -/
theorem clip_order (box : Bound α) (hb : BoxOK box) (inp : List (Pt α)) (out : List (List (Pt α)))
    (h : line box false inp = some out) :
    ∃ pos : List (List (Nat × α)),
      List.Forall₂ (List.Forall₂ (At inp)) pos out ∧
      (∀ l ∈ pos, l.IsChain Step) ∧
      pos.flatten.Pairwise PosLE ∧
      pos.Pairwise (fun l l' => ∀ p ∈ l, ∀ q ∈ l', p.1 < q.1) :=
  clip_order_gen box hb false inp out h

/-- C07 "total length equals the length of the input inside the box", for ANY segment-length function
    `len` (no additivity is needed: the algorithm never splits the inside part of an input segment).
    `insideLen` sums `len a' b'` over the accepted sub-segments `[a', b']`, which by
    `clipSeg_closed_spec` are the parts of the input segments in the closed box. -/
theorem clip_length (box : Bound α) (hb : BoxOK box) (len : Pt α → Pt α → β) (inp : List (Pt α))
    (out : List (List (Pt α))) (h : line box false inp = some out) :
    piecesLen len out = insideLen box false len inp :=
  clip_length_gen box hb false len inp out h

/-- The same with the hypotheses under which `len` is a length (additive along a segment, zero on a
    point), as the property states them; they are not used. -/
theorem clip_length_additive (box : Bound α) (hb : BoxOK box) (len : Pt α → Pt α → α)
    (_hadd : ∀ a b : Pt α, ∀ s t u : α, 0 ≤ s → s ≤ t → t ≤ u → u ≤ 1 →
      len (lerp a b s) (lerp a b u) = len (lerp a b s) (lerp a b t) + len (lerp a b t) (lerp a b u))
    (_hzero : ∀ p, len p p = 0) (inp : List (Pt α)) (out : List (List (Pt α)))
    (h : line box false inp = some out) :
    piecesLen len out = insideLen box false len inp :=
  clip_length box hb len inp out h

/-- C07 length clause with no reference to the algorithm on the right-hand side: if `ℓs` lists, for every input
    segment, the length of its part in the closed box (`IsInsideLen`), the total length of the pieces is the sum of `ℓs`. -/
theorem clip_length_sem (box : Bound α) (hb : BoxOK box) (len : Pt α → Pt α → β) (inp : List (Pt α))
    (out : List (List (Pt α))) (h : line box false inp = some out) (ℓs : List β)
    (hℓ : List.Forall₂ (fun s ℓ => IsInsideLen box len s.1 s.2 ℓ) (segsOf inp) ℓs) :
    piecesLen len out = ℓs.sum := by
  rw [clip_length box hb len inp out h]
  unfold insideLen
  generalize segsOf inp = L at hℓ
  congr 1
  induction hℓ with
  | nil => rfl
  | cons hx _ ih =>
    rw [List.map_cons, ih]
    congr 1
    exact isInsideLen_unique (segInsideLen_spec hb len _ _) hx

/-! #### non-vacuity: a concrete two-piece clip on ℚ and its per-segment results -/

example : line (⟨⟨1, 1⟩, ⟨3, 3⟩⟩ : Bound ℚ) false [⟨0, 2⟩, ⟨4, 2⟩, ⟨4, 0⟩, ⟨2, 0⟩, ⟨2, 2⟩, ⟨2, 4⟩] =
    some [[⟨1, 2⟩, ⟨3, 2⟩], [⟨2, 1⟩, ⟨2, 2⟩, ⟨2, 3⟩]] := by decide +kernel

example : (segsOf ([⟨0, 2⟩, ⟨4, 2⟩, ⟨4, 0⟩, ⟨2, 0⟩, ⟨2, 2⟩, ⟨2, 4⟩] : List (Pt ℚ))).filterMap
      (clipSeg (⟨⟨1, 1⟩, ⟨3, 3⟩⟩ : Bound ℚ) false) =
    [(⟨1, 2⟩, ⟨3, 2⟩), (⟨2, 1⟩, ⟨2, 2⟩), (⟨2, 2⟩, ⟨2, 3⟩)] := by decide +kernel

end Orb.Clip
