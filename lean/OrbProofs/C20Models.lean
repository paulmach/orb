/-
  C20 — Generic geometry entry points are total and agree with typed ones: the behavioural clauses,
  as theorems ABOUT the per-package models `Orb.Core`, `Orb.Clip`, … (hence the file name and the
  namespace `Orb.C20M`; no model is defined here).  OrbProofs/C20.lean, namespace `Orb.C20`, has the
  theorems about the regenerated type-switch list.  For every modelled function `f` that takes the `orb.Geometry` interface:
    (a) `f_total`         no panic on any value: all nine kinds, the nil interface and typed nil slices
                          where the model takes a `GVal`, collections nested to any depth, zero-ring
                          polygons, zero-vertex rings, one-vertex lines.  Hypotheses: a box of positive
                          size for clip / smartclip (`BoxOK` — NOT a precondition the Go functions
                          document; the termination argument of the line clipper needs it, and point,
                          flat and inverted boxes are only exercised on the real code, entries
                          `clip.degbox` / `smartclip.degbox` of the C20 cross product), a CW/CCW
                          orientation for smartclip, a simplifier total on lines of more than two points.
                          Exact ordered fields, not float64.  A model that is a plain total Lean function
                          has no panic arm to exclude and no such theorem; its section says so.
    (b) `f_agrees_typed`  the type switch hands each kind to the kind-specific function and returns its
                          result, with the nil / single-member unwrapping of the code (`wrap…`).
    (c) `f_collection`    the result for a collection is the combination of the members' results: map,
                          sum, minimum with index, union, nesting.  Where the code makes the clause false
                          the true behaviour is stated and the finding named
                          (`planar_centroid_collection_lowerdim`).
  `orb.Round` is not covered (dynamic check only).  Many (b)/(c) statements are `rfl` / unfolding: they
  restate the model's dispatch in the vocabulary of the property; their content is the fidelity of the
  model, which the correspondence runs establish (C06–C18, and the C20 cross product, whose driver
  judges the implementation against these statements: `relate`, `clipColl`, `smartColl` in Driver/C20.lean).
-/
import OrbProofs.C06Lemmas
import OrbProofs.C06HeapLemmas
import OrbProofs.C20Dispatch
import OrbProofs.ResForall
import OrbProofs.C02Lemmas
import OrbProofs.C15Pure
import OrbProofs.C08Lemmas
import OrbProofs.C16Lemmas
import OrbProofs.C10
import OrbProofs.C12
import OrbProofs.C14Cover
import OrbProofs.C18
import Orb.WKB
import Orb.WKT
import Mathlib.Algebra.Order.Field.Rat

set_option linter.unusedSectionVars false

namespace Orb.C20M
open Orb

/-- a top-level value the Go type system can produce: points and bounds are arrays, never nil -/
def GVal.Exists {α : Type} : GVal α → Prop
  | .nilSlice .point => False
  | .nilSlice .bound => False
  | _ => True

/-! ## orb.Clone  (`Orb.Core.cloneV`, heap level `Orb.Heap.clone`)

(a) Both models are plain total functions.  At the value level a clone IS the value
(`clone_value_id`); what is worth stating lives at the heap level, where `clone` allocates. -/

section secClone
variable {α : Type}

/-- Value level: every kind, the nil interface and typed nil slices come back as they are. -/
theorem clone_value_id (v : GVal α) : Core.cloneV v = v := by cases v <;> rfl

/-- (b) Heap level: the type switch hands each kind to its `Clone` method — points and bounds are
    copied by value, the three one-slice kinds go through `MultiPoint.Clone` (`cloneArr`), multi-line
    and polygon through the member loop `cloneArrs`, multi-polygon through `cloneArrss`. -/
theorem clone_agrees_typed (σ : Heap.Store α) :
    (∀ p, Heap.clone σ (.point p) = (σ, .point p)) ∧
    (∀ a, Heap.clone σ (.multiPoint a) = ((Heap.cloneArr σ a).1, .multiPoint (Heap.cloneArr σ a).2)) ∧
    (∀ a, Heap.clone σ (.lineString a) = ((Heap.cloneArr σ a).1, .lineString (Heap.cloneArr σ a).2)) ∧
    (∀ as, Heap.clone σ (.multiLineString as) = ((Heap.cloneArrs σ as).1, .multiLineString (Heap.cloneArrs σ as).2)) ∧
    (∀ a, Heap.clone σ (.ring a) = ((Heap.cloneArr σ a).1, .ring (Heap.cloneArr σ a).2)) ∧
    (∀ as, Heap.clone σ (.polygon as) = ((Heap.cloneArrs σ as).1, .polygon (Heap.cloneArrs σ as).2)) ∧
    (∀ ass, Heap.clone σ (.multiPolygon ass) = ((Heap.cloneArrss σ ass).1, .multiPolygon (Heap.cloneArrss σ ass).2)) ∧
    (∀ a b, Heap.clone σ (.bound a b) = (σ, .bound a b)) :=
  ⟨fun _ => rfl, fun _ => rfl, fun _ => rfl, fun _ => rfl, fun _ => rfl, fun _ => rfl, fun _ => rfl,
    fun _ _ => rfl⟩

/-- (c) A collection is cloned member by member, first to last, each member with the store the
    previous clones left behind … -/
theorem clone_collection (σ : Heap.Store α) (g : Heap.HGeom α) (gs : List (Heap.HGeom α)) :
    Heap.clone σ (.collection gs) = ((Heap.cloneList σ gs).1, .collection (Heap.cloneList σ gs).2) ∧
    Heap.cloneList σ ([] : List (Heap.HGeom α)) = (σ, []) ∧
    Heap.cloneList σ (g :: gs) =
      ((Heap.cloneList (Heap.clone σ g).1 gs).1, (Heap.clone σ g).2 :: (Heap.cloneList (Heap.clone σ g).1 gs).2) :=
  ⟨rfl, rfl, rfl⟩

/-- … and the members of the clone denote, in the store after the call, exactly what the members of
    the original denoted: the collection's clone is the map of `Clone` over its members. -/
theorem clone_collection_denote (σ : Heap.Store α) (gs : List (Heap.HGeom α)) (h : Heap.WF σ (.collection gs)) :
    (Heap.cloneList σ gs).2.map (Heap.denote (Heap.cloneList σ gs).1) = gs.map (Heap.denote σ) := by
  have := Heap.clone_denote' σ (.collection gs) h
  rw [Heap.clone, Heap.denote, Heap.denote, Heap.denoteList_eq_map, Heap.denoteList_eq_map] at this
  exact Geom.collection.inj this

end secClone

/-! ## orb.Equal  (`Orb.Core.equalV`, `Orb.Core.equal`)

(a) Plain total functions into `Bool`. -/

section secEqual
variable {α : Type} [BEq α]

/-- Nil handling: only a nil interface equals a nil interface; a typed nil slice is compared as the
    empty value of its kind. -/
theorem equal_nil (k k' : Kind) (g : Geom α) :
    Core.equalV (.nilIface : GVal α) .nilIface = true ∧
    Core.equalV (.nilIface : GVal α) (.val g) = false ∧ Core.equalV (.val g) (.nilIface : GVal α) = false ∧
    Core.equalV (.nilIface : GVal α) (.nilSlice k) = false ∧ Core.equalV (.nilSlice k) (.nilIface : GVal α) = false ∧
    Core.equalV (.nilSlice k) (.val g) = Core.equal (Core.emptyOf k) g ∧
    Core.equalV (.val g) (.nilSlice k) = Core.equal g (Core.emptyOf k) ∧
    Core.equalV (.nilSlice k : GVal α) (.nilSlice k') = Core.equal (Core.emptyOf (α := α) k) (Core.emptyOf k') :=
  ⟨rfl, rfl, rfl, rfl, rfl, rfl, rfl, rfl⟩

/-- (b) Same kind: the kind's own `Equal` method. -/
theorem equal_agrees_typed :
    (∀ p q : Pt α, Core.equal (.point p) (.point q) = Core.ptEq p q) ∧
    (∀ p q : List (Pt α), Core.equal (.multiPoint p) (.multiPoint q) = Core.ptsEq p q) ∧
    (∀ p q : List (Pt α), Core.equal (.lineString p) (.lineString q) = Core.ptsEq p q) ∧
    (∀ p q : List (List (Pt α)), Core.equal (.multiLineString p) (.multiLineString q) = Core.ptssEq p q) ∧
    (∀ p q : List (Pt α), Core.equal (.ring p) (.ring q) = Core.ptsEq p q) ∧
    (∀ p q : List (List (Pt α)), Core.equal (.polygon p) (.polygon q) = Core.ptssEq p q) ∧
    (∀ p q : List (List (List (Pt α))), Core.equal (.multiPolygon p) (.multiPolygon q) = Core.ptsssEq p q) ∧
    (∀ a b c d : Pt α, Core.equal (.bound a b) (.bound c d) = (Core.ptEq a c && Core.ptEq b d)) :=
  ⟨fun _ _ => rfl, fun _ _ => rfl, fun _ _ => rfl, fun _ _ => rfl, fun _ _ => rfl, fun _ _ => rfl,
    fun _ _ => rfl, fun _ _ _ _ => rfl⟩

/-- … different kinds are never equal (a ring, a one-ring polygon and a bound included). -/
theorem equal_kind_mismatch (g h : Geom α) (hk : g.kind ≠ h.kind) : Core.equal g h = false := by
  -- opened once, the `match` of `equal` computes on the 72 mixed pairs; the 9 same-kind pairs contradict `hk`
  rw [Core.equal.eq_def]
  cases g <;> cases h <;> first | rfl | exact absurd rfl hk

theorem equal_go_eq (gs hs : List (Geom α)) :
    Core.equal.go gs hs = (decide (gs.length = hs.length) && (List.zipWith Core.equal gs hs).all id) := by
  induction gs generalizing hs with
  | nil => cases hs <;> simp [Core.equal.go]
  | cons g gs ih =>
    cases hs with
    | nil => simp [Core.equal.go]
    | cons h hs =>
      rw [Core.equal.go, ih]
      simp only [List.length_cons, Nat.add_right_cancel_iff, List.zipWith_cons_cons, List.all_cons, id]
      cases Core.equal g h <;> simp

/-- (c) Two collections are equal iff they have the same number of members and the members are
    pairwise equal, in order. -/
theorem equal_collection (gs hs : List (Geom α)) :
    Core.equal (.collection gs) (.collection hs) =
      (decide (gs.length = hs.length) && (List.zipWith Core.equal gs hs).all id) := by
  rw [Core.equal, equal_go_eq]

end secEqual

/-! ## Geometry.Bound  (`Orb.Core.bound`)

(a) A plain total function (`eb` is the package's empty-bound sentinel). -/

section secBound
variable {α : Type} [LT α] [LE α] [DecidableLT α] [DecidableLE α] [Min α] [Max α]

/-- (b) Each kind's `Bound()` method. -/
theorem bound_agrees_typed (eb : Core.Bound α) :
    (∀ p, Core.bound eb (.point p) = ⟨p, p⟩) ∧
    (∀ ps, Core.bound eb (.multiPoint ps) = Core.multiPointBound eb ps) ∧
    (∀ ps, Core.bound eb (.lineString ps) = Core.multiPointBound eb ps) ∧
    (∀ ls, Core.bound eb (.multiLineString ls) = Core.multiLineStringBound eb ls) ∧
    (∀ ps, Core.bound eb (.ring ps) = Core.multiPointBound eb ps) ∧
    (∀ rs, Core.bound eb (.polygon rs) = Core.polygonBound eb rs) ∧
    (∀ ps, Core.bound eb (.multiPolygon ps) = Core.multiPolygonBound eb ps) ∧
    (∀ a b, Core.bound eb (.bound a b) = ⟨a, b⟩) := by
  refine ⟨?_, ?_, ?_, ?_, ?_, ?_, ?_, ?_⟩ <;> intros <;> rw [Core.bound]

/-- (c) `Collection.Bound`, as coded: the empty sentinel without members, otherwise the first
    member's bound united with the others', left to right. -/
theorem bound_collection_fold (eb : Core.Bound α) (g : Geom α) (rest : List (Geom α)) :
    Core.bound eb (.collection []) = eb ∧
    Core.bound eb (.collection (g :: rest)) =
      rest.foldl (fun b x => b.union (Core.bound eb x)) (Core.bound eb g) :=
  ⟨Core.bound_collection_nil eb, Core.bound_collection_cons eb g rest⟩

end secBound

section secBoundOrder
variable {α : Type} [LinearOrder α]

/-- (c) … which is the UNION of the members' bounds in the only sense a box can be: the least box
    that contains every member's box (for zero members: no point at all). -/
theorem bound_collection_union (eb : Core.Bound α) (he : eb.isEmpty = true) (gs : List (Geom α)) :
    (∀ g ∈ gs, ∀ p, Core.Mem p (Core.bound eb g) → Core.Mem p (Core.bound eb (.collection gs))) ∧
    (∀ c : Core.Bound α, (∀ g ∈ gs, ∀ p, Core.Mem p (Core.bound eb g) → Core.Mem p c) →
      ∀ p, Core.Mem p (Core.bound eb (.collection gs)) → Core.Mem p c) := by
  cases gs with
  | nil =>
    refine ⟨fun g hg => (by cases hg), fun c _ p hp => ?_⟩
    rw [Core.bound_collection_nil] at hp
    exact absurd ⟨p, hp⟩ ((Core.isEmpty_iff' eb).1 he)
  | cons g rest =>
    rw [Core.bound_collection_cons]
    obtain ⟨i1, i2, i3⟩ := Core.foldl_union_lub (Core.bound eb) rest (Core.bound eb g)
    refine ⟨?_, ?_⟩
    · intro x hx p hp
      rcases List.mem_cons.1 hx with rfl | hx
      · exact i1 p hp
      · exact i2 x hx p hp
    · intro c hc p hp
      exact i3 c (hc g List.mem_cons_self) (fun x hx => hc x (List.mem_cons_of_mem _ hx)) p hp

end secBoundOrder

/-! ## clip.Geometry  (`Orb.Clip.geometry`; outer `none` = the Go code would panic / not return)

(b) `clip_geometry_agrees_typed` and (c) `clip_geometry_collection` are stated in C20Dispatch.lean, below C08, whose
totality proof rests on them. -/

section secClipTotal
variable {α : Type} [Field α] [LinearOrder α] [IsStrictOrderedRing α]

/-- (a) For every box of positive size and EVERY geometry value the call returns (C08). -/
theorem clip_geometry_total (eb box : Core.Bound α) (hb : Clip.BoxOK box) (g : Geom α) :
    ∃ r, Clip.geometry eb box g = some r := Clip.geometry_total' eb box hb g

/-- (c) with (a): every member has a result `rᵢ` (`none` = Go `nil`), and the collection's result is
    `nil` when the bound pre-test fails, otherwise the non-nil member results in order — `nil` when
    none is left, the survivor ITSELF when exactly one is left, a collection otherwise. -/
theorem clip_geometry_collection_total (eb box : Core.Bound α) (hb : Clip.BoxOK box) (gs : List (Geom α)) :
    ∃ rs, List.Forall₂ (fun g r => Clip.geometry eb box g = some r) gs rs ∧
      Clip.geometry eb box (.collection gs) =
        some (if !(box.intersects (Core.bound eb (.collection gs))) then none else wrapColl (rs.filterMap id)) := by
  obtain ⟨rs, hrs, hf⟩ := mapM_some_of_forall (Clip.geometry eb box) gs
    (fun g _ => Clip.geometry_total' eb box hb g)
  refine ⟨rs, hf, ?_⟩
  rw [clip_geometry_collection, clipPre, hrs]
  split <;> rfl

end secClipTotal

/-! ## smartclip.Geometry  (`Orb.SmartClip.geometryV` / `geometry`)

Nil handling `smartclip_geometry_nil`, (b) `smartclip_geometry_agrees_typed` with `smartclip_plainClip_eq`
and (c) `smartclip_geometry_collection` are stated in C20Dispatch.lean, below C16. -/

section secSmartTotal
variable {α : Type} [Field α] [LinearOrder α] [IsStrictOrderedRing α]

/-- (a) For every box of positive size, both orientations and EVERY value — nil interface, typed nil
    slices, any kind, any nesting, zero-ring polygons, zero-vertex rings — the call returns (C16). -/
theorem smartclip_geometry_total (eb box : Core.Bound α) (hb : SmartClip.BoxOK box) (o : Int)
    (ho : o = SmartClip.CW ∨ o = SmartClip.CCW) (v : GVal α) :
    ∃ r, SmartClip.geometryV eb box o v = .ok r := SmartClip.geometry_total'' eb box hb o ho v

end secSmartTotal

/-! ## simplify.Simplify  (`Orb.Simplify.simplifyV` / `simplifyG`; all three simplifiers) -/

section secSimplifyTotal
variable {α : Type} [Add α] [Sub α] [Mul α] [Div α] [Neg α] [LT α] [LE α] [DecidableLT α] [DecidableLE α] [BEq α]
  [OfNat α 0] [OfNat α 1] [OfNat α 2]

/-- (a) No panic and no non-termination for EVERY value (ring-less polygon inside a multi-polygon,
    zero-vertex ring, one-vertex line, nil interface, typed nils …), whatever the simplifier, as long
    as the simplifier itself is total on lines of more than two points (C12) … -/
theorem simplify_total (s : Simplify.Simplifier α)
    (hs : ∀ ls area, 2 < ls.length → (s ls area).isOk = true) (v : GVal α) :
    (Simplify.simplifyV s v).isOk = true := Simplify.simplify_total s hs v

/-- … which radial is, for any distance function and ANY arithmetic (so also float64) … -/
theorem simplify_total_radial (df : Pt α → Pt α → α) (t : α) (v : GVal α) :
    (Simplify.simplifyV (Simplify.radialS df t) v).isOk = true := Simplify.radial_simplify_total df t v

end secSimplifyTotal

section secSimplify
variable {α : Type}

/-- Nil handling: a nil interface and every typed nil come back as a nil interface. -/
theorem simplify_nil (s : Simplify.Simplifier α) (k : Kind) :
    Simplify.simplifyV s (.nilIface : GVal α) = .ok .nil ∧ Simplify.simplifyV s (.nilSlice k : GVal α) = .ok .nil :=
  ⟨rfl, rfl⟩

/-- (b) Points, multi-points and bounds are returned as they are; the five line-based kinds go to the
    typed method and an EMPTY result becomes a nil interface (`wrapLen`) (C12 `wrappers_agree`). -/
theorem simplify_agrees_typed (s : Simplify.Simplifier α) :
    (∀ p, Simplify.simplifyG s (.point p) = .ok (.geom (.point p))) ∧
    (∀ ps, Simplify.simplifyG s (.multiPoint ps) = .ok (.geom (.multiPoint ps))) ∧
    (∀ a b, Simplify.simplifyG s (.bound a b) = .ok (.geom (.bound a b))) ∧
    (∀ l, Simplify.simplifyG s (.lineString l) = Simplify.wrapLen .lineString (Simplify.lineString s l)) ∧
    (∀ l, Simplify.simplifyG s (.multiLineString l) =
      Simplify.wrapLen .multiLineString (Simplify.multiLineString s l)) ∧
    (∀ l, Simplify.simplifyG s (.ring l) = Simplify.wrapLen .ring (Simplify.ring s l)) ∧
    (∀ l, Simplify.simplifyG s (.polygon l) = Simplify.wrapLen .polygon (Simplify.polygon s l)) ∧
    (∀ l, Simplify.simplifyG s (.multiPolygon l) = Simplify.wrapLen .multiPolygon (Simplify.multiPolygon s l)) :=
  ⟨fun _ => rfl, fun _ => rfl, fun _ _ => rfl, fun _ => rfl, fun _ => rfl, fun _ => rfl, fun _ => rfl,
    fun _ => rfl⟩

/-- (c) A collection is simplified member by member, first to last; a member that simplified to nothing
    (a nil interface) is DROPPED, the others keep their order; a collection none of whose members is
    left — in particular one without members — becomes a nil interface, never an empty collection. -/
theorem simplify_collection (s : Simplify.Simplifier α) (gs : List (Geom α)) :
    Simplify.simplifyG s (.collection gs) =
      match resMapM (Simplify.simplifyG s) gs with
      | .ok l =>
        if (l.filter fun g => !g.isNil).length = 0 then .ok .nil else .ok (.coll (l.filter fun g => !g.isNil))
      | .err e => .err e
      | .panic w => .panic w := by
  rw [Simplify.simplifyG, simplify_go_eq, resFilterM]
  cases resMapM (Simplify.simplifyG s) gs <;> rfl

end secSimplify

section secSimplifyInst
variable {α : Type} [Field α] [LinearOrder α] [IsStrictOrderedRing α]

/-- (a) for the two simplifiers whose own totality is a theorem about an ordered field (C12), hence
    the separate section: Douglas-Peucker … -/
theorem simplify_total_douglasPeucker (t : α) (v : GVal α) :
    (Simplify.simplifyV (Simplify.dpS t) v).isOk = true := Simplify.dp_simplify_total t v

/-- … and Visvalingam with the default or a minimum count of at least 2. -/
theorem simplify_total_visvalingam (thr : Option α) (toKeep : Nat) (hk : toKeep = 0 ∨ 2 ≤ toKeep) (v : GVal α) :
    (Simplify.simplifyV (Simplify.visS thr toKeep) v).isOk = true := Simplify.vis_simplify_total thr toKeep hk v

end secSimplifyInst

/-! ## project.Geometry  (`Orb.Project.geometryVM` / `geometryM` / `geometry`)

(a) Plain total functions (the projection itself is an arbitrary, possibly stateful, Go closure). -/

section secProject
variable {σ α : Type} [LT α] [LE α] [DecidableLT α] [DecidableLE α] [Min α] [Max α]

/-- Nil handling: a nil interface and typed nil slices are returned as they are, `proj` is not called. -/
theorem project_nil (proj : Project.Proj σ α) (s : σ) (k : Kind) :
    Project.geometryVM proj .nilIface s = (.nilIface, s) ∧
    Project.geometryVM proj (.nilSlice k) s = (.nilSlice k, s) := ⟨rfl, rfl⟩

/-- (b) Each kind goes to its typed helper (`ptsM` = `MultiPoint`/`LineString`/`Ring`, `ptssM` =
    `MultiLineString`/`Polygon`, `ptsssM` = `MultiPolygon`, `boundOf` = `Bound`). -/
theorem project_agrees_typed (proj : Project.Proj σ α) (s : σ) :
    (∀ p, Project.geometryM proj (.point p) s = (.point (proj p s).1, (proj p s).2)) ∧
    (∀ ps, Project.geometryM proj (.multiPoint ps) s = (.multiPoint (Project.ptsM proj ps s).1, (Project.ptsM proj ps s).2)) ∧
    (∀ ps, Project.geometryM proj (.lineString ps) s = (.lineString (Project.ptsM proj ps s).1, (Project.ptsM proj ps s).2)) ∧
    (∀ ps, Project.geometryM proj (.ring ps) s = (.ring (Project.ptsM proj ps s).1, (Project.ptsM proj ps s).2)) ∧
    (∀ ls, Project.geometryM proj (.multiLineString ls) s =
      (.multiLineString (Project.ptssM proj ls s).1, (Project.ptssM proj ls s).2)) ∧
    (∀ rs, Project.geometryM proj (.polygon rs) s = (.polygon (Project.ptssM proj rs s).1, (Project.ptssM proj rs s).2)) ∧
    (∀ ps, Project.geometryM proj (.multiPolygon ps) s =
      (.multiPolygon (Project.ptsssM proj ps s).1, (Project.ptsssM proj ps s).2)) ∧
    (∀ lo hi, Project.geometryM proj (.bound lo hi) s =
      (.bound (Project.boundOf (proj lo s).1 (proj hi (proj lo s).2).1).lo
              (Project.boundOf (proj lo s).1 (proj hi (proj lo s).2).1).hi, (proj hi (proj lo s).2).2)) :=
  ⟨fun _ => rfl, fun _ => rfl, fun _ => rfl, fun _ => rfl, fun _ => rfl, fun _ => rfl, fun _ => rfl,
    fun _ _ => rfl⟩

/-- (c) A collection is projected member by member, first to last, the closure's state handed from
    each member to the next … -/
theorem project_collection (proj : Project.Proj σ α) (g : Geom α) (gs : List (Geom α)) (s : σ) :
    Project.geometryM proj (.collection gs) s =
      (.collection (Project.geometryM.go proj gs s).1, (Project.geometryM.go proj gs s).2) ∧
    Project.geometryM.go proj [] s = ([], s) ∧
    Project.geometryM.go proj (g :: gs) s =
      ((Project.geometryM proj g s).1 :: (Project.geometryM.go proj gs (Project.geometryM proj g s).2).1,
       (Project.geometryM.go proj gs (Project.geometryM proj g s).2).2) := ⟨rfl, rfl, rfl⟩

/-- … so with a pure point function it is the map of `project.Geometry` over the members. -/
theorem project_collection_pure (f : Pt α → Pt α) (gs : List (Geom α)) :
    Project.geometry f (.collection gs) = .collection (gs.map (Project.geometry f)) :=
  Project.geometry_collection f gs

end secProject

/-! ## planar.Area / CentroidArea / Length / DistanceFrom(WithIndex)  (`Orb.Planar`)

(a) Plain total functions (`math.Inf(1)` is `none`).  `planar.CentroidArea(nil)` and a nil MEMBER
are outside the model (`Geom` has no nil members). -/

section secPlanarTyped
variable {α : Type} [Add α] [Sub α] [Mul α] [Div α] [Neg α] [OfNat α 0] [OfNat α 1] [OfNat α 2] [OfNat α 6]
  [NatCast α] [BEq α] [LT α] [DecidableLT α]

/-- (b) `CentroidArea`: each kind's own centroid/area function (a point is a one-point multi-point, a
    line a one-line multi-line, a bound its ring; dimensions 0 and 1 report area 0). -/
theorem planar_centroidArea_agrees_typed (sqrt : α → α) :
    (∀ p, Planar.centroidArea sqrt (.point p) = (Planar.multiPointCentroid [p], 0)) ∧
    (∀ ps, Planar.centroidArea sqrt (.multiPoint ps) = (Planar.multiPointCentroid ps, 0)) ∧
    (∀ ps, Planar.centroidArea sqrt (.lineString ps) = (Planar.multiLineStringCentroid sqrt [ps], 0)) ∧
    (∀ ls, Planar.centroidArea sqrt (.multiLineString ls) = (Planar.multiLineStringCentroid sqrt ls, 0)) ∧
    (∀ r, Planar.centroidArea sqrt (.ring r) = Planar.ringCentroidArea r) ∧
    (∀ p, Planar.centroidArea sqrt (.polygon p) = Planar.polygonCentroidArea sqrt p) ∧
    (∀ mp, Planar.centroidArea sqrt (.multiPolygon mp) = Planar.multiPolygonCentroidArea sqrt mp) ∧
    (∀ lo hi, Planar.centroidArea sqrt (.bound lo hi) = Planar.ringCentroidArea (Planar.boundRing lo hi)) ∧
    (∀ g, Planar.area sqrt g = (Planar.centroidArea sqrt g).2) :=
  ⟨fun _ => rfl, fun _ => rfl, fun _ => rfl, fun _ => rfl, fun _ => rfl, fun _ => rfl, fun _ => rfl,
    fun _ _ => rfl, fun _ => rfl⟩

/-- (b) `Length`: 0 for points; the line length for lines and rings; the sum over the members / rings
    for multi-lines, polygons, multi-polygons; the perimeter ring for a bound. -/
theorem planar_length_agrees_typed (sqrt : α → α) :
    (∀ p, Planar.length sqrt (.point p) = 0) ∧
    (∀ ps, Planar.length sqrt (.multiPoint ps) = 0) ∧
    (∀ ls, Planar.length sqrt (.lineString ls) = Planar.lineStringLength sqrt ls 0) ∧
    (∀ mls, Planar.length sqrt (.multiLineString mls) =
      mls.foldl (fun sum ls => sum + Planar.lineStringLength sqrt ls 0) 0) ∧
    (∀ r, Planar.length sqrt (.ring r) = Planar.lineStringLength sqrt r 0) ∧
    (∀ p, Planar.length sqrt (.polygon p) = Planar.polygonLength sqrt p) ∧
    (∀ mp, Planar.length sqrt (.multiPolygon mp) = mp.foldl (fun sum p => sum + Planar.polygonLength sqrt p) 0) ∧
    (∀ lo hi, Planar.length sqrt (.bound lo hi) = Planar.lineStringLength sqrt (Planar.boundRing lo hi) 0) :=
  ⟨fun _ => rfl, fun _ => rfl, fun _ => rfl, fun _ => rfl, fun _ => rfl, fun _ => rfl, fun _ => rfl,
    fun _ _ => rfl⟩

/-- (b) `DistanceFromWithIndex`: each kind's own distance function; for the two multi-kinds of lines
    and polygons the running minimum over the members with the member index. -/
theorem planar_distanceFrom_agrees_typed (sqrt : α → α) (p : Pt α) :
    (∀ g, Planar.distanceFromWithIndex sqrt p (.point g) = (some (Planar.distance sqrt g p), 0)) ∧
    (∀ mp, Planar.distanceFromWithIndex sqrt p (.multiPoint mp) = Planar.multiPointDistanceFrom sqrt mp p) ∧
    (∀ ls, Planar.distanceFromWithIndex sqrt p (.lineString ls) = Planar.lineStringDistanceFrom sqrt ls p) ∧
    (∀ mls, Planar.distanceFromWithIndex sqrt p (.multiLineString mls) =
      mls.zipIdx.foldl (fun s (li : List (Pt α) × Nat) =>
        Planar.minStep s (Planar.lineStringDistanceFrom sqrt li.1 p).1 li.2) (none, -1)) ∧
    (∀ r, Planar.distanceFromWithIndex sqrt p (.ring r) = Planar.lineStringDistanceFrom sqrt r p) ∧
    (∀ pg, Planar.distanceFromWithIndex sqrt p (.polygon pg) = Planar.polygonDistanceFrom sqrt pg p) ∧
    (∀ mp, Planar.distanceFromWithIndex sqrt p (.multiPolygon mp) =
      mp.zipIdx.foldl (fun s (gi : List (List (Pt α)) × Nat) =>
        Planar.minStep s (Planar.polygonDistanceFrom sqrt gi.1 p).1 gi.2) (none, -1)) ∧
    (∀ lo hi, Planar.distanceFromWithIndex sqrt p (.bound lo hi) =
      Planar.lineStringDistanceFrom sqrt (Planar.boundRing lo hi) p) ∧
    (∀ g, Planar.distanceFrom sqrt g p = (Planar.distanceFromWithIndex sqrt p g).1) :=
  ⟨fun _ => rfl, fun _ => rfl, fun _ => rfl, fun _ => rfl, fun _ => rfl, fun _ => rfl, fun _ => rfl,
    fun _ _ => rfl, fun _ => rfl⟩

end secPlanarTyped

section secPlanar
variable {α : Type} [Field α] [LinearOrder α] [IsStrictOrderedRing α]

/-- (c) Area: the sum over the members of TOP dimension (as coded: members of lower dimension are
    skipped, and have area 0 anyway) (C10). -/
theorem planar_area_collection (sqrt : α → α) (gs : List (Geom α)) :
    Planar.area sqrt (.collection gs) =
      ((gs.filter fun g => Planar.dimensions g == Planar.maxDim gs).map (Planar.area sqrt)).sum :=
  Planar.collection_area_sum_topdim sqrt gs

/-- (c) Centroid and area together, as coded: the AREA-weighted combination of the members of top
    dimension (`finishWeighted`: the weighted sums divided by the total area; the origin when that is 0). -/
theorem planar_centroid_collection (sqrt : α → α) (gs : List (Geom α)) :
    Planar.centroidArea sqrt (.collection gs) =
      Planar.finishWeighted
        (((gs.filter fun g => Planar.dimensions g == Planar.maxDim gs).map fun g =>
            (Planar.centroidArea sqrt g).1.x * (Planar.centroidArea sqrt g).2).sum,
         ((gs.filter fun g => Planar.dimensions g == Planar.maxDim gs).map fun g =>
            (Planar.centroidArea sqrt g).1.y * (Planar.centroidArea sqrt g).2).sum,
         ((gs.filter fun g => Planar.dimensions g == Planar.maxDim gs).map fun g =>
            (Planar.centroidArea sqrt g).2).sum) := Planar.centroidArea_collection sqrt gs

/-- (c), where the clause "a collection is the combination of its members" is FALSE of the code
    (known finding C10-collection-lowerdim-centroid): members of dimension 0 or 1 all weigh 0, so a
    collection of points and lines has "centroid" (0,0) whatever its members are — not the count- or
    length-weighted mean the typed functions compute for a multi-point / multi-line (C10). -/
theorem planar_centroid_collection_lowerdim (sqrt : α → α) (gs : List (Geom α)) (h : Planar.maxDim gs < 2) :
    Planar.centroidArea sqrt (.collection gs) = (⟨0, 0⟩, 0) :=
  Planar.collection_lowerdim_centroid_origin sqrt gs h

/-- (c) Length: the sum of the members' lengths. -/
theorem planar_length_collection (sqrt : α → α) (gs : List (Geom α)) :
    Planar.length sqrt (.collection gs) = (gs.map (Planar.length sqrt)).sum := by
  rw [Planar.length, Planar.lenLoop_foldl, foldl_add_zero]

/-- (c) Distance-from: the minimum of the members' distances (`none` = +Inf for no members / only
    empty members; `omin` is the minimum with `none` as +Inf) … -/
theorem planar_distanceFrom_collection (sqrt : α → α) (gs : List (Geom α)) (p : Pt α) :
    Planar.distanceFrom sqrt (.collection gs) p =
      gs.foldl (fun m g => Planar.omin m (Planar.distanceFrom sqrt g p)) none := by
  rw [Planar.distanceFrom, Planar.distanceFromWithIndex, Planar.collLoop_eq_foldl]
  exact Planar.foldl_zipIdx_minStep_omin (fun g => Planar.distanceFrom sqrt g p) gs 0 (none, -1)

/-- … reported with the index of the FIRST member that attains it (strictly closer than every member
    before it, no member after it closer), and `(+Inf, -1)` when every member is at +Inf. -/
theorem planar_distanceFromWithIndex_collection (sqrt : α → α) (gs : List (Geom α)) (p : Pt α) :
    (Planar.distanceFromWithIndex sqrt p (.collection gs) = (none, -1) ∧
      ∀ g ∈ gs, Planar.distanceFrom sqrt g p = none) ∨
    (∃ (k : Nat) (d : α), (gs.map fun g => Planar.distanceFrom sqrt g p)[k]? = some (some d) ∧
      Planar.distanceFromWithIndex sqrt p (.collection gs) = (some d, (k : Int)) ∧
      (∀ j, j < k → ∀ x, (gs.map fun g => Planar.distanceFrom sqrt g p)[j]? = some x →
        Planar.optLt (some d) x = true) ∧
      ∀ g ∈ gs, Planar.optLt (Planar.distanceFrom sqrt g p) (some d) = false) := by
  have key := Planar.memberLoop_index (gs.map fun g => Planar.distanceFrom sqrt g p)
  simp only [List.zipIdx_map, List.foldl_map, List.forall_mem_map] at key
  rw [Planar.distanceFromWithIndex, Planar.collLoop_eq_foldl]
  exact key

end secPlanar

/-! ## geo.Area / geo.Length / geo.LengthHaversine  (`Orb.Geo`)

(a) Plain total functions (`math.Sin`, … are the opaque fields of `F`). -/

section secGeoTyped
variable {α : Type} [Add α] [Sub α] [Mul α] [Div α] [Neg α] [LT α] [DecidableLT α] [BEq α]
  [OfNat α 0] [OfNat α 1] [OfNat α 2] [OfNat α 90] [OfNat α 180]

/-- Nil handling: the nil interface and every typed nil have area 0 (a nil ring: `math.Abs(0)`). -/
theorem geo_area_nil (F : Geo.Fn α) (k : Kind) (hk : k ≠ .ring) :
    Geo.areaV F .nilIface = 0 ∧ Geo.areaV F (.nilSlice .ring) = F.abs 0 ∧ Geo.areaV F (.nilSlice k) = 0 := by
  refine ⟨rfl, rfl, ?_⟩
  cases k <;> first | rfl | exact absurd rfl hk

/-- (b) `Area`: 0 below dimension 2; `|ringArea|` for a ring and for a bound's ring; the typed polygon
    and multi-polygon areas. -/
theorem geo_area_agrees_typed (F : Geo.Fn α) :
    (∀ p, Geo.area F (.point p) = 0) ∧ (∀ ps, Geo.area F (.multiPoint ps) = 0) ∧
    (∀ ps, Geo.area F (.lineString ps) = 0) ∧ (∀ ls, Geo.area F (.multiLineString ls) = 0) ∧
    (∀ r, Geo.area F (.ring r) = F.abs (Geo.ringArea F r)) ∧
    (∀ p, Geo.area F (.polygon p) = Geo.polygonArea F p) ∧
    (∀ mp, Geo.area F (.multiPolygon mp) = Geo.multiPolygonArea F mp) ∧
    (∀ lo hi, Geo.area F (.bound lo hi) = F.abs (Geo.ringArea F (Geo.toRing lo hi))) ∧
    (∀ g, Geo.areaV F (.val g) = Geo.area F g) :=
  ⟨fun _ => rfl, fun _ => rfl, fun _ => rfl, fun _ => rfl, fun _ => rfl, fun _ => rfl, fun _ => rfl,
    fun _ _ => rfl, fun _ => rfl⟩

/-- (b) `Length` for any point-distance function (`geo.Distance`, `geo.DistanceHaversine`). -/
theorem geo_length_agrees_typed (df : Pt α → Pt α → α) :
    (∀ p, Geo.length df (.point p) = 0) ∧ (∀ ps, Geo.length df (.multiPoint ps) = 0) ∧
    (∀ ls, Geo.length df (.lineString ls) = Geo.lineLength df ls) ∧
    (∀ ls, Geo.length df (.multiLineString ls) = ls.foldl (fun sum l => sum + Geo.lineLength df l) 0) ∧
    (∀ r, Geo.length df (.ring r) = Geo.lineLength df r) ∧
    (∀ p, Geo.length df (.polygon p) = Geo.polygonLength df p) ∧
    (∀ mp, Geo.length df (.multiPolygon mp) = mp.foldl (fun sum p => sum + Geo.polygonLength df p) 0) ∧
    (∀ lo hi, Geo.length df (.bound lo hi) = Geo.lineLength df (Geo.toRing lo hi)) :=
  ⟨fun _ => rfl, fun _ => rfl, fun _ => rfl, fun _ => rfl, fun _ => rfl, fun _ => rfl, fun _ => rfl,
    fun _ _ => rfl⟩

end secGeoTyped

section secGeo
variable {α : Type} [Field α] [LinearOrder α] [IsStrictOrderedRing α]

/-- (c) Area: the sum of the members' areas (every member, whatever its dimension) (C18). -/
theorem geo_area_collection (F : Geo.Fn α) (gs : List (Geom α)) :
    Geo.area F (.collection gs) = (gs.map (Geo.area F)).sum := Geo.collection_area_sum F gs

/-- (c) Length: the sum of the members' lengths (C18). -/
theorem geo_length_collection (df : Pt α → Pt α → α) (gs : List (Geom α)) :
    Geo.length df (.collection gs) = (gs.map (Geo.length df)).sum := Geo.length_collection df gs

end secGeo

/-! ## tilecover.Geometry  (`Orb.TileCover.cover`; `.err` = `ErrUnevenIntersections`) -/

section secTileCover
variable {α : Type} [Add α] [Sub α] [Div α] [Neg α] [OfNat α 0] [OfNat α 1] [LT α] [DecidableLT α] [BEq α]

/-- (a) No geometry value makes `tilecover.Geometry` panic: zero-vertex rings, one-vertex rings and
    rings whose trace is empty included (C14). -/
theorem tilecover_total (ops : TileCover.Ops α) (frac : Pt α → Pt α) (zoom fuel : Nat) (g : Geom α) :
    (TileCover.cover ops frac zoom fuel g).isPanic = false := TileCover.cover_total' ops frac zoom fuel g

/-- (b) Each kind goes to its own cover function, starting from an empty set (an empty ring has an
    empty cover; a ring is the one-ring polygon; an empty bound has an empty cover). -/
theorem tilecover_agrees_typed (ops : TileCover.Ops α) (frac : Pt α → Pt α) (zoom fuel : Nat) :
    (∀ p, TileCover.cover ops frac zoom fuel (.point p) = .ok [TileCover.tileAt ops p.x (frac p) zoom]) ∧
    (∀ ps, TileCover.cover ops frac zoom fuel (.multiPoint ps) =
      .ok (ps.map fun p => TileCover.tileAt ops p.x (frac p) zoom)) ∧
    (∀ ps, TileCover.cover ops frac zoom fuel (.lineString ps) =
      (TileCover.line ops zoom fuel [] (ps.map frac) none).map (·.1)) ∧
    (∀ ls, TileCover.cover ops frac zoom fuel (.multiLineString ls) =
      TileCover.multiLine ops zoom fuel [] (ls.map (·.map frac))) ∧
    (∀ ps, TileCover.cover ops frac zoom fuel (.ring ps) =
      if ps.isEmpty then .ok [] else TileCover.polygon ops zoom fuel [] [ps.map frac]) ∧
    (∀ rs, TileCover.cover ops frac zoom fuel (.polygon rs) =
      TileCover.polygon ops zoom fuel [] (rs.map (·.map frac))) ∧
    (∀ ps, TileCover.cover ops frac zoom fuel (.multiPolygon ps) =
      TileCover.multiPolygon ops zoom fuel [] (ps.map (·.map (·.map frac)))) ∧
    (∀ a b, TileCover.cover ops frac zoom fuel (.bound a b) =
      if b.x < a.x ∨ b.y < a.y then .ok []
      else .ok (TileCover.coverRect (TileCover.tileAt ops a.x (frac a) zoom) (TileCover.tileAt ops b.x (frac b) zoom) zoom)) := by
  refine ⟨?_, ?_, ?_, ?_, ?_, ?_, ?_, ?_⟩ <;> intros <;> rw [TileCover.cover]

/-- (c) The cover of a collection whose members all have covers is the UNION of the members' covers … -/
theorem tilecover_collection_union (ops : TileCover.Ops α) (frac : Pt α → Pt α) (zoom fuel : Nat)
    (gs : List (Geom α)) (hs : ∀ g ∈ gs, ∃ s, TileCover.cover ops frac zoom fuel g = .ok s) :
    ∃ S, TileCover.cover ops frac zoom fuel (.collection gs) = .ok S ∧
      ∀ t, t ∈ S ↔ ∃ g ∈ gs, ∃ s, TileCover.cover ops frac zoom fuel g = .ok s ∧ t ∈ s :=
  TileCover.cover_collection_union' ops frac zoom fuel gs hs

/-- … and otherwise the error of the first member without one (C14). -/
theorem tilecover_collection_error (ops : TileCover.Ops α) (frac : Pt α → Pt α) (zoom fuel : Nat)
    (gs₁ : List (Geom α)) (g : Geom α) (gs₂ : List (Geom α))
    (hs : ∀ g ∈ gs₁, ∃ s, TileCover.cover ops frac zoom fuel g = .ok s)
    (hg : (TileCover.cover ops frac zoom fuel g).isOk = false) :
    TileCover.cover ops frac zoom fuel (.collection (gs₁ ++ g :: gs₂)) = TileCover.cover ops frac zoom fuel g :=
  TileCover.cover_collection_error' ops frac zoom fuel gs₁ g gs₂ hs hg

end secTileCover

/-! ## WKB / EWKB encoder  (`Orb.WKB.encode` / `encGeom`; `srid = 0` is plain WKB)

(a) A plain total function into bytes (`Marshal` returns no error for the nine kinds). -/

section secWKB
open WKB

/-- Nil handling: a nil interface and typed nil slices write no bytes. -/
theorem wkb_encode_nil (o : Order) (srid : Nat) (k : Kind) (g : WKB.G) :
    encode o srid .nilIface = [] ∧ encode o srid (.nilSlice k) = [] ∧ encode o srid (.val g) = encGeom o srid g :=
  ⟨rfl, rfl, rfl⟩

/-- (b) Each kind is written by its own writer; a ring is written as the one-ring polygon and a bound
    as the polygon of its ring. -/
theorem wkb_agrees_typed (o : Order) (srid : Nat) :
    (∀ p, encGeom o srid (.point p) = encPoint o srid p) ∧
    (∀ ps, encGeom o srid (.multiPoint ps) = encMultiPoint o srid ps) ∧
    (∀ ps, encGeom o srid (.lineString ps) = encLineString o srid ps) ∧
    (∀ ls, encGeom o srid (.multiLineString ls) = encMultiLineString o srid ls) ∧
    (∀ r, encGeom o srid (.ring r) = encGeom o srid (.polygon [r])) ∧
    (∀ rs, encGeom o srid (.polygon rs) = encPolygon o srid rs) ∧
    (∀ ps, encGeom o srid (.multiPolygon ps) = encMultiPolygon o srid ps) ∧
    (∀ a b, encGeom o srid (.bound a b) = encGeom o srid (.polygon [boundRing a b])) :=
  ⟨fun _ => rfl, fun _ => rfl, fun _ => rfl, fun _ => rfl, fun _ => rfl, fun _ => rfl, fun _ => rfl,
    fun _ _ => rfl⟩

theorem wkb_encList_eq (o : Order) (gs : List G) : encGeom.encList o gs = gs.flatMap (encGeom o 0) := by
  induction gs with
  | nil => rfl
  | cons g gs ih => rw [encGeom.encList, ih, List.flatMap_cons]

/-- (c) A collection is its header (byte order, type, optional SRID, member count) followed by the
    members' own encodings in order (each without SRID) … -/
theorem wkb_collection (o : Order) (srid : Nat) (gs : List WKB.G) :
    encGeom o srid (.collection gs) =
      orderByte o :: (typePrefix o Generated.Params.wkb_geometryCollectionType gs.length srid ++
        gs.flatMap (encGeom o 0)) := by
  rw [encGeom, wkb_encList_eq]

/-- … so every member's encoding is a contiguous part of the collection's. -/
theorem wkb_collection_contains (o : Order) (srid : Nat) (gs : List WKB.G) (g : WKB.G) (hg : g ∈ gs) :
    encGeom o 0 g <:+: encGeom o srid (.collection gs) := by
  rw [wkb_collection]
  obtain ⟨s, t, h⟩ : encGeom o 0 g <:+: gs.flatMap (encGeom o 0) :=
    List.flatMap_def ▸ List.infix_of_mem_flatten (List.mem_map_of_mem hg)
  refine ⟨orderByte o :: (typePrefix o Generated.Params.wkb_geometryCollectionType gs.length srid ++ s), t, ?_⟩
  rw [← h]; simp [List.append_assoc]

end secWKB

/-! ## WKT encoder  (`Orb.WKT.marshal` / `marshalG`) -/

section secWKT
open WKT
variable (fmtF : UInt64 → Str)

/-- (a) `wkt.Marshal` panics on no value the Go type system can produce: the nil interface (which
    used to hit `panic("unsupported type")`, fixed in /repo dabd25f), every typed nil slice, every
    geometry.  (`GVal.Exists` only excludes "nil point" / "nil bound", which are arrays in Go.) -/
theorem wkt_marshal_total (v : GVal UInt64) (hv : GVal.Exists v) : (marshal fmtF v).isPanic = false := by
  cases v with
  | nilIface => rfl
  | val g => rfl
  | nilSlice k => cases k <;> first | rfl | exact absurd hv (by simp [GVal.Exists])

/-- Nil handling: nothing for a nil interface; a typed nil prints what the empty value of its kind
    prints (a nil ring: `POLYGON(())`). -/
theorem wkt_marshal_nil (k : Kind) (hk : k ≠ .point ∧ k ≠ .bound) :
    marshal fmtF .nilIface = .ok [] ∧ marshal fmtF (.nilSlice k) = .ok (marshalG fmtF (Core.emptyOf k)) := by
  refine ⟨rfl, ?_⟩
  cases k <;> first | rfl | exact absurd rfl hk.1 | exact absurd rfl hk.2

/-- (b) A ring is written as the one-ring polygon, a bound as the polygon of its ring; every other
    kind by its own case (`marshalG`). -/
theorem wkt_agrees_typed :
    (∀ r, marshalG fmtF (.ring r) = marshalG fmtF (.polygon [r])) ∧
    (∀ a b, marshalG fmtF (.bound a b) = marshalG fmtF (.polygon [WKT.boundRing a b])) ∧
    (∀ g, marshal fmtF (.val g) = .ok (marshalG fmtF g)) :=
  ⟨fun _ => rfl, fun _ _ => rfl, fun _ => rfl⟩

theorem wkt_marshalList_eq (gs : List WKT.G) : marshalG.marshalList fmtF gs = gs.map (marshalG fmtF) := by
  induction gs with
  | nil => rfl
  | cons g gs ih => rw [marshalG.marshalList, ih, List.map_cons]

/-- (c) A collection is `GEOMETRYCOLLECTION(` + the members' own texts in order, separated by
    commas + `)`; `GEOMETRYCOLLECTION EMPTY` without members. -/
theorem wkt_collection (gs : List WKT.G) :
    marshalG fmtF (.collection gs) =
      if gs.isEmpty then kwCollection ++ sEmpty
      else kwCollection ++ cLP :: (commaSep (gs.map (marshalG fmtF)) ++ [cRP]) := by
  rw [marshalG, wkt_marshalList_eq]

end secWKT

/-! ## GeoJSON encoder  (`Orb.GeoJSON.geomDoc` / `geomMember` / `geomJ`; json and bson codecs)

(a) Plain total functions into the document tree handed to the serialiser. -/

section secGeoJSON
open GeoJSON

/-- Nil handling: a nil interface and a nil collection are `null` (bson at top level: the empty
    document type), a typed nil slice keeps its type with `coordinates: null` (json) / without
    coordinates (bson), a nil ring is `Polygon [null]`. -/
theorem geojson_nil (c : Codec) :
    geomMember c .nilIface = .null ∧ geomMember c (.nilSlice .collection) = .null ∧
    geomMember c (.nilSlice .ring) = .obj [("type", .str "Polygon"), ("coordinates", .arr [.null])] ∧
    geomMember c (.nilSlice .lineString) = coordDoc c "LineString" .null 0 ∧
    geomDoc .json .nilIface = .null ∧ geomDoc .bson .nilIface = .obj [("type", .str "")] :=
  ⟨rfl, rfl, rfl, rfl, rfl, rfl⟩

/-- (b) A ring is written as the one-ring polygon, a bound as the polygon of its ring, in both codecs;
    a value goes through `geomJ`. -/
theorem geojson_agrees_typed (c : Codec) :
    (∀ r, geomJ c (.ring r) = geomJ c (.polygon [r])) ∧
    (∀ a b, geomJ c (.bound a b) = geomJ c (.polygon [GeoJSON.boundRing a b])) ∧
    (∀ g, geomMember c (.val g) = geomJ c g) := by
  refine ⟨fun r => ?_, fun a b => ?_, fun _ => rfl⟩ <;> simp [geomJ, coordDoc, ptssJ]

/-- (c) A collection with members is `{"type": "GeometryCollection", "geometries": [ … ]}` holding the
    members' own documents in order; a collection WITHOUT members is written as `null`. -/
theorem geojson_collection (c : Codec) (gs : List GeoJSON.G) :
    geomJ c (.collection gs) =
      if gs = [] then .null
      else .obj [("type", .str "GeometryCollection"), ("geometries", .arr (gs.map (geomJ c)))] := by
  cases gs with
  | nil => simp [geomJ]
  | cons g gs => simp [geomJ, GeoJSON.geomsJ_eq_map]

end secGeoJSON

/-! ## Non-vacuity

Concrete degenerate values of the quantifier through the models: a ring-less polygon inside a
multi-polygon inside a collection, a zero-vertex ring, a one-vertex line, typed nils. -/

example :
    -- simplify: the ring-less polygon is dropped, the emptied multi-polygon simplifies to nothing and is
    -- dropped from the collection; a collection all of whose members vanish is a nil interface
    Simplify.simplifyG (Simplify.dpS (1 : Int)) (.collection [.multiPolygon [[]], .lineString [⟨0, 0⟩]]) =
      .ok (.coll [.geom (.lineString [⟨0, 0⟩])]) ∧
    Simplify.simplifyG (Simplify.dpS (1 : Int)) (.collection [.multiPolygon [[]], .lineString [], .collection []]) =
      .ok .nil := ⟨rfl, rfl⟩

example :
    -- equal: same members in order; a ring is not its one-ring polygon
    Core.equal (.collection [.ring [], .point ⟨1, 2⟩] : Geom Int) (.collection [.ring [], .point ⟨1, 2⟩]) = true ∧
    Core.equal (.collection [.ring []] : Geom Int) (.collection [.polygon [[]]]) = false := by decide

example :
    -- project: a collection is mapped member by member
    Project.geometry (fun p => ⟨p.x + 1, p.y⟩) (.collection [.point ⟨1, 2⟩, .polygon [[]]] : Geom Int) =
      .collection [.point ⟨2, 2⟩, .polygon [[]]] := rfl

example :
    WKB.encGeom .little 0 (.collection [.multiPolygon [[]], .ring []]) =
      1 :: (WKB.typePrefix .little Generated.Params.wkb_geometryCollectionType 2 0 ++
        (WKB.encGeom .little 0 (.multiPolygon [[]]) ++ WKB.encGeom .little 0 (.ring []))) := by
  rw [wkb_collection]; simp [WKB.orderByte]

/-- clip: the point inside survives, the ring-less polygon and the point outside are dropped, the
    single survivor is unwrapped -/
example : (Clip.geometry (⟨⟨1, 1⟩, ⟨0, 0⟩⟩ : Core.Bound Int) ⟨⟨0, 0⟩, ⟨2, 2⟩⟩
    (.collection [.point ⟨1, 1⟩, .multiPolygon [[]], .point ⟨5, 5⟩])) = some (some (.point ⟨1, 1⟩)) := by
  have t := clip_geometry_agrees_typed (⟨⟨1, 1⟩, ⟨0, 0⟩⟩ : Core.Bound Int) ⟨⟨0, 0⟩, ⟨2, 2⟩⟩
  rw [clip_geometry_collection]
  simp only [List.mapM_cons, List.mapM_nil, t.1, t.2.2.2.2.2.2.1, clipPre, Core.bound, List.foldl_cons,
    List.foldl_nil]
  rfl

/-- the hypotheses of the totality theorems are satisfiable: a box of positive size (both packages'
    `BoxOK`), an orientation, an empty sentinel bound -/
example : Clip.BoxOK (⟨⟨0, 0⟩, ⟨2, 2⟩⟩ : Core.Bound ℚ) ∧ SmartClip.BoxOK (⟨⟨0, 0⟩, ⟨2, 2⟩⟩ : Core.Bound ℚ) ∧
    (SmartClip.CCW = SmartClip.CW ∨ SmartClip.CCW = SmartClip.CCW) ∧
    (⟨⟨1, 1⟩, ⟨0, 0⟩⟩ : Core.Bound Int).isEmpty = true := by
  refine ⟨⟨?_, ?_⟩, ⟨?_, ?_⟩, Or.inr rfl, by decide⟩ <;> norm_num

end Orb.C20M
