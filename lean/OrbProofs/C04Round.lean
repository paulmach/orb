/-
  C04 — the depth scan of the collection splitter on spellings (`Rd…`, `rd_…`: what the splitter reads
  of a text), and the main induction: a spelling, collections nested to any depth, parses to the
  canonical value.
-/
import OrbProofs.C04Kinds
import OrbProofs.C04Total

namespace Orb.WKT

/-- a byte that the collection splitter does not look at -/
def RdPlain (b : UInt8) : Prop := b ≠ cLP ∧ b ≠ cRP ∧ b ≠ cComma

theorem rd_plain_iff {b : UInt8} : RdPlain b ↔ isParenComma b = false := by
  simp [RdPlain, isParenComma, and_assoc]

theorem rd_plain_of_blank {b : UInt8} (h : isBlank b = true) : RdPlain b :=
  rd_plain_iff.2 (not_parenComma_of_isBlank h)

theorem rd_plain_of_notDelim {b : UInt8} (h : isDelim b = false) : RdPlain b :=
  rd_plain_iff.2 (not_parenComma_of_not_delim h)

theorem rd_plain_of_caseVariant {kw k : Str} (hv : CaseVariant kw k) (hk : ∀ b ∈ kw, RdPlain b) : ∀ b ∈ k, RdPlain b :=
  fun b hb => rd_plain_iff.2 (not_parenComma_of_upper
    (rd_plain_iff.1 (hk _ (by rw [← hv]; exact List.mem_map_of_mem hb))))

/-- scanning `t` at any depth `≥ lo` cuts nothing and comes back to the same depth -/
def DepthScan (lo : Int) (t : Str) : Prop :=
  ∀ d : Int, lo ≤ d → ∀ (s rest : Str) (i start : Nat) (r : List Str),
    sgcLoop s (t ++ rest) i d start r = sgcLoop s rest (i + t.length) d start r

theorem rd_scan_nil (lo : Int) : DepthScan lo [] := by
  intro d _ s rest i start r; simp

theorem rd_scan_mono {lo lo' : Int} {t : Str} (h : lo ≤ lo') (hs : DepthScan lo t) : DepthScan lo' t :=
  fun d hd => hs d (Int.le_trans h hd)

theorem rd_scan_append {lo : Int} {x y : Str} (hx : DepthScan lo x) (hy : DepthScan lo y) : DepthScan lo (x ++ y) := by
  intro d hd s rest i start r
  rw [List.append_assoc, hx d hd, hy d hd, List.length_append, Nat.add_assoc]

theorem rd_scan_plain {lo : Int} {t : Str} (h : ∀ b ∈ t, RdPlain b) : DepthScan lo t := by
  induction t with
  | nil => exact rd_scan_nil lo
  | cons b t ih =>
    intro d hd s rest i start r
    have hb := h b (by simp)
    have := ih (fun c hc => h c (by simp [hc])) d hd s rest (i + 1) start r
    simp only [List.cons_append, sgcLoop, beq_iff_eq, hb.1, hb.2.1, hb.2.2, if_false, List.length_cons]
    rw [this]; congr 1; omega

theorem rd_scan_comma {lo : Int} (h : 1 ≤ lo) : DepthScan lo [cComma] := by
  intro d hd s rest i start r
  have hd0 : (d == 0) = false := by simp; omega
  have h1 : (cComma == cLP) = false := by decide
  have h2 : (cComma == cRP) = false := by decide
  simp [sgcLoop, hd0, h1, h2]

theorem rd_scan_bracket {lo : Int} {x : Str} (hx : DepthScan (lo + 1) x) : DepthScan lo (cLP :: (x ++ [cRP])) := by
  intro d hd s rest i start r
  have h2 : (cRP == cLP) = false := by decide
  simp only [List.cons_append, sgcLoop, beq_self_eq_true, if_true, List.append_assoc]
  rw [hx (d + 1) (by omega)]
  simp only [List.nil_append, sgcLoop, h2, beq_self_eq_true, if_true, List.length_cons, List.length_append,
    List.length_nil]
  rw [show d + 1 - 1 = d by omega]
  simp only [Bool.false_eq_true, if_false]
  congr 1; omega

theorem rd_scan_sepJoin {lo : Int} (h : 1 ≤ lo) {ps : List Str} {body : Str} (hj : SepJoin ps body)
    (hp : ∀ p ∈ ps, DepthScan lo p) : DepthScan lo body := by
  induction hj with
  | one p => exact hp p (by simp)
  | cons p a b ps t ha hb _ ih =>
    have e : p ++ a ++ cComma :: (b ++ t) = p ++ (a ++ ([cComma] ++ (b ++ t))) := by simp
    rw [e]
    refine rd_scan_append (hp p (by simp)) (rd_scan_append (rd_scan_plain fun c hc => rd_plain_of_blank (ha c hc))
      (rd_scan_append (rd_scan_comma h) (rd_scan_append (rd_scan_plain fun c hc => rd_plain_of_blank (hb c hc)) (ih fun q hq => hp q (by simp [hq])))))

theorem rd_scan_commaSep {lo : Int} (h : 1 ≤ lo) {ps : List Str} (hp : ∀ p ∈ ps, DepthScan lo p) : DepthScan lo (commaSep ps) := by
  cases ps with
  | nil => exact rd_scan_nil lo
  | cons p ps => exact rd_scan_sepJoin h (sepJoin_commaSep (by simp)) hp

theorem rd_scan_bracketed {lo : Int} {a b c body : Str} (ha : AllBlank a) (hb : AllBlank b) (hc : AllBlank c)
    (h : DepthScan (lo + 1) body) : DepthScan lo (bracketed a b c body) := by
  unfold bracketed
  refine rd_scan_append (rd_scan_plain fun x hx => rd_plain_of_blank (ha x hx)) ?_
  rw [show b ++ body ++ c ++ [cRP] = (b ++ (body ++ c)) ++ [cRP] by simp]
  exact rd_scan_bracket (rd_scan_append (rd_scan_plain fun x hx => rd_plain_of_blank (hb x hx))
    (rd_scan_append h (rd_scan_plain fun x hx => rd_plain_of_blank (hc x hx))))

theorem rd_scan_kwBracketed {lo : Int} {kw body t : Str} (hk : ∀ b ∈ kw, RdPlain b) (h : KwBracketed kw body t)
    (hb : DepthScan (lo + 1) body) : DepthScan lo t := by
  obtain ⟨k, a, b, c, hv, ha, hb', hc, rfl⟩ := h
  exact rd_scan_append (rd_scan_plain (rd_plain_of_caseVariant hv hk)) (rd_scan_bracketed ha hb' hc hb)

section
variable (fmtF : UInt64 → Str)

/-- the two printed numbers of a point contain no byte the splitter looks at -/
def RdCleanPt (p : P) : Prop := (∀ b ∈ fmtF p.x, RdPlain b) ∧ (∀ b ∈ fmtF p.y, RdPlain b)

theorem rd_scan_wCoord {lo : Int} {p : P} (h : RdCleanPt fmtF p) : DepthScan lo (wCoord fmtF p) := by
  apply rd_scan_plain
  intro b hb
  simp only [wCoord, List.mem_append, List.mem_cons] at hb
  rcases hb with hb | rfl | hb
  · exact h.1 b hb
  · unfold RdPlain; decide
  · exact h.2 b hb

/-! `rd_scan_wLineString`, `rd_scan_wRings` (over `rd_scan_commaSep`) and `rd_kw_plain` below are about the plain text
    `Marshal` writes; neither the scan of spellings, `rd_scan_spelledCore`, nor anything else passes through them. -/

theorem rd_scan_wLineString {lo : Int} (hlo : 0 ≤ lo) {ps : List P} (h : ∀ p ∈ ps, RdCleanPt fmtF p) :
    DepthScan lo (wLineString fmtF ps) := by
  unfold wLineString
  refine rd_scan_bracket (rd_scan_commaSep (by omega) ?_)
  intro q hq
  obtain ⟨p, hp, rfl⟩ := List.mem_map.1 hq
  exact rd_scan_wCoord fmtF (h p hp)

theorem rd_scan_wRings {lo : Int} (hlo : 0 ≤ lo) {rs : List (List P)} (h : ∀ r ∈ rs, ∀ p ∈ r, RdCleanPt fmtF p) :
    DepthScan lo (wRings fmtF rs) := by
  unfold wRings
  refine rd_scan_bracket (rd_scan_commaSep (by omega) ?_)
  intro q hq
  obtain ⟨r, hr, rfl⟩ := List.mem_map.1 hq
  exact rd_scan_wLineString fmtF (by omega) (h r hr)

end

/-- lets `decide` evaluate `rd_kw_plain` -/
instance rd_decPlain (b : UInt8) : Decidable (RdPlain b) := by unfold RdPlain; infer_instance

theorem rd_kw_plain :
    (∀ b ∈ kwPoint, RdPlain b) ∧ (∀ b ∈ kwMultiPoint, RdPlain b) ∧ (∀ b ∈ kwLineString, RdPlain b) ∧
    (∀ b ∈ kwMultiLineString, RdPlain b) ∧ (∀ b ∈ kwPolygon, RdPlain b) ∧ (∀ b ∈ kwMultiPolygon, RdPlain b) ∧
    (∀ b ∈ kwCollection, RdPlain b) ∧
    (∀ b ∈ kwMultiPoint ++ sEmpty, RdPlain b) ∧ (∀ b ∈ kwLineString ++ sEmpty, RdPlain b) ∧
    (∀ b ∈ kwMultiLineString ++ sEmpty, RdPlain b) ∧ (∀ b ∈ kwPolygon ++ sEmpty, RdPlain b) ∧
    (∀ b ∈ kwMultiPolygon ++ sEmpty, RdPlain b) ∧ (∀ b ∈ kwCollection ++ sEmpty, RdPlain b) := by
  decide

section
variable (fmtF : UInt64 → Str)

theorem rd_scan_of_body {g : G} {t : Str} (h : SpelledCore fmtF g t)
    (hb : ∀ body, SpelledBody fmtF g body → DepthScan 1 body) : DepthScan 0 t := by
  have hk : ∀ b ∈ kwOf g ++ sEmpty, RdPlain b := fun b hb => rd_plain_iff.2 (kwOf_no_parenComma g b hb)
  rw [spelledCore_iff] at h
  split at h
  · exact rd_scan_plain (rd_plain_of_caseVariant h hk)
  · obtain ⟨body, hbody, hkb⟩ := h
    exact rd_scan_kwBracketed (fun b hb => hk b (List.mem_append_left _ hb)) hkb (hb body hbody)

/-- scanning at depth 1 and deeper -/
theorem scanRules : SpellRules fmtF (fun Q => ∀ t, Q t → DepthScan 1 t) (fun x => ∀ b ∈ fmtF x, RdPlain b) where
  congr h hq t ht := hq t ((h t).2 ht)
  pt _ hp _ ht := ht ▸ rd_scan_wCoord fmtF hp
  br hq _ := fun ⟨_, _, body, hb, hc, hqb, e⟩ =>
    e ▸ rd_scan_bracketed allBlank_nil hb hc (rd_scan_mono (by omega) (hq body hqb))
  joined _ h _ := fun ⟨_, hf, hj⟩ => rd_scan_sepJoin (Int.le_refl 1) hj fun q hq =>
    let ⟨a, ha, hr⟩ := hf.mem_right q hq; h a ha q hr
  core _ hb _ ht := rd_scan_mono (by omega) (rd_scan_of_body fmtF ht hb)

theorem rd_scan_spelledCore {g : G} {t : Str} (h : SpelledCore fmtF g t)
    (hc : ∀ x ∈ coords g, ∀ b ∈ fmtF x, RdPlain b) (he : noEmptyMemberDeep g = true) : DepthScan 0 t :=
  rd_scan_of_body fmtF h ((scanRules fmtF).body g hc he)
end

/-- `p` is `t` with blanks around it -/
def RdPadOf (t p : Str) : Prop := ∃ x y, AllBlank x ∧ AllBlank y ∧ p = x ++ t ++ y

/-- the splitter on members joined by re-spelled commas: exactly the members, each with the blanks
    next to its commas -/
theorem rd_sgcLoop_sepJoin {ts : List Str} {body : Str} (hj : SepJoin ts body) (hs : ∀ t ∈ ts, DepthScan 0 t) :
    ∀ (s s0 pre : Str) (r : List Str) (i start : Nat), AllBlank pre → s = s0 ++ (pre ++ body) →
      i = s0.length + pre.length → start = s0.length →
      ∃ pieces, sgcLoop s body i 0 start r = .ok (r ++ pieces) ∧ Forall2 RdPadOf ts pieces := by
  induction hj with
  | one p =>
    intro s s0 pre r i start hpre es ei est
    refine ⟨[pre ++ p], ?_, .cons ⟨pre, [], hpre, allBlank_nil, (List.append_nil _).symm⟩ .nil⟩
    have := hs p (by simp) 0 (Int.le_refl _) s [] i start r
    rw [List.append_nil] at this
    rw [this]
    simp only [sgcLoop]
    rw [es, est, sliceFrom_append]
  | cons p a b ps t ha hb _ ih =>
    intro s s0 pre r i start hpre es ei est
    have hp := hs p (by simp) 0 (Int.le_refl _) s (a ++ cComma :: (b ++ t)) i start r
    have ha' := rd_scan_plain (lo := 0) (fun c hc => rd_plain_of_blank (ha c hc)) 0 (Int.le_refl _) s (cComma :: (b ++ t))
      (i + p.length) start r
    have hb' := rd_scan_plain (lo := 0) (fun c hc => rd_plain_of_blank (hb c hc)) 0 (Int.le_refl _) s t
      (i + p.length + a.length + 1) (i + p.length + a.length + 1) (r ++ [pre ++ p ++ a])
    have hsl : slice s start (i + p.length + a.length) = .ok (pre ++ p ++ a) := by
      rw [es, est, ei]
      have := slice_append_mid s0 (pre ++ p ++ a) (cComma :: (b ++ t))
      simp only [List.length_append, List.append_assoc] at this ⊢
      rw [← this]; congr 1; omega
    obtain ⟨pieces, h1, h2⟩ := ih (fun q hq => hs q (by simp [hq])) s (s0 ++ pre ++ p ++ a ++ [cComma]) b
      (r ++ [pre ++ p ++ a]) (i + p.length + a.length + 1 + b.length) (i + p.length + a.length + 1) hb
      (by rw [es]; simp) (by rw [ei]; simp; omega) (by rw [ei]; simp; omega)
    refine ⟨(pre ++ p ++ a) :: pieces, ?_, .cons ⟨pre, a, hpre, ha, rfl⟩ h2⟩
    have h3 : (cComma == cLP) = false := by decide
    have h4 : (cComma == cRP) = false := by decide
    rw [show p ++ a ++ cComma :: (b ++ t) = p ++ (a ++ cComma :: (b ++ t)) by simp, hp, ha']
    simp only [sgcLoop, h3, h4, Bool.false_eq_true, if_false, beq_self_eq_true, if_true, hsl]
    rw [hb', h1]
    simp

section
variable (fmtF : UInt64 → Str) (parseF : Str → Option UInt64)

theorem unmarshalF_spelled_dispatch {g : G} {t pre post : Str} (h : SpelledCore fmtF g t)
    (hpre : AllBlank pre) (hpost : AllBlank post) (f : Nat) :
    unmarshalF parseF (f + 1) (pre ++ t ++ post) = branchAt parseF (unmarshalF parseF f) (kindIdx g) t :=
  let ⟨h1, h2⟩ := spelledCore_kw fmtF h hpre hpost
  unmarshalF_of_trim parseF f (kindIdx_lt g) h1 h2

/-- the six non-collection parsers on a spelling of the eight kinds they serve (ring and bound are spelled, and
    parsed, as the one-ring polygon) -/
theorem branchAt_spelled (rec : Str → R G) {g : G} {t : Str} (hg : isCollection g = false)
    (h : SpelledCore fmtF g t) (he : noEmptyMember g = true) (hc : GoodCoords fmtF parseF g) :
    branchAt parseF rec (kindIdx g) t = .ok (canon g) := by
  have hpoly : ∀ rs, SpelledCore fmtF (.polygon rs) t → noEmptyMember (.polygon rs) = true →
      (∀ x ∈ ringsCoords rs, FloatText fmtF parseF x) → branchAt parseF rec 4 t = .ok (.polygon rs) :=
    fun rs h he hc => congrArg (Res.map Geom.polygon) (unmarshalPolygon_spelled fmtF parseF h he hc)
  cases g with
  | point p => exact congrArg (Res.map Geom.point) (unmarshalPoint_spelled fmtF parseF h hc)
  | multiPoint ps => exact congrArg (Res.map Geom.multiPoint) (unmarshalMultiPoint_spelled fmtF parseF h hc)
  | lineString ps => exact congrArg (Res.map Geom.lineString) (unmarshalLineString_spelled fmtF parseF h hc)
  | multiLineString ls =>
    exact congrArg (Res.map Geom.multiLineString) (unmarshalMultiLineString_spelled fmtF parseF h he hc)
  | polygon rs => exact hpoly rs h he hc
  | multiPolygon ps => exact congrArg (Res.map Geom.multiPolygon) (unmarshalMultiPolygon_spelled fmtF parseF h he hc)
  | ring r | bound a b =>
    exact hpoly _ ((spelledCore_asPolygon fmtF _ t).2 h) ((noEmptyMember_asPolygon _).trans he)
      fun x hx => hc x (coords_asPolygon hx)
  | collection gs => cases hg

theorem collectMembers_padded (rec : Str → R G) : ∀ (gs : List G) (ts pieces : List Str) (acc : List G),
    Forall2 (SpelledCore fmtF) gs ts → Forall2 RdPadOf ts pieces →
    (∀ g ∈ gs, ∀ t p, SpelledCore fmtF g t → RdPadOf t p → p ∈ pieces → rec p = .ok (canon g)) →
    collectMembers rec pieces acc = .ok (acc ++ canon.canonList gs) := by
  intro gs
  induction gs with
  | nil =>
    intro ts pieces acc h1 h2 _
    cases h1; cases h2
    simp [collectMembers, canon.canonList]
  | cons g gs ih =>
    intro ts pieces acc h1 h2 hrec
    rcases h1 with _ | ⟨hgt, h1'⟩
    rcases h2 with _ | ⟨hpad, h2'⟩
    rename_i t ts' p ps'
    have hne : p.length ≠ 0 := by
      obtain ⟨x, y, -, -, rfl⟩ := hpad
      have := (spelledCore_goodEnds fmtF hgt).1
      simp only [List.length_append]; omega
    simp only [collectMembers]
    rw [if_neg hne, hrec g (by simp) t p hgt hpad (by simp)]
    simp only
    rw [ih ts' ps' _ h1' h2' fun g' hg' t' p' ht' hp' hm => hrec g' (by simp [hg']) t' p' ht' hp' (by simp [hm])]
    simp [canon.canonList]

/-- main induction: a spelled text, padded with blanks, parses to the canonical value with any
    sufficient recursion budget -/
theorem unmarshalF_spelledCore (g : G) : ∀ t, SpelledCore fmtF g t → noEmptyMemberDeep g = true →
    GoodCoords fmtF parseF g → ∀ pre post, AllBlank pre → AllBlank post →
    ∀ fuel, (pre ++ t ++ post).length < fuel → unmarshalF parseF fuel (pre ++ t ++ post) = .ok (canon g) := by
  induction g using Geom.ind with
  | collection gs ih =>
    intro t h he hc pre post hpre hpost fuel hlen
    obtain ⟨f, rfl⟩ : ∃ f, fuel = f + 1 := ⟨fuel - 1, by omega⟩
    rw [unmarshalF_spelled_dispatch fmtF parseF h hpre hpost f]
    show (unmarshalCollection (unmarshalF parseF f) t).map Geom.collection = _
    cases gs with
    | nil =>
      simp only [SpelledCore] at h
      rw [unmarshalCollection_eq, if_pos (equalFold_caseVariant h)]
      rfl
    | cons g gs =>
      obtain ⟨body, hb, hkb⟩ : KwBr kwCollection (SpelledBody fmtF (.collection (g :: gs))) t :=
        (spelledCore_iff fmtF).1 h
      rw [unmarshalCollection_kwBracketed _ hkb (spelledBody_goodEnds hc he hb), pMembers]
      obtain ⟨ts, hl, hj⟩ := hb
      have hf := (spelledList_iff fmtF _ _).1 hl
      -- `noEmptyMemberDeep` of a collection is `allDeep` of its members
      have he : noEmptyMemberDeep.allDeep (g :: gs) = true := he
      have hscan : ∀ q ∈ ts, DepthScan 0 q := fun q hq =>
        let ⟨g', hg', hs⟩ := hf.mem_right q hq
        rd_scan_spelledCore fmtF hs (fun x hx b hb => rd_plain_of_notDelim ((hc x (mem_coordsList hg' hx)).clean b hb))
          (allDeep_mem he g' hg')
      obtain ⟨pieces, hp1, hp2⟩ := rd_sgcLoop_sepJoin hj hscan body [] [] [] 0 0 allBlank_nil (by simp) rfl rfl
      -- the members are sub-slices of the body, hence shorter than the text
      have hlenp : ∀ m ∈ pieces, m.length < f := by
        intro m hm
        obtain ⟨ms, h1, h2, -⟩ := sgcLoop_spec body body 0 0 0 [] (Nat.zero_add _) (Nat.le_refl _)
        rw [hp1] at h1
        cases h1
        have := h2 m hm
        have := kwBracketed_length hkb
        simp only [List.length_append] at hlen
        omega
      rw [hp1]
      show (collectMembers (unmarshalF parseF f) pieces []).map Geom.collection = _
      rw [collectMembers_padded fmtF _ (g :: gs) ts pieces [] hf hp2 fun g' hg' t' p ht' ⟨x, y, hx, hy, e⟩ hm =>
        e ▸ ih g' hg' t' ht' (allDeep_mem he g' hg') (fun z hz => hc z (mem_coordsList hg' hz)) x y hx hy f
          (e ▸ hlenp p hm)]
      simp [canon, Res.map]
  | _ =>
    intro t h he hc pre post hpre hpost fuel hlen
    obtain ⟨f, rfl⟩ : ∃ f, fuel = f + 1 := ⟨fuel - 1, by omega⟩
    rw [unmarshalF_spelled_dispatch fmtF parseF h hpre hpost f]
    exact branchAt_spelled fmtF parseF _ rfl h (by simpa only [noEmptyMemberDeep] using he) hc

end

end Orb.WKT
