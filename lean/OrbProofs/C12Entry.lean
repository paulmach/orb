/-
  helpers.go and Orb/SimplifyExt.lean: `runSimplify` in front of a good simplifier; every wrapper as its member
  loop (`resMapM` / `resFilterM`) followed by a pure function of the results (`keepRings`, `keepPolys`, `wrapO`,
  `wrapColl`) under `Res.map`, one equation each, whence totality of every wrapper and of the generic entry point
  for a simplifier that is total on lines of more than 2 points; the vocabulary of the exact statements
  (`ValidOut`, `RunRel`); and `visLoopP` of Orb/SimplifyExt.lean against the model's loop.
-/
import OrbProofs.C12Basic
import OrbProofs.GeomInd
import OrbProofs.C20Dispatch
import Orb.SimplifyExt
import Mathlib.Data.List.Forall2

namespace Orb.Simplify
open Orb

section helpers
variable {α : Type}

/-- `polygon`'s rule on the simplified rings: the first ring always stays, every other ring stays iff it
    has more than 2 points -/
def keepRings {α : Type} (rs : List (List (Pt α))) : List (List (Pt α)) :=
  match rs with
  | [] => []
  | r0 :: rest => r0 :: rest.filter (fun r => decide (2 < r.length))

/-- `multiPolygon`'s rule on the simplified polygons: a polygon stays iff it has a first ring with more
    than 2 points -/
def keepPolys {α : Type} (ps : List (List (List (Pt α)))) : List (List (List (Pt α))) :=
  ps.filter fun p =>
    match p with
    | [] => false
    | r0 :: _ => decide (2 < r0.length)

theorem mem_keepRings_tail (r0 r : List (Pt α)) (rest : List (List (Pt α))) :
    r ∈ (keepRings (r0 :: rest)).tail ↔ r ∈ rest ∧ 2 < r.length := by
  simp [keepRings, List.mem_filter]

/-- the type switch's "empty ⇒ nil interface" rule -/
def wrapO {α β : Type} (mk : List β → Geom α) (l : List β) : OGeom α :=
  if l.length = 0 then .nil else .geom (mk l)

/-- `collection` + the type switch: no member left ⇒ nil interface -/
def wrapColl {α : Type} (o : List (OGeom α)) : OGeom α := if o.length = 0 then .nil else .coll o

/-- What the generic `Simplify` returns for a value, member by member.  `L area inp out` is the relation
    between a member vertex list and its result (`area = true` for rings); every input ring / line has
    a result, and WHICH of them appear in the output is fixed by `keepRings` / `keepPolys`; EVERY member
    `i[k]` of a collection has a result `l[k]`, and the output holds exactly the non-nil ones, in order. -/
inductive ValidOut {α : Type} (L : Bool → List (Pt α) → List (Pt α) → Prop) : Geom α → OGeom α → Prop
  | point (p : Pt α) : ValidOut L (.point p) (.geom (.point p))
  | multiPoint (ps : List (Pt α)) : ValidOut L (.multiPoint ps) (.geom (.multiPoint ps))
  | bound (a b : Pt α) : ValidOut L (.bound a b) (.geom (.bound a b))
  | lineString (i o : List (Pt α)) : L false i o → ValidOut L (.lineString i) (wrapO .lineString o)
  | ring (i o : List (Pt α)) : L true i o → ValidOut L (.ring i) (wrapO .ring o)
  | multiLineString (i o : List (List (Pt α))) : List.Forall₂ (L false) i o →
      ValidOut L (.multiLineString i) (wrapO .multiLineString o)
  | polygon (i rs : List (List (Pt α))) : List.Forall₂ (L true) i rs →
      ValidOut L (.polygon i) (wrapO .polygon (keepRings rs))
  | multiPolygon (i pss : List (List (List (Pt α)))) : List.Forall₂ (List.Forall₂ (L true)) i pss →
      ValidOut L (.multiPolygon i) (wrapO .multiPolygon (keepPolys (pss.map keepRings)))
  | collection (i : List (Geom α)) (l : List (OGeom α)) : i.length = l.length →
      (∀ p ∈ i.zip l, ValidOut L p.1 p.2) →
      ValidOut L (.collection i) (wrapColl (l.filter fun g => !g.isNil))

/-- the member relation of a simplifier: the result of `runSimplify`, which is a valid simplification -/
def RunRel {α : Type} (s : Simplifier α) (area : Bool) (inp out : List (Pt α)) : Prop :=
  runSimplify s inp area = .ok out ∧ ValidLine inp out

theorem OGeom.ind {α : Type} {motive : OGeom α → Prop}
    (h1 : motive .nil) (h2 : ∀ g, motive (.geom g))
    (hc : ∀ gs, (∀ g ∈ gs, motive g) → motive (.coll gs)) : ∀ g, motive g := by
  intro g
  refine OGeom.rec (motive_1 := motive) (motive_2 := fun gs => ∀ g ∈ gs, motive g)
    h1 h2 hc ?_ ?_ g
  · intro g hg; cases hg
  · intro head tail hh ht g hg
    rcases List.mem_cons.1 hg with rfl | hg
    · exact hh
    · exact ht g hg

theorem runSimplify_good (s : Simplifier α) (hs : GoodS s) (ls out : List (Pt α)) (area : Bool)
    (h : runSimplify s ls area = .ok out) : ValidLine ls out := by
  unfold runSimplify at h
  split at h
  · injection h with h; subst h; exact ValidLine.refl _
  · exact hs ls area out h

theorem runSimplify_cases (s : Simplifier α) (ls out : List (Pt α)) (area : Bool)
    (h : runSimplify s ls area = .ok out) :
    (ls.length ≤ 2 ∧ out = ls) ∨ (2 < ls.length ∧ s ls area = .ok out) := by
  unfold runSimplify at h
  split at h
  · rename_i hl
    injection h with h
    exact Or.inl ⟨hl, h.symm⟩
  · rename_i hl
    exact Or.inr ⟨by omega, h⟩

theorem runSimplify_cases₂ (s₁ s₂ : Simplifier α) (ls o₁ o₂ : List (Pt α)) (area : Bool)
    (h₁ : runSimplify s₁ ls area = .ok o₁) (h₂ : runSimplify s₂ ls area = .ok o₂) :
    (o₁ = ls ∧ o₂ = ls) ∨ (s₁ ls area = .ok o₁ ∧ s₂ ls area = .ok o₂) := by
  unfold runSimplify at h₁ h₂
  split at h₁
  · rw [if_pos ‹_›] at h₂; cases h₁; cases h₂; exact Or.inl ⟨rfl, rfl⟩
  · rw [if_neg ‹_›] at h₂; exact Or.inr ⟨h₁, h₂⟩

section loops
-- `C20M.wrapColl` (smartclip's, on `Option`) is another function; `wrapColl` below is this file's, told apart by type
open C20M

theorem multiLineString_eq (s : Simplifier α) (mls : List (List (Pt α))) :
    multiLineString s mls = resMapM (fun l => runSimplify s l false) mls := by
  induction mls with
  | nil => rfl
  | cons l rest ih =>
    rw [multiLineString, resMapM, ih]
    cases runSimplify s l false with
    | ok l' => cases resMapM (fun l => runSimplify s l false) rest <;> rfl
    | err e => rfl
    | panic w => rfl

theorem polygonFrom_succ_eq (s : Simplifier α) (p : List (List (Pt α))) (i : Nat) :
    polygonFrom s (i + 1) p = resFilterM (fun r => runSimplify s r true) (fun r => decide (2 < r.length)) p := by
  induction p generalizing i with
  | nil => rfl
  | cons r rest ih =>
    rw [polygonFrom, resFilterM_cons, ih]
    cases runSimplify s r true with
    | ok r' =>
      cases resFilterM (fun r => runSimplify s r true) (fun r => decide (2 < r.length)) rest with
      | ok rs => by_cases h : 2 < r'.length <;> simp [h]
      | err e => rfl
      | panic w => rfl
    | err e => rfl
    | panic w => rfl

theorem polygon_eq (s : Simplifier α) (p : List (List (Pt α))) :
    polygon s p = (resMapM (fun r => runSimplify s r true) p).map keepRings := by
  cases p with
  | nil => rfl
  | cons r rest =>
    rw [polygon, polygonFrom, polygonFrom_succ_eq, resFilterM, resMapM]
    cases runSimplify s r true with
    | ok r' => cases resMapM (fun r => runSimplify s r true) rest <;> rfl
    | err e => rfl
    | panic w => rfl

theorem multiPolygon_eq (s : Simplifier α) (mp : List (List (List (Pt α)))) :
    multiPolygon s mp = (resMapM (polygon s) mp).map keepPolys := by
  induction mp with
  | nil => rfl
  | cons p rest ih =>
    rw [multiPolygon, ih, resMapM]
    cases polygon s p with
    | ok p' =>
      cases resMapM (polygon s) rest with
      | ok ps =>
        rcases p' with _ | ⟨r0, tl⟩
        · rfl
        · by_cases h : 2 < r0.length <;> simp [Res.map, keepPolys, h]
      | err e => rfl
      | panic w => rfl
    | err e => rfl
    | panic w => rfl

theorem wrapLen_eq_map {β : Type} (mk : List β → Geom α) (r : R (List β)) : wrapLen mk r = r.map (wrapO mk) := by
  cases r with
  | ok l => simp only [wrapLen, Res.map, wrapO]; split <;> rfl
  | err e => rfl
  | panic w => rfl

theorem simplifyG_collection (s : Simplifier α) (gs : List (Geom α)) :
    simplifyG s (.collection gs) = (resFilterM (simplifyG s) (fun g => !g.isNil) gs).map wrapColl := by
  rw [simplifyG, simplify_go_eq]
  cases resFilterM (simplifyG s) (fun g => !g.isNil) gs with
  | ok l => simp only [Res.map, wrapColl]; split <;> rfl
  | err e => rfl
  | panic w => rfl

theorem simplifyO_go_eq (s : Simplifier α) (gs : List (OGeom α)) :
    simplifyO.go s gs = C20M.resFilterM (simplifyO s) (fun g => !g.isNil) gs := by
  induction gs with
  | nil => rfl
  | cons g rest ih =>
    rw [simplifyO.go, C20M.resFilterM_cons, ih]
    cases simplifyO s g with
    | ok g' =>
      cases C20M.resFilterM (simplifyO s) (fun g => !g.isNil) rest with
      | ok l => cases hn : g'.isNil <;> simp [hn]
      | err e => rfl
      | panic w => rfl
    | err e => rfl
    | panic w => rfl

theorem simplifyO_go_geoms (s : Simplifier α) (gs : List (Geom α)) :
    simplifyO.go s (gs.map .geom) = simplifyG.go s gs := by
  rw [simplifyO_go_eq, C20M.simplify_go_eq, C20M.resFilterM, C20M.resFilterM, C20M.resMapM_map]
  simp only [simplifyO]

theorem simplifyO_coll (s : Simplifier α) (gs : List (OGeom α)) :
    simplifyO s (.coll gs) = (C20M.resFilterM (simplifyO s) (fun g => !g.isNil) gs).map wrapColl := by
  rw [simplifyO, simplifyO_go_eq]
  cases C20M.resFilterM (simplifyO s) (fun g => !g.isNil) gs with
  | ok l => simp only [Res.map, wrapColl]; split <;> rfl
  | err e => rfl
  | panic w => rfl

/-- `mvt.Layer.Simplify`: a feature keeps what else it carries and gets the simplified geometry; it stays
    iff that is not a nil interface -/
theorem layerSimplify_eq {β : Type} (s : Simplifier α) (fs : List (β × OGeom α)) :
    layerSimplify s fs =
      C20M.resFilterM (fun f => (simplifyO s f.2).map (Prod.mk f.1)) (fun f => !f.2.isNil) fs := by
  induction fs with
  | nil => rfl
  | cons f rest ih =>
    obtain ⟨b, g⟩ := f
    rw [layerSimplify, C20M.resFilterM_cons, ih]
    generalize C20M.resFilterM _ _ rest = r
    cases simplifyO s g with
    | ok g' => cases r <;> cases g' <;> simp [Res.map, OGeom.isNil]
    | err e => rfl
    | panic w => rfl

theorem layersSimplify_eq {β : Type} (s : Simplifier α) (ls : List (List (β × OGeom α))) :
    layersSimplify s ls = C20M.resMapM (layerSimplify s) ls := by
  induction ls with
  | nil => rfl
  | cons l rest ih =>
    rw [layersSimplify, C20M.resMapM, ih]
    cases layerSimplify s l with
    | ok l' => cases C20M.resMapM (layerSimplify s) rest <;> rfl
    | err e => rfl
    | panic w => rfl

end loops

section total
variable (s : Simplifier α) (hs : ∀ ls area, 2 < ls.length → (s ls area).isOk = true)
include hs

theorem runSimplify_isOk (ls : List (Pt α)) (area : Bool) : (runSimplify s ls area).isOk = true := by
  unfold runSimplify
  split
  · rfl
  · exact hs ls area (by omega)

theorem multiLineString_isOk (mls : List (List (Pt α))) : (multiLineString s mls).isOk = true := by
  rw [multiLineString_eq]
  exact C20M.resMapM_isOk _ _ fun l _ => runSimplify_isOk s hs l false

theorem polygon_isOk (p : List (List (Pt α))) : (polygon s p).isOk = true := by
  rw [polygon_eq, Res.isOk_map]
  exact C20M.resMapM_isOk _ _ fun r _ => runSimplify_isOk s hs r true

theorem multiPolygon_isOk (mp : List (List (List (Pt α)))) : (multiPolygon s mp).isOk = true := by
  rw [multiPolygon_eq, Res.isOk_map]
  exact C20M.resMapM_isOk _ _ fun p _ => polygon_isOk s hs p

theorem simplifyG_isOk : ∀ g : Geom α, (simplifyG s g).isOk = true := by
  apply Geom.ind
  · intro p; simp only [simplifyG]; rfl
  · intro ps; simp only [simplifyG]; rfl
  · intro ls; rw [simplifyG, wrapLen_eq_map, Res.isOk_map]; exact runSimplify_isOk s hs ls false
  · intro mls; rw [simplifyG, wrapLen_eq_map, Res.isOk_map]; exact multiLineString_isOk s hs mls
  · intro r; rw [simplifyG, wrapLen_eq_map, Res.isOk_map]; exact runSimplify_isOk s hs r true
  · intro p; rw [simplifyG, wrapLen_eq_map, Res.isOk_map]; exact polygon_isOk s hs p
  · intro mp; rw [simplifyG, wrapLen_eq_map, Res.isOk_map]; exact multiPolygon_isOk s hs mp
  · intro a b; simp only [simplifyG]; rfl
  · intro gs ih
    rw [simplifyG_collection, Res.isOk_map]; exact C20M.resFilterM_isOk _ _ _ ih

end total

end helpers

section visP
variable {α : Type} [Sub α] [Mul α] [Neg α] [LT α] [LE α] [DecidableLT α] [DecidableLE α] [OfNat α 0]

/-- wherever the model's loop does not panic, the loop that skips a popped end item computes the same -/
theorem visLoopP_eq (ls : List (Pt α)) (thr2 : Option α) (k : Nat) :
    ∀ (fuel : Nat) (st : VS α) (r : Nat) (res : R (VS α)), visLoop ls thr2 k fuel st r = res →
      (∀ w, res ≠ .panic w) → visLoopP aMax ls thr2 k fuel st r = res := by
  intro fuel
  induction fuel with
  | zero => intro st r res h _; rw [← h]; rfl
  | succ n ih =>
    intro st r res h hnp
    rw [visLoop] at h
    rw [visLoopP]
    generalize pop st = q at h ⊢
    obtain ⟨cur, st1⟩ := q
    by_cases h1 : st.heap.size = 0
    · rw [if_pos h1] at h ⊢; exact h
    · rw [if_neg h1] at h ⊢
      change (if _ then _ else _) = _ at h
      show (if _ then _ else _) = _
      by_cases h2 : (aLt thr2 (st1.get cur).area || decide (ls.length ≤ k + r)) = true
      · rw [if_pos h2] at h ⊢; exact h
      · rw [if_neg h2] at h ⊢
        split at h
        · exact absurd h.symm (hnp _)
        · exact absurd h.symm (hnp _)
        · rename_i hp hn
          rw [hp, hn] at h ⊢
          exact ih _ _ _ h hnp

end visP

end Orb.Simplify
