/-
  C11 — THE SPECIFICATION the theorems of C11.lean are stated in: what a plain list of the stored pointers
  allows as an answer (`Spec`, a multiset reading), the cell invariant `Inv`, histories (`Trace`).  Then the
  tree itself: per update ONE statement saying what it does to `contents` and `Inv` (a removal: also to `nodes`).
-/
import Orb.Quadtree
import Mathlib.Algebra.Order.Field.Basic
import Mathlib.Data.List.Perm.Basic

namespace Orb.Quadtree
open Orb Orb.Core

section vocab
variable {α : Type} [Field α] [LinearOrder α] [IsStrictOrderedRing α]

/-- `p` lies in the closed cell `c` -/
def inCell (c : Cell α) (p : Pt α) : Prop := c.l ≤ p.x ∧ p.x ≤ c.r ∧ c.b ≤ p.y ∧ p.y ≤ c.t

/-- structural invariant: every stored value lies in the cell of its node (cells are derived
    from the tree bound by the same midpoint arithmetic the code uses) -/
def Inv : Tree α → Cell α → Prop
  | .nil, _ => True
  | .node v c0 c1 c2 c3, c =>
    (∀ p, v = some p → inCell c p.p) ∧ Inv c0 (c.sub 0) ∧ Inv c1 (c.sub 1) ∧ Inv c2 (c.sub 2) ∧ Inv c3 (c.sub 3)

def QInv (q : QT α) : Prop := Inv q.root (rootCell q.bound)

/-- the only assumption on the square root used to size the pruning box: an upper bound -/
def SqrtUp (sqrt : α → α) : Prop := ∀ x, 0 ≤ x → 0 ≤ sqrt x ∧ x ≤ sqrt x * sqrt x

/-- closed-box membership, written out with explicit inequalities (independent of the model's
    `Bound.contains`) -/
def inBox (b : Bound α) (p : Pt α) : Bool :=
  decide (b.lo.x ≤ p.x ∧ p.x ≤ b.hi.x ∧ b.lo.y ≤ p.y ∧ p.y ≤ b.hi.y)

/-- "strictly within the optional distance limit".  The property text does not say what a NEGATIVE
    limit means; the code squares the limit (`maxDistance[0] * maxDistance[0]`), so a limit `m` acts
    as `|m|` — that behaviour is what is specified here (`limit_neg`, `limit_is_absolute` in C11.lean). -/
def within (pt : Pt α) (maxDist : Option α) (x : Ptr α) : Bool :=
  match maxDist with
  | none => true
  | some m => decide (distSq x.p pt < m * m)

/-- operations of a history -/
inductive Op (α : Type) where
  | add (p : Ptr α)
  | remove (pt : Pt α) (eq : Ptr α → Bool)
  | matching (pt : Pt α) (f : Ptr α → Bool)
  | kNearest (pt : Pt α) (k : Nat) (f : Ptr α → Bool) (maxDist : Option α)
  | inBound (b : Bound α) (f : Ptr α → Bool)

/-- observable results -/
inductive Out (α : Type) where
  | flag (b : Bool)
  | ptr (p : Option (Ptr α))
  | ptrs (l : List (Ptr α))

/-- one step of the implementation model -/
def step (sqrt : α → α) (q : QT α) : Op α → QT α × Out α
  | .add p => let (q', ok) := add q p; (q', .flag ok)
  | .remove pt eq => let (q', ok) := remove sqrt q pt eq; (q', .flag ok)
  | .matching pt f => (q, .ptr (matching sqrt q pt f))
  | .kNearest pt k f md => (q, .ptrs (kNearest sqrt q pt k f md))
  | .inBound b f => (q, .ptrs (inBound q b f))

/-- THE SPECIFICATION: what a plain list `cs` of the stored pointers allows as the answer `out`
    and as the new contents `cs'` (a multiset: everything is up to permutation). -/
def Spec (qb : Bound α) (cs : List (Ptr α)) : Op α → Out α → List (Ptr α) → Prop
  | .add p, .flag ok, cs' =>
    (ok = inBox qb p.p) ∧ (if ok then cs'.Perm (p :: cs) else cs'.Perm cs)
  | .remove pt eq, .flag ok, cs' =>
    if ok then ∃ x, x ∈ cs ∧ eq x = true ∧ (∀ y ∈ cs, eq y = true → distSq x.p pt ≤ distSq y.p pt) ∧ cs.Perm (x :: cs')
    else (∀ y ∈ cs, eq y = false) ∧ cs'.Perm cs
  | .matching pt f, .ptr r, cs' =>
    cs'.Perm cs ∧
    (match r with
     | none => ∀ y ∈ cs, f y = false
     | some x => x ∈ cs ∧ f x = true ∧ ∀ y ∈ cs, f y = true → distSq x.p pt ≤ distSq y.p pt)
  | .kNearest pt k f md, .ptrs r, cs' =>
    cs'.Perm cs ∧
    ∃ rest, (r ++ rest).Perm (cs.filter fun x => f x && within pt md x) ∧
      r.length = min k (cs.filter fun x => f x && within pt md x).length ∧
      r.Pairwise (fun a b => distSq a.p pt ≤ distSq b.p pt) ∧
      ∀ x ∈ r, ∀ y ∈ rest, distSq x.p pt ≤ distSq y.p pt
  | .inBound b f, .ptrs r, cs' =>
    cs'.Perm cs ∧ r.Perm (cs.filter fun x => f x && inBox b x.p)
  | _, _, _ => False

/-- every step of a history meets the specification w.r.t. the tree's own contents -/
def Trace (sqrt : α → α) : QT α → List (Op α) → Prop
  | _, [] => True
  | q, op :: rest =>
    Spec q.bound (contents q.root) op (step sqrt q op).2 (contents (step sqrt q op).1.root) ∧
    Trace sqrt (step sqrt q op).1 rest

end vocab

set_option linter.unusedSectionVars false

variable {α : Type} [Field α] [LinearOrder α] [IsStrictOrderedRing α]

/-- the model's `Bound.contains` (the code's `Bound.Contains`: two negated disjunctions) is the closed
    box of the specification -/
theorem contains_eq_inBox (b : Bound α) (p : Pt α) : b.contains p = inBox b p := by
  unfold Bound.contains inBox
  split_ifs with h1 h2
  · exact (decide_eq_false fun h => h1.elim (not_lt.2 h.2.2.1) (not_lt.2 h.2.2.2)).symm
  · exact (decide_eq_false fun h => h2.elim (not_lt.2 h.1) (not_lt.2 h.2.1)).symm
  · simp only [not_or, not_lt] at h1 h2
    exact (decide_eq_true ⟨h2.1, h2.2, h1.1, h1.2⟩).symm

theorem inBox_iff_inCell (b : Bound α) (p : Pt α) : inBox b p = true ↔ inCell (rootCell b) p :=
  decide_eq_true_iff

theorem within_abs (pt : Pt α) (m : α) (x : Ptr α) : within pt (some |m|) x = within pt (some m) x := by
  simp [within, abs_mul_abs_self]

/-- a zero limit (and hence `-0`) admits nothing: squared distances are not negative -/
theorem within_zero (pt : Pt α) (x : Ptr α) : within pt (some 0) x = false := by
  simp only [within, mul_zero, decide_eq_false_iff_not, not_lt]
  exact add_nonneg (mul_self_nonneg _) (mul_self_nonneg _)

theorem childIndex_cases (cx cy : α) (p : Pt α) :
    (childIndex cx cy p = 0 ∧ cy < p.y ∧ p.x < cx) ∨ (childIndex cx cy p = 1 ∧ cy < p.y ∧ cx ≤ p.x) ∨
    (childIndex cx cy p = 2 ∧ p.y ≤ cy ∧ p.x < cx) ∨ (childIndex cx cy p = 3 ∧ p.y ≤ cy ∧ cx ≤ p.x) := by
  unfold childIndex
  rcases le_or_gt p.y cy with hy | hy <;> rcases le_or_gt cx p.x with hx | hx <;>
    simp [hy, hx, not_le.mpr, not_lt.mpr]

theorem le_mid_iff {a b : α} : a ≤ (a + b) / 2 ↔ (a + b) / 2 ≤ b := by
  rw [le_div_iff₀ zero_lt_two, div_le_iff₀ zero_lt_two, mul_two, mul_two, add_le_add_iff_left, add_le_add_iff_right]

theorem inCell_of_sub (c : Cell α) (i : Nat) (p : Pt α) (h : inCell (c.sub i) p) : inCell c p := by
  -- a sub-cell that holds a point has its midline between the cell's two sides
  obtain ⟨h1, h2, h3, h4⟩ := h
  unfold inCell
  rcases i with _ | _ | _ | i <;> simp only [Cell.sub, Cell.cx, Cell.cy] at h1 h2 h3 h4
  · exact ⟨h1, h2.trans (le_mid_iff.1 (h1.trans h2)), (le_mid_iff.2 (h3.trans h4)).trans h3, h4⟩
  · exact ⟨(le_mid_iff.2 (h1.trans h2)).trans h1, h2, (le_mid_iff.2 (h3.trans h4)).trans h3, h4⟩
  · exact ⟨h1, h2.trans (le_mid_iff.1 (h1.trans h2)), h3, h4.trans (le_mid_iff.1 (h3.trans h4))⟩
  · exact ⟨(le_mid_iff.2 (h1.trans h2)).trans h1, h2, h3, h4.trans (le_mid_iff.1 (h3.trans h4))⟩

def Tree.child : Tree α → Nat → Tree α
  | .nil, _ => .nil
  | .node _ c0 _ _ _, 0 => c0
  | .node _ _ c1 _ _, 1 => c1
  | .node _ _ _ c2 _, 2 => c2
  | .node _ _ _ _ c3, _ => c3

def subAt : List Nat → Tree α → Tree α
  | [], t => t
  | i :: rest, t => subAt rest (t.child i)

@[simp] theorem subAt_nil_tree (l : List Nat) : subAt l (Tree.nil : Tree α) = .nil := by
  induction l with
  | nil => rfl
  | cons i rest ih => simpa [subAt, Tree.child] using ih

theorem subAt_append (a b : List Nat) (t : Tree α) : subAt (a ++ b) t = subAt b (subAt a t) := by
  induction a generalizing t with
  | nil => rfl
  | cons i rest ih => simp [subAt, ih]

theorem Inv.mem_inCell {t : Tree α} {c : Cell α} (h : Inv t c) : ∀ y ∈ contents t, inCell c y.p := by
  induction t generalizing c with
  | nil => simp [contents]
  | node v c0 c1 c2 c3 ih0 ih1 ih2 ih3 =>
    obtain ⟨hv, h0, h1, h2, h3⟩ := h
    intro y hy
    simp only [contents, List.mem_append, Option.mem_toList] at hy
    rcases hy with (((hy | hy) | hy) | hy) | hy
    · exact hv y hy
    · exact inCell_of_sub c 0 _ (ih0 h0 y hy)
    · exact inCell_of_sub c 1 _ (ih1 h1 y hy)
    · exact inCell_of_sub c 2 _ (ih2 h2 y hy)
    · exact inCell_of_sub c 3 _ (ih3 h3 y hy)

theorem inCell_sub_childIndex (c : Cell α) (p : Pt α) (h : inCell c p) :
    inCell (c.sub (childIndex c.cx c.cy p)) p := by
  obtain ⟨h1, h2, h3, h4⟩ := h
  rcases childIndex_cases c.cx c.cy p with ⟨e, hy, hx⟩ | ⟨e, hy, hx⟩ | ⟨e, hy, hx⟩ | ⟨e, hy, hx⟩ <;>
    rw [e] <;> simp only [Cell.sub, inCell]
  · exact ⟨h1, hx.le, hy.le, h4⟩
  · exact ⟨hx, h2, hy.le, h4⟩
  · exact ⟨h1, hx.le, h3, hy⟩
  · exact ⟨hx, h2, h3, hy⟩

theorem perm_mid {β : Type} {l l' A : List β} (h : l.Perm (A ++ l')) (X : List β) :
    (X ++ l).Perm (A ++ (X ++ l')) := (h.append_left X).trans (List.perm_append_comm_assoc _ _ _)

theorem ins_added (t : Tree α) (p : Ptr α) (c : Cell α) :
    (contents (ins t p c)).Perm (p :: contents t) ∧ (Inv t c → inCell c p.p → Inv (ins t p c) c) := by
  induction t generalizing c with
  | nil => simp [ins, contents, Inv]
  | node v c0 c1 c2 c3 ih0 ih1 ih2 ih3 =>
    cases v with
    | none => exact ⟨by simp [ins, contents], fun h hp => ⟨by intro q hq; cases hq; exact hp, h.2⟩⟩
    | some v =>
      have hs := inCell_sub_childIndex c p.p
      simp only [ins]
      rcases childIndex_cases c.cx c.cy p.p with ⟨e, -, -⟩ | ⟨e, -, -⟩ | ⟨e, -, -⟩ | ⟨e, -, -⟩ <;> rw [e] at hs ⊢ <;>
        simp only [contents]
      · exact ⟨(((perm_mid (A := [p]) (ih0 _).1 _).append_right _).append_right _).append_right _,
          fun h hp => ⟨h.1, (ih0 _).2 h.2.1 (hs hp), h.2.2⟩⟩
      · exact ⟨((perm_mid (A := [p]) (ih1 _).1 _).append_right _).append_right _,
          fun h hp => ⟨h.1, h.2.1, (ih1 _).2 h.2.2.1 (hs hp), h.2.2.2⟩⟩
      · exact ⟨(perm_mid (A := [p]) (ih2 _).1 _).append_right _,
          fun h hp => ⟨h.1, h.2.1, h.2.2.1, (ih2 _).2 h.2.2.2.1 (hs hp), h.2.2.2.2⟩⟩
      · exact ⟨perm_mid (A := [p]) (ih3 _).1 _, fun h hp => ⟨h.1, h.2.1, h.2.2.1, h.2.2.2.1, (ih3 _).2 h.2.2.2.2 (hs hp)⟩⟩

/-- `t'` is `t` with the optional value `x` taken out: the abstraction loses exactly `x`, no node is
    added, the invariant is kept -/
def Removed (x : Option (Ptr α)) (t t' : Tree α) : Prop :=
  (contents t).Perm (x.toList ++ contents t') ∧ nodes t' ≤ nodes t ∧ ∀ c, Inv t c → Inv t' c

theorem fillD_spec (t : Tree α) :
    contents t = t.value.toList ++ contents ((fill t).getD .nil) ∧ nodes ((fill t).getD .nil) ≤ nodes t ∧
      ∀ c, Inv t c → Inv ((fill t).getD .nil) c := by
  -- `Inv` is kept because a value only ever moves to an enclosing cell (`inCell_of_sub`)
  fun_induction fill t with
  | case1 => exact ⟨rfl, le_refl _, fun _ h => h⟩
  | case2 v c1 c2 c3 v0 a b c' d ih =>
    obtain ⟨e, n, i⟩ := ih
    refine ⟨?_, ?_, fun c h => ⟨fun p hp => inCell_of_sub c 0 _ (h.2.1.1 p hp), i _ h.2.1, h.2.2⟩⟩
    · simp only [Option.getD_some, contents, Tree.value] at e ⊢; rw [e]; simp
    · simp only [Option.getD_some, nodes] at n ⊢; omega
  | case3 v c2 c3 v1 a b c' d ih =>
    obtain ⟨e, n, i⟩ := ih
    refine ⟨?_, ?_, fun c h => ⟨fun p hp => inCell_of_sub c 1 _ (h.2.2.1.1 p hp), h.2.1, i _ h.2.2.1, h.2.2.2⟩⟩
    · simp only [Option.getD_some, contents, Tree.value] at e ⊢; rw [e]; simp
    · simp only [Option.getD_some, nodes] at n ⊢; omega
  | case4 v c3 v2 a b c' d ih =>
    obtain ⟨e, n, i⟩ := ih
    refine ⟨?_, ?_, fun c h =>
      ⟨fun p hp => inCell_of_sub c 2 _ (h.2.2.2.1.1 p hp), h.2.1, h.2.2.1, i _ h.2.2.2.1, h.2.2.2.2⟩⟩
    · simp only [Option.getD_some, contents, Tree.value] at e ⊢; rw [e]; simp
    · simp only [Option.getD_some, nodes] at n ⊢; omega
  | case5 v v3 a b c' d ih =>
    obtain ⟨e, n, i⟩ := ih
    refine ⟨?_, ?_, fun c h =>
      ⟨fun p hp => inCell_of_sub c 3 _ (h.2.2.2.2.1 p hp), h.2.1, h.2.2.1, h.2.2.2.1, i _ h.2.2.2.2⟩⟩
    · simp only [Option.getD_some, contents, Tree.value] at e ⊢; rw [e]; simp
    · simp only [Option.getD_some, nodes] at n ⊢; omega
  | case6 v => exact ⟨by simp [contents, Tree.value], Nat.zero_le _, fun _ _ => trivial⟩

theorem clearNode_removed (t : Tree α) : Removed t.value t (clearNode t) := by
  cases t with
  | nil => exact ⟨.refl _, le_refl _, fun _ h => h⟩
  | node v c0 c1 c2 c3 =>
    obtain ⟨e, n, i⟩ := fillD_spec (.node v c0 c1 c2 c3)
    unfold clearNode
    cases hf : fill (.node v c0 c1 c2 c3) with
    | some t' => rw [hf] at e n i; exact ⟨.of_eq e, n, i⟩
    | none => exact ⟨.of_eq (by simp [contents, Tree.value]), le_refl _, fun c h => ⟨by simp, h.2⟩⟩

/-- unconditional: a path that leaves the tree or ends at an empty node takes out nothing -/
theorem modifyAt_clear_removed (path : List Nat) (t : Tree α) :
    Removed (subAt path t).value t (modifyAt clearNode path t) := by
  induction path generalizing t with
  | nil => exact clearNode_removed t
  | cons i rest ih =>
    cases t with
    | nil =>
      simp only [subAt, Tree.child, subAt_nil_tree, modifyAt]
      exact ⟨List.Perm.refl _, le_refl _, fun _ h => h⟩
    | node v c0 c1 c2 c3 =>
      rcases i with _ | _ | _ | i <;> simp only [subAt, Tree.child, modifyAt, Removed, contents, nodes]
      · obtain ⟨p, n, iv⟩ := ih c0
        exact ⟨by simpa only [List.append_assoc] using
            (((perm_mid p v.toList).append_right _).append_right _).append_right _,
          by omega, fun c h => ⟨h.1, iv _ h.2.1, h.2.2⟩⟩
      · obtain ⟨p, n, iv⟩ := ih c1
        exact ⟨by simpa only [List.append_assoc] using
            ((perm_mid p (v.toList ++ contents c0)).append_right _).append_right _,
          by omega, fun c h => ⟨h.1, h.2.1, iv _ h.2.2.1, h.2.2.2⟩⟩
      · obtain ⟨p, n, iv⟩ := ih c2
        exact ⟨by simpa only [List.append_assoc] using
            (perm_mid p (v.toList ++ contents c0 ++ contents c1)).append_right _,
          by omega, fun c h => ⟨h.1, h.2.1, h.2.2.1, iv _ h.2.2.2.1, h.2.2.2.2⟩⟩
      · obtain ⟨p, n, iv⟩ := ih c3
        exact ⟨by simpa only [List.append_assoc] using
            perm_mid p (v.toList ++ contents c0 ++ contents c1 ++ contents c2),
          by omega, fun c h => ⟨h.1, h.2.1, h.2.2.1, h.2.2.2.1, iv _ h.2.2.2.2⟩⟩

end Orb.Quadtree
