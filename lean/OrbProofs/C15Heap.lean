/-
  C15, the memory clause — "applying a projection to a geometry transforms every vertex IN PLACE": theorems about the
  heap-level model `Orb.HeapOps.projectH` of project.Geometry (project/helpers.go: every helper is
  `for i := range s { s[i] = proj(s[i]) }` and returns `s`).  A geometry is a tree of Go slice headers (array identity,
  offset, length, capacity) into a store of backing arrays.  `project_cell` is the law for every argument whatsoever
  (overlapping, repeated, nested slices): each cell holds `f` applied once per header occurrence that covers it —
  0 times: frame; once: in place; more: aliasing, where the value returned is NOT the value-level projection.
  Stated for the raw order instances `projectH` needs (they only serve `project.Bound`), hence in particular over
  every linear order.  Core Lean only.
-/
import OrbProofs.C15HeapLemmas

namespace Orb.HeapOps
open Orb Orb.Heap Orb.Core

variable {α : Type} [LT α] [LE α] [DecidableLT α] [DecidableLE α] [Min α] [Max α]

/-- Every cell afterwards holds `f` applied once per header occurrence covering it. -/
theorem project_cell (σ : Store α) (g : SGeom α) (f : Pt α → Pt α) (a i : Nat) :
    cell (projectH σ g f).1 a i = (cell σ a i).map (iter f (coverCount (hdrs g) a i)) := by
  rw [projectH_flat, cell_projHdrs]

/-- The returned value is the argument's headers with points / bounds projected by value. -/
theorem project_returns (σ : Store α) (g : SGeom α) (f : Pt α → Pt α) :
    (projectH σ g f).2 = retS f g := by
  induction g using SGeom.ind generalizing σ with
  | hc gs ih =>
    simp only [projectH, retS]
    rw [projectHList_snd f gs ih σ]
  | _ => simp [projectH, retS]

/-- Aliasing: a slice each of whose cells is covered by `k` header occurrences of the argument
    holds `f` applied `k` times. -/
theorem project_aliasing (σ : Store α) (g : SGeom α) (f : Pt α → Pt α) (h : Hdr) (k : Nat)
    (hk : ∀ j, j < h.len → coverCount (hdrs g) h.arr (h.off + j) = k) :
    readH (projectH σ g f).1 h = (readH σ h).map (iter f k) := by
  apply List.ext_getElem?
  intro j
  rw [List.getElem?_map, getElem?_readH, getElem?_readH]
  by_cases hj : j < h.len
  · simp only [hj, if_true]
    rw [project_cell, hk j hj]
  · simp [hj]

/-- The returned value has the SAME slice headers as the argument (array identities, offsets, lengths,
    capacities, in the same order), and without overlap each of them reads `map f` of its old
    contents. -/
theorem project_in_place (σ : Store α) (g : SGeom α) (f : Pt α → Pt α) :
    hdrs (projectH σ g f).2 = hdrs g ∧
    (NoOverlap g → ∀ h ∈ hdrs g, readH (projectH σ g f).1 h = (readH σ h).map f) := by
  refine ⟨by rw [project_returns, hdrs_retS], fun hno h hm => ?_⟩
  -- a member's cells are covered at least once, and without overlap at most once
  rw [project_aliasing σ g f h 1 fun j hj => by
    have h1 := coverCount_pos_of_mem (hdrs g) h hm j hj
    have h2 := hno h.arr (h.off + j)
    omega]
  rfl

/-- Nothing is allocated and no array changes its size. -/
theorem project_sizes (σ : Store α) (g : SGeom α) (f : Pt α → Pt α) :
    (projectH σ g f).1.length = σ.length ∧
    ∀ a, (read (projectH σ g f).1 a).length = (read σ a).length :=
  ⟨by rw [projectH_flat, length_projHdrs], fun a => length_eq_of_getElem?_map _ _
    (fun i => iter f (coverCount (hdrs g) a i)) fun i => project_cell σ g f a i⟩

/-- Frame, cell by cell: a cell no slice of the argument covers is unchanged (also inside an array
    the argument does point into: before a slice's offset, beyond its length). -/
theorem project_frame_cell (σ : Store α) (g : SGeom α) (f : Pt α → Pt α) (a i : Nat)
    (h : coverCount (hdrs g) a i = 0) : cell (projectH σ g f).1 a i = cell σ a i := by
  rw [project_cell, h, map_iter_zero]

/-- Frame: an array no header of the argument points into is unchanged. -/
theorem project_frame (σ : Store α) (g : SGeom α) (f : Pt α → Pt α) (a : Nat)
    (h : ∀ x ∈ hdrs g, x.arr ≠ a) : read (projectH σ g f).1 a = read σ a :=
  read_ext _ _ _ fun i => project_frame_cell σ g f a i (coverCount_eq_zero_of_arr _ a i h)

/-- Link to the value level: without overlap, result-in-new-store = `Project.geometry f` of
    argument-in-old-store. -/
theorem project_denote (σ : Store α) (g : SGeom α) (f : Pt α → Pt α) (hno : NoOverlap g) :
    denoteS (projectH σ g f).1 (projectH σ g f).2 = Project.geometry f (denoteS σ g) := by
  rw [project_returns]
  exact denote_retS f σ _ g ((project_in_place σ g f).2 hno)

theorem project_twice_of_hdrs (σ : Store α) (f : Pt α → Pt α) (h : Hdr) (g : SGeom α)
    (hg : hdrs g = [h, h]) :
    readH (projectH σ g f).1 h = (readH σ h).map fun p => f (f p) := by
  rw [project_aliasing σ g f h 2 fun j hj => by
    rw [hg, coverCount_cons, coverCount_cons, coverCount_nil,
      (covers_iff h h.arr (h.off + j)).2 ⟨rfl, by omega, by omega⟩]
    rfl]
  rfl

/-- The same ring twice in a polygon, the same line twice in a collection, …: projected TWICE. -/
theorem project_aliasing_same_twice (σ : Store α) (f : Pt α → Pt α) (h : Hdr) :
    readH (projectH σ (.polygon [h, h]) f).1 h = (readH σ h).map (fun p => f (f p)) ∧
    readH (projectH σ (.multiLineString [h, h]) f).1 h = (readH σ h).map (fun p => f (f p)) ∧
    readH (projectH σ (.multiPolygon [[h], [h]]) f).1 h = (readH σ h).map (fun p => f (f p)) ∧
    readH (projectH σ (.collection [.lineString h, .lineString h]) f).1 h =
      (readH σ h).map (fun p => f (f p)) :=
  ⟨project_twice_of_hdrs σ f h _ rfl, project_twice_of_hdrs σ f h _ rfl,
   project_twice_of_hdrs σ f h _ rfl, project_twice_of_hdrs σ f h _ rfl⟩

/-- A line and its own sub-slice `h[s : s+n]` in a collection: vertex `j` of the line is projected
    twice if it lies in the sub-slice, once otherwise. -/
theorem project_aliasing_subslice (σ : Store α) (f : Pt α → Pt α) (h : Hdr) (s n c : Nat) (j : Nat) :
    (readH (projectH σ (.collection [.lineString h, .lineString ⟨h.arr, h.off + s, n, c⟩]) f).1 h)[j]? =
      ((readH σ h)[j]?).map (iter f (if s ≤ j ∧ j < s + n then 2 else 1)) := by
  have hg : hdrs (.collection [.lineString h, .lineString ⟨h.arr, h.off + s, n, c⟩] : SGeom α) =
      [h, ⟨h.arr, h.off + s, n, c⟩] := rfl
  rw [getElem?_readH, getElem?_readH]
  by_cases hj : j < h.len
  · simp only [hj, if_true]
    rw [project_cell, hg, coverCount_cons, coverCount_cons, coverCount_nil,
      (covers_iff h h.arr (h.off + j)).2 ⟨rfl, by omega, by omega⟩]
    by_cases hs : s ≤ j ∧ j < s + n
    · rw [if_pos hs, (covers_iff ⟨h.arr, h.off + s, n, c⟩ h.arr (h.off + j)).2 ⟨rfl, by simp; omega, by simp; omega⟩]
      rfl
    · rw [if_neg hs]
      have : ¬ ((⟨h.arr, h.off + s, n, c⟩ : Hdr).covers h.arr (h.off + j) = true) := by
        intro hc
        have := (covers_iff _ _ _).1 hc
        simp at this
        omega
      simp [this]
  · simp [hj]

omit [LT α] [LE α] [DecidableLT α] [DecidableLE α] [Min α] [Max α] in
theorem readH_wholeHdr (σ : Store α) (a : Nat) : readH σ (wholeHdr σ a) = read σ a := by
  simp [readH, wholeHdr]

omit [LT α] [LE α] [DecidableLT α] [DecidableLE α] [Min α] [Max α] in
/-- The whole-array heap geometries of `Orb.Heap` (the model of C06, "Clone shares no memory")
    embed: same store, same denotation — so a clone (`Orb.Heap.clone`, fresh arrays only) can be
    projected without the original noticing, by `project_frame`. -/
theorem heap_embedding (σ : Store α) (g : HGeom α) : denoteS σ (ofHGeom σ g) = Heap.denote σ g := by
  induction g using HGeom.ind with
  | h1 p | h8 a b => rfl
  | h2 a | h3 a | h5 a => simp [ofHGeom, denoteS, Heap.denote, readH_wholeHdr]
  | h4 as | h6 as | h7 as => simp [ofHGeom, denoteS, Heap.denote, readH_wholeHdr, Function.comp_def]
  | hc gs ih =>
    simp only [ofHGeom, denoteS, Heap.denote]
    congr 1
    induction gs with
    | nil => rfl
    | cons g gs ihl =>
      simp only [ofHGeomList, denoteSList, Heap.denoteList]
      rw [ih g (by simp), ihl fun g hg => ih g (List.mem_cons_of_mem _ hg)]

/-- With shared memory the result is not the value-level projection: a polygon holding the same
    two-vertex ring twice, `f = (+1, ·2)` over the integers. -/
theorem project_aliasing_not_value :
    let σ : Store Int := [[⟨0, 1⟩, ⟨2, 3⟩]]
    let g : SGeom Int := .polygon [⟨0, 0, 2, 2⟩, ⟨0, 0, 2, 2⟩]
    let f : Pt Int → Pt Int := fun p => ⟨p.x + 1, p.y * 2⟩
    Project.verts (denoteS (projectH σ g f).1 (projectH σ g f).2) =
      [⟨2, 4⟩, ⟨4, 12⟩, ⟨2, 4⟩, ⟨4, 12⟩] ∧
    Project.verts (Project.geometry f (denoteS σ g)) = [⟨1, 2⟩, ⟨3, 6⟩, ⟨1, 2⟩, ⟨3, 6⟩] := by
  decide

/-- non-vacuity, computed: on a disjoint argument (two lines in two arrays and a point) the store afterwards, and the
    returned value read in it has the vertices of the value-level projection -/
example :
    let σ : Store Int := [[⟨0, 1⟩, ⟨2, 3⟩, ⟨9, 9⟩], [⟨5, 5⟩]]
    let g : SGeom Int := .collection [.lineString ⟨0, 0, 2, 3⟩, .point ⟨7, 7⟩, .multiPoint ⟨1, 0, 1, 1⟩]
    let f : Pt Int → Pt Int := fun p => ⟨p.x + 1, p.y * 2⟩
    (projectH σ g f).1 = [[⟨1, 2⟩, ⟨3, 6⟩, ⟨9, 9⟩], [⟨6, 10⟩]] ∧
    Project.verts (denoteS (projectH σ g f).1 (projectH σ g f).2) =
      Project.verts (Project.geometry f (denoteS σ g)) := by
  decide

end Orb.HeapOps
