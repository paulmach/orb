/-
  C11 — translation tie for quadtree/quadtree.go: `childIndex`, the quadrant choice and child-cell
  computation at the head of `Quadtree.add`, and `planar.DistanceSquared` as the visitors use it.
  `Generated/QuadtreeGo.lean` is REGENERATED from /repo on every run by
  harness/cmd/factgen/translate_float.go.
-/
import Orb.Quadtree
import Generated.QuadtreeGo
import Generated.PlanarGo

namespace Orb.C11Tie
open Orb Orb.Core

set_option linter.unusedSectionVars false

-- the `variable` line of Generated/QuadtreeGo.lean and PlanarGo.lean, instance for instance, so that the `rfl`s unify
variable {α : Type} [Add α] [Sub α] [Mul α] [Div α] [Neg α] [LT α] [LE α] [DecidableLT α] [DecidableLE α]
  [BEq α] [Min α] [Max α] [OfNat α 0] [OfNat α 1] [OfNat α 2] [OfNat α 6] [NatCast α]

/-- `childIndex`: the Go code sets `i = 2` and then `i++`; the model adds the two contributions -/
theorem childIndex_tie (cx cy : α) (p : Pt α) :
    Generated.QuadtreeGo.childIndex cx cy p = Quadtree.childIndex cx cy p := by
  unfold Generated.QuadtreeGo.childIndex Quadtree.childIndex
  split <;> split <;> rfl

/-- the statements of `Quadtree.add` before the child is looked at: they compute the child index
    and shrink `left, right, bottom, top` to the child's cell, which the model writes as
    `childIndex c.cx c.cy p` and `c.sub i` -/
theorem addDescend_tie (p : Pt α) (c : Quadtree.Cell α) :
    Generated.QuadtreeGo.addDescend p c.l c.r c.b c.t =
      (let i := Quadtree.childIndex c.cx c.cy p
       (i, (c.sub i).l, (c.sub i).r, (c.sub i).b, (c.sub i).t)) := by
  unfold Generated.QuadtreeGo.addDescend Quadtree.childIndex
  by_cases h1 : p.y ≤ (c.b + c.t) / 2 <;> by_cases h2 : p.x ≥ (c.l + c.r) / 2 <;>
    simp [h1, h2, Quadtree.Cell.sub, Quadtree.Cell.cx, Quadtree.Cell.cy]

/-- `planar.DistanceSquared`, called by `findVisitor.Visit` and `nearestVisitor.Visit` -/
theorem distSq_tie (p q : Pt α) : Generated.PlanarGo.distanceSquared p q = Quadtree.distSq p q := rfl

theorem all_translated_QuadtreeGo : Generated.QuadtreeGo.translated = ["childIndex", "addDescend"] := rfl

end Orb.C11Tie
