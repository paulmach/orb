/-
  C17 — translation tie for resample/line_string.go `precomputeDistances`.
  `Generated/ResampleGo.lean` is REGENERATED from /repo on every run by
  harness/cmd/factgen/translate_float.go.  The function is translated WITH Go's run-time checks:
  `make([]float64, len(ls)-1)` panics on a line without vertices, the loop
  `for i := 0; i < len(ls)-1; i++ { dists[i] = df(ls[i], ls[i+1]); total += dists[i] }` runs over the
  indices, writes and reads `dists[i]` under explicit bounds checks (`ls[i]`, `ls[i+1]` are in range by
  the loop bound).  `precomputeDistances_tie` proves it equal to the model `Orb.Resample.precompute` on
  every input: the checks never fire, `dists` is `zipWith df ls ls.tail` and `total` its left-to-right sum.
-/
import Orb.Resample
import Orb.LoopForms
import Generated.ResampleGo

namespace Orb.C17Tie
open Orb Orb.Core Orb.LoopForms

set_option linter.unusedSectionVars false

variable {α : Type} [Add α] [Sub α] [Mul α] [Div α] [Neg α] [LT α] [LE α] [DecidableLT α] [DecidableLE α]
  [BEq α] [Min α] [Max α] [OfNat α 0] [OfNat α 1] [OfNat α 2] [OfNat α 6] [NatCast α]

/-- one iteration of the loop: a copy, token for token, of the lambda in `Generated/ResampleGo.lean`
    (the tie below is by unfolding, so it breaks when the translator's output changes) -/
def pdStep (df : Pt α → Pt α → α) (ls : List (Pt α)) :
    List α × α → Nat → Sum (Res Resample.Fail (α × List α)) (List α × α) :=
  fun ((dists, total) : List α × α) (i : Nat) =>
    if i < dists.length then
      let dists : List α := dists.set i (df (ls.getD i ⟨0, 0⟩) (ls.getD (i + 1) ⟨0, 0⟩))
      if i < dists.length then
        let total : α := total + (dists.getD i 0)
        Sum.inr (dists, total)
      else
        Sum.inl (.panic ("index out of range [" ++ toString i ++ "] with length " ++ toString dists.length))
    else
      Sum.inl (.panic ("index out of range [" ++ toString i ++ "] with length " ++ toString dists.length))

/-- the iteration at the first unwritten slot: both checks pass -/
theorem pdStep_at (df : Pt α → Pt α → α) (done : List (Pt α)) (p q : Pt α) (r : List (Pt α))
    (pre : List α) (x : α) (post : List α) (tot : α) (hlen : done.length = pre.length) :
    pdStep df (done ++ p :: q :: r) (pre ++ x :: post, tot) pre.length
      = Sum.inr (pre ++ df p q :: post, tot + df p q) := by
  have h1 : pre.length < (pre ++ x :: post).length := by simp
  have hp : (done ++ p :: q :: r).getD pre.length ⟨0, 0⟩ = p := by
    rw [← hlen]; exact getD_append_cons_length done p (q :: r) _
  have hq : (done ++ p :: q :: r).getD (pre.length + 1) ⟨0, 0⟩ = q := by
    have := getD_append_cons_length (done ++ [p]) q r (⟨0, 0⟩ : Pt α)
    simp only [List.length_append, List.length_cons, List.length_nil, hlen, List.append_assoc, List.cons_append,
      List.nil_append, Nat.zero_add] at this
    exact this
  simp only [pdStep, h1, ↓reduceIte, hp, hq, set_append_cons_length, getD_append_cons_length]
  have h2 : pre.length < (pre ++ df p q :: post).length := by simp
  simp only [h2, ↓reduceIte]

/-- the loop from any point on: `pre` holds the distances written so far (as many as vertices
    `done`), the remaining slots are 0, `tot` is their running sum -/
theorem pdLoop (df : Pt α → Pt α → α) (rest : List (Pt α)) (done : List (Pt α)) (p : Pt α) (pre : List α) (tot : α)
    (hlen : done.length = pre.length) :
    foldlRet (pdStep df (done ++ p :: rest)) (List.range' pre.length rest.length)
        (pre ++ List.replicate rest.length 0, tot)
      = Sum.inr (pre ++ List.zipWith df (p :: rest) rest,
          (List.zipWith df (p :: rest) rest).foldl (· + ·) tot) := by
  induction rest generalizing done p pre tot with
  | nil => simp
  | cons q r ih =>
    rw [List.length_cons, List.range'_succ, List.replicate_succ, foldlRet_cons, pdStep_at df done p q r pre 0 _ tot hlen]
    have h := ih (done ++ [p]) q (pre ++ [df p q]) (tot + df p q) (by simp [hlen])
    simp only [List.append_assoc, List.cons_append, List.nil_append, List.length_append, List.length_cons,
      List.length_nil] at h
    simp only [List.zipWith_cons_cons, List.foldl_cons]
    exact h

theorem precomputeDistances_tie (df : Pt α → Pt α → α) (ls : List (Pt α)) :
    Generated.ResampleGo.precomputeDistances ls df = Resample.precompute df ls := by
  cases ls with
  | nil => rfl
  | cons p rest =>
    have h := pdLoop df rest [] p [] 0 rfl
    simp only [List.length_nil, List.nil_append] at h
    show (match foldlRet (pdStep df (p :: rest)) (List.range' 0 ((p :: rest).length - 1))
        (List.replicate ((p :: rest).length - 1) 0, 0) with
      | .inl r => r
      | .inr (dists, total) => Res.ok (total, dists)) = _
    simp only [List.length_cons, Nat.add_sub_cancel]
    rw [h]
    rfl

theorem all_translated_ResampleGo : Generated.ResampleGo.translated = ["precomputeDistances"] := rfl

end Orb.C17Tie
