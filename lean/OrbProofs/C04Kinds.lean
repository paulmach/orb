/-
  C04 — spellings taken apart (EMPTY form, or keyword and bracketed body: `spelledCore_iff`); `SpellRules`, the five
  rules by which a property of classes of texts holds of every spelling, the grammar being walked once
  (`SpellRules.body`; first instance `endsRules`, the two others are in C04Round and C04Respell); the six non-collection
  parsers on spellings; the text `Marshal` writes is a spelling.
-/
import OrbProofs.C04Frame
import OrbProofs.GeomInd

namespace Orb.WKT

/-- keyword of the text of a value (ring and bound are printed as polygons) -/
def kwOf : G → Str
  | .point _ => kwPoint | .multiPoint _ => kwMultiPoint | .lineString _ => kwLineString
  | .multiLineString _ => kwMultiLineString | .ring _ | .polygon _ | .bound _ _ => kwPolygon
  | .multiPolygon _ => kwMultiPolygon | .collection _ => kwCollection

theorem kwAt_kindIdx (g : G) : kwAt (kindIdx g) = kwOf g := by
  cases g <;> rfl

theorem kwOf_upper (g : G) : CaseVariant (kwOf g) (kwOf g) ∧ CaseVariant (kwOf g ++ sEmpty) (kwOf g ++ sEmpty) := by
  unfold CaseVariant
  cases g <;> simp only [kwOf] <;> decide

theorem kwOf_no_parenComma (g : G) : ∀ b ∈ kwOf g ++ sEmpty, isParenComma b = false := by
  cases g <;> simp only [kwOf] <;> decide

theorem forall_pts_of_coords {Q : UInt64 → Prop} {ps : List P} (h : ∀ x ∈ ptsCoords ps, Q x) :
    ∀ p ∈ ps, Q p.x ∧ Q p.y := fun p hp =>
  ⟨h _ (List.mem_flatMap.2 ⟨p, hp, by simp [ptCoords]⟩), h _ (List.mem_flatMap.2 ⟨p, hp, by simp [ptCoords]⟩)⟩

theorem forall_rings_of_coords {Q : UInt64 → Prop} {rs : List (List P)} (h : ∀ x ∈ ringsCoords rs, Q x) :
    ∀ r ∈ rs, ∀ p ∈ r, Q p.x ∧ Q p.y := fun r hr =>
  forall_pts_of_coords fun x hx => h x (List.mem_flatMap.2 ⟨r, hr, hx⟩)

theorem spelledList_iff (fmtF : UInt64 → Str) : ∀ (gs : List G) (ts : List Str),
    SpelledList fmtF gs ts ↔ Forall2 (SpelledCore fmtF) gs ts
  | [], [] => by simp only [SpelledList, true_iff]; exact .nil
  | [], _ :: _ => by simp only [SpelledList, false_iff]; intro h; cases h
  | _ :: _, [] => by simp only [SpelledList, false_iff]; intro h; cases h
  | g :: gs, t :: ts => by
    simp only [SpelledList]
    constructor
    · rintro ⟨h1, h2⟩; exact .cons h1 ((spelledList_iff fmtF gs ts).1 h2)
    · intro h; cases h with
      | cons h1 h2 => exact ⟨h1, (spelledList_iff fmtF gs ts).2 h2⟩

theorem mem_coordsList {g : G} {x : UInt64} : ∀ {gs : List G}, g ∈ gs → x ∈ coords g → x ∈ coords.coordsList gs
  | [], hg, _ => by cases hg
  | g' :: gs, hg, hx => by
    simp only [coords.coordsList, List.mem_append]
    rcases List.mem_cons.1 hg with rfl | hg
    · exact Or.inl hx
    · exact Or.inr (mem_coordsList hg hx)

theorem allDeep_mem : ∀ {gs : List G}, noEmptyMemberDeep.allDeep gs = true → ∀ g ∈ gs, noEmptyMemberDeep g = true
  | [], _, g, hg => by cases hg
  | g' :: gs, h, g, hg => by
    simp only [noEmptyMemberDeep.allDeep, Bool.and_eq_true] at h
    rcases List.mem_cons.1 hg with rfl | hg
    · exact h.1
    · exact allDeep_mem h.2 g hg

theorem caseVariant_cons {c : UInt8} {K k : Str} (h : CaseVariant (c :: K) k) :
    ∃ b k', k = b :: k' ∧ upper b = c ∧ CaseVariant K k' := by
  unfold CaseVariant at h
  obtain ⟨b, k', rfl, hb, hk⟩ := List.map_eq_cons_iff.1 h
  exact ⟨b, k', rfl, hb, hk⟩

theorem caseVariant_append {A B t : Str} (h : CaseVariant (A ++ B) t) :
    ∃ k r, t = k ++ r ∧ CaseVariant A k ∧ CaseVariant B r := by
  unfold CaseVariant at h
  exact List.map_eq_append_iff.1 h

theorem caseVariant_getLast {K t : Str} {y : UInt8} (hv : CaseVariant K t) (hK : K.getLast? = some y) :
    ∃ x, t.getLast? = some x ∧ upper x = y := by
  rw [← hv, List.getLast?_map] at hK
  cases ht : t.getLast? with
  | none => rw [ht] at hK; cases hK
  | some x => rw [ht] at hK; exact ⟨x, rfl, Option.some.inj hK⟩

theorem kwAt_head (i : Nat) : ∃ c kw', kwAt i = c :: kw' ∧ isBlank c = false := by
  unfold kwAt; split <;> exact ⟨_, _, rfl, by decide⟩

theorem goodEnds_kw {i : Nat} {k rest : Str} {y : UInt8} (hv : CaseVariant (kwAt i) k)
    (hl : rest.getLast? = some y) (hy : isBlank y = false) : GoodEnds (k ++ rest) := by
  obtain ⟨c, kw', hkw, hc⟩ := kwAt_head i
  rw [hkw] at hv
  obtain ⟨b, k', rfl, hb, -⟩ := caseVariant_cons hv
  have hr : rest ≠ [] := fun e => by rw [e] at hl; cases hl
  refine goodEnds_of_head_last ?_ rfl (notBlank_of_upper (by rw [hb]; exact hc)) (by rwa [List.getLast?_append_of_ne_nil _ hr]) hy
  have := List.length_pos_of_ne_nil hr
  rw [List.length_append, List.length_cons]; omega

section
variable (fmtF : UInt64 → Str)

/-- what stands between the brackets of a spelling of `g` that is not an EMPTY form -/
def SpelledBody : G → Str → Prop
  | .point p, body => body = wCoord fmtF p
  | .multiPoint ps, body => ∃ pieces, Forall2 (IsBrPoint fmtF) ps pieces ∧ SepJoin pieces body
  | .lineString ps, body => SepJoin (ps.map (wCoord fmtF)) body
  | .multiLineString rs, body | .polygon rs, body =>
      ∃ pieces, Forall2 (IsBrPoints fmtF) rs pieces ∧ SepJoin pieces body
  | .ring r, body => ∃ pieces, Forall2 (IsBrPoints fmtF) [r] pieces ∧ SepJoin pieces body
  | .multiPolygon ps, body => ∃ pieces, Forall2 (IsBrPoly fmtF) ps pieces ∧ SepJoin pieces body
  | .bound a b, body => ∃ pieces, Forall2 (IsBrPoints fmtF) [boundRing a b] pieces ∧ SepJoin pieces body
  | .collection gs, body => ∃ ts, SpelledList fmtF gs ts ∧ SepJoin ts body

theorem exists_pieces_body {F : List Str → Prop} {S : List Str → Str → Prop} {K : Str → Prop} :
    (∃ pieces body, F pieces ∧ S pieces body ∧ K body) ↔ ∃ body, (∃ pieces, F pieces ∧ S pieces body) ∧ K body :=
  ⟨fun ⟨p, b, h1, h2, h3⟩ => ⟨b, ⟨p, h1, h2⟩, h3⟩, fun ⟨b, ⟨p, h1, h2⟩, h3⟩ => ⟨p, b, h1, h2, h3⟩⟩

/-- A spelling is the EMPTY form of an empty value, or the keyword followed by the bracketed body.
    (`SpelledCore` says this kind by kind, with a case for the empty and one for the non-empty list.) -/
theorem spelledCore_iff {g : G} {t : Str} : SpelledCore fmtF g t ↔
    if isEmptyValue g then CaseVariant (kwOf g ++ sEmpty) t
    else KwBr (kwOf g) (SpelledBody fmtF g) t := by
  cases g with
  | point p => simp only [SpelledCore, SpelledBody, KwBr, isEmptyValue, kwOf, exists_eq_left, Bool.false_eq_true, if_false]
  | ring r | bound a b =>
    simp only [SpelledCore, KwRings, SpelledBody, KwBr, isEmptyValue, kwOf, Bool.false_eq_true, if_false]
    exact exists_pieces_body
  | lineString ps =>
    cases ps <;> simp only [SpelledCore, SpelledBody, KwBr, isEmptyValue, kwOf, List.isEmpty_nil, List.isEmpty_cons,
      Bool.false_eq_true, if_false, if_true]
  | multiPoint ps | multiLineString ps | polygon ps | multiPolygon ps | collection ps =>
    cases ps <;> simp only [SpelledCore, KwRings, SpelledBody, KwBr, isEmptyValue, kwOf, List.isEmpty_nil,
      List.isEmpty_cons, Bool.false_eq_true, if_false, if_true]
    exact exists_pieces_body

theorem spelledCore_ends {g : G} {t : Str} (h : SpelledCore fmtF g t) :
    ∃ k rest y, CaseVariant (kwOf g) k ∧ t = k ++ rest ∧ rest.getLast? = some y ∧ isBlank y = false := by
  rw [spelledCore_iff] at h
  split at h
  · obtain ⟨k, r, rfl, hk, hr⟩ := caseVariant_append h
    obtain ⟨x, hx, hxu⟩ := caseVariant_getLast hr (y := 89) rfl  -- 89 = `Y`
    exact ⟨k, r, x, hk, rfl, hx, notBlank_of_upper (by rw [hxu]; decide)⟩
  · obtain ⟨body, -, k, a, b, c, hv, -, -, -, rfl⟩ := h
    exact ⟨k, (a ++ cLP :: (b ++ body ++ c)) ++ [cRP], cRP, hv, by simp [bracketed], List.getLast?_concat, by decide⟩

theorem spelledCore_goodEnds {g : G} {t : Str} (h : SpelledCore fmtF g t) : GoodEnds t := by
  obtain ⟨k, rest, y, hk, rfl, hl, hy⟩ := spelledCore_ends fmtF h
  exact goodEnds_kw (kwAt_kindIdx g ▸ hk) hl hy

/-- ring and bound are written, hence spelled and parsed, as the one-ring polygon.  `canon` without the descent into
    collections: on a value that is no collection the two agree by `cases`, which is how `branchAt_spelled` concludes
    with `canon g` from lemmas about `asPolygon`. -/
def asPolygon : G → G
  | .ring r => .polygon [r]
  | .bound a b => .polygon [boundRing a b]
  | g => g

theorem spelledCore_asPolygon (g : G) (t : Str) : SpelledCore fmtF (asPolygon g) t ↔ SpelledCore fmtF g t := by
  cases g with
  | ring r => simp only [asPolygon, SpelledCore]
  | bound a b => simp only [asPolygon, SpelledCore]
  | _ => exact Iff.rfl

theorem noEmptyMember_asPolygon (g : G) : noEmptyMember (asPolygon g) = noEmptyMember g := by
  cases g with
  | ring r => simp only [asPolygon, noEmptyMember, List.all_cons, List.all_nil, Bool.and_true]
  | _ => rfl

/-- the five corners of the ring of a bound print the four numbers of the bound -/
theorem coords_asPolygon {g : G} {x : UInt64} (h : x ∈ coords (asPolygon g)) : x ∈ coords g := by
  cases g with
  | ring r => rwa [asPolygon, coords, ringsCoords, List.flatMap_cons, List.flatMap_nil, List.append_nil] at h
  | bound a b =>
    have h' : x ∈ [a.x, a.y, b.x, a.y, b.x, b.y, a.x, b.y, a.x, a.y] := h
    show x ∈ [a.x, a.y, b.x, b.y]
    simp only [List.mem_cons, List.not_mem_nil, or_false] at h' ⊢
    rcases h' with h | h | h | h | h | h | h | h | h | h <;> simp only [h, true_or, or_true]
  | _ => exact h

theorem kwAt_length_le (i : Nat) : (kwAt i).length ≤ 20 := by
  unfold kwAt; split <;> decide

theorem hasPrefix_caseVariant {kw k : Str} (hv : CaseVariant kw k) (hl : kw.length ≤ 20) (rest : Str) :
    hasPrefix (upperPrefix (k ++ rest)) kw = true := by
  obtain ⟨tail, h⟩ := upperPrefix_caseVariant (rest := rest) hv hl
  rw [h, hasPrefix, List.isPrefixOf_iff_prefix]
  exact List.prefix_append _ _

theorem kindIdx_lt (g : G) : kindIdx g < 7 := by
  cases g <;> simp [kindIdx]

theorem spelledCore_kw {g : G} {t pre post : Str} (h : SpelledCore fmtF g t) (hpre : AllBlank pre)
    (hpost : AllBlank post) : trimSpace (pre ++ t ++ post) = t ∧
      hasPrefix (upperPrefix t) (kwAt (kindIdx g)) = true := by
  refine ⟨trimSpace_pad hpre hpost (spelledCore_goodEnds fmtF h), ?_⟩
  obtain ⟨k, rest, -, hv, rfl, -, -⟩ := spelledCore_ends fmtF h
  rw [kwAt_kindIdx]
  exact hasPrefix_caseVariant hv (kwAt_kindIdx g ▸ kwAt_length_le _) rest

theorem spelled_kw {g : G} {t : Str} (h : Spelled fmtF g t) :
    hasPrefix (upperPrefix (trimSpace t)) (kwAt (kindIdx g)) = true := by
  obtain ⟨pre, post, c, hpre, hpost, hc, rfl⟩ := h
  obtain ⟨h1, h2⟩ := spelledCore_kw fmtF hc hpre hpost
  rwa [h1]

end

/-- Rules for a property `Pr` of classes of texts from which it follows for every class of the grammar of spellings
    (`points` … `body`): it holds of a printed point with coordinates in `C`, passes through brackets and comma-joins
    and from the body between the brackets to the keyword form, and does not tell classes with the same texts apart. -/
structure SpellRules (fmtF : UInt64 → Str) (Pr : (Str → Prop) → Prop) (C : UInt64 → Prop) : Prop where
  congr : ∀ {Q Q' : Str → Prop}, (∀ t, Q t ↔ Q' t) → Pr Q → Pr Q'
  pt : ∀ p : P, C p.x ∧ C p.y → Pr (fun t => t = wCoord fmtF p)
  br : ∀ {Q : Str → Prop}, Pr Q → Pr (Br Q)
  joined : ∀ {α : Type} {r : α → Str → Prop} (xs : List α), (∀ a ∈ xs, Pr (r a)) → Pr (Joined r xs)
  core : ∀ g, Pr (SpelledBody fmtF g) → Pr (SpelledCore fmtF g)

theorem rings_of_coords {C : UInt64 → Prop} {rs : List (List P)} (hc : ∀ x ∈ ringsCoords rs, C x)
    (he : noEmptyMember (.polygon rs) = true) : ∀ r ∈ rs, r ≠ [] ∧ ∀ p ∈ r, C p.x ∧ C p.y := by
  simp only [noEmptyMember, List.all_eq_true, Bool.not_eq_true', List.isEmpty_eq_false_iff] at he
  exact fun r hr => ⟨he r hr, forall_rings_of_coords hc r hr⟩

theorem polys_of_coords {C : UInt64 → Prop} {ps : List (List (List P))} (hc : ∀ x ∈ coords (.multiPolygon ps), C x)
    (he : noEmptyMember (.multiPolygon ps) = true) : ∀ rs ∈ ps, rs ≠ [] ∧ ∀ r ∈ rs, r ≠ [] ∧ ∀ p ∈ r, C p.x ∧ C p.y := by
  simp only [noEmptyMember, List.all_eq_true, Bool.and_eq_true, Bool.not_eq_true', List.isEmpty_eq_false_iff] at he
  exact fun rs hrs => ⟨(he rs hrs).1, fun r hr => ⟨(he rs hrs).2 r hr,
    forall_rings_of_coords (rs := rs) (fun x hx => hc x (List.mem_flatMap.2 ⟨rs, hrs, hx⟩)) r hr⟩⟩

namespace SpellRules
variable {fmtF : UInt64 → Str} {Pr : (Str → Prop) → Prop} {C : UInt64 → Prop} (R : SpellRules fmtF Pr C)
include R

theorem points {ps : List P} (hc : ∀ p ∈ ps, C p.x ∧ C p.y) : Pr (Joined (fun p t => t = wCoord fmtF p) ps) :=
  R.joined ps fun p hp => R.pt p (hc p hp)

theorem ring {ps : List P} (hne : ps ≠ []) (hc : ∀ p ∈ ps, C p.x ∧ C p.y) : Pr (IsBrPoints fmtF ps) :=
  R.congr (fun t => (isBrPoints_iff fmtF hne t).symm) (R.br (R.points hc))

theorem rings {rs : List (List P)} (hr : ∀ r ∈ rs, r ≠ [] ∧ ∀ p ∈ r, C p.x ∧ C p.y) : Pr (Joined (IsBrPoints fmtF) rs) :=
  R.joined rs fun r h => R.ring (hr r h).1 (hr r h).2

theorem poly {rs : List (List P)} (hne : rs ≠ []) (hr : ∀ r ∈ rs, r ≠ [] ∧ ∀ p ∈ r, C p.x ∧ C p.y) :
    Pr (IsBrPoly fmtF rs) :=
  R.congr (fun t => (isBrPoly_iff fmtF hne t).symm) (R.br (R.rings hr))

/-- the grammar walked once: what stands between the brackets of any spelling of a value without `()` members -/
theorem body (g : G) :
    (∀ x ∈ coords g, C x) → noEmptyMemberDeep g = true → Pr (SpelledBody fmtF g) := by
  induction g using Geom.ind with
  | point p => exact fun hc _ => R.pt p ⟨hc _ (by simp [coords, ptCoords]), hc _ (by simp [coords, ptCoords])⟩
  | multiPoint ps =>
    exact fun hc _ => R.joined ps fun q hq => R.congr (fun t => (isBrPoint_iff fmtF q t).symm)
      (R.br (R.pt q (forall_pts_of_coords hc q hq)))
  | lineString ps =>
    exact fun hc _ => R.congr (fun body => (joined_map_iff _ _ _).symm) (R.points (forall_pts_of_coords hc))
  | multiLineString ls => exact fun hc he => R.rings (rings_of_coords hc he)
  | polygon rs => exact fun hc he => R.rings (rings_of_coords hc he)
  | ring r =>
    exact fun hc he => R.rings (rs := [r]) (rings_of_coords (fun x hx => hc x (coords_asPolygon (g := .ring r) hx))
      ((noEmptyMember_asPolygon (.ring r)).trans he))
  | bound a b =>
    exact fun hc _ => R.rings (rs := [boundRing a b])
      (rings_of_coords (fun x hx => hc x (coords_asPolygon (g := .bound a b) hx)) rfl)
  | multiPolygon ps =>
    exact fun hc he => R.joined ps fun q hq =>
      R.poly (polys_of_coords hc he q hq).1 (polys_of_coords hc he q hq).2
  | collection gs ih =>
    intro hc he
    refine R.congr (Q := Joined (SpelledCore fmtF) gs) (fun body => ?_)
      (R.joined gs fun q hq => R.core q (ih q hq (fun x hx => hc x (mem_coordsList hq hx)) (allDeep_mem he q hq)))
    exact exists_congr fun ts => and_congr_left fun _ => (spelledList_iff fmtF gs ts).symm

end SpellRules

section
variable {fmtF : UInt64 → Str} {parseF : Str → Option UInt64}

theorem endsRules : SpellRules fmtF (fun Q => ∀ t, Q t → GoodEnds t) (FloatText fmtF parseF) where
  congr h hq t ht := hq t ((h t).2 ht)
  pt _ hp _ ht := ht ▸ wCoord_goodEnds hp
  br _ _ := fun ⟨b, c, body, _, _, _, e⟩ => e ▸ by simpa [bracketed] using goodEnds_paren (b ++ body ++ c)
  joined _ h _ := fun ⟨_, hf, hj⟩ => sepJoin_goodEnds hj fun q hq => let ⟨a, ha, hr⟩ := hf.mem_right q hq; h a ha q hr
  core _ _ _ ht := spelledCore_goodEnds fmtF ht

theorem spelledBody_goodEnds {g : G} (hc : GoodCoords fmtF parseF g) (he : noEmptyMemberDeep g = true) {body : Str}
    (hb : SpelledBody fmtF g body) : GoodEnds body :=
  endsRules.body g hc he body hb

theorem pPoints_joined {ps : List P} {body : Str} (hg : ∀ p ∈ ps, GoodPt fmtF parseF p)
    (h : Joined (fun p t => t = wCoord fmtF p) ps body) : pPoints parseF body = .ok ps :=
  listOf_joined splits_comma h fun p hp _ e => e ▸ ⟨wCoord_isPiece (hg p hp), parsePoint_wCoord (hg p hp)⟩

theorem not_mem_of_allBlank {b : Str} (hb : AllBlank b) {x : UInt8} (hx : isBlank x = false) : x ∉ b := by
  intro h; rw [hb x h] at hx; cases hx

theorem isBrPoint_isPiece {p : P} {q : Str} (hp : GoodPt fmtF parseF p) (h : IsBrPoint fmtF p q) : IsPiece q := by
  obtain ⟨b, c, hb, hc, rfl⟩ := h
  have hg : GoodEnds (bracketed [] b c (wCoord fmtF p)) := by
    simpa [bracketed] using goodEnds_paren (b ++ wCoord fmtF p ++ c)
  refine ⟨by simp [bracketed], ?_, hg.2⟩
  simp only [bracketed, List.nil_append, List.mem_cons, List.mem_append, List.not_mem_nil, or_false]
  rintro (h | ((h | h) | h) | h)
  · revert h; decide
  · exact not_mem_of_allBlank hb (by decide) h
  · exact not_mem_wCoord hp (by decide) (by decide) h
  · exact not_mem_of_allBlank hc (by decide) h
  · revert h; decide

theorem mem_sepJoin {x : UInt8} {xs : List Str} {body : Str} (hj : SepJoin xs body) (hx : x ∈ body) :
    x = cComma ∨ isBlank x = true ∨ ∃ s ∈ xs, x ∈ s := by
  induction hj with
  | one p => exact .inr (.inr ⟨p, by simp, hx⟩)
  | cons p a b ps t ha hb _ ih =>
    simp only [List.mem_append, List.mem_cons] at hx
    rcases hx with (hx | hx) | rfl | hx | hx
    · exact .inr (.inr ⟨p, by simp, hx⟩)
    · exact .inr (.inl (ha x hx))
    · exact .inl rfl
    · exact .inr (.inl (hb x hx))
    · rcases ih hx with h | h | ⟨s, hs, hxs⟩
      · exact .inl h
      · exact .inr (.inl h)
      · exact .inr (.inr ⟨s, List.mem_cons_of_mem _ hs, hxs⟩)

theorem isRingText_of_isBrPoints {ps : List P} {q : Str} (hg : ∀ p ∈ ps, GoodPt fmtF parseF p)
    (h : IsBrPoints fmtF ps q) : IsRingText q := by
  rcases h with ⟨-, rfl⟩ | ⟨b, c, body, hb, hc, hj, rfl⟩
  · exact ⟨[], rfl, by simp⟩
  · refine ⟨b ++ body ++ c, by simp [bracketed], fun h => ?_⟩
    simp only [List.mem_append] at h
    rcases h with (h | h) | h
    · exact not_mem_of_allBlank hb (by decide) h
    · rcases mem_sepJoin hj h with h | h | ⟨s, hs, hx⟩
      · revert h; decide
      · revert h; decide
      · obtain ⟨p, hp, rfl⟩ := List.mem_map.1 hs
        exact not_mem_wCoord (hg p hp) (by decide) (by decide) hx
    · exact not_mem_of_allBlank hc (by decide) h

theorem brPoint_isBrPoint {p : P} {q : Str} (hp : GoodPt fmtF parseF p) (h : IsBrPoint fmtF p q) :
    br (parsePoint parseF) q = .ok p :=
  br_reads (fun _ e => e ▸ ⟨wCoord_goodEnds hp, parsePoint_wCoord hp⟩) ((isBrPoint_iff fmtF p q).1 h)

theorem brPoints_isBrPoints {ps : List P} {q : Str} (hne : ps ≠ []) (hg : ∀ p ∈ ps, GoodPt fmtF parseF p)
    (h : IsBrPoints fmtF ps q) : br (pPoints parseF) q = .ok ps :=
  br_reads (fun _ hj => ⟨endsRules.points hg _ hj, pPoints_joined hg hj⟩)
    ((isBrPoints_iff fmtF hne q).1 h)

theorem pRings_joined {rs : List (List P)} {body : Str} (hr : ∀ r ∈ rs, r ≠ [] ∧ ∀ p ∈ r, GoodPt fmtF parseF p)
    (h : Joined (IsBrPoints fmtF) rs body) : pRings parseF body = .ok rs :=
  listOf_joined splits_single h fun r hr' _ hq =>
    ⟨isRingText_of_isBrPoints (hr r hr').2 hq, brPoints_isBrPoints (hr r hr').1 (hr r hr').2 hq⟩

theorem pRings_body {rs : List (List P)} (he : noEmptyMember (.polygon rs) = true)
    (hc : ∀ x ∈ ringsCoords rs, FloatText fmtF parseF x) {body : Str} (hb : Joined (IsBrPoints fmtF) rs body) :
    pRings parseF body = .ok rs ∧ GoodEnds body :=
  have hr := rings_of_coords hc he
  ⟨pRings_joined hr hb, endsRules.rings hr body hb⟩

theorem isRespelledPolyText_of_isBrPoly {rs : List (List P)} {x : Str} (hne : rs ≠ [])
    (hg : ∀ r ∈ rs, ∀ p ∈ r, GoodPt fmtF parseF p) (h : IsBrPoly fmtF rs x) : IsRespelledPolyText x := by
  rcases h with ⟨rfl, -⟩ | ⟨pieces, b, c, body, hb, hc, hf, hj, rfl⟩
  · exact absurd rfl hne
  · refine ⟨pieces, body, b, c, ?_, hj, hb, hc, rfl⟩
    intro q hq
    obtain ⟨r, hr, hrq⟩ := hf.mem_right q hq
    exact isRingText_of_isBrPoints (hg r hr) hrq

theorem brRings_isBrPoly {rs : List (List P)} {q : Str} (hne : rs ≠ [])
    (hr : ∀ r ∈ rs, r ≠ [] ∧ ∀ p ∈ r, GoodPt fmtF parseF p) (h : IsBrPoly fmtF rs q) :
    br (pRings parseF) q = .ok rs :=
  br_reads (fun _ hb => ⟨endsRules.rings hr _ hb, pRings_joined hr hb⟩)
    ((isBrPoly_iff fmtF hne q).1 h)

theorem pPolys_joined {ps : List (List (List P))} {body : Str}
    (hp : ∀ rs ∈ ps, rs ≠ [] ∧ ∀ r ∈ rs, r ≠ [] ∧ ∀ p ∈ r, GoodPt fmtF parseF p)
    (h : Joined (IsBrPoly fmtF) ps body) : listOf (splitRe matchDouble) (br (pRings parseF)) body = .ok ps :=
  listOf_joined splits_double h fun rs hrs _ hq =>
    ⟨isRespelledPolyText_of_isBrPoly (hp rs hrs).1 (fun r hr => ((hp rs hrs).2 r hr).2) hq,
      brRings_isBrPoly (hp rs hrs).1 (hp rs hrs).2 hq⟩

theorem isBrPoints_wLineString (fmtF : UInt64 → Str) (ps : List P) : IsBrPoints fmtF ps (wLineString fmtF ps) := by
  cases ps with
  | nil => exact .inl ⟨rfl, by simp [wLineString, commaSep]⟩
  | cons p ps =>
    exact .inr ⟨[], [], _, allBlank_nil, allBlank_nil, sepJoin_commaSep (by simp),
      by simp [wLineString, bracketed]⟩

theorem forall2_wLineString (fmtF : UInt64 → Str) (rs : List (List P)) :
    Forall2 (IsBrPoints fmtF) rs (rs.map (wLineString fmtF)) :=
  forall2_map _ rs (fun r _ => isBrPoints_wLineString fmtF r)

theorem isBrPoly_wRings (fmtF : UInt64 → Str) (rs : List (List P)) : IsBrPoly fmtF rs (wRings fmtF rs) := by
  cases rs with
  | nil => exact .inl ⟨rfl, by simp [wRings, commaSep]⟩
  | cons r rs =>
    exact .inr ⟨_, [], [], _, allBlank_nil, allBlank_nil, forall2_wLineString fmtF (r :: rs),
      sepJoin_commaSep (by simp), by simp [wRings, bracketed]⟩

end

section
variable (fmtF : UInt64 → Str) (parseF : Str → Option UInt64)

theorem unmarshalPoint_spelled {p : P} {t : Str} (h : SpelledCore fmtF (.point p) t)
    (hc : GoodCoords fmtF parseF (.point p)) : unmarshalPoint parseF t = .ok p := by
  have hp : GoodPt fmtF parseF p := ⟨hc _ (by simp [coords, ptCoords]), hc _ (by simp [coords, ptCoords])⟩
  rw [unmarshalPoint_eq, framed_kwBracketed _ 5 rfl (by simpa only [SpelledCore] using h) (wCoord_goodEnds hp),
    parsePoint_wCoord hp]

theorem unmarshalMultiPoint_spelled {ps : List P} {t : Str} (h : SpelledCore fmtF (.multiPoint ps) t)
    (hc : GoodCoords fmtF parseF (.multiPoint ps)) : unmarshalMultiPoint parseF t = .ok ps := by
  have hg := forall_pts_of_coords (Q := FloatText fmtF parseF) (ps := ps) hc
  rw [unmarshalMultiPoint_eq]
  exact framedE_spelled _ 10 rfl (by decide) ((spelledCore_iff fmtF).1 h) fun body hb _ =>
    ⟨listOf_joined splits_comma hb fun p hp q hq => ⟨isBrPoint_isPiece (hg p hp) hq, brPoint_isBrPoint (hg p hp) hq⟩,
      spelledBody_goodEnds hc rfl hb⟩

theorem unmarshalLineString_spelled {ps : List P} {t : Str} (h : SpelledCore fmtF (.lineString ps) t)
    (hc : GoodCoords fmtF parseF (.lineString ps)) : unmarshalLineString parseF t = .ok ps := by
  have hg := forall_pts_of_coords (Q := FloatText fmtF parseF) (ps := ps) hc
  rw [unmarshalLineString_eq]
  exact framedE_spelled _ 10 rfl (by decide) ((spelledCore_iff fmtF).1 h) fun body hj _ =>
    ⟨pPoints_joined hg ((joined_map_iff _ _ _).1 hj), spelledBody_goodEnds hc rfl hj⟩

theorem unmarshalMultiLineString_spelled {ls : List (List P)} {t : Str} (h : SpelledCore fmtF (.multiLineString ls) t)
    (he : noEmptyMember (.multiLineString ls) = true)
    (hc : GoodCoords fmtF parseF (.multiLineString ls)) : unmarshalMultiLineString parseF t = .ok ls := by
  rw [unmarshalMultiLineString_eq]
  exact framedE_spelled _ 15 rfl (by decide) ((spelledCore_iff fmtF).1 h) fun body hb _ =>
    pRings_body he hc hb

theorem unmarshalPolygon_spelled {rs : List (List P)} {t : Str} (h : SpelledCore fmtF (.polygon rs) t)
    (he : noEmptyMember (.polygon rs) = true)
    (hc : GoodCoords fmtF parseF (.polygon rs)) : unmarshalPolygon parseF t = .ok rs := by
  rw [unmarshalPolygon_eq]
  exact framedE_spelled _ 7 rfl (by decide) ((spelledCore_iff fmtF).1 h) fun body hb _ =>
    pRings_body he hc hb

theorem unmarshalMultiPolygon_spelled {ps : List (List (List P))} {t : Str} (h : SpelledCore fmtF (.multiPolygon ps) t)
    (he : noEmptyMember (.multiPolygon ps) = true)
    (hc : GoodCoords fmtF parseF (.multiPolygon ps)) : unmarshalMultiPolygon parseF t = .ok ps := by
  rw [unmarshalMultiPolygon_eq]
  exact framedE_spelled _ 12 rfl (by decide) ((spelledCore_iff fmtF).1 h) fun body hb _ =>
    ⟨pPolys_joined (polys_of_coords hc he) hb, spelledBody_goodEnds hc he hb⟩

theorem marshalG_spelledCore (g : G) : SpelledCore fmtF g (marshalG fmtF g) := by
  have empty : ∀ g, isEmptyValue g = true → marshalG fmtF g = kwOf g ++ sEmpty →
      SpelledCore fmtF g (marshalG fmtF g) := by
    intro g he hm
    rw [spelledCore_iff, if_pos he, hm]
    exact (kwOf_upper g).2
  have full : ∀ g body, isEmptyValue g = false → SpelledBody fmtF g body →
      marshalG fmtF g = kwOf g ++ cLP :: (body ++ [cRP]) → SpelledCore fmtF g (marshalG fmtF g) := by
    intro g body he hb hm
    rw [spelledCore_iff, if_neg (by simp [he]), hm]
    exact ⟨body, hb, kwOf g, [], [], [], (kwOf_upper g).1, allBlank_nil, allBlank_nil, allBlank_nil, by simp [bracketed]⟩
  have rings : ∀ rs : List (List P), rs ≠ [] →
      ∃ pieces, Forall2 (IsBrPoints fmtF) rs pieces ∧ SepJoin pieces (commaSep (rs.map (wLineString fmtF))) :=
    fun rs hne => ⟨_, forall2_wLineString fmtF rs, sepJoin_commaSep (by simpa using hne)⟩
  -- `Geom.rec`, not `Geom.ind`: `marshalG.marshalList` and `SpelledList` recurse over the member list (`motive_2`)
  refine Geom.rec (motive_1 := fun g => SpelledCore fmtF g (marshalG fmtF g))
    (motive_2 := fun gs => SpelledList fmtF gs (marshalG.marshalList fmtF gs))
    ?_ ?_ ?_ ?_ ?_ ?_ ?_ ?_ ?_ ?_ ?_ g
  · exact fun p => full _ _ rfl rfl rfl
  · rintro (_ | ⟨p, ps⟩)
    · exact empty _ rfl rfl
    · exact full _ _ rfl ⟨_, forall2_map (fun p => cLP :: (wCoord fmtF p ++ [cRP])) (p :: ps)
        (fun x _ => ⟨[], [], allBlank_nil, allBlank_nil, by simp [bracketed]⟩), sepJoin_commaSep (by simp)⟩ rfl
  · rintro (_ | ⟨p, ps⟩)
    · exact empty _ rfl rfl
    · exact full _ _ rfl (sepJoin_commaSep (by simp)) rfl
  · rintro (_ | ⟨l, ls⟩)
    · exact empty _ rfl rfl
    · exact full _ _ rfl (rings _ (by simp)) rfl
  · exact fun r => full _ _ rfl (rings [r] (by simp)) rfl
  · rintro (_ | ⟨l, ls⟩)
    · exact empty _ rfl rfl
    · exact full _ _ rfl (rings _ (by simp)) rfl
  · rintro (_ | ⟨p, ps⟩)
    · exact empty _ rfl rfl
    · exact full _ _ rfl ⟨_, forall2_map (wRings fmtF) (p :: ps) (fun rs _ => isBrPoly_wRings fmtF rs),
        sepJoin_commaSep (by simp)⟩ rfl
  · exact fun a b => full _ _ rfl (rings [boundRing a b] (by simp)) rfl
  · rintro (_ | ⟨g, gs⟩) ih
    · exact empty _ rfl rfl
    · exact full _ _ rfl ⟨_, ih, sepJoin_commaSep (by simp [marshalG.marshalList])⟩ rfl
  · trivial
  · exact fun g gs ih1 ih2 => ⟨ih1, ih2⟩

end

end Orb.WKT
