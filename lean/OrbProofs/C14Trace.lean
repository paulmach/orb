/-
  What the DDA of `line()` computes (exact arithmetic), said once: `walk`, `segment`, `lineSegs` and `line` enter
  a list of cells one after the other (`run`), and that list is a `Trace` — a chain of 4-neighbour cells, each
  with the parameter at which the segment enters it.  Soundness, completeness and connectivity are facts about a
  `Trace` alone; what entering cells does to the set, the ring trace and `prevX, prevY, y` is a fact about `run`
  alone.
-/
import OrbProofs.C14Dda
import OrbProofs.C14Cover
import OrbProofs.EdgeList
import Mathlib.Data.List.Chain

namespace Orb.TileCover
open Orb Orb.Tile

/-- last element of a non-empty list given as head and tail: the function `Contains.lastD'` of `EdgeList`
    (`lastOf_eq`); the statements of this package are written with this name -/
def lastOf {β : Type} : β → List β → β
  | v, [] => v
  | _, b :: t => lastOf b t

theorem lastOf_eq {β : Type} (u : β) (l : List β) : lastOf u l = Contains.lastD' u l := by
  induction l generalizing u with
  | nil => rfl
  | cons b t ih => exact ih b

theorem lastOf_mem {β : Type} (u : β) (l : List β) : lastOf u l ∈ u :: l := lastOf_eq u l ▸ Contains.lastD'_mem u l

theorem lastOf_map {β γ : Type} (f : β → γ) (u : β) (l : List β) :
    lastOf (f u) (l.map f) = f (lastOf u l) := by
  rw [lastOf_eq, lastOf_eq, Contains.lastD'_map]

theorem getLast?_eq_lastOf {β : Type} (a : β) (t : List β) : (a :: t).getLast? = some (lastOf a t) := by
  rw [lastOf_eq]; exact Contains.getLast?_cons_eq a t

/-- last emitted cell after emitting `l` when `cur` was the last one before -/
def lastO {β : Type} : Option β → List β → Option β
  | cur, [] => cur
  | _, c :: t => lastO (some c) t

/-- `R` holds between consecutive cells of `cur :: l` -/
def chainO {β : Type} (R : β → β → Prop) : Option β → List β → Prop
  | _, [] => True
  | none, c :: t => chainO R (some c) t
  | some p, c :: t => R p c ∧ chainO R (some c) t

theorem lastO_append {β : Type} (cur : Option β) (l1 l2 : List β) :
    lastO cur (l1 ++ l2) = lastO (lastO cur l1) l2 := by
  induction l1 generalizing cur with
  | nil => rfl
  | cons c t ih => simp only [List.cons_append, lastO]; exact ih _

theorem lastO_cons_eq {β : Type} (cur : Option β) (c : β) (t : List β) :
    lastO cur (c :: t) = some (lastOf c t) := by
  induction t generalizing cur c with
  | nil => rfl
  | cons d t ih => simp only [lastO, lastOf] at ih ⊢; exact ih (some c) d

theorem chainO_append {β : Type} (R : β → β → Prop) (cur : Option β) (l1 l2 : List β) :
    chainO R cur (l1 ++ l2) ↔ chainO R cur l1 ∧ chainO R (lastO cur l1) l2 := by
  induction l1 generalizing cur with
  | nil => simp [chainO, lastO]
  | cons c t ih =>
    cases cur with
    | none => simp only [List.cons_append, chainO, lastO]; exact ih _
    | some p => simp only [List.cons_append, chainO, lastO]; rw [ih]; tauto

theorem chainO_some_iff {β : Type} (R : β → β → Prop) : ∀ (l : List β) (p : β),
    chainO R (some p) l ↔ List.IsChain R (p :: l)
  | [], _ => by simp [chainO]
  | c :: t, p => by rw [chainO, chainO_some_iff R t c, List.isChain_cons_cons]

theorem chainO_iff {β : Type} (R : β → β → Prop) (l : List β) : ∀ cur : Option β,
    chainO R cur l ↔ ∀ se ∈ Contains.chain (cur.toList ++ l), R se.1 se.2 := by
  induction l with
  | nil => intro cur; cases cur <;> simp [chainO, Contains.chain]
  | cons c t ih =>
    intro cur
    cases cur with
    | none => exact ih (some c)
    | some p =>
      rw [chainO, ih (some c)]
      simp only [Option.toList_some, List.cons_append, List.nil_append, Contains.chain, List.forall_mem_cons]

theorem chainO_closed_iff {β : Type} (R : β → β → Prop) (l : List β) :
    (chainO R none l ∧ ∀ c0 t, l = c0 :: t → R (lastOf c0 t) c0) ↔ ∀ se ∈ Contains.cyc l, R se.1 se.2 := by
  cases l with
  | nil => simp [chainO, Contains.cyc]
  | cons c0 t =>
    rw [Contains.cyc_cons, ← lastOf_eq, chainO, chainO_iff]
    simp only [List.forall_mem_append, List.mem_singleton, forall_eq, List.cons.injEq, and_imp,
      Option.toList_some, List.singleton_append]
    exact and_congr_right fun _ => ⟨fun h => h c0 t rfl rfl, fun h _ _ h1 h2 => h1 ▸ h2 ▸ h⟩

/-- the ring trace appended by a list of emitted cells; `prev` is the row of the cell emitted before -/
def rows : Option ℕ → List (ℕ × ℕ) → List (ℕ × ℕ)
  | _, [] => []
  | prev, c :: t => (if prev = some c.2 then [] else [c]) ++ rows (some c.2) t

def tileOf (zoom : ℕ) (c : ℕ × ℕ) : Tile := ⟨c.1, c.2, zoom⟩

section trace
variable {K : Type} [Field K] [LinearOrder K] [IsStrictOrderedRing K] [FloorRing K]
set_option linter.unusedSectionVars false

/-- the point `(px, py)` lies in the closed square of the cell `c` -/
def InSq (c : ℕ × ℕ) (px py : K) : Prop :=
  (c.1 : K) ≤ px ∧ px ≤ (c.1 : K) + 1 ∧ (c.2 : K) ≤ py ∧ py ≤ (c.2 : K) + 1

/-- two cells whose closed squares share a point are neighbours (8-neighbourhood or equal) -/
def Near (c c' : ℕ × ℕ) : Prop :=
  c.1 ≤ c'.1 + 1 ∧ c'.1 ≤ c.1 + 1 ∧ c.2 ≤ c'.2 + 1 ∧ c'.2 ≤ c.2 + 1

theorem le_succ_of_cast_le {m n : ℕ} (h : (m : K) ≤ (n : K) + 1) : m ≤ n + 1 := by exact_mod_cast h
theorem le_of_cast_lt_succ {m n : ℕ} (h : (m : K) < (n : K) + 1) : m ≤ n :=
  Nat.lt_succ_iff.mp (by exact_mod_cast h)

theorem near_of_inSq {c c' : ℕ × ℕ} {px py : K} (h : InSq c px py) (h' : InSq c' px py) : Near c c' := by
  obtain ⟨a1, a2, a3, a4⟩ := h
  obtain ⟨b1, b2, b3, b4⟩ := h'
  exact ⟨le_succ_of_cast_le (a1.trans b2), le_succ_of_cast_le (b1.trans a2),
    le_succ_of_cast_le (a3.trans b4), le_succ_of_cast_le (b3.trans a4)⟩

theorem eq_of_inSq_open {c : ℕ × ℕ} {i j : ℕ} {px py : K} (h : InSq c px py)
    (h1 : (i : K) < px) (h2 : px < (i : K) + 1) (h3 : (j : K) < py) (h4 : py < (j : K) + 1) :
    c = (i, j) := by
  obtain ⟨a1, a2, a3, a4⟩ := h
  exact Prod.ext
    (le_antisymm (le_of_cast_lt_succ (a1.trans_lt h2)) (le_of_cast_lt_succ (h1.trans_le a2)))
    (le_antisymm (le_of_cast_lt_succ (a3.trans_lt h4)) (le_of_cast_lt_succ (h3.trans_le a4)))

/-- the point of the segment at parameter `t` -/
def segX (a b : Pt K) (t : K) : K := a.x + t * (b.x - a.x)
def segY (a b : Pt K) (t : K) : K := a.y + t * (b.y - a.y)

def cellOf (a : Pt K) : ℕ × ℕ := (⌊a.x⌋.toNat, ⌊a.y⌋.toNat)

theorem inSq_of_inCl {a b : Pt K} {z w : ℤ} {t : K} (hz : 0 ≤ z) (hw : 0 ≤ w)
    (hx : InCl a.x b.x z t) (hy : InCl a.y b.y w t) :
    InSq (z.toNat, w.toNat) (segX a b t) (segY a b t) := by
  unfold InSq segX segY
  show ((z.toNat : ℕ) : K) ≤ _ ∧ _ ≤ ((z.toNat : ℕ) : K) + 1 ∧
    ((w.toNat : ℕ) : K) ≤ _ ∧ _ ≤ ((w.toNat : ℕ) : K) + 1
  rw [natCast_toNat hz, natCast_toNat hw]
  exact ⟨hx.1, hx.2, hy.1, hy.2⟩

theorem inSq_cellOf (a : Pt K) (hax : 0 ≤ a.x) (hay : 0 ≤ a.y) : InSq (cellOf a) a.x a.y := by
  unfold InSq cellOf
  show ((⌊a.x⌋.toNat : ℕ) : K) ≤ _ ∧ _ ≤ ((⌊a.x⌋.toNat : ℕ) : K) + 1 ∧
    ((⌊a.y⌋.toNat : ℕ) : K) ≤ _ ∧ _ ≤ ((⌊a.y⌋.toNat : ℕ) : K) + 1
  rw [natCast_toNat (Int.floor_nonneg.mpr hax), natCast_toNat (Int.floor_nonneg.mpr hay)]
  exact ⟨Int.floor_le _, (Int.lt_floor_add_one _).le, Int.floor_le _, (Int.lt_floor_add_one _).le⟩

theorem inSq_between {a b : Pt K} {c : ℕ × ℕ} {τ τ' t : K} (h1 : τ ≤ t) (h2 : t ≤ τ')
    (h : InSq c (segX a b τ) (segY a b τ)) (h' : InSq c (segX a b τ') (segY a b τ')) :
    InSq c (segX a b t) (segY a b t) := by
  obtain ⟨a1, a2, a3, a4⟩ := h
  obtain ⟨b1, b2, b3, b4⟩ := h'
  obtain ⟨x1, x2⟩ := affine_between h1 h2 a1 a2 b1 b2
  obtain ⟨y1, y2⟩ := affine_between h1 h2 a3 a4 b3 b4
  exact ⟨x1, x2, y1, y2⟩

/-- a visited cell together with the parameter at which it was entered -/
structure PC (K : Type) where
  c : ℕ × ℕ
  τ : K

/-- `v` is entered from `u` at `P(v.τ)`, a point of both closed squares -/
def PLink (a b : Pt K) (u v : PC K) : Prop :=
  u.τ ≤ v.τ ∧ InSq u.c (segX a b v.τ) (segY a b v.τ) ∧ InSq v.c (segX a b v.τ) (segY a b v.τ)

/-- one step of the walk: `v` is a 4-neighbour of `u`, entered from it at the parameter `v.τ ≤ 1` -/
def Step (a b : Pt K) (u v : PC K) : Prop :=
  PLink a b u v ∧ v.τ ≤ 1 ∧
  ((u.c.1 = v.c.1 ∧ (u.c.2 + 1 = v.c.2 ∨ v.c.2 + 1 = u.c.2)) ∨
   (u.c.2 = v.c.2 ∧ (u.c.1 + 1 = v.c.1 ∨ v.c.1 + 1 = u.c.1)))

/-- The cells `u :: l` are what the segment `a b` visits from the parameter `u.τ` on: it is in `u.c` at
    `u.τ`, goes from cell to cell by `Step`s, and is in the last cell at parameter `1`. -/
structure Trace (a b : Pt K) (u : PC K) (l : List (PC K)) : Prop where
  t0 : 0 ≤ u.τ
  t1 : u.τ ≤ 1
  start : InSq u.c (segX a b u.τ) (segY a b u.τ)
  chain : List.IsChain (Step a b) (u :: l)
  stop : InSq (lastOf u l).c (segX a b 1) (segY a b 1)

theorem Trace.tail {a b : Pt K} {u v : PC K} {l : List (PC K)} (h : Trace a b u (v :: l)) :
    Step a b u v ∧ Trace a b v l := by
  obtain ⟨hs, hrest⟩ := List.isChain_cons_cons.mp h.chain
  exact ⟨hs, ⟨h.t0.trans hs.1.1, hs.2.1, hs.1.2.2, hrest, h.stop⟩⟩

theorem Trace.cons {a b : Pt K} {u v : PC K} {l : List (PC K)} (h : Trace a b v l) (h0 : 0 ≤ u.τ)
    (hu : InSq u.c (segX a b u.τ) (segY a b u.τ)) (hs : Step a b u v) : Trace a b u (v :: l) :=
  ⟨h0, hs.1.1.trans h.t1, hu, List.IsChain.cons_cons hs h.chain, h.stop⟩

theorem Trace.plink {a b : Pt K} {u : PC K} {l : List (PC K)} (h : Trace a b u l) :
    List.IsChain (PLink a b) (u :: l) :=
  h.chain.imp fun _ _ hs => hs.1

theorem Trace.stop_at {a b : Pt K} {l : List (PC K)} {u : PC K} (h : Trace a b u l) :
    InSq (lastOf u l).c b.x b.y := by
  have := h.stop
  simp only [segX, segY, one_mul, add_sub_cancel] at this
  exact this

theorem Trace.sound {a b : Pt K} : ∀ {l : List (PC K)} {u : PC K}, Trace a b u l →
    ∀ v ∈ u :: l, 0 ≤ v.τ ∧ v.τ ≤ 1 ∧ InSq v.c (segX a b v.τ) (segY a b v.τ)
  | [], u, h, v, hv => by rw [List.mem_singleton.mp hv]; exact ⟨h.t0, h.t1, h.start⟩
  | w :: l, u, h, v, hv => by
    rcases List.mem_cons.mp hv with rfl | hv
    · exact ⟨h.t0, h.t1, h.start⟩
    · exact h.tail.2.sound v hv

/-- the segment stays in `u.c` until it enters the next cell -/
theorem Trace.covers {a b : Pt K} : ∀ {l : List (PC K)} {u : PC K}, Trace a b u l →
    ∀ {t : K}, u.τ ≤ t → t ≤ 1 → ∃ v ∈ u :: l, InSq v.c (segX a b t) (segY a b t)
  | [], u, h, t, h0, h1 => ⟨u, List.mem_cons_self, inSq_between h0 h1 h.start h.stop⟩
  | w :: l, u, h, t, h0, h1 => by
    obtain ⟨hs, hw⟩ := h.tail
    rcases le_total t w.τ with htw | htw
    · exact ⟨u, List.mem_cons_self, inSq_between h0 htw h.start hs.1.2.1⟩
    · obtain ⟨v, hv, hin⟩ := hw.covers htw h1
      exact ⟨v, List.mem_cons_of_mem _ hv, hin⟩

theorem Trace.adj4 {a b : Pt K} (zoom : ℕ) {l : List (PC K)} {u : PC K} (h : Trace a b u l) :
    List.IsChain Adj4 ((u :: l).map fun v => tileOf zoom v.c) :=
  List.isChain_map_of_isChain _ (fun _ _ hs => ⟨rfl, hs.2.2⟩) h.chain

theorem Trace.distinct {a b : Pt K} {l : List (PC K)} {u : PC K} (h : Trace a b u l) :
    chainO (· ≠ ·) (some u.c) (l.map (·.c)) :=
  (chainO_some_iff _ _ _).2 <| List.isChain_cons_map_of_isChain_cons (·.c) (fun u v hs e => by
    have e1 : u.c.1 = v.c.1 := congrArg Prod.fst e
    have e2 : u.c.2 = v.c.2 := congrArg Prod.snd e
    have := hs.2.2
    omega) h.chain

theorem Trace.near {a b : Pt K} {l : List (PC K)} {u : PC K} (h : Trace a b u l) :
    chainO Near (some u.c) (l.map (·.c)) :=
  (chainO_some_iff _ _ _).2 <|
    List.isChain_cons_map_of_isChain_cons (·.c) (fun _ _ hs => near_of_inSq hs.1.2.1 hs.1.2.2) h.chain

/-- `x, y := c; if x != prevX || y != prevY { emit }`: how `line()` enters a cell — the first cell of a
    segment is not emitted again when it is the cell emitted last; inside a walk every cell is emitted -/
def enter (zoom : ℕ) (s : LState K) (c : ℕ × ℕ) : LState K :=
  if (c.1 : K) = s.prevX ∧ (c.2 : K) = s.prevY then { s with x := (c.1 : K), y := (c.2 : K) }
  else LState.emit (opsK K) zoom { s with x := (c.1 : K), y := (c.2 : K) }

def run (zoom : ℕ) (s : LState K) (l : List (ℕ × ℕ)) : LState K := l.foldl (enter zoom) s

theorem run_cons (zoom : ℕ) (s : LState K) (c : ℕ × ℕ) (t : List (ℕ × ℕ)) :
    run zoom s (c :: t) = run zoom (enter zoom s c) t := rfl

theorem enter_xy (zoom : ℕ) (s : LState K) (c : ℕ × ℕ) :
    (enter zoom s c).x = (c.1 : K) ∧ (enter zoom s c).y = (c.2 : K) ∧
      (enter zoom s c).prevX = (c.1 : K) ∧ (enter zoom s c).prevY = (c.2 : K) := by
  unfold enter
  split
  next h => exact ⟨rfl, rfl, h.1.symm, h.2.symm⟩
  next => exact ⟨rfl, rfl, rfl, rfl⟩

theorem run_last (zoom : ℕ) (s : LState K) (c : ℕ × ℕ) (t : List (ℕ × ℕ)) :
    (run zoom s (c :: t)).y = ((lastOf c t).2 : K) ∧ (run zoom s (c :: t)).prevX = ((lastOf c t).1 : K) ∧
      (run zoom s (c :: t)).prevY = ((lastOf c t).2 : K) := by
  induction t generalizing s c with
  | nil => exact (enter_xy zoom s c).2
  | cons d t ih => exact ih (enter zoom s c) d

/-- `prevX, prevY` hold the cell `cur` emitted last (`-1, -1` before the first emit) -/
def PrevAt (s : LState K) : Option (ℕ × ℕ) → Prop
  | none => s.prevX = -1 ∧ s.prevY = -1
  | some p => s.prevX = (p.1 : K) ∧ s.prevY = (p.2 : K)

/-- State between two segments: nothing emitted yet (`none`), or `p` is the last emitted cell: `PrevAt`, and in
    addition `y` is the row of `p` and the tile of `p` is in the set. -/
def St (zoom : ℕ) (s : LState K) : Option (ℕ × ℕ) → Prop
  | none => s.prevX = -1 ∧ s.prevY = -1
  | some p => s.prevX = (p.1 : K) ∧ s.prevY = (p.2 : K) ∧ s.y = (p.2 : K) ∧ tileOf zoom p ∈ s.set

theorem St.prevAt {zoom : ℕ} {s : LState K} : ∀ {cur : Option (ℕ × ℕ)}, St zoom s cur → PrevAt s cur
  | none, h => h
  | some _, h => ⟨h.1, h.2.1⟩

theorem natCast_ne_neg_one (p : ℕ) : (p : K) ≠ -1 := fun h =>
  absurd (h ▸ Nat.cast_nonneg p : (0 : K) ≤ -1) (by norm_num)

theorem PrevAt.iff {s : LState K} : ∀ {cur : Option (ℕ × ℕ)}, PrevAt s cur → ∀ c : ℕ × ℕ,
    ((c.1 : K) = s.prevX ∧ (c.2 : K) = s.prevY) ↔ cur = some c
  | none, h, c => by
    simp only [reduceCtorEq, iff_false, not_and]
    exact fun e => absurd (e.trans h.1) (natCast_ne_neg_one _)
  | some p, h, c => by
    rw [h.1, h.2, Nat.cast_inj, Nat.cast_inj, Option.some.injEq]
    exact ⟨fun e => (Prod.ext e.1 e.2).symm, fun e => e ▸ ⟨rfl, rfl⟩⟩

theorem emit_nat_set (zoom : ℕ) (s : LState K) (c : ℕ × ℕ) :
    (LState.emit (opsK K) zoom { s with x := (c.1 : K), y := (c.2 : K) }).set = tileOf zoom c :: s.set := by
  rw [emit_set]
  show (⟨⌊((c.1 : ℕ) : K)⌋.toNat, ⌊((c.2 : ℕ) : K)⌋.toNat, zoom⟩ : Tile) :: s.set = _
  rw [Int.floor_natCast, Int.floor_natCast]; rfl

theorem enter_spec {zoom : ℕ} {s : LState K} {cur : Option (ℕ × ℕ)} (h : PrevAt s cur) (c : ℕ × ℕ) :
    (enter zoom s c).ring = s.ring.map (· ++ rows (cur.map (·.2)) [c]) ∧
      (enter zoom s c).set = if cur = some c then s.set else tileOf zoom c :: s.set := by
  by_cases hc : cur = some c
  · subst hc
    rw [enter, if_pos ((h.iff c).2 rfl), if_pos rfl]
    refine ⟨?_, rfl⟩
    show s.ring = _
    cases s.ring <;> simp [rows]
  · rw [enter, if_neg (mt (h.iff c).1 hc), if_neg hc, emit_nat_set, emit_ring]
    refine ⟨?_, rfl⟩
    show s.ring.map (fun r => if ((c.2 : ℕ) : K) = s.prevY then r else
      r ++ [(⌊((c.1 : ℕ) : K)⌋.toNat, ⌊((c.2 : ℕ) : K)⌋.toNat)]) = _
    rw [Int.floor_natCast, Int.floor_natCast]
    have hrow : ((c.2 : ℕ) : K) = s.prevY ↔ cur.map (·.2) = some c.2 := by
      cases cur with
      | none => exact iff_of_false (fun e => natCast_ne_neg_one _ (e.trans h.2)) nofun
      | some p => rw [h.2, Nat.cast_inj, Option.map_some, Option.some.injEq, eq_comm]
    cases s.ring with
    | none => rfl
    | some r => by_cases hr : cur.map (·.2) = some c.2 <;> simp [rows, hr, hrow]

theorem prevAt_enter (zoom : ℕ) (s : LState K) (c : ℕ × ℕ) : PrevAt (enter zoom s c) (some c) :=
  (enter_xy zoom s c).2.2

theorem run_ring (zoom : ℕ) : ∀ (cells : List (ℕ × ℕ)) (s : LState K) (cur : Option (ℕ × ℕ)),
    PrevAt s cur → (run zoom s cells).ring = s.ring.map (· ++ rows (cur.map (·.2)) cells)
  | [], s, cur, _ => by show s.ring = _; cases s.ring <;> simp [rows]
  | c :: t, s, cur, h => by
    rw [run_cons, run_ring zoom t _ _ (prevAt_enter zoom s c), (enter_spec h c).1]
    cases s.ring with
    | none => rfl
    | some r => simp [rows]

theorem run_set (zoom : ℕ) : ∀ (cells : List (ℕ × ℕ)) (s : LState K) (cur : Option (ℕ × ℕ)),
    PrevAt s cur → chainO (· ≠ ·) cur cells →
    (run zoom s cells).set = (cells.map (tileOf zoom)).reverse ++ s.set
  | [], _, _, _, _ => rfl
  | c :: t, s, cur, h, hch => by
    have hne : cur ≠ some c ∧ chainO (· ≠ ·) (some c) t := by
      cases cur with
      | none => exact ⟨nofun, hch⟩
      | some p => exact ⟨fun e => hch.1 (Option.some.inj e), hch.2⟩
    rw [run_cons, run_set zoom t _ _ (prevAt_enter zoom s c) hne.2, (enter_spec h c).2, if_neg hne.1]
    simp

/-- Between two segments: a cell that is not emitted again is in the set already (`St`). -/
theorem run_spec (zoom : ℕ) (cells : List (ℕ × ℕ)) : ∀ (s : LState K) (cur : Option (ℕ × ℕ)),
    St zoom s cur →
    St zoom (run zoom s cells) (lastO cur cells) ∧
      ∀ t, t ∈ (run zoom s cells).set ↔ t ∈ cells.map (tileOf zoom) ∨ t ∈ s.set := by
  induction cells with
  | nil => exact fun s cur hst => ⟨hst, fun t => ⟨Or.inr, fun h => h.resolve_left List.not_mem_nil⟩⟩
  | cons c t ih =>
    intro s cur hst
    obtain ⟨-, hset⟩ := enter_spec (zoom := zoom) hst.prevAt c
    obtain ⟨-, hy, hpx, hpy⟩ := enter_xy zoom s c
    have hmem : ∀ u, u ∈ (enter zoom s c).set ↔ u = tileOf zoom c ∨ u ∈ s.set := by
      intro u
      rw [hset]
      split
      next hc => subst hc; exact ⟨Or.inr, fun h => h.elim (fun e => e ▸ hst.2.2.2) id⟩
      next => exact List.mem_cons
    obtain ⟨i1, i2⟩ := ih (enter zoom s c) (some c) ⟨hpx, hpy, hy, (hmem _).2 (Or.inl rfl)⟩
    refine ⟨i1, fun u => ?_⟩
    rw [run_cons, i2, hmem, List.map_cons, List.mem_cons, or_assoc, or_left_comm]

theorem ne_of_step {z z' : ℤ} (h : z' = z + 1 ∨ z' = z - 1) : z' ≠ z := by omega

theorem toNat_step {z z' : ℤ} (hz : 0 ≤ z) (hz' : 0 ≤ z') (h : z' = z + 1 ∨ z' = z - 1) :
    z.toNat + 1 = z'.toNat ∨ z'.toNat + 1 = z.toNat := by omega

theorem enter_step {zoom : ℕ} {s : LState K} {z w z' w' : ℤ} (hpx : s.prevX = z) (hpy : s.prevY = w)
    (hz' : 0 ≤ z') (hw' : 0 ≤ w') (hne : z' ≠ z ∨ w' ≠ w) :
    enter zoom s (z'.toNat, w'.toNat) =
      LState.emit (opsK K) zoom { s with x := (z' : K), y := (w' : K) } := by
  rw [enter, if_neg]
  · show LState.emit _ _ { s with x := ((z'.toNat : ℕ) : K), y := ((w'.toNat : ℕ) : K) } = _
    rw [natCast_toNat hz', natCast_toNat hw']
  · show ¬ (((z'.toNat : ℕ) : K) = _ ∧ ((w'.toNat : ℕ) : K) = _)
    rw [natCast_toNat hz', natCast_toNat hw', hpx, hpy, Int.cast_inj, Int.cast_inj]
    omega

/-- The DDA loop from the cell `(z, w)`, entered at the parameter `τ`: what it returns is the state after
    entering the cells of a trace (that it returns is `walk_term`). -/
theorem walk_run (zoom : Nat) (a b : Pt K) (sx sy tdx tdy : K)
    (hax : 0 ≤ a.x) (hbx : 0 ≤ b.x) (hay : 0 ≤ a.y) (hby : 0 ≤ b.y) :
    ∀ (fuel : Nat) (tMX tMY : Option K) (s s' : LState K) (z w : ℤ) (τ : K),
      AxInv a.x b.x z tMX sx tdx → AxInv a.y b.y w tMY sy tdy → s.x = z → s.y = w →
      s.prevX = z → s.prevY = w →
      0 ≤ τ → τ ≤ 1 → InCl a.x b.x z τ → InCl a.y b.y w τ → LeOpt τ tMX → LeOpt τ tMY →
      walk (opsK K) zoom sx sy tdx tdy fuel tMX tMY s = some s' →
      ∃ l : List (PC K), Trace a b ⟨(z.toNat, w.toNat), τ⟩ l ∧ s' = run zoom s (l.map (·.c)) := by
  intro fuel
  induction fuel with
  | zero =>
    intro tMX tMY s s' z w τ hx hy _ _ _ _ hτ0 hτ1 hzτ hwτ _ _ h
    have hz := ax_nonneg hx hax hbx
    have hw := ax_nonneg hy hay hby
    rcases walk_cases zoom s hx hy with ⟨hcx, hcy, hwk⟩ | ⟨_, _, -, -, -, -, -, -, -, h0, -⟩ |
      ⟨_, _, -, -, -, -, -, -, -, h0, -⟩
    · exact ⟨[], ⟨hτ0, hτ1, inSq_of_inCl hz hw hzτ hwτ, List.IsChain.singleton _,
        inSq_of_inCl hz hw (ax_mid hx hzτ hτ1 (leOpt_of_not_ltOne hcx le_rfl))
          (ax_mid hy hwτ hτ1 (leOpt_of_not_ltOne hcy le_rfl))⟩, (Option.some.inj ((hwk 0).symm.trans h)).symm⟩
    · exact nomatch h0.symm.trans h
    · exact nomatch h0.symm.trans h
  | succ n ih =>
    intro tMX tMY s s' z w τ hx hy hsx hsy hpx hpy hτ0 hτ1 hzτ hwτ hτX hτY h
    have hz := ax_nonneg hx hax hbx
    have hw := ax_nonneg hy hay hby
    have hstart := inSq_of_inCl (a := a) (b := b) hz hw hzτ hwτ
    rcases walk_cases zoom s hx hy with
      ⟨hcx, hcy, hwk⟩ | ⟨m, z', rfl, hm1, hmY, hz', hinv, hstep, -, -, hwk⟩ |
        ⟨m, w', rfl, hm1, hmX, hw', hinv, hstep, -, -, hwk⟩
    · exact ⟨[], ⟨hτ0, hτ1, hstart, List.IsChain.singleton _,
        inSq_of_inCl hz hw (ax_mid hx hzτ hτ1 (leOpt_of_not_ltOne hcx le_rfl))
          (ax_mid hy hwτ hτ1 (leOpt_of_not_ltOne hcy le_rfl))⟩,
        (Option.some.inj ((hwk (n + 1)).symm.trans h)).symm⟩
    · -- a step along `x`, at the parameter `m`: the rest of the walk starts in `(z', w)` at `m`
      have hz'0 := ax_nonneg hinv hax hbx
      obtain ⟨hedge, htd⟩ := ax_edge hx hz'
      have hτm : τ ≤ m := hτX
      have hwm : InCl a.y b.y w m := ax_mid hy hwτ hτm hmY
      have hzm : InCl a.x b.x z m := ax_mid hx hzτ hτm (show LeOpt m (some m) from le_rfl)
      have e : s.x + sx = (z' : K) := by rw [hsx, hz']
      obtain ⟨l, htr, hrun⟩ := ih (some (m + tdx)) tMY
        (LState.emit (opsK K) zoom { s with x := s.x + sx }) s' z' w m hinv hy e hsy e hsy
        (hτ0.trans hτm) hm1.le hedge hwm (le_add_of_nonneg_right htd) hmY ((hwk n).symm.trans h)
      have hv : LState.emit (opsK K) zoom { s with x := s.x + sx } = enter zoom s (z'.toNat, w.toNat) := by
        rw [enter_step hpx hpy hz'0 hw (Or.inl (ne_of_step hstep)), ← hsy, ← e]
      exact ⟨⟨(z'.toNat, w.toNat), m⟩ :: l,
        htr.cons hτ0 hstart ⟨⟨hτm, inSq_of_inCl hz hw hzm hwm, inSq_of_inCl hz'0 hw hedge hwm⟩, hm1.le,
          Or.inr ⟨rfl, toNat_step hz hz'0 hstep⟩⟩, hrun.trans (by rw [hv]; rfl)⟩
    · have hw'0 := ax_nonneg hinv hay hby
      obtain ⟨hedge, htd⟩ := ax_edge hy hw'
      have hτm : τ ≤ m := hτY
      have hzm : InCl a.x b.x z m := ax_mid hx hzτ hτm hmX
      have hwm : InCl a.y b.y w m := ax_mid hy hwτ hτm (show LeOpt m (some m) from le_rfl)
      have e : s.y + sy = (w' : K) := by rw [hsy, hw']
      obtain ⟨l, htr, hrun⟩ := ih tMX (some (m + tdy))
        (LState.emit (opsK K) zoom { s with y := s.y + sy }) s' z w' m hx hinv hsx e hsx e
        (hτ0.trans hτm) hm1.le hzm hedge hmX (le_add_of_nonneg_right htd) ((hwk n).symm.trans h)
      have hv : LState.emit (opsK K) zoom { s with y := s.y + sy } = enter zoom s (z.toNat, w'.toNat) := by
        rw [enter_step hpx hpy hz hw'0 (Or.inr (ne_of_step hstep)), ← hsx, ← e]
      exact ⟨⟨(z.toNat, w'.toNat), m⟩ :: l,
        htr.cons hτ0 hstart ⟨⟨hτm, inSq_of_inCl hz hw hzm hwm, inSq_of_inCl hz hw'0 hzm hedge⟩, hm1.le,
          Or.inl ⟨rfl, toNat_step hw hw'0 hstep⟩⟩, hrun.trans (by rw [hv]; rfl)⟩

/-- the test `x != prevX || y != prevY` of `line()` -/
theorem bne_or_bne_iff (a b c d : K) : (!(a == b) || !(c == d)) = true ↔ ¬ (a = b ∧ c = d) := by
  rw [Bool.or_eq_true, Bool.not_eq_true', Bool.not_eq_true', beq_eq_false_iff_ne, beq_eq_false_iff_ne,
    not_and_or]

theorem segment_degenerate (zoom fuel : Nat) (s : LState K) (a : Pt K) :
    segment (opsK K) zoom fuel s a a = some s := by
  rw [segment_eq, if_pos ((degenerate_iff a a).2 rfl)]

theorem segment_run {zoom fuel : Nat} {a b : Pt K} {s s' : LState K}
    (hax : 0 ≤ a.x) (hay : 0 ≤ a.y) (hbx : 0 ≤ b.x) (hby : 0 ≤ b.y) (hab : a ≠ b)
    (h : segment (opsK K) zoom fuel s a b = some s') :
    ∃ l : List (PC K), Trace a b ⟨cellOf a, 0⟩ l ∧ s' = run zoom s (cellOf a :: l.map (·.c)) := by
  have ex : ((⌊a.x⌋ : ℤ) : K) = ((cellOf a).1 : K) := (natCast_toNat (Int.floor_nonneg.mpr hax)).symm
  have ey : ((⌊a.y⌋ : ℤ) : K) = ((cellOf a).2 : K) := (natCast_toNat (Int.floor_nonneg.mpr hay)).symm
  have hs1 : (if !(((⌊a.x⌋ : ℤ) : K) == s.prevX) || !(((⌊a.y⌋ : ℤ) : K) == s.prevY) then
        LState.emit (opsK K) zoom { s with x := ((⌊a.x⌋ : ℤ) : K), y := ((⌊a.y⌋ : ℤ) : K) }
       else { s with x := ((⌊a.x⌋ : ℤ) : K), y := ((⌊a.y⌋ : ℤ) : K) }) = enter zoom s (cellOf a) := by
    rw [ex, ey, enter]
    simp only [bne_or_bne_iff, ite_not]
  obtain ⟨h1, h2, h3, h4⟩ := enter_xy zoom s (cellOf a)
  rw [← ex] at h1 h3
  rw [← ey] at h2 h4
  rw [segment_eq, if_neg (mt (degenerate_iff a b).1 hab), hs1] at h
  exact walk_run zoom a b (sg0 a.x b.x) (sg0 a.y b.y) (td0 a.x b.x) (td0 a.y b.y)
    hax hbx hay hby fuel (tM0 a.x b.x) (tM0 a.y b.y) (enter zoom s (cellOf a)) s' ⌊a.x⌋ ⌊a.y⌋ 0
    (ax_init a.x b.x) (ax_init a.y b.y) h1 h2 h3 h4 le_rfl zero_le_one (inCl_floor a.x b.x)
    (inCl_floor a.y b.y) (ax_tM_nonneg (ax_init a.x b.x)) (ax_tM_nonneg (ax_init a.y b.y)) h

theorem segment_init_set {zoom fuel : Nat} {a b : Pt K} (ha : 0 ≤ a.x ∧ 0 ≤ a.y) (hb : 0 ≤ b.x ∧ 0 ≤ b.y)
    (hab : a ≠ b) {s : LState K}
    (h : segment (opsK K) zoom fuel ⟨[], none, -1, -1, 0, 0⟩ a b = some s) :
    ∃ l : List (PC K), Trace a b ⟨cellOf a, 0⟩ l ∧
      s.set = (((⟨cellOf a, 0⟩ : PC K) :: l).map fun v => tileOf zoom v.c).reverse := by
  obtain ⟨l, htr, rfl⟩ := segment_run ha.1 ha.2 hb.1 hb.2 hab h
  refine ⟨l, htr, ?_⟩
  rw [run_set zoom (cellOf a :: l.map (·.c)) ⟨[], none, -1, -1, 0, 0⟩ none ⟨rfl, rfl⟩ htr.distinct,
    List.append_nil]
  exact congrArg List.reverse
    (List.map_map (g := tileOf zoom) (f := fun v : PC K => v.c) (l := ⟨cellOf a, 0⟩ :: l))

/-- The cells the segment loop of `line()` enters for the vertices `pts` (degenerate edges are skipped). -/
inductive LTrace : List (Pt K) → List (ℕ × ℕ) → Prop
  | nil : LTrace [] []
  | single (a : Pt K) : LTrace [a] []
  | skip {a : Pt K} {rest : List (Pt K)} {cells : List (ℕ × ℕ)} :
      LTrace (a :: rest) cells → LTrace (a :: a :: rest) cells
  | seg {a b : Pt K} {rest : List (Pt K)} {l : List (PC K)} {cells : List (ℕ × ℕ)} :
      a ≠ b → Trace a b ⟨cellOf a, 0⟩ l → LTrace (b :: rest) cells →
      LTrace (a :: b :: rest) ((cellOf a :: l.map (·.c)) ++ cells)

theorem lineSegs_run (zoom fuel : Nat) (pts : List (Pt K)) : ∀ s s' : LState K,
    (∀ p ∈ pts, 0 ≤ p.x ∧ 0 ≤ p.y) → lineSegs (opsK K) zoom fuel s pts = some s' →
    ∃ cells, LTrace pts cells ∧ s' = run zoom s cells := by
  induction pts with
  | nil => exact fun s s' _ h => ⟨[], .nil, by simp only [lineSegs, Option.some.injEq] at h; exact h.symm⟩
  | cons a t ih =>
    cases t with
    | nil => exact fun s s' _ h => ⟨[], .single a, by simp only [lineSegs, Option.some.injEq] at h; exact h.symm⟩
    | cons b rest =>
      intro s s' hnn h
      have hnn' : ∀ p ∈ b :: rest, 0 ≤ p.x ∧ 0 ≤ p.y := fun p hp => hnn p (List.mem_cons_of_mem _ hp)
      rw [lineSegs] at h
      obtain ⟨s1, hs1, h⟩ := Option.bind_eq_some_iff.mp h
      by_cases hab : a = b
      · subst hab
        rw [segment_degenerate] at hs1
        cases hs1
        obtain ⟨cells, h1, h2⟩ := ih s s' hnn' h
        exact ⟨cells, .skip h1, h2⟩
      · have ha := hnn a List.mem_cons_self
        have hb := hnn' b List.mem_cons_self
        obtain ⟨l, htr, rfl⟩ := segment_run ha.1 ha.2 hb.1 hb.2 hab hs1
        obtain ⟨cells, h1, h2⟩ := ih _ s' hnn' h
        exact ⟨_, .seg hab htr h1, by rw [run, List.foldl_append]; exact h2⟩

theorem line_run {zoom fuel : Nat} {set : List Tile} {pts : List (Pt K)} {ring : Option (List (Nat × Nat))}
    {r : List Tile × Option (List (Nat × Nat))} (hnn : ∀ p ∈ pts, 0 ≤ p.x ∧ 0 ≤ p.y)
    (h : line (opsK K) zoom fuel set pts ring = .ok r) :
    ∃ cells, LTrace pts cells ∧ r = lineOut (opsK K) (run zoom ⟨set, ring, -1, -1, 0, 0⟩ cells) := by
  obtain ⟨s, hs, hr⟩ := line_ok h
  obtain ⟨cells, htr, rfl⟩ := lineSegs_run zoom fuel pts _ s hnn hs
  exact ⟨cells, htr, hr⟩

theorem lineSegs_term (zoom fuel : Nat) :
    ∀ (pts : List (Pt K)) (s : LState K),
      (∀ e ∈ pts.zip (pts.drop 1),
        (⌊e.2.x⌋ - ⌊e.1.x⌋).natAbs + (⌊e.2.y⌋ - ⌊e.1.y⌋).natAbs + 2 ≤ fuel) →
      (lineSegs (opsK K) zoom fuel s pts).isSome = true := by
  intro pts
  induction pts with
  | nil => intro s _; simp [lineSegs]
  | cons a l ih =>
    cases l with
    | nil => intro s _; simp [lineSegs]
    | cons b l =>
      intro s hf
      have hzip : (a :: b :: l).zip ((a :: b :: l).drop 1) = (a, b) :: (b :: l).zip ((b :: l).drop 1) := by
        simp
      rw [hzip] at hf
      have h1 := segment_terminates zoom fuel a b s (hf (a, b) List.mem_cons_self)
      obtain ⟨s1, hs1⟩ := Option.isSome_iff_exists.mp h1
      simp only [lineSegs, hs1, Option.bind_some]
      exact ih s1 (fun e he => hf e (List.mem_cons_of_mem _ he))

theorem line_ok_of_fuel (zoom fuel : Nat) (set : List Tile) (pts : List (Pt K))
    (ring : Option (List (Nat × Nat)))
    (hf : ∀ e ∈ pts.zip (pts.drop 1),
      (⌊e.2.x⌋ - ⌊e.1.x⌋).natAbs + (⌊e.2.y⌋ - ⌊e.1.y⌋).natAbs + 2 ≤ fuel) :
    ∃ res, line (opsK K) zoom fuel set pts ring = .ok res :=
  (Option.isSome_iff_exists.mp (lineSegs_term zoom fuel pts ⟨set, ring, -1, -1, 0, 0⟩ hf)).elim
    fun _ hs => ⟨_, by rw [line_eq, hs]; rfl⟩

theorem lastO_seg (cur : Option (ℕ × ℕ)) (u : PC K) (l : List (PC K)) :
    lastO cur (u.c :: l.map (·.c)) = some (lastOf u l).c := by
  rw [lastO_cons_eq, ← lastOf_map (fun v : PC K => v.c) u l]

theorem LTrace.sound {pts : List (Pt K)} {cells : List (ℕ × ℕ)} (h : LTrace pts cells) :
    ∀ c ∈ cells, ∃ e ∈ pts.zip (pts.drop 1), ∃ t : K, 0 ≤ t ∧ t ≤ 1 ∧
      InSq c (segX e.1 e.2 t) (segY e.1 e.2 t) := by
  induction h with
  | nil => exact fun c hc => nomatch hc
  | single a => exact fun c hc => nomatch hc
  | skip _ ih =>
    intro c hc
    obtain ⟨e, he, ht⟩ := ih c hc
    exact ⟨e, List.mem_cons_of_mem _ he, ht⟩
  | @seg a b rest l cells hab htr _ ih =>
    intro c hc
    rcases List.mem_append.mp hc with hc | hc
    · obtain ⟨v, hv, rfl⟩ := List.mem_map.mp (show c ∈ ((⟨cellOf a, 0⟩ : PC K) :: l).map (·.c) from hc)
      exact ⟨(a, b), List.mem_cons_self, v.τ, htr.sound v hv⟩
    · obtain ⟨e, he, ht⟩ := ih c hc
      exact ⟨e, List.mem_cons_of_mem _ he, ht⟩

theorem LTrace.covers {pts : List (Pt K)} {cells : List (ℕ × ℕ)} (h : LTrace pts cells) :
    ∀ e ∈ pts.zip (pts.drop 1), e.1 ≠ e.2 → ∀ t : K, 0 ≤ t → t ≤ 1 →
      ∃ c ∈ cells, InSq c (segX e.1 e.2 t) (segY e.1 e.2 t) := by
  induction h with
  | nil => exact fun e he => nomatch he
  | single a => exact fun e he => nomatch he
  | skip _ ih =>
    intro e he hne t h0 h1
    rcases List.mem_cons.mp he with rfl | he
    · exact absurd rfl hne
    · exact ih e he hne t h0 h1
  | @seg a b rest l cells hab htr _ ih =>
    intro e he hne t h0 h1
    rcases List.mem_cons.mp he with rfl | he
    · obtain ⟨v, hv, hin⟩ := htr.covers (t := t) h0 h1
      exact ⟨v.c, List.mem_append_left _ (List.mem_map.mpr ⟨v, hv, rfl⟩), hin⟩
    · obtain ⟨c, hc, hin⟩ := ih e he hne t h0 h1
      exact ⟨c, List.mem_append_right _ hc, hin⟩

/-- Consecutive cells share a point (also across two edges, and with the cell `cur` before the first, if
    that holds the first vertex); the first cell is the cell of the first vertex, the last holds the last. -/
theorem LTrace.near {pts : List (Pt K)} {cells : List (ℕ × ℕ)} (h : LTrace pts cells)
    (hnn : ∀ p ∈ pts, 0 ≤ p.x ∧ 0 ≤ p.y) :
    ∀ cur : Option (ℕ × ℕ), (∀ p v, cur = some p → pts.head? = some v → InSq p v.x v.y) →
      chainO Near cur cells ∧
      (∀ p v, lastO cur cells = some p → pts.getLast? = some v → InSq p v.x v.y) ∧
      (∀ c v, cells.head? = some c → pts.head? = some v → c = cellOf v) := by
  induction h with
  | nil => exact fun cur _ => ⟨trivial, nofun, nofun⟩
  | single a => exact fun cur hin => ⟨trivial, fun p v hp hv => hin p v hp hv, nofun⟩
  | @skip a rest cells _ ih =>
    intro cur hin
    obtain ⟨c5, c6, c7⟩ := ih (fun p hp => hnn p (List.mem_cons_of_mem _ hp)) cur hin
    exact ⟨c5, fun p v hp hv => c6 p v hp (by rwa [List.getLast?_cons_cons] at hv), c7⟩
  | @seg a b rest l cells hab htr _ ih =>
    intro cur hin
    have ha := hnn a List.mem_cons_self
    obtain ⟨c5, c6, -⟩ := ih (fun p hp => hnn p (List.mem_cons_of_mem _ hp)) (some (lastOf ⟨cellOf a, 0⟩ l).c)
      (fun p v hp hv => by cases hp; cases hv; exact htr.stop_at)
    have hl := lastO_seg cur (⟨cellOf a, 0⟩ : PC K) l
    refine ⟨?_, fun p v hp hv => ?_, fun c v h1 h2 => ?_⟩
    · rw [chainO_append, hl]
      refine ⟨?_, c5⟩
      have hrest : chainO Near (some (cellOf a)) (l.map (·.c)) := htr.near
      cases cur with
      | none => exact hrest
      | some p => exact ⟨near_of_inSq (hin p a rfl rfl) (inSq_cellOf a ha.1 ha.2), hrest⟩
    · rw [lastO_append, hl] at hp
      rw [List.getLast?_cons_cons] at hv
      exact c6 p v hp hv
    · cases h1; cases h2; rfl

end trace
end Orb.TileCover
