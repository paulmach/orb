/-
  C08 (area) — the signed shoelace area of the Sutherland–Hodgman clip of a closed ring against a box is the sum of the
  areas of its clips against the two halves of the box, for a vertical and for a horizontal split.  Each of the three
  areas is a sum over the INPUT edges of the shoelace form over the edge clamped to the box concerned; per edge the
  three clamped forms satisfy `whole = lower + upper − c·(κ b − κ a)` (from the split-additivity of the pulled-back
  shoelace form, abstractly in the pair of clamps that is split), and the correction term, a coboundary, sums to zero
  round the closed input.
-/
import OrbProofs.C08RegionAreaSplit

namespace Orb.Clip.C08R
open Orb Orb.EvenOdd Orb.Contains Orb.Clip Orb.Clip.C08
open Orb.Core

set_option linter.unusedSectionVars false

variable {α : Type} [Field α] [LinearOrder α] [IsStrictOrderedRing α]

theorem pullK_sub (box : Bound α) (k : Nat) (w w' : Pt α → Pt α → α) (a b : Pt α) :
    pullK box k (fun a b => w a b - w' a b) a b = pullK box k w a b - pullK box k w' a b := by
  unfold pullK pull; split_ifs <;> ring

theorem pullK_congr (box : Bound α) (k : Nat) {w w' : Pt α → Pt α → α} (h : ∀ a b, w a b = w' a b) (a b : Pt α) :
    pullK box k w a b = pullK box k w' a b := by
  have : w = w' := by funext a b; exact h a b
  rw [this]

theorem pullK_cob (box : Bound α) (k : Nat) (h : Pt α → α) (a b : Pt α) :
    pullK box k (fun a b => h b - h a) a b = h (projK box k b) - h (projK box k a) := by
  unfold pullK pull; split_ifs <;> ring

theorem pullK_add_cob (box : Bound α) (k : Nat) (w w' : Pt α → Pt α → α) (m : α) (h : Pt α → α) (a b : Pt α) :
    pullK box k (fun a b => w a b + w' a b + m * (h b - h a)) a b =
      pullK box k w a b + pullK box k w' a b + m * (h (projK box k b) - h (projK box k a)) := by
  unfold pullK pull; split_ifs <;> ring

theorem exc_projK_le (box : Bound α) {k : Nat} (hk : Edge k) (p : Pt α) : exc box k (projK box k p) ≤ 0 := by
  unfold projK; split_ifs with h
  · exact h
  · exact (exc_flatK box hk p).le

/-! ### the abstract split of one pair of opposite clamps

  `k1` is the lower edge (left / bottom) and `k2` the upper edge (right / top) of `box`; `BL` is the lower
  half of the box (its `k2` line is the split line), `BR` the upper half (its `k1` line is the split line).
  `V0` is the functional that remains to be pulled back through the two clamps.  The fields: the two halves see the
  split line from opposite sides (`hneg`) and cut and project onto it alike (`hcross`, `hflat`); the split line lies
  between the two lines of `box` (`hmhi`: below it is below the upper line, `hlom`: on or beyond the lower line is below
  it); `V0` is additive under cuts (`hV`) and, along the split line, `c` times the coboundary of `κ` (`hlin`), which
  does not see the projection onto that line (`hκ`). -/

structure SplitCfg (box BL BR : Bound α) (k1 k2 : Nat) (V0 : Pt α → Pt α → α) (κ : Pt α → α) (c : α) : Prop where
  e1 : Edge k1
  e2 : Edge k2
  hneg : ∀ p, exc BR k1 p = - exc BL k2 p
  hcross : ∀ a b, Orb.Clip.cross BR k1 a b = Orb.Clip.cross BL k2 a b
  hflat : ∀ p, flatK BR k1 p = flatK BL k2 p
  hmhi : ∀ p, exc BL k2 p ≤ 0 → exc box k2 p ≤ 0
  hlom : ∀ p, 0 ≤ exc box k1 p → exc BL k2 p ≤ 0
  hV : SplitAdd V0
  hlin : ∀ u v, exc BL k2 u = 0 → exc BL k2 v = 0 → V0 u v = c * (κ v - κ u)
  hκ : ∀ p, κ (flatK BL k2 p) = κ p

section split
variable {box BL BR : Bound α} {k1 k2 : Nat} {V0 : Pt α → Pt α → α} {κ : Pt α → α} {c : α}

/-- `W` is the once-pulled functional `pullK box k2 V0`: on the split line it is still `c` times the coboundary of `κ` -/
theorem SplitCfg.W_line (S : SplitCfg box BL BR k1 k2 V0 κ c) (u v : Pt α) (hu : exc BL k2 u = 0)
    (hv : exc BL k2 v = 0) : pullK box k2 V0 u v = c * (κ v - κ u) := by
  rw [pullK_inside box k2 V0 u v (S.hmhi u hu.le) (S.hmhi v hv.le)]
  exact S.hlin u v hu hv

/-- a clamp onto the split line, applied to an edge wholly on its dropped closed side, leaves only the
    coboundary term -/
theorem SplitCfg.pull_line (S : SplitCfg box BL BR k1 k2 V0 κ c) (B' : Bound α) {k' : Nat} (hk' : Edge k')
    (hon : ∀ p, exc B' k' p = 0 → exc BL k2 p = 0) (hfl : ∀ p, flatK B' k' p = flatK BL k2 p)
    (a b : Pt α) (ha : 0 ≤ exc B' k' a) (hb : 0 ≤ exc B' k' b) :
    pullK B' k' (pullK box k2 V0) a b = c * (κ b - κ a) := by
  rw [pullK_side B' hk' (splitAdd_pullK box S.e2 S.hV) (Or.inr ⟨ha, hb⟩), projK_of_nonneg B' hk' ha,
    projK_of_nonneg B' hk' hb, S.W_line _ _ (hon _ (exc_flatK B' hk' a)) (hon _ (exc_flatK B' hk' b)), hfl, hfl,
    S.hκ, S.hκ]

/-- the two complementary clamps at the split line -/
theorem SplitCfg.compl (S : SplitCfg box BL BR k1 k2 V0 κ c) (a b : Pt α) :
    pullK BR k1 (pullK box k2 V0) a b + pullK BL k2 (pullK box k2 V0) a b =
      pullK box k2 V0 a b + c * (κ b - κ a) := by
  have hW : SplitAdd (pullK box k2 V0) := splitAdd_pullK box S.e2 S.hV
  -- both sides are split-additive: it is enough to look at an edge on one closed side of the split line
  refine SplitAdd.ext_line ((splitAdd_pullK BR S.e1 hW).add (splitAdd_pullK BL S.e2 hW))
    (hW.add (splitAdd_cob c κ)) BL k2 (fun a b hs => ?_) a b
  rcases hs with ⟨ha, hb⟩ | ⟨ha, hb⟩
  · -- below: the lower half keeps the edge, the upper half flattens it onto the split line
    show _ + _ = _ + _
    rw [pullK_inside BL k2 _ a b ha hb,
      S.pull_line BR S.e1 (fun p h => by rw [S.hneg] at h; exact neg_eq_zero.1 h) S.hflat a b
        (by rw [S.hneg]; exact neg_nonneg.2 ha) (by rw [S.hneg]; exact neg_nonneg.2 hb)]
    exact add_comm _ _
  · -- above: the other way round
    show _ + _ = _ + _
    rw [S.pull_line BL S.e2 (fun _ h => h) (fun _ => rfl) a b ha hb,
      pullK_inside BR k1 _ a b (by rw [S.hneg]; exact neg_nonpos.2 ha) (by rw [S.hneg]; exact neg_nonpos.2 hb)]

/-- clamping to the split line first makes the clamp to the far line vacuous -/
theorem SplitCfg.absorb (S : SplitCfg box BL BR k1 k2 V0 κ c) (a b : Pt α) :
    pullK BL k2 (pullK box k2 V0) a b = pullK BL k2 V0 a b := by
  have hin : ∀ u v, exc BL k2 u ≤ 0 → exc BL k2 v ≤ 0 → pullK box k2 V0 u v = V0 u v :=
    fun u v hu hv => pullK_inside box k2 V0 u v (S.hmhi u hu) (S.hmhi v hv)
  have pa := exc_projK_le BL S.e2 a
  have pb := exc_projK_le BL S.e2 b
  by_cases hab : insK BL k2 a = insK BL k2 b
  · rw [pullK_same BL k2 _ hab, pullK_same BL k2 _ hab, hin _ _ pa pb]
  · obtain ⟨-, hxz⟩ := cross_onSeg BL S.e2 a b (insK_ne hab)
    rw [pullK_diff BL k2 _ hab, pullK_diff BL k2 _ hab, hin _ _ pa hxz.le, hin _ _ hxz.le pb]

/-- the difference of the two upper clamps lives above the split line, so the lower clamp of
    the box does not see it -/
theorem SplitCfg.lower (S : SplitCfg box BL BR k1 k2 V0 κ c) (a b : Pt α) :
    pullK box k1 (fun a b => pullK box k2 V0 a b - pullK BL k2 V0 a b) a b =
      pullK box k2 V0 a b - pullK BL k2 V0 a b := by
  have hD : SplitAdd (fun a b => pullK box k2 V0 a b - pullK BL k2 V0 a b) :=
    (splitAdd_pullK box S.e2 S.hV).sub (splitAdd_pullK BL S.e2 S.hV)
  have hz : ∀ u v, exc BL k2 u ≤ 0 → exc BL k2 v ≤ 0 → pullK box k2 V0 u v - pullK BL k2 V0 u v = 0 := by
    intro u v hu hv
    rw [pullK_inside box k2 V0 u v (S.hmhi u hu) (S.hmhi v hv), pullK_inside BL k2 V0 u v hu hv, sub_self]
  refine SplitAdd.ext_line (splitAdd_pullK box S.e1 hD) hD box k1 (fun a b hs => ?_) a b
  rw [pullK_side box S.e1 hD hs]
  rcases hs with ⟨ha, hb⟩ | ⟨ha, hb⟩
  · rw [projK_of_nonpos box k1 ha, projK_of_nonpos box k1 hb]
  · -- on the dropped side of the lower clamp everything is below the split line, where the difference vanishes
    have on : ∀ {p}, 0 ≤ exc box k1 p → 0 ≤ exc box k1 (projK box k1 p) := fun h => by
      rw [projK_of_nonneg box S.e1 h, exc_flatK box S.e1]
    show pullK box k2 V0 _ _ - pullK BL k2 V0 _ _ = pullK box k2 V0 a b - pullK BL k2 V0 a b
    rw [hz _ _ (S.hlom _ (on ha)) (S.hlom _ (on hb)), hz _ _ (S.hlom a ha) (S.hlom b hb)]

theorem SplitCfg.split_edge (S : SplitCfg box BL BR k1 k2 V0 κ c) (a b : Pt α) :
    pullK box k1 (pullK box k2 V0) a b =
      pullK box k1 (pullK BL k2 V0) a b + pullK BR k1 (pullK box k2 V0) a b - c * (κ b - κ a) := by
  have h1 := pullK_sub box k1 (pullK box k2 V0) (pullK BL k2 V0) a b
  have h2 := S.lower a b
  have h3 := S.compl a b
  have h4 := S.absorb a b
  linarith

/-- under further clamps `T` (which pass a coboundary on as a coboundary) the per-edge identity `split_edge` sums to an
    exact split round a ring, because its correction term is a coboundary -/
theorem SplitCfg.sum_split (S : SplitCfg box BL BR k1 k2 V0 κ c)
    (T : (Pt α → Pt α → α) → Pt α → Pt α → α) (π : Pt α → Pt α)
    (hT : ∀ (w w' : Pt α → Pt α → α) (m : α) (h : Pt α → α) (a b : Pt α),
      T (fun a b => w a b + w' a b + m * (h b - h a)) a b = T w a b + T w' a b + m * (h (π b) - h (π a)))
    (r : List (Pt α)) :
    sumE (T (pullK box k1 (pullK box k2 V0))) (edges r) =
      sumE (T (pullK box k1 (pullK BL k2 V0))) (edges r) + sumE (T (pullK BR k1 (pullK box k2 V0))) (edges r) := by
  have e : pullK box k1 (pullK box k2 V0) = fun a b =>
      pullK box k1 (pullK BL k2 V0) a b + pullK BR k1 (pullK box k2 V0) a b + (-c) * (κ b - κ a) := by
    funext a b; rw [S.split_edge a b]; ring
  rw [e, sumE_congr (hT _ _ _ _), sumE_add, sumE_add, sumE_smul, sumE_edges_cob fun p => κ (π p), mul_zero, add_zero]

end split

theorem projK_y_congr (box : Bound α) {k : Nat} (hk : k = 4 ∨ k = 8) {p q : Pt α} (h : p.y = q.y) :
    (projK box k p).y = (projK box k q).y := by
  have hx : exc box k p = exc box k q := by rcases hk with rfl | rfl <;> simp only [exc_4, exc_8, h]
  unfold projK
  rw [hx]
  split_ifs
  · exact h
  · rcases hk with rfl | rfl <;> rfl

theorem κy_congr (box : Bound α) {p q : Pt α} (h : p.y = q.y) : κy box p = κy box q :=
  projK_y_congr box (Or.inr rfl) (projK_y_congr box (Or.inl rfl) h)

theorem splitCfg_x (box : Bound α) (m : α) (h1 : box.lo.x ≤ m) (h2 : m ≤ box.hi.x) :
    SplitCfg box ⟨box.lo, ⟨m, box.hi.y⟩⟩ ⟨⟨m, box.lo.y⟩, box.hi⟩ 1 2 (Vy box) (κy box) m where
  e1 := Edge.left
  e2 := Edge.right
  hneg := fun p => by rw [exc_1, exc_2]; exact (neg_sub _ _).symm
  hcross := fun _ _ => rfl
  hflat := fun _ => rfl
  hmhi := fun p h => by rw [exc_2] at h ⊢; exact (sub_le_sub_left h2 _).trans h
  hlom := fun p h => by rw [exc_1] at h; rw [exc_2]; linarith
  hV := splitAdd_pullK box Edge.bottom (splitAdd_pullK box Edge.top splitAdd_sh)
  hlin := fun u v hu hv => by
    simp only [exc_2] at hu hv
    have hu' : u.x = m := by linarith
    have hv' : v.x = m := by linarith
    rw [xlin_Vy box u v (by rw [hu', hv']), hu']
  hκ := fun p => κy_congr box (by simp [flatK])

theorem G_left (box : Bound α) (m : α) :
    G (⟨box.lo, ⟨m, box.hi.y⟩⟩ : Bound α) = pullK box 1 (pullK ⟨box.lo, ⟨m, box.hi.y⟩⟩ 2 (Vy box)) := by
  unfold G Vy; rfl

theorem G_right (box : Bound α) (m : α) :
    G (⟨⟨m, box.lo.y⟩, box.hi⟩ : Bound α) = pullK ⟨⟨m, box.lo.y⟩, box.hi⟩ 1 (pullK box 2 (Vy box)) := by
  unfold G Vy; rfl

/-- C08, area: the signed shoelace area of the ring clipped against `box` is the sum of the areas of its clips against
    the left and the right half of the box cut at `x = m`. -/
theorem sh_area_additive_x (box : Bound α) (m : α) (hb : BoxOK box) (h1 : box.lo.x < m) (h2 : m < box.hi.x)
    (inp out outL outR : List (Pt α)) (hc : ClosedRing inp) (h : ring box inp = some out)
    (hL : ring ⟨box.lo, ⟨m, box.hi.y⟩⟩ inp = some outL) (hR : ring ⟨⟨m, box.lo.y⟩, box.hi⟩ inp = some outR) :
    area2 out = area2 outL + area2 outR := by
  rw [ring_area2 box hb inp out hc h, ring_area2 ⟨box.lo, ⟨m, box.hi.y⟩⟩ ⟨h1, hb.2⟩ inp outL hc hL,
    ring_area2 ⟨⟨m, box.lo.y⟩, box.hi⟩ ⟨h2, hb.2⟩ inp outR hc hR, G_left box m, G_right box m]
  exact (splitCfg_x box m h1.le h2.le).sum_split id id (fun _ _ _ _ _ _ => rfl) inp

theorem splitCfg_y (box : Bound α) (m : α) (h1 : box.lo.y ≤ m) (h2 : m ≤ box.hi.y) :
    SplitCfg box ⟨box.lo, ⟨box.hi.x, m⟩⟩ ⟨⟨box.lo.x, m⟩, box.hi⟩ 4 8 (sh (α := α)) (fun p => p.x) (-m) where
  e1 := Edge.bottom
  e2 := Edge.top
  hneg := fun p => by rw [exc_4, exc_8]; exact (neg_sub _ _).symm
  hcross := fun _ _ => rfl
  hflat := fun _ => rfl
  hmhi := fun p h => by rw [exc_8] at h ⊢; exact (sub_le_sub_left h2 _).trans h
  hlom := fun p h => by rw [exc_4] at h; rw [exc_8]; linarith
  hV := splitAdd_sh
  hlin := fun u v hu hv => by
    simp only [exc_8] at hu hv
    have hu' : u.y = m := by linarith
    have hv' : v.y = m := by linarith
    simp only [sh, hu', hv']; ring
  hκ := fun p => by simp [flatK]

theorem G_bottom (box : Bound α) (m : α) :
    G (⟨box.lo, ⟨box.hi.x, m⟩⟩ : Bound α) =
      pullK box 1 (pullK box 2 (pullK box 4 (pullK ⟨box.lo, ⟨box.hi.x, m⟩⟩ 8 sh))) := by
  unfold G Vy; rfl

theorem G_top (box : Bound α) (m : α) :
    G (⟨⟨box.lo.x, m⟩, box.hi⟩ : Bound α) =
      pullK box 1 (pullK box 2 (pullK ⟨⟨box.lo.x, m⟩, box.hi⟩ 4 (pullK box 8 sh))) := by
  unfold G Vy; rfl

/-- … and against the lower and the upper half of the box cut at `y = m`. -/
theorem sh_area_additive_y (box : Bound α) (m : α) (hb : BoxOK box) (h1 : box.lo.y < m) (h2 : m < box.hi.y)
    (inp out outB outT : List (Pt α)) (hc : ClosedRing inp) (h : ring box inp = some out)
    (hB : ring ⟨box.lo, ⟨box.hi.x, m⟩⟩ inp = some outB) (hT : ring ⟨⟨box.lo.x, m⟩, box.hi⟩ inp = some outT) :
    area2 out = area2 outB + area2 outT := by
  rw [ring_area2 box hb inp out hc h, ring_area2 ⟨box.lo, ⟨box.hi.x, m⟩⟩ ⟨hb.1, h1⟩ inp outB hc hB,
    ring_area2 ⟨⟨box.lo.x, m⟩, box.hi⟩ ⟨hb.1, h2⟩ inp outT hc hT, G_bottom box m, G_top box m]
  -- the split sits under the two vertical clamps, which pass the coboundary on
  exact (splitCfg_y box m h1.le h2.le).sum_split (fun w => pullK box 1 (pullK box 2 w))
    (fun p => projK box 2 (projK box 1 p)) (fun w w' m h a b => by
      rw [pullK_congr box 1 (pullK_add_cob box 2 w w' m h), pullK_add_cob box 1 _ _ m fun p => h (projK box 2 p)]) inp

theorem sh_area_additive (box : Bound α) (hb : BoxOK box) (inp out : List (Pt α)) (hc : ClosedRing inp)
    (h : ring box inp = some out) (m : α) :
    (box.lo.x < m → m < box.hi.x → ∀ outL outR, ring ⟨box.lo, ⟨m, box.hi.y⟩⟩ inp = some outL →
        ring ⟨⟨m, box.lo.y⟩, box.hi⟩ inp = some outR → area2 out = area2 outL + area2 outR) ∧
    (box.lo.y < m → m < box.hi.y → ∀ outB outT, ring ⟨box.lo, ⟨box.hi.x, m⟩⟩ inp = some outB →
        ring ⟨⟨box.lo.x, m⟩, box.hi⟩ inp = some outT → area2 out = area2 outB + area2 outT) :=
  ⟨fun h1 h2 outL outR hL hR => sh_area_additive_x box m hb h1 h2 inp out outL outR hc h hL hR,
   fun h1 h2 outB outT hB hT => sh_area_additive_y box m hb h1 h2 inp out outB outT hc h hB hT⟩

/-! ### sanity: the unit of `area2` on the concrete cut of `ring_witness` (ℚ): the clipped unit square -/

example : area2 ([⟨1, 1⟩, ⟨2, 1⟩, ⟨2, 2⟩, ⟨1, 2⟩, ⟨1, 1⟩] : List (Pt ℚ)) = 2 := by
  simp [area2, sumE, edges, sh]; norm_num

end Orb.Clip.C08R
