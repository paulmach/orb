/-
  Pure combinatorics of `fillPairs`, `sortYX` and `ringIntersections` (no geometry, no DDA).  Both parity facts
  about `ringIntersections` are one count along the cyclic reading `cyY` of a ring trace in which every term
  occurs twice; the lemmas `ringc_*` are the steps of that count.  (What every number type needs of the three
  functions, membership only, stands in the core-only `C14Cover`.)
-/
import Orb.TileCover
import Mathlib.Tactic.SplitIfs

namespace Orb.TileCover
open Orb Orb.Tile

/-- the scan-line order of `sortYX` -/
def LeYX (a b : Nat × Nat) : Prop := a.2 < b.2 ∨ (a.2 = b.2 ∧ a.1 ≤ b.1)

theorem sortYX_perm (l : List (Nat × Nat)) : (sortYX l).Perm l := by
  unfold sortYX
  exact List.mergeSort_perm _ _

theorem sortYX_le_iff (a b : Nat × Nat) :
    (if a.2 != b.2 then decide (a.2 < b.2) else decide (a.1 ≤ b.1)) = true ↔ LeYX a b := by
  unfold LeYX
  by_cases h : a.2 = b.2
  · simp [h]
  · simp [h]

theorem pairwise_mergeSort_of_iff {α : Type} {le : α → α → Bool} {R : α → α → Prop}
    (hR : ∀ a b, le a b = true ↔ R a b) (trans : ∀ a b c, R a b → R b c → R a c)
    (total : ∀ a b, R a b ∨ R b a) (l : List α) : (l.mergeSort le).Pairwise R :=
  (List.pairwise_mergeSort (le := le)
    (fun a b c hab hbc => (hR a c).2 (trans a b c ((hR a b).1 hab) ((hR b c).1 hbc)))
    (fun a b => by
      rcases total a b with h | h
      · rw [(hR a b).2 h, Bool.true_or]
      · rw [(hR b a).2 h, Bool.or_true])
    l).imp fun {a b} => (hR a b).1

theorem sortYX_sorted (l : List (Nat × Nat)) : (sortYX l).Pairwise LeYX :=
  pairwise_mergeSort_of_iff sortYX_le_iff (fun a b c => by unfold LeYX; omega)
    (fun a b => by unfold LeYX; omega) l

theorem evenRows_pair {a b : Nat × Nat} {rest : List (Nat × Nat)} (hs : (a :: b :: rest).Pairwise LeYX)
    (hev : ∀ y, ((a :: b :: rest).filter (fun e => e.2 = y)).length % 2 = 0) :
    a.2 = b.2 ∧ a.1 ≤ b.1 ∧ ∀ y, (rest.filter (fun e => e.2 = y)).length % 2 = 0 := by
  rw [List.pairwise_cons, List.pairwise_cons] at hs
  obtain ⟨ha, hb, -⟩ := hs
  have hab := ha b List.mem_cons_self
  have hrow : a.2 = b.2 := by
    -- otherwise `a` is alone in its row
    refine Decidable.byContradiction fun hne => ?_
    have hnil : rest.filter (fun e => e.2 = a.2) = [] := by
      rw [List.filter_eq_nil_iff]
      intro x hx
      have h1 := hb x hx
      unfold LeYX at h1 hab
      simp only [decide_eq_true_eq]
      omega
    have h2 := hev a.2
    have hb2 : ¬ b.2 = a.2 := fun h => hne h.symm
    simp [hb2, hnil] at h2
  refine ⟨hrow, by unfold LeYX at hab; omega, fun y => ?_⟩
  have h2 := hev y
  by_cases hy : a.2 = y
  · have hy' : b.2 = y := hrow ▸ hy
    simp [hy, hy'] at h2
    omega
  · have hy' : ¬ b.2 = y := hrow ▸ hy
    simpa [hy, hy'] using h2

theorem mem_fillPairs_head {zoom i : Nat} {a b : Nat × Nat} {rest : List (Nat × Nat)} (h : a.1 < i ∧ i < b.1) :
    (⟨i, a.2, zoom⟩ : Tile) ∈ fillPairs zoom (a :: b :: rest) := by
  unfold fillPairs
  have hadd : add32 a.1 1 ≤ a.1 + 1 := Nat.mod_le _ _
  refine List.mem_append_left _ (List.mem_map.2 ⟨i - add32 a.1 1, List.mem_range.2 (by omega), ?_⟩)
  rw [show add32 a.1 1 + (i - add32 a.1 1) = i by omega]

/-- In a `(y, x)`-sorted list whose rows all have an even number of entries, a position
    `(i, j)` that is not itself an entry and has an odd number of row-`j` entries to its right lies
    strictly between the `2k`-th and `2k+1`-th entry of its row, so `fillPairs` produces its tile. -/
theorem fillPairs_hit (zoom i j : Nat) (L : List (Nat × Nat)) (hs : L.Pairwise LeYX)
    (hev : ∀ y, (L.filter (fun e => e.2 = y)).length % 2 = 0)
    (hne : (i, j) ∉ L)
    (hodd : (L.filter (fun e => e.2 = j ∧ i < e.1)).length % 2 = 1) :
    (⟨i, j, zoom⟩ : Tile) ∈ fillPairs zoom L := by
  induction L using fillPairs.induct with
  | case1 a b rest ih =>
    obtain ⟨hrow, hle, hev'⟩ := evenRows_pair hs hev
    have hia : ¬ (a.1 = i ∧ a.2 = j) := fun h => hne (by rw [← h.1, ← h.2]; exact List.mem_cons_self)
    have hib : ¬ (b.1 = i ∧ b.2 = j) := fun h =>
      hne (by rw [← h.1, ← h.2]; exact List.mem_cons_of_mem _ List.mem_cons_self)
    by_cases hin : a.2 = j ∧ a.1 < i ∧ i < b.1
    · exact hin.1 ▸ mem_fillPairs_head hin.2
    · unfold fillPairs
      refine List.mem_append_right _ (ih hs.tail.tail hev' (fun h => hne (by simp [h])) ?_)
      -- the pair `a`, `b` is either in another row, or both right of `i`, or neither
      simp only [List.filter_cons, ← hrow] at hodd
      split at hodd <;> split at hodd <;> simp only [List.length_cons, decide_eq_true_eq] at * <;> omega
  | case2 t ht =>
    match t, ht with
    | [], _ => simp at hodd
    | [a], _ => have := hev a.2; simp at this
    | a :: b :: rest, ht => exact (ht a b rest rfl).elim

/-- entry `m` of the ring trace read cyclically: the whole entry (column, row), its row is `.2` -/
def cyY (ring : List (Nat × Nat)) (m : Nat) : Nat × Nat := ring.getD (m % ring.length) (0, 0)

/-- a cyclic sequence of rows in which consecutive rows differ by exactly one -/
def CycStep (ring : List (Nat × Nat)) : Prop :=
  ∀ m, m < ring.length →
    (cyY ring m).2 + 1 = (cyY ring (m + 1)).2 ∨ (cyY ring (m + 1)).2 + 1 = (cyY ring m).2

/-- The indicator the fill proofs count (`raPar`, `raParO`, `cycPar`: along a list, a list after a cell, a cycle):
    the step from `a` to `b` is a transition between row `j` on the side `P` and row `j + 1`, in either direction. -/
def RA (P : Nat × Nat → Bool) (j : Nat) (a b : Nat × Nat) : Bool :=
  (decide (a.2 = j) && P a && decide (b.2 = j + 1)) || (decide (a.2 = j + 1) && decide (b.2 = j) && P b)

theorem countP_cyc_shift (n : Nat) (p q : Nat → Bool) (A B : Nat → Nat) (hB : B n = B 0)
    (hp : ∀ m, m < n → (if p m = true then 1 else 0) % 2 = (A m + B m) % 2)
    (hq : ∀ m, m < n → (if q m = true then 1 else 0) % 2 = (A m + B (m + 1)) % 2) :
    (List.range n).countP p % 2 = (List.range n).countP q % 2 := by
  -- in the sum of the two counts up to `k` every `A m` occurs twice and the `B`s telescope to `B 0 + B k`
  have key : ∀ k, k ≤ n →
      ((List.range k).countP p + (List.range k).countP q + B 0 + B k) % 2 = 0 := by
    intro k
    induction k with
    | zero => intro _; show (0 + 0 + B 0 + B 0) % 2 = 0; omega
    | succ k ih =>
      intro hk
      have h1 := hp k hk
      have h2 := hq k hk
      have h3 := ih (Nat.le_of_succ_le hk)
      rw [List.range_succ, List.countP_append, List.countP_append, List.countP_singleton,
        List.countP_singleton]
      generalize (if p k = true then 1 else 0) = ip at h1 ⊢
      generalize (if q k = true then 1 else 0) = iq at h2 ⊢
      omega
  have := key n (Nat.le_refl n)
  omega

theorem ringc_cyY_add_length (ring : List (Nat × Nat)) (m : Nat) :
    cyY ring (m + ring.length) = cyY ring m := by
  unfold cyY
  rw [Nat.add_mod_right]

theorem ringc_cyY_of_lt (ring : List (Nat × Nat)) (m : Nat) (hm : m < ring.length) :
    ring.getD m (0, 0) = cyY ring m := by
  unfold cyY
  rw [Nat.mod_eq_of_lt hm]

theorem ringc_cyY_length (ring : List (Nat × Nat)) : cyY ring ring.length = cyY ring 0 := by
  unfold cyY; rw [Nat.mod_self, Nat.zero_mod]

/-- `CycStep` holds at every index, not just below the length -/
theorem ringc_step_all (ring : List (Nat × Nat)) (h : CycStep ring) (hn : 0 < ring.length) (m : Nat) :
    (cyY ring m).2 + 1 = (cyY ring (m + 1)).2 ∨ (cyY ring (m + 1)).2 + 1 = (cyY ring m).2 := by
  have h1 := h (m % ring.length) (Nat.mod_lt _ hn)
  have e1 : cyY ring (m % ring.length) = cyY ring m := by
    unfold cyY; rw [Nat.mod_mod]
  have e2 : cyY ring (m % ring.length + 1) = cyY ring (m + 1) := by
    unfold cyY; rw [Nat.mod_add_mod]
  rw [e1, e2] at h1
  exact h1

theorem ringc_step_pred (ring : List (Nat × Nat)) (h : CycStep ring) (hn : 0 < ring.length) (m : Nat) :
    (cyY ring (ring.length - 1 + m)).2 + 1 = (cyY ring m).2 ∨
      (cyY ring m).2 + 1 = (cyY ring (ring.length - 1 + m)).2 := by
  have h1 := ringc_step_all ring h hn (ring.length - 1 + m)
  have e : ring.length - 1 + m + 1 = m + ring.length := by omega
  rw [e, ringc_cyY_add_length] at h1
  exact h1

theorem ringc_filterMap_len {β : Type} (f : Nat → Option β) (q : β → Bool) (c : Nat → Bool)
    (l : List Nat) (h : ∀ m ∈ l, (f m).elim false q = c m) :
    ((l.filterMap f).filter q).length = l.countP c := by
  rw [← List.countP_eq_length_filter, List.countP_filterMap]
  refine List.countP_congr fun m hm => ?_
  rw [← h m hm]
  cases f m <;> rfl

theorem ringc_len (q : Nat × Nat → Bool) (ring : List (Nat × Nat)) :
    ((ringIntersections ring).filter q).length =
      (List.range ring.length).countP (fun m =>
        ((decide ((cyY ring (ring.length - 1 + m)).2 < (cyY ring m).2) ||
            decide ((cyY ring (m + 1)).2 < (cyY ring m).2)) &&
          (decide ((cyY ring m).2 < (cyY ring (ring.length - 1 + m)).2) ||
            decide ((cyY ring m).2 < (cyY ring (m + 1)).2)) &&
          ((cyY ring m).2 != (cyY ring (m + 1)).2)) && q (cyY ring m)) := by
  unfold ringIntersections
  apply ringc_filterMap_len
  intro m hm
  have hm' : m < ring.length := List.mem_range.mp hm
  simp only [ringc_cyY_of_lt ring m hm']
  change (if ((decide ((cyY ring (ring.length - 1 + m)).2 < (cyY ring m).2) ||
            decide ((cyY ring (m + 1)).2 < (cyY ring m).2)) &&
          (decide ((cyY ring m).2 < (cyY ring (ring.length - 1 + m)).2) ||
            decide ((cyY ring m).2 < (cyY ring (m + 1)).2)) &&
          ((cyY ring m).2 != (cyY ring (m + 1)).2)) = true then some (cyY ring m) else none).elim false q = _
  split <;> rename_i hc
  · simp [hc]
  · simp [hc]

theorem ringc_pointwise (y nx p j : Nat) (Pb : Bool)
    (h1 : y + 1 = nx ∨ nx + 1 = y) (h2 : p + 1 = y ∨ y + 1 = p) :
    (if (((decide (p < y) || decide (nx < y)) && (decide (y < p) || decide (y < nx)) && (y != nx)) &&
        (decide (y = j) && Pb)) = true then 1 else 0) % 2 =
      ((if (decide (y = j) && Pb && decide (nx = j + 1)) = true then 1 else 0) +
        (if (decide (p = j + 1) && decide (y = j) && Pb) = true then 1 else 0)) % 2 := by
  cases Pb
  · simp
  · simp only [Bool.and_eq_true, Bool.or_eq_true, decide_eq_true_eq, bne_iff_ne, Bool.and_true, ne_eq]
    split_ifs <;> omega

theorem ringc_RA_split (P : Nat × Nat → Bool) (j : Nat) (a b : Nat × Nat) :
    (if RA P j a b = true then 1 else 0) =
      (if (decide (a.2 = j) && P a && decide (b.2 = j + 1)) = true then 1 else 0) +
        (if (decide (a.2 = j + 1) && decide (b.2 = j) && P b) = true then 1 else 0) := by
  unfold RA
  by_cases h1 : a.2 = j
  · subst h1
    simp
  · simp [h1]

/-- the filter keeps exactly the crossing runs: mod 2, the kept entries of row `j` on the side `P`
    are the cyclic transitions between (row `j`, side `P`) and row `j + 1` -/
theorem ringIntersections_parity (P : Nat × Nat → Bool) (j : Nat) (ring : List (Nat × Nat))
    (h : CycStep ring) :
    ((ringIntersections ring).filter (fun e => decide (e.2 = j) && P e)).length % 2 =
      ((List.range ring.length).countP (fun m => RA P j (cyY ring m) (cyY ring (m + 1)))) % 2 := by
  rw [ringc_len]
  -- `A m`: from (row `j`, side `P`) at `m` up to row `j+1`; `B m`: the same transition read backwards,
  -- from `m - 1` to `m`.  `RA` at `m` is `A m + B (m+1)`.
  refine countP_cyc_shift ring.length _ _
    (fun m => if (decide ((cyY ring m).2 = j) && P (cyY ring m) &&
      decide ((cyY ring (m + 1)).2 = j + 1)) = true then 1 else 0)
    (fun m => if (decide ((cyY ring (ring.length - 1 + m)).2 = j + 1) &&
      decide ((cyY ring m).2 = j) && P (cyY ring m)) = true then 1 else 0) ?_ ?_ ?_
  · simp only [ringc_cyY_add_length, ringc_cyY_length, Nat.add_zero]
  · intro m hm
    have hn := Nat.zero_lt_of_lt hm
    exact ringc_pointwise _ _ _ j _ (ringc_step_all ring h hn m) (ringc_step_pred ring h hn m)
  · intro m _
    have e : ring.length - 1 + (m + 1) = m + ring.length := by omega
    rw [ringc_RA_split, e, ringc_cyY_add_length]

theorem ringc_straddle (j : Nat) (a b : Nat × Nat) (h1 : a.2 + 1 = b.2 ∨ b.2 + 1 = a.2) :
    (if RA (fun _ => true) j a b = true then 1 else 0) % 2 =
      ((if decide (a.2 ≤ j) = true then 1 else 0) + (if decide (b.2 ≤ j) = true then 1 else 0)) % 2 := by
  unfold RA
  simp only [Bool.and_eq_true, Bool.or_eq_true, decide_eq_true_eq, Bool.and_true]
  split_ifs <;> omega

/-- every row of the filtered trace of a cyclic ±1 sequence has an even number of entries -/
theorem ringIntersections_row_even (j : Nat) (ring : List (Nat × Nat)) (h : CycStep ring) :
    ((ringIntersections ring).filter (fun e => e.2 = j)).length % 2 = 0 := by
  have hf : (fun e : Nat × Nat => decide (e.2 = j)) =
      (fun e => decide (e.2 = j) && (fun _ => true) e) := by
    funext e; simp
  rw [hf, ringIntersections_parity (fun _ => true) j ring h]
  -- a transition between rows `≤ j` and `> j` at every `RA` step: `B m = [row m ≤ j]`, `A m = B (m+1)`
  rw [countP_cyc_shift ring.length _ (fun _ => false)
    (fun m => if decide ((cyY ring (m + 1)).2 ≤ j) = true then 1 else 0)
    (fun m => if decide ((cyY ring m).2 ≤ j) = true then 1 else 0) (by simp only [ringc_cyY_length])
    (fun m hm => by
      rw [ringc_straddle j _ _ (ringc_step_all ring h (Nat.zero_lt_of_lt hm) m)]; omega)
    (fun m _ => by simp only [Bool.false_eq_true, if_false]; omega)]
  simp

end Orb.TileCover
