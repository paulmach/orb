/-
  C03, the wire level: what the decoder's loops do on the encoder's output.  A message is a list
  of records; a field loop reads one record per round, so on a message it is the fold of the
  records' actions (`loop_records`, for any loop; feature, layer and tile are its instances), from
  which `decodeTile ∘ encodeTile = id` (C03Wire) follows for tile structures whose numbers fit their
  Go types and whose encoding fits an `int` length.
-/
import OrbProofs.C03WireVarint

namespace Orb.ProtoWire
open Orb Orb.MVT

/-! Every key of the tile is below 128, so one byte (`encodeVarint_small`), which the decoder's
    loops read back with `varint64_single`; `simp` evaluates `tag` to the literal. -/

theorem varint64_single (d : UInt8) (rest : Bytes) (h : d.toNat < 128) :
    varint64 (d :: rest) = some (d.toNat, rest) := by
  have hge : ¬ (d ≥ 0x80) := by rw [u8_ge_80]; omega
  simp [varint64, varintF, hge, and_7f, Nat.mod_eq_of_lt h]

-- how `simp` reads a field the encoder wrote: the field forms unfolded, the one-byte key, `tag` evaluated
attribute [local simp] lenDelim vfield encodeVarint_small varint64_single tag wtLen wtVarint wt32 wt64

theorem takeDelim_payload (p rest : Bytes) (h : p.length < 2^63) :
    takeDelim (encodeVarint p.length ++ (p ++ rest)) = some (p, rest) := by
  unfold takeDelim packedLength
  rw [varint64_encodeVarint _ _ (by omega)]
  have h1 : ¬ (2^63 ≤ p.length) := by omega
  have h2 : ¬ ((p ++ rest).length < p.length) := by simp
  simp only [h1, h2, if_false, List.take_left, List.drop_left]

theorem readString_utf8 (s : String) (rest : Bytes) (h : (utf8 s).length < 2^63) :
    readString (encodeVarint (utf8 s).length ++ (utf8 s ++ rest)) = .ok (s, rest) := by
  unfold readString
  rw [takeDelim_payload _ _ h]
  simp only [ofUtf8_utf8]

theorem lenDelim_length (fld : Nat) (p : Bytes) : p.length + 2 ≤ (lenDelim fld p).length := by
  have h1 := encodeVarint_length_pos (tag fld wtLen)
  have h2 := encodeVarint_length_pos p.length
  simp only [lenDelim, List.length_append]; omega

theorem payload_lt {fld n : Nat} {p : Bytes} (h : (lenDelim fld p).length < n) : p.length < n :=
  Nat.lt_of_le_of_lt (Nat.le_of_add_right_le (lenDelim_length fld p)) h

theorem flatMap_length_mem {α : Type} (g : α → Bytes) (xs : List α) (x : α) (h : x ∈ xs) :
    (g x).length ≤ (xs.flatMap g).length := by
  induction xs with
  | nil => simp at h
  | cons y ys ih =>
    simp only [List.flatMap_cons, List.length_append]
    rcases List.mem_cons.1 h with h | h
    · subst h; omega
    · have := ih h; omega

theorem length_le_flatMap {α : Type} (g : α → Bytes) (xs : List α) (hne : ∀ x ∈ xs, g x ≠ []) :
    xs.length ≤ (xs.flatMap g).length := by
  induction xs with
  | nil => exact Nat.le_refl _
  | cons x xs ih =>
    have := List.length_pos_iff.2 (hne x List.mem_cons_self)
    have := ih fun y hy => hne y (List.mem_cons_of_mem _ hy)
    simp only [List.flatMap_cons, List.length_append, List.length_cons]; omega

theorem packU32_length (ws : List W) : ws.length ≤ (packU32 ws).length :=
  length_le_flatMap _ ws fun w _ => encodeVarint_ne_nil w.toNat

theorem unpackU32F_packU32 (ws : List W) (fuel : Nat) (h : ws.length ≤ fuel) :
    unpackU32F fuel (packU32 ws) = .ok ws := by
  induction ws generalizing fuel with
  | nil => cases fuel <;> rfl
  | cons w ws ih =>
    obtain ⟨fuel, rfl⟩ : ∃ k, fuel = k + 1 := ⟨fuel - 1, by simp at h; omega⟩
    -- the loop wants to see a first byte before it reads the varint
    obtain ⟨b, bs, hb⟩ := List.exists_cons_of_ne_nil (encodeVarint_ne_nil w.toNat)
    have e : packU32 (w :: ws) = b :: (bs ++ packU32 ws) := by simp [packU32, hb]
    rw [e, unpackU32F, ← List.cons_append, ← hb, varint32_encodeVarint _ _ w.isLt]
    simp only
    rw [ih fuel (by simpa using h)]
    simp

theorem unpackU32_packU32 (ws : List W) : unpackU32 (packU32 ws) = .ok ws :=
  unpackU32F_packU32 ws _ (packU32_length ws)

theorem readBool_bit (b : Bool) : readBool [if b then 1 else 0] = some (b, []) := by
  cases b <;> decide

theorem decodeValue_encodeValue (v : TVal) (hf : valueFits v = true)
    (hl : (encodeValue v).length < 2^63) : decodeValue (encodeValue v) = .ok v := by
  unfold decodeValue
  -- the readers' lemmas speak of what follows the value read: here nothing, kept as `++ []` for them to apply
  rw [← List.append_nil (encodeValue v)]
  cases v with
  | str s => simp [-List.append_nil, encodeValue, decodeValueF, readString_utf8 s [] (payload_lt hl)]
  | float b => simp [-List.append_nil, encodeValue, decodeValueF, fixed32_le32]
  | double b => simp [-List.append_nil, encodeValue, decodeValueF, fixed64_le64]
  | int n =>
    simp only [valueFits, decide_eq_true_eq] at hf
    simp [-List.append_nil, encodeValue, decodeValueF, varint64_encodeVarint _ _ (u64OfInt_lt n),
      i64_roundtrip n hf.1 hf.2]
  | uint n =>
    simp only [valueFits, decide_eq_true_eq] at hf
    simp [-List.append_nil, encodeValue, decodeValueF, Nat.mod_eq_of_lt hf, varint64_encodeVarint _ _ hf]
  | sint n =>
    simp only [valueFits, decide_eq_true_eq] at hf
    have hz := sint_roundtrip n hf.1 hf.2
    rw [BitVec.ofNat_toNat, BitVec.setWidth_eq] at hz
    simp [-List.append_nil, encodeValue, decodeValueF, varint64_encodeVarint _ _ (BitVec.isLt _), hz]
  | bool b => simp [encodeValue, decodeValueF, readBool_bit]
  | empty => simp [encodeValue, decodeValueF]

/-! A message is a list of records.  Each field loop reads a record the encoder wrote in one round,
    whatever follows (`featLoop_rec`, `layerLoop_rec`, `tileLoop_layer`); hence, for ANY loop, a run
    of records takes one round each (`loop_run`), and since no record is empty the number of bytes is
    fuel enough for the whole message (`loop_records`): the loop is the fold of the records' actions. -/

section records
variable {σ ρ : Type} (loop : Nat → Bytes → σ → WR σ) (enc : ρ → Bytes) (act : σ → ρ → WR σ)

theorem loop_run (xs : List ρ)
    (one : ∀ x ∈ xs, ∀ fuel rest st, loop (fuel + 1) (enc x ++ rest) st = (act st x).bind (loop fuel rest))
    (fuel : Nat) (rest : Bytes) (st : σ) :
    loop (fuel + xs.length) (xs.flatMap enc ++ rest) st = (xs.foldlM act st).bind (loop fuel rest) := by
  induction xs generalizing st with
  | nil => rfl
  | cons x xs ih =>
    rw [List.flatMap_cons, List.append_assoc, List.length_cons, ← Nat.add_assoc,
      one x List.mem_cons_self, List.foldlM_cons]
    show _ = Res.bind (Res.bind _ _) _
    cases act st x with
    | ok st' => exact ih (fun y hy => one y (List.mem_cons_of_mem _ hy)) st'
    | err _ => rfl
    | panic _ => rfl

theorem loop_records (hnil : ∀ fuel st, loop fuel [] st = .ok st) (xs : List ρ)
    (hne : ∀ x ∈ xs, enc x ≠ [])
    (one : ∀ x ∈ xs, ∀ fuel rest st, loop (fuel + 1) (enc x ++ rest) st = (act st x).bind (loop fuel rest))
    (st : σ) : loop (xs.flatMap enc).length (xs.flatMap enc) st = xs.foldlM act st := by
  obtain ⟨k, hk⟩ := Nat.exists_eq_add_of_le' (length_le_flatMap enc xs hne)
  have := loop_run loop enc act xs one k [] st
  rw [List.append_nil] at this
  rw [hk, this]
  cases xs.foldlM act st <;> first | exact hnil _ _ | rfl

theorem foldlM_ok (f : σ → ρ → σ) (xs : List ρ) (st : σ) :
    xs.foldlM (fun st x => (Res.ok (f st x) : WR σ)) st = .ok (xs.foldl f st) := by
  induction xs generalizing st with
  | nil => rfl
  | cons x xs ih => exact ih _
end records

theorem lenDelim_ne_nil (fld : Nat) (p : Bytes) : lenDelim fld p ≠ [] := by
  intro h; have := lenDelim_length fld p; rw [h] at this; simp at this

theorem vfield_ne_nil (fld v : Nat) : vfield fld v ≠ [] := by
  intro h; have := encodeVarint_length_pos v; simp [vfield] at h; rw [h.2] at this; simp at this

theorem featLoop_nil (fuel : Nat) (st : FeatSt) : featLoop fuel [] st = .ok st := by
  cases fuel <;> rfl

inductive FRec where
  | id (n : Nat) | tags (ws : List W) | type (g : Int) | geom (p : Bytes)

def FRec.enc : FRec → Bytes
  | .id n => vfield 1 (n % 2^64)
  | .tags ws => lenDelim 2 (packU32 ws)
  | .type g => vfield 3 (u64OfInt g)
  | .geom p => lenDelim 4 p

/-- What the loop does on a record: a tags field is refused after an odd one. -/
def FRec.act (st : FeatSt) : FRec → WR FeatSt
  | .id n => .ok { st with id := some (n % 2^64) }
  | .tags ws => if st.tags.length % 2 = 1 then .err .wire else .ok { st with tags := ws }
  | .type g => .ok { st with gtype := i32OfNat (u64OfInt g) }
  | .geom p => .ok { st with geom := some p }

theorem FRec.enc_ne_nil (x : FRec) : x.enc ≠ [] := by
  cases x <;> first | exact lenDelim_ne_nil _ _ | exact vfield_ne_nil _ _

theorem featLoop_rec (x : FRec) (hl : x.enc.length < 2^63) (fuel : Nat) (rest : Bytes) (st : FeatSt) :
    featLoop (fuel + 1) (x.enc ++ rest) st = (FRec.act st x).bind (featLoop fuel rest) := by
  cases x with
  | id n =>
    simp [FRec.enc, FRec.act, Res.bind, featLoop,
      varint64_encodeVarint _ _ (Nat.mod_lt n (by decide : 0 < 2^64))]
  | tags ws =>
    by_cases ho : st.tags.length % 2 = 1 <;>
      simp [FRec.enc, FRec.act, Res.bind, featLoop, takeDelim_payload _ _ (payload_lt hl), ho, unpackU32_packU32]
  | type g =>
    simp [FRec.enc, FRec.act, Res.bind, featLoop, varint64_encodeVarint _ _ (u64OfInt_lt g)]
  | geom p =>
    simp [FRec.enc, FRec.act, Res.bind, featLoop, takeDelim_payload p _ (payload_lt hl)]

/-- The records of a feature, in the order the encoder writes them. -/
def featRecs (f : VTFeature) : List FRec :=
  (match f.id with | some n => [.id n] | none => []) ++
  (if f.tags.isEmpty then [] else [.tags f.tags]) ++ [.type f.gtype] ++
  (if f.geometry.isEmpty then [] else [.geom (packU32 f.geometry)])

theorem encodeFeature_recs (f : VTFeature) : encodeFeature f = (featRecs f).flatMap FRec.enc := by
  obtain ⟨id, tags, gtype, geometry⟩ := f
  cases id <;> cases tags <;> cases geometry <;> simp [encodeFeature, featRecs, FRec.enc]

theorem featRecs_fold (f : VTFeature) (hfit : featureFits f = true) :
    (featRecs f).foldlM FRec.act FeatSt.init =
      .ok ⟨f.id, f.tags, f.gtype, if f.geometry.isEmpty then none else some (packU32 f.geometry)⟩ := by
  obtain ⟨id, tags, gtype, geometry⟩ := f
  simp only [featureFits, Bool.and_eq_true, decide_eq_true_eq] at hfit
  have hg := i32_roundtrip gtype hfit.2.1 hfit.2.2
  cases id with
  | none => cases tags <;> cases geometry <;> simp [featRecs, FRec.act, FeatSt.init, hg, bind, Res.bind] <;> rfl
  | some n =>
    have hn : n % 2^64 = n := Nat.mod_eq_of_lt (by simpa using hfit.1)
    cases tags <;> cases geometry <;> simp [featRecs, FRec.act, FeatSt.init, hg, hn, bind, Res.bind] <;> rfl

theorem decodeFeatureMsg_encodeFeature (f : VTFeature) (hfit : featureFits f = true)
    (hl : (encodeFeature f).length < 2^63) : decodeFeatureMsg (encodeFeature f) = .ok f := by
  -- every record is shorter than the message
  have hlt : ∀ x ∈ featRecs f, x.enc.length < 2^63 := fun x hx =>
    Nat.lt_of_le_of_lt (flatMap_length_mem FRec.enc _ x hx) (encodeFeature_recs f ▸ hl)
  unfold decodeFeatureMsg
  rw [encodeFeature_recs, loop_records featLoop FRec.enc FRec.act featLoop_nil _
    (fun x _ => x.enc_ne_nil) (fun x hx => featLoop_rec x (hlt x hx)), featRecs_fold f hfit]
  obtain ⟨id, tags, gtype, geometry⟩ := f
  cases geometry with
  | nil => rfl
  | cons w ws => simp [unpackU32_packU32]

theorem layerLoop_nil (fuel : Nat) (st : LayerSt) : layerLoop fuel [] st = .ok st := by
  cases fuel <;> rfl

inductive LRec where
  | name (s : String) | feat (p : Bytes) | key (s : String) | val (v : TVal) | extent (e : Nat) | version (v : Nat)

def LRec.enc : LRec → Bytes
  | .name s => lenDelim 1 (utf8 s)
  | .feat p => lenDelim 2 p
  | .key s => lenDelim 3 (utf8 s)
  | .val v => lenDelim 4 (encodeValue v)
  | .extent e => vfield 5 (e % 2^32)
  | .version v => vfield 15 (v % 2^32)

def LRec.act (st : LayerSt) : LRec → LayerSt
  | .name s => { st with name := s }
  | .feat p => { st with feats := st.feats ++ [p] }
  | .key s => { st with keys := st.keys ++ [s] }
  | .val v => { st with values := st.values ++ [v] }
  | .extent e => { st with extent := e % 2^32 }
  | .version v => { st with version := v % 2^32 }

theorem LRec.enc_ne_nil (x : LRec) : x.enc ≠ [] := by
  cases x <;> first | exact lenDelim_ne_nil _ _ | exact vfield_ne_nil _ _

theorem layerLoop_rec (x : LRec) (hl : x.enc.length < 2^63) (hf : ∀ v, x = .val v → valueFits v = true)
    (fuel : Nat) (rest : Bytes) (st : LayerSt) :
    layerLoop (fuel + 1) (x.enc ++ rest) st = layerLoop fuel rest (LRec.act st x) := by
  cases x with
  | name s => simp [LRec.enc, LRec.act, layerLoop, readString_utf8 s _ (payload_lt hl)]
  | feat p => simp [LRec.enc, LRec.act, layerLoop, takeDelim_payload p _ (payload_lt hl)]
  | key s => simp [LRec.enc, LRec.act, layerLoop, readString_utf8 s _ (payload_lt hl)]
  | val v =>
    simp [LRec.enc, LRec.act, layerLoop, takeDelim_payload _ _ (payload_lt hl),
      decodeValue_encodeValue v (hf v rfl) (payload_lt hl)]
  | extent e =>
    simp [LRec.enc, LRec.act, layerLoop, varint32_encodeVarint _ _ (Nat.mod_lt e (by decide : 0 < 2^32))]
  | version v =>
    simp [LRec.enc, LRec.act, layerLoop, varint32_encodeVarint _ _ (Nat.mod_lt v (by decide : 0 < 2^32))]

/-- The records of a layer, in the order the encoder writes them. -/
def layerRecs (l : VTLayer) : List LRec :=
  .name l.name :: (l.features.map fun f => .feat (encodeFeature f)) ++ l.keys.map .key ++
    l.values.map .val ++ [.extent l.extent, .version l.version]

theorem encodeLayer_recs (l : VTLayer) : encodeLayer l = (layerRecs l).flatMap LRec.enc := by
  simp [encodeLayer, layerRecs, LRec.enc, List.flatMap_map, List.flatMap_append]

/-- A run of one repeated field appends its members. -/
theorem foldl_act_map {α : Type} (mk : α → LRec) (upd : LayerSt → List α → LayerSt)
    (h0 : ∀ st, upd st [] = st) (h1 : ∀ st x xs, upd (LRec.act st (mk x)) xs = upd st (x :: xs))
    (xs : List α) (st : LayerSt) : (xs.map mk).foldl LRec.act st = upd st xs := by
  induction xs generalizing st with
  | nil => exact (h0 st).symm
  | cons x xs ih => rw [List.map_cons, List.foldl_cons, ih, h1]

theorem layerRecs_fold (l : VTLayer) :
    (layerRecs l).foldl LRec.act LayerSt.init =
      ⟨l.name, l.version % 2^32, l.extent % 2^32, l.keys, l.values, l.features.map encodeFeature⟩ := by
  simp only [layerRecs, List.cons_append, List.foldl_cons, List.foldl_append, List.foldl_nil]
  rw [foldl_act_map (fun f => .feat (encodeFeature f)) (fun st fs => { st with feats := st.feats ++ fs.map encodeFeature })
      (fun _ => by simp) (fun _ _ _ => by simp [LRec.act]),
    foldl_act_map .key (fun st ks => { st with keys := st.keys ++ ks }) (fun _ => by simp) (fun _ _ _ => by simp [LRec.act]),
    foldl_act_map .val (fun st vs => { st with values := st.values ++ vs }) (fun _ => by simp) (fun _ _ _ => by simp [LRec.act])]
  simp [LRec.act, LayerSt.init]

theorem decodeFeatureMsgs_map (fs : List VTFeature) (hf : ∀ f ∈ fs, featureFits f = true)
    (hl : ∀ f ∈ fs, (encodeFeature f).length < 2^63) :
    decodeFeatureMsgs (fs.map encodeFeature) = .ok fs := by
  rw [decodeFeatureMsgs_eq, C20M.resMapM_map_ok decodeFeatureMsg encodeFeature id fs
    fun f h => decodeFeatureMsg_encodeFeature f (hf f h) (hl f h), List.map_id]

theorem decodeLayerMsg_encodeLayer (l : VTLayer) (hfit : layerFits l = true)
    (hl : (encodeLayer l).length < 2^63) : decodeLayerMsg (encodeLayer l) = .ok l := by
  simp only [layerFits, Bool.and_eq_true, decide_eq_true_eq, List.all_eq_true] at hfit
  obtain ⟨⟨⟨hver, hext⟩, hvals⟩, hfeats⟩ := hfit
  -- every record is shorter than the message
  have hlt : ∀ x ∈ layerRecs l, x.enc.length < 2^63 := fun x hx =>
    Nat.lt_of_le_of_lt (flatMap_length_mem LRec.enc _ x hx) (encodeLayer_recs l ▸ hl)
  have hfl : ∀ f ∈ l.features, (encodeFeature f).length < 2^63 := fun f hf =>
    payload_lt (hlt (.feat (encodeFeature f)) (by simp [layerRecs]; exact ⟨f, hf, rfl⟩))
  unfold decodeLayerMsg
  rw [encodeLayer_recs, loop_records layerLoop LRec.enc (fun st x => .ok (LRec.act st x)) layerLoop_nil _
    (fun x _ => x.enc_ne_nil)
    (fun x hx => layerLoop_rec x (hlt x hx) (fun v hv => hvals v (by subst hv; simpa [layerRecs] using hx))),
    foldlM_ok, layerRecs_fold, Nat.mod_eq_of_lt hver, Nat.mod_eq_of_lt hext]
  dsimp only
  rw [decodeFeatureMsgs_map l.features hfeats hfl]

theorem foldl_snoc {α : Type} (acc xs : List α) : xs.foldl (fun a x => a ++ [x]) acc = acc ++ xs := by
  induction xs generalizing acc with
  | nil => simp
  | cons x xs ih => simp [ih]

theorem tileLoop_nil (fuel : Nat) (acc : List VTLayer) : tileLoop fuel [] acc = .ok acc := by
  cases fuel <;> rfl

theorem tileLoop_layer (fuel : Nat) (l : VTLayer) (rest : Bytes) (acc : List VTLayer)
    (hfit : layerFits l = true) (hl : (lenDelim 3 (encodeLayer l)).length < 2^63) :
    tileLoop (fuel + 1) (lenDelim 3 (encodeLayer l) ++ rest) acc = tileLoop fuel rest (acc ++ [l]) := by
  simp [tileLoop, takeDelim_payload _ _ (payload_lt hl), decodeLayerMsg_encodeLayer l hfit (payload_lt hl)]

end Orb.ProtoWire
