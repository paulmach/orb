/-
  The geometry behind the scan-line fill (exact arithmetic).  For a query point `q` strictly inside a tile
  `(i, j)` that is NOT visited, the crossings of the horizontal ray from `q` are accounted cell by cell, and every
  hand-over between two cells that share the point where the path is changes the potential
  `[cell right of i in row j] ∧ [point below q]` exactly by the indicator `RA`, "transition between (row j, right
  of i) and row j+1".
-/
import OrbProofs.C14Trace
import OrbProofs.C14FillComb

namespace Orb.TileCover
open Orb Orb.Tile

section geom
variable {K : Type} [Field K] [LinearOrder K] [IsStrictOrderedRing K] [FloorRing K]
set_option linter.unusedSectionVars false

/-- the cell is in row `j`, right of column `i` -/
def Rt (i j : ℕ) (c : ℕ × ℕ) : Bool := decide (c.2 = j) && decide (i < c.1)

/-- the side predicate handed to `RA` -/
def rightOf (i : ℕ) : ℕ × ℕ → Bool := fun e => decide (i < e.1)

/-- parity of the number of `RA` transitions along a list of cells; only `pchain_pot` is stated with it, elsewhere
    the same parity is `raParO (some c) t` (`raPar_eq_raParO`) -/
def raPar (i j : ℕ) : List (ℕ × ℕ) → Bool
  | a :: b :: t => RA (rightOf i) j a b != raPar i j (b :: t)
  | _ => false

theorem bne_regroup : ∀ a b c d : Bool, ((a != b) != (c != d)) = ((a != c) != (b != d)) := by decide
theorem bne_telescope : ∀ a b c : Bool, ((a != b) != (b != c)) = (a != c) := by decide

/-- hand-over between two cells that share the point `(px, py)` -/
theorem junction (i j : ℕ) (q : Pt K) (hqy : (j : K) < q.y ∧ q.y < (j : K) + 1)
    (c c' : ℕ × ℕ) (px py : K) (h : InSq c px py) (h' : InSq c' px py)
    (hc : c ≠ (i, j)) (hc' : c' ≠ (i, j)) :
    ((Rt i j c && decide (q.y < py)) != RA (rightOf i) j c c') = (Rt i j c' && decide (q.y < py)) := by
  obtain ⟨n1, n2, n3, n4⟩ := near_of_inSq h h'
  obtain ⟨-, -, a3, a4⟩ := h
  obtain ⟨-, -, b3, b4⟩ := h'
  obtain ⟨q1, q2⟩ := hqy
  have g1 : ¬ (c.1 = i ∧ c.2 = j) := fun ⟨e1, e2⟩ => hc (Prod.ext e1 e2)
  have g2 : ¬ (c'.1 = i ∧ c'.2 = j) := fun ⟨e1, e2⟩ => hc' (Prod.ext e1 e2)
  rw [Bool.eq_iff_iff, bne_iff_ne, ne_eq, Bool.eq_iff_iff]
  simp only [Rt, RA, rightOf, Bool.and_eq_true, Bool.or_eq_true, decide_eq_true_eq]
  -- a shared point below `q` keeps both cells out of the rows above `j`, one above `q` out of those below
  by_cases hs : q.y < py
  · have r1 : j ≤ c.2 := le_of_cast_lt_succ (q1.trans (hs.trans_le a4))
    have r2 : j ≤ c'.2 := le_of_cast_lt_succ (q1.trans (hs.trans_le b4))
    simp only [hs, and_true]
    omega
  · rw [not_lt] at hs
    have r1 : c.2 ≤ j := le_of_cast_lt_succ ((a3.trans hs).trans_lt q2)
    have r2 : c'.2 ≤ j := le_of_cast_lt_succ ((b3.trans hs).trans_lt q2)
    simp only [not_lt.2 hs, and_false, false_iff, iff_false, not_not]
    omega

/-- abscissa of the crossing of the line `a b` with the horizontal through `q` -/
def xint (q a b : Pt K) : K := a.x + (q.y - a.y) * (b.x - a.x) / (b.y - a.y)
/-- "is the point of parameter `t` below `q`" (the tile `y` axis points down: larger `y`) -/
def sP (q a b : Pt K) (t : K) : Bool := decide (q.y < segY a b t)

/-- a crossing of the horizontal through `q` between two parameters at which the path is in the closed
    square of the same cell `c ≠ (i, j)` happens in row `j`, on the side of `c` -/
theorem cell_cross (i j : ℕ) (q : Pt K) (hqx : (i : K) < q.x ∧ q.x < (i : K) + 1)
    (hqy : (j : K) < q.y ∧ q.y < (j : K) + 1) (a b : Pt K) (c : ℕ × ℕ) (τ τ' : K) (hτ : τ ≤ τ')
    (h : InSq c (segX a b τ) (segY a b τ)) (h' : InSq c (segX a b τ') (segY a b τ'))
    (hc : c ≠ (i, j)) (hne : sP q a b τ ≠ sP q a b τ') :
    Rt i j c = decide (q.x < xint q a b) := by
  obtain ⟨a1, a2, a3, a4⟩ := h
  obtain ⟨b1, b2, b3, b4⟩ := h'
  -- the crossing is at a parameter `ts` between `τ` and `τ'`, so its point is in the closed square of `c`
  obtain ⟨hdy0, ht1, ht2⟩ := sign_change_param hτ hne
  have hyts : a.y + (q.y - a.y) / (b.y - a.y) * (b.y - a.y) = q.y := by
    rw [div_mul_cancel₀ _ hdy0]; ring
  have hxts : xint q a b = a.x + (q.y - a.y) / (b.y - a.y) * (b.x - a.x) := by
    rw [xint, div_mul_eq_mul_div]
  obtain ⟨x1, x2⟩ := affine_between ht1 ht2 a1 a2 b1 b2
  obtain ⟨y1, y2⟩ := affine_between ht1 ht2 a3 a4 b3 b4
  rw [hyts] at y1 y2
  have hrow : c.2 = j :=
    le_antisymm (le_of_cast_lt_succ (y1.trans_lt hqy.2)) (le_of_cast_lt_succ (hqy.1.trans_le y2))
  rw [hxts, Rt, hrow, decide_eq_true rfl, Bool.true_and, decide_eq_decide]
  rcases lt_or_gt_of_ne (fun e => hc (Prod.ext e hrow) : c.1 ≠ i) with hl | hg
  · have : (c.1 : K) + 1 ≤ i := by exact_mod_cast hl
    exact iff_of_false (by omega) (not_lt.2 ((x2.trans this).trans hqx.1.le))
  · have : (i : K) + 1 ≤ c.1 := by exact_mod_cast hg
    exact iff_of_true hg (hqx.2.trans_le (this.trans x1))

/-- Within one cell `c ≠ (i, j)`, the crossing indicator of the piece of the segment between two
    parameters is the change of the potential `[c in row j right of i] ∧ [point below q]`. -/
theorem cell_pot (i j : ℕ) (q : Pt K) (hqx : (i : K) < q.x ∧ q.x < (i : K) + 1)
    (hqy : (j : K) < q.y ∧ q.y < (j : K) + 1) (a b : Pt K) (c : ℕ × ℕ) (τ τ' : K) (hτ : τ ≤ τ')
    (h : InSq c (segX a b τ) (segY a b τ)) (h' : InSq c (segX a b τ') (segY a b τ'))
    (hc : c ≠ (i, j)) :
    ((sP q a b τ != sP q a b τ') && decide (q.x < xint q a b)) =
      ((Rt i j c && sP q a b τ) != (Rt i j c && sP q a b τ')) := by
  by_cases hs : sP q a b τ = sP q a b τ'
  · rw [hs, bne_self_eq_false, bne_self_eq_false, Bool.false_and]
  · rw [← cell_cross i j q hqx hqy a b c τ τ' hτ h h' hc hs]
    revert hs
    cases sP q a b τ <;> cases sP q a b τ' <;> cases Rt i j c <;> simp

/-- crossing indicator of the part of the segment after parameter `τ` -/
def xFrom (q a b : Pt K) (τ : K) : Bool := (sP q a b τ != sP q a b 1) && decide (q.x < xint q a b)

/-- The potential identity for one segment's chain of cells. -/
theorem pchain_pot (i j : ℕ) (q : Pt K) (hqx : (i : K) < q.x ∧ q.x < (i : K) + 1)
    (hqy : (j : K) < q.y ∧ q.y < (j : K) + 1) (a b : Pt K) :
    ∀ (l : List (PC K)) (u : PC K), List.IsChain (PLink a b) (u :: l) →
      InSq u.c (segX a b u.τ) (segY a b u.τ) → (∀ v ∈ u :: l, v.τ ≤ 1) →
      InSq (lastOf u l).c (segX a b 1) (segY a b 1) →
      (∀ v ∈ u :: l, v.c ≠ (i, j)) →
      (xFrom q a b u.τ != raPar i j ((u :: l).map (·.c))) =
        ((Rt i j (lastOf u l).c && sP q a b 1) != (Rt i j u.c && sP q a b u.τ)) := by
  intro l
  induction l with
  | nil =>
    intro u _ hin h1 hlast hne
    rw [xFrom, cell_pot i j q hqx hqy a b u.c u.τ 1 (h1 u List.mem_cons_self) hin hlast
      (hne u List.mem_cons_self), bne_comm (a := Rt i j u.c && sP q a b u.τ)]
    exact Bool.bne_false _
  | cons v l ih =>
    intro u hch hin h1 hlast hne
    obtain ⟨⟨hτ, hu2, hv2⟩, hrest⟩ := List.isChain_cons_cons.mp hch
    have hu := hne u List.mem_cons_self
    have hv := hne v (List.mem_cons_of_mem _ List.mem_cons_self)
    have IH := ih v hrest hv2 (fun w hw => h1 w (List.mem_cons_of_mem _ hw)) hlast
      (fun w hw => hne w (List.mem_cons_of_mem _ hw))
    -- the piece inside `u.c`, then the hand-over to `v.c`, then the rest of the chain
    have C := cell_pot i j q hqx hqy a b u.c u.τ v.τ hτ hin hu2 hu
    have J : ((Rt i j u.c && sP q a b v.τ) != RA (rightOf i) j u.c v.c) = (Rt i j v.c && sP q a b v.τ) :=
      junction i j q hqy u.c v.c _ _ hu2 hv2 hu hv
    simp only [lastOf, List.map_cons, raPar, xFrom] at IH ⊢
    have split : ((sP q a b u.τ != sP q a b 1) && decide (q.x < xint q a b)) =
        (((sP q a b u.τ != sP q a b v.τ) && decide (q.x < xint q a b)) !=
          ((sP q a b v.τ != sP q a b 1) && decide (q.x < xint q a b))) := by
      cases sP q a b u.τ <;> cases sP q a b v.τ <;> cases sP q a b 1 <;> simp
    rw [split, C, bne_regroup, Bool.bne_assoc (Rt i j u.c && sP q a b u.τ), J, IH]
    generalize (Rt i j (lastOf v l).c && sP q a b 1) = L
    generalize (Rt i j u.c && sP q a b u.τ) = E
    generalize (Rt i j v.c && sP q a b v.τ) = V
    cases L <;> cases E <;> cases V <;> rfl
end geom
end Orb.TileCover
