/-
  C07 — translation tie for clip/clip.go (`bitCode`, `bitCodeOpen`, `intersect`, `clampToBound`).
  `Generated/ClipGo.lean` is REGENERATED from /repo on every run by
  harness/cmd/factgen/translate_float.go; the theorems below prove these four regenerated definitions
  equal to the hand-written model definitions of `Orb.Clip`, for every number type (the other five of
  `Generated.ClipGo.translated` are tied in OrbProofs/C08Tie.lean).
-/
import Orb.Clip
import Generated.ClipGo

namespace Orb.C07Tie
open Orb Orb.Core

set_option linter.unusedSectionVars false

-- the instance list of Generated/ClipGo.lean
variable {α : Type} [Add α] [Sub α] [Mul α] [Div α] [Neg α] [LT α] [LE α] [DecidableLT α] [DecidableLE α]
  [BEq α] [Min α] [Max α] [OfNat α 0] [OfNat α 1] [OfNat α 2] [OfNat α 6] [NatCast α]

/-- the y-code ORed into a code `x` that is already there, as the Go code does it -/
theorem or_ite (x u v : Nat) (c d : Prop) [Decidable c] [Decidable d] :
    (if c then x ||| u else if d then x ||| v else x) = x ||| (if c then u else if d then v else 0) := by
  split
  · rfl
  · split
    · rfl
    · exact (Nat.or_zero x).symm

/-- `bitCode`: the Go code ORs the x-code and the y-code into `code := 0`; the model writes the
    two codes side by side (with the bit values of `Generated.Params`). -/
theorem bitCode_tie (b : Bound α) (p : Pt α) : Generated.ClipGo.bitCode b p = Clip.bitCode b p :=
  or_ite _ _ _ _ _

theorem bitCodeOpen_tie (b : Bound α) (p : Pt α) : Generated.ClipGo.bitCodeOpen b p = Clip.bitCodeOpen b p :=
  or_ite _ _ _ _ _

/-- `intersect` (`panic("no edge??")` is `none`) -/
theorem intersect_tie (box : Bound α) (edge : Nat) (a b : Pt α) :
    Generated.ClipGo.intersect box edge a b = Clip.intersect box edge a b := rfl

/-- `clampToBound`: the Go code overwrites `p[0]`, then `p[1]`; the model builds the point at once
    (the second test reads `p[1]`, which the first assignment does not touch). -/
theorem clampToBound_tie (box : Bound α) (p : Pt α) :
    Generated.ClipGo.clampToBound box p = Clip.clampToBound box p := by
  obtain ⟨x, y⟩ := p
  unfold Generated.ClipGo.clampToBound Clip.clampToBound
  by_cases h1 : x < box.lo.x <;> by_cases h2 : x > box.hi.x <;> by_cases h3 : y < box.lo.y <;>
    by_cases h4 : y > box.hi.y <;> simp [h1, h2, h3, h4]

theorem all_translated_ClipGo : Generated.ClipGo.translated =
    ["bitCode", "bitCodeOpen", "intersect", "clampToBound", "clipBound", "clipMultiPoint", "clipRing", "clipPolygon",
     "clipMultiPolygon"] := rfl

end Orb.C07Tie
