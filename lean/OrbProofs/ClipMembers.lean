/-
  The member loops of package clip at the value level (`Clip.polygon`, `Clip.multiPolygon`,
  `Clip.geometry.collect`): each clips every member, is stuck as soon as one member is, and drops the
  empty / nil results.  Said once, with `List.mapM` over `Option`, for any arithmetic.  Core Lean only.
-/
import Orb.Clip

namespace Orb.Clip
open Orb Orb.Core

/-- The loop of `clip.Polygon` / `clip.MultiPolygon`.  Its step is a parameter `F` with its equation `hF`: the
    anonymous `match` of the model is a constant of its own, which a `match` written here would not be. -/
theorem foldl_dropStep {β γ : Type} (f : β → Option (List γ))
    (F : Option (List (List γ)) → β → Option (List (List γ)))
    (hF : ∀ acc x, F acc x = match acc, f x with
      | some res, some [] => some res
      | some res, some y => some (res ++ [y])
      | _, _ => none)
    (l : List β) (acc : Option (List (List γ))) :
    l.foldl F acc = acc.bind fun pre => (l.mapM f).map fun ys => pre ++ ys.filter (· ≠ []) := by
  induction l generalizing acc with
  | nil => cases acc <;> simp
  | cons x t ih =>
    rw [List.foldl_cons, ih, hF, List.mapM_cons]
    cases acc with
    | none => rfl
    | some pre =>
      cases f x with
      | none => rfl
      | some y =>
        cases t.mapM f with
        | none => cases y <;> rfl
        | some ys => cases y <;> simp

section model
variable {α : Type} [Add α] [Sub α] [Mul α] [Div α] [LT α] [DecidableLT α] [BEq α]

theorem multiPolygon_eq (box : Bound α) (mp : List (List (List (Pt α)))) :
    multiPolygon box mp = (mp.mapM (polygon box)).map fun ys => ys.filter (· ≠ []) := by
  rw [multiPolygon, foldl_dropStep (polygon box) _ (fun acc p => by
    cases acc <;> cases polygon box p <;> first | rfl | (rename_i y; cases y <;> rfl))]
  simp

/-- no rings: nil; the outer ring decides whether the holes are clipped at all -/
theorem polygon_cons_eq (box : Bound α) (o : List (Pt α)) (hs : List (List (Pt α))) :
    polygon box (o :: hs) = (ring box o).bind fun r =>
      if r = [] then some [] else (hs.mapM (ring box)).map fun ys => r :: ys.filter (· ≠ []) := by
  rw [polygon]
  cases ring box o with
  | none => rfl
  | some r =>
    cases r with
    | nil => rfl
    | cons a l =>
      simp only [Option.bind_some, reduceCtorEq, if_false]
      rw [foldl_dropStep (ring box) _ (fun acc h => by
        cases acc <;> cases ring box h <;> first | rfl | (rename_i y; cases y <;> rfl))]
      simp

variable [LE α] [DecidableLE α] [Min α] [Max α]

theorem collect_eq (eb box : Bound α) (gs : List (Geom α)) :
    geometry.collect eb box gs = (gs.mapM (geometry eb box)).map (·.filterMap id) := by
  induction gs with
  | nil => simp [geometry.collect]
  | cons g gs ih =>
    rw [geometry.collect, ih, List.mapM_cons]
    cases geometry eb box g with
    | none => simp
    | some r => cases List.mapM (geometry eb box) gs <;> cases r <;> simp

end model

end Orb.Clip
