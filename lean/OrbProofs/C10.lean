/-
  C10 — Planar area, centroid, length and distance equal their exact values.
  PROPERTY THEOREMS about the model `Orb.Planar` (planar/area.go, length.go, distance.go,
  distance_from.go, internal/length/length.go).

  Coordinates range over an arbitrary linearly ordered field; `math.Sqrt` is an arbitrary function
  `sqrt`, assumed monotone / `sqrt x = 0 ↔ x = 0` only where a theorem says so.  `math.Inf(1)` is `none`.
  Spec-side vocabulary (`ringArea`, `fanTris`, `segments`, `atoms`, …) is defined in the lemma files;
  the shoelace sums `cyc`, `cross` are those of C06.
-/
import OrbProofs.C10Lemmas
import OrbProofs.C10DistLemmas
import OrbProofs.C10NestLemmas
import OrbProofs.C10ScaleLemmas

namespace Orb.Planar
open Orb Orb.Core

section area
variable {α : Type} [Field α] [LinearOrder α] [IsStrictOrderedRing α]

/-- The area of a ring is half the cyclic shoelace sum over the implicitly closed chain … -/
theorem area_eq_shoelace (r : List (Pt α)) : ringArea r = cyc r / 2 := by
  rw [ringArea_eq_edgeSum, cyc_eq]

/-- … and an explicitly closed ring has the same area. -/
theorem area_close (v : Pt α) (t : List (Pt α)) : ringArea (v :: t ++ [v]) = ringArea (v :: t) := by
  rw [ringArea_eq_edgeSum, ringArea_eq_edgeSum, Contains.edgeSumOf_close cross fun p => sub_self (p.x * p.y)]

/-- unchanged by rotating the start vertex -/
theorem area_rotate (a b : List (Pt α)) : ringArea (b ++ a) = ringArea (a ++ b) := by
  rw [area_eq_shoelace, area_eq_shoelace, cyc_rotate]

/-- negated by reversal -/
theorem area_reverse (r : List (Pt α)) : ringArea r.reverse = - ringArea r := by
  rw [area_eq_shoelace, area_eq_shoelace, cyc_reverse, neg_div]

/-- unchanged by translating -/
theorem area_translate (d : Pt α) (r : List (Pt α)) :
    ringArea (r.map fun p => ⟨p.x + d.x, p.y + d.y⟩) = ringArea r := by
  -- `cross (p + d) (q + d)` is `cross p q` plus the coboundary of `v ↦ d × v`
  rw [ringArea_eq_edgeSum, ringArea_eq_edgeSum, Contains.edgeSumOf_map,
    ← Contains.edgeSumOf_add_cob cross (fun v : Pt α => d.x * v.y - d.y * v.x)]
  exact congrArg (· / 2) (congrArg List.sum (List.map_congr_left fun e _ => by simp only [cross]; ring))

/-- positive exactly when `Ring.Orientation` says counter-clockwise, negative exactly when clockwise -/
theorem orientation_sign (r : List (Pt α)) :
    (0 < ringArea r ↔ orientation r = 1) ∧ (ringArea r < 0 ↔ orientation r = -1) := by
  rw [area_eq_shoelace, orientation_eq]
  generalize cyc r = a
  have h2 : (0 : α) < 2 := two_pos
  rw [div_pos_iff_of_pos_right h2, div_lt_iff₀ h2, zero_mul]
  split_ifs with h1 h3
  · exact ⟨iff_of_true h1 rfl, iff_of_false (not_lt.2 h1.le) (by decide)⟩
  · exact ⟨iff_of_false h1 (by decide), iff_of_true h3 rfl⟩
  · exact ⟨iff_of_false h1 (by decide), iff_of_false h3 (by decide)⟩

/-- A polygon's area is |outer| − Σ |holes|. -/
theorem polygon_area_eq (sqrt : α → α) (o : List (Pt α)) (hs : List (List (Pt α))) :
    (polygonCentroidArea sqrt (o :: hs)).2 = |ringArea o| - (hs.map fun h => |ringArea h|).sum := by
  rw [polygonCentroidArea_cons]
  split_ifs with h
  · exact h.symm
  · rfl

/-- PARTIAL ("never negative for nested rings"): the algebraic core — the area is non-negative as soon as the
    holes' areas do not exceed the outer ring's.  That nested, mutually disjoint holes satisfy this
    (monotonicity of area under containment) is geometry: for SIMPLE rings it is stated, not proved, in
    `polygon_area_nonneg_simple_full` (without simplicity it is false, `polygon_area_nonneg_full_false`); one hole
    of at most four vertices is proved in `polygon_area_nonneg_small_hole`; the correspondence run checks it on
    nested-by-construction polygons. -/
theorem polygon_area_nonneg_partial (sqrt : α → α) (o : List (Pt α)) (hs : List (List (Pt α)))
    (h : (hs.map fun h => |ringArea h|).sum ≤ |ringArea o|) : 0 ≤ (polygonCentroidArea sqrt (o :: hs)).2 := by
  rw [polygon_area_eq]
  exact sub_nonneg.2 h

/-- A multi-polygon's area is the sum of its polygons' areas. -/
theorem multi_area_sum (sqrt : α → α) (mp : List (List (List (Pt α)))) :
    (multiPolygonCentroidArea sqrt mp).2 = (mp.map fun p => (polygonCentroidArea sqrt p).2).sum := by
  rw [multiPolygonCentroidArea_eq, finishWeighted_snd]

/-- A collection's area is the sum over its members of top dimension … -/
theorem collection_area_sum_topdim (sqrt : α → α) (gs : List (Geom α)) :
    area sqrt (.collection gs) = ((gs.filter fun g => dimensions g == maxDim gs).map (area sqrt)).sum := by
  rw [area, centroidArea_collection, finishWeighted_snd]

/-- … and everything of dimension below 2 has area 0. -/
theorem area_lowerdim_zero (sqrt : α → α) (g : Geom α) (h : dimensions g < 2) : area sqrt g = 0 := by
  induction g using Geom.ind with
  | collection gs ih =>
    rw [collection_area_sum_topdim]
    refine List.sum_eq_zero (List.forall_mem_map.2 fun g hg => ?_)
    have hg' := (List.mem_filter.1 hg).1
    rw [dimensions] at h
    exact ih g hg' (lt_of_le_of_lt (dimsMax_ge_mem gs _ g hg') h)
  | point p => rfl
  | multiPoint p => rfl
  | lineString p => rfl
  | multiLineString p => rfl
  | ring p => simp [dimensions] at h
  | polygon p => simp [dimensions] at h
  | multiPolygon p => simp [dimensions] at h
  | bound p => simp [dimensions] at h

end area

/-- a polygon with no rings has area 0 -/
theorem polygon_area_nil {α : Type} [Field α] [LinearOrder α] (sqrt : α → α) :
    (polygonCentroidArea sqrt ([] : List (List (Pt α)))).2 = 0 := rfl

section centroid
variable {α : Type} [Field α] [LinearOrder α] [IsStrictOrderedRing α]

/-- The centroid of a ring is the area-weighted mean of the centroids of its fan triangles `(r[0], r[i], r[i+1])`
    (and its area their sum). -/
theorem centroid_is_weighted_mean (o : Pt α) (rest : List (Pt α)) (hA : ringArea (o :: rest) ≠ 0) :
    ringArea (o :: rest) = ((fanTris o rest).map (·.2)).sum ∧
    (ringCentroidArea (o :: rest)).1.x = ((fanTris o rest).map fun ta => ta.1.x * ta.2).sum / ((fanTris o rest).map (·.2)).sum ∧
    (ringCentroidArea (o :: rest)).1.y = ((fanTris o rest).map fun ta => ta.1.y * ta.2).sum / ((fanTris o rest).map (·.2)).sum := by
  rw [ringArea_cons] at hA
  have hS : fan o rest ≠ 0 := by
    intro h; apply hA; rw [h, zero_div]
  obtain ⟨ew, ex, ey⟩ := fanTris_sums o rest
  rw [ringArea_cons, ew, ex, ey, ringCentroidArea_cons, if_neg hS]
  exact ⟨rfl, fan_div_add _ _ _ hS, fan_div_add _ _ _ hS⟩

/-- polygon: area-weighted with the holes negative -/
theorem polygon_centroid_weighted (sqrt : α → α) (o : List (Pt α)) (hs : List (List (Pt α)))
    (hA : (polygonCentroidArea sqrt (o :: hs)).2 ≠ 0) :
    let w := |ringArea o| - (hs.map fun h => |ringArea h|).sum
    (polygonCentroidArea sqrt (o :: hs)).1.x =
      (|ringArea o| * (ringCentroidArea o).1.x - (hs.map fun h => (ringCentroidArea h).1.x * |ringArea h|).sum) / w ∧
    (polygonCentroidArea sqrt (o :: hs)).1.y =
      (|ringArea o| * (ringCentroidArea o).1.y - (hs.map fun h => (ringCentroidArea h).1.y * |ringArea h|).sum) / w := by
  rw [polygon_area_eq] at hA
  intro w
  rw [polygonCentroidArea_cons, if_neg hA]
  exact ⟨rfl, rfl⟩

/-- multi-polygon: area-weighted mean of the polygons' centroids -/
theorem multi_centroid_weighted (sqrt : α → α) (mp : List (List (List (Pt α))))
    (hA : (multiPolygonCentroidArea sqrt mp).2 ≠ 0) :
    (multiPolygonCentroidArea sqrt mp).1.x =
      (mp.map fun p => (polygonCentroidArea sqrt p).1.x * (polygonCentroidArea sqrt p).2).sum /
        (mp.map fun p => (polygonCentroidArea sqrt p).2).sum ∧
    (multiPolygonCentroidArea sqrt mp).1.y =
      (mp.map fun p => (polygonCentroidArea sqrt p).1.y * (polygonCentroidArea sqrt p).2).sum /
        (mp.map fun p => (polygonCentroidArea sqrt p).2).sum := by
  rw [multi_area_sum] at hA
  rw [multiPolygonCentroidArea_eq, finishWeighted_of_ne _ hA]
  exact ⟨rfl, rfl⟩

/-- collection whose top dimension is 2: the area-weighted mean of the centroids of its members of top dimension
    (`maxDim`), members of lower dimension are ignored (lower top dimensions: `collection_lowerdim_centroid_origin`) -/
theorem collection_centroid_weighted (sqrt : α → α) (gs : List (Geom α))
    (hA : area sqrt (.collection gs) ≠ 0) :
    let top := gs.filter fun g => dimensions g == maxDim gs
    (centroidArea sqrt (.collection gs)).1.x =
      (top.map fun g => (centroidArea sqrt g).1.x * area sqrt g).sum / (top.map (area sqrt)).sum ∧
    (centroidArea sqrt (.collection gs)).1.y =
      (top.map fun g => (centroidArea sqrt g).1.y * area sqrt g).sum / (top.map (area sqrt)).sum := by
  rw [collection_area_sum_topdim] at hA
  intro top
  rw [centroidArea_collection, finishWeighted_of_ne _ hA]
  exact ⟨rfl, rfl⟩

/-- multi-point: count-weighted -/
theorem multiPoint_centroid_mean (ps : List (Pt α)) (h : ps ≠ []) :
    multiPointCentroid ps = ⟨(ps.map (·.x)).sum / (ps.length : α), (ps.map (·.y)).sum / (ps.length : α)⟩ := by
  cases ps with
  | nil => exact absurd rfl h
  | cons p t =>
    simp only [multiPointCentroid]
    rw [multiPoint_foldl]
    simp only [zero_add]

/-- line: length-weighted mean of the segment midpoints (the origin shift cancels) -/
theorem line_centroid_weighted (sqrt : α → α) (o : Pt α) (rest : List (Pt α)) :
    let segs := (o :: rest).zip rest
    let len := fun (ab : Pt α × Pt α) => sqrt ((ab.1.x - ab.2.x) * (ab.1.x - ab.2.x) + (ab.1.y - ab.2.y) * (ab.1.y - ab.2.y))
    let L := (segs.map len).sum
    (L = 0 → lineStringCentroidDist sqrt (o :: rest) = some (o, 0)) ∧
    (L ≠ 0 → lineStringCentroidDist sqrt (o :: rest) =
      some (⟨(segs.map fun ab => (ab.1.x + ab.2.x) / 2 * len ab).sum / L, (segs.map fun ab => (ab.1.y + ab.2.y) / 2 * len ab).sum / L⟩, L)) := by
  intro segs len L
  have hdef : lineStringCentroidDist sqrt (o :: rest) =
      if L = 0 then some (o, 0) else
        some (⟨((segs.map fun ab => (ab.1.x + ab.2.x) / 2 * len ab).sum - o.x * L) / L + o.x,
               ((segs.map fun ab => (ab.1.y + ab.2.y) / 2 * len ab).sum - o.y * L) / L + o.y⟩, L) := by
    simp only [lineStringCentroidDist, lineCentroidLoop_eq, zero_add, beq_iff_eq, sum_shift]
    rfl
  rw [hdef]
  refine ⟨fun h => by rw [if_pos h], fun h => ?_⟩
  rw [if_neg h]
  rw [sub_div, sub_div, mul_div_cancel_right₀ _ h, mul_div_cancel_right₀ _ h, sub_add_cancel, sub_add_cancel]

/-! The degenerate fall-backs (total weight 0), the complement of the `≠ 0` hypotheses above. -/

/-- a ring of area 0 answers its first vertex -/
theorem ring_degenerate_centroid (o : Pt α) (rest : List (Pt α)) (h : ringArea (o :: rest) = 0) :
    ringCentroidArea (o :: rest) = (o, 0) := by
  rw [ringArea_cons] at h
  have hf : fan o rest = 0 := by
    have h2 : (2 : α) ≠ 0 := two_ne_zero
    rcases div_eq_zero_iff.1 h with h | h
    · exact h
    · exact absurd h h2
  rw [ringCentroidArea_cons, if_pos hf]

/-- a polygon of total area 0 (flat outer ring, or holes that use the outer ring up) falls back to the centroid of
    its OUTER RING AS A LINE: the length-weighted mean of the midpoints of the consecutive segments of the vertex
    list (the closing segment only when the ring is explicitly closed), the first vertex when that length is 0 … -/
theorem polygon_degenerate_centroid (sqrt : α → α) (v : Pt α) (rest : List (Pt α)) (hs : List (List (Pt α)))
    (h0 : (polygonCentroidArea sqrt ((v :: rest) :: hs)).2 = 0) :
    let segs := (v :: rest).zip rest
    let len := fun (ab : Pt α × Pt α) => sqrt ((ab.1.x - ab.2.x) * (ab.1.x - ab.2.x) + (ab.1.y - ab.2.y) * (ab.1.y - ab.2.y))
    let L := (segs.map len).sum
    (L = 0 → polygonCentroidArea sqrt ((v :: rest) :: hs) = (v, 0)) ∧
    (L ≠ 0 → polygonCentroidArea sqrt ((v :: rest) :: hs) =
      (⟨(segs.map fun ab => (ab.1.x + ab.2.x) / 2 * len ab).sum / L, (segs.map fun ab => (ab.1.y + ab.2.y) / 2 * len ab).sum / L⟩, 0)) := by
  rw [polygon_area_eq] at h0
  intro segs len L
  obtain ⟨l1, l2⟩ := line_centroid_weighted sqrt v rest
  rw [polygonCentroidArea_cons, if_pos h0]
  refine ⟨fun h => ?_, fun h => ?_⟩
  · simp only [lineFallback, l1 h]
  · simp only [lineFallback, l2 h]
    rfl

/-- … and to the origin when the outer ring has no vertex. -/
theorem polygon_degenerate_centroid_nil (sqrt : α → α) (hs : List (List (Pt α)))
    (h0 : (polygonCentroidArea sqrt (([] : List (Pt α)) :: hs)).2 = 0) :
    polygonCentroidArea sqrt (([] : List (Pt α)) :: hs) = (⟨0, 0⟩, 0) := by
  rw [polygon_area_eq] at h0
  rw [polygonCentroidArea_cons, if_pos h0]
  rfl

/-- a multi-polygon of total area 0 answers the origin … -/
theorem multi_degenerate_centroid (sqrt : α → α) (mp : List (List (List (Pt α))))
    (h0 : (multiPolygonCentroidArea sqrt mp).2 = 0) : multiPolygonCentroidArea sqrt mp = (⟨0, 0⟩, 0) := by
  rw [multi_area_sum] at h0
  rw [multiPolygonCentroidArea_eq, finishWeighted_of_eq _ h0]

/-- … and so does a collection -/
theorem collection_degenerate_centroid (sqrt : α → α) (gs : List (Geom α))
    (h0 : area sqrt (.collection gs) = 0) : centroidArea sqrt (.collection gs) = (⟨0, 0⟩, 0) := by
  rw [collection_area_sum_topdim] at h0
  rw [centroidArea_collection, finishWeighted_of_eq _ h0]

/-- PARTIAL ("the centroid of a convex ring lies in its bound"): the algebraic core — when all fan triangles have
    the same orientation the centroid is a convex combination of triangle centroids, hence within any
    coordinate range that contains every vertex (for a `ConvexRing`: `centroid_convex_in_bound`). -/
theorem centroid_convex_in_bound_partial (o : Pt α) (rest : List (Pt α)) (hA : ringArea (o :: rest) ≠ 0)
    (hs : (∀ ta ∈ fanTris o rest, 0 ≤ ta.2) ∨ (∀ ta ∈ fanTris o rest, ta.2 ≤ 0))
    (lx hx ly hy : α) (hb : ∀ v ∈ o :: rest, lx ≤ v.x ∧ v.x ≤ hx ∧ ly ≤ v.y ∧ v.y ≤ hy) :
    let c := (ringCentroidArea (o :: rest)).1
    lx ≤ c.x ∧ c.x ≤ hx ∧ ly ≤ c.y ∧ c.y ≤ hy := by
  intro c
  obtain ⟨e0, e1, e2⟩ := centroid_is_weighted_mean o rest hA
  have hW : ((fanTris o rest).map (·.2)).sum ≠ 0 := by rw [← e0]; exact hA
  have hbd : ∀ ta ∈ fanTris o rest, (lx ≤ ta.1.x ∧ ta.1.x ≤ hx) ∧ (ly ≤ ta.1.y ∧ ta.1.y ≤ hy) := by
    intro ta hta
    obtain ⟨p, q, hm, rfl⟩ := mem_fanTris o rest ta hta
    obtain ⟨hp, hq⟩ := List.of_mem_zip hm
    obtain ⟨a1, a2, a3, a4⟩ := hb o (List.mem_cons_self ..)
    obtain ⟨b1, b2, b3, b4⟩ := hb p hp
    obtain ⟨c1, c2, c3, c4⟩ := hb q (List.mem_cons_of_mem _ hq)
    exact ⟨mean3_mem ⟨a1, a2⟩ ⟨b1, b2⟩ ⟨c1, c2⟩, mean3_mem ⟨a3, a4⟩ ⟨b3, b4⟩ ⟨c3, c4⟩⟩
  obtain ⟨x1, x2⟩ := wmean_bound (fanTris o rest) (fun ta => ta.1.x) (fun ta => ta.2) lx hx hs
    (fun ta h => (hbd ta h).1) hW
  obtain ⟨y1, y2⟩ := wmean_bound (fanTris o rest) (fun ta => ta.1.y) (fun ta => ta.2) ly hy hs
    (fun ta h => (hbd ta h).2) hW
  show lx ≤ (ringCentroidArea (o :: rest)).1.x ∧ (ringCentroidArea (o :: rest)).1.x ≤ hx ∧
    ly ≤ (ringCentroidArea (o :: rest)).1.y ∧ (ringCentroidArea (o :: rest)).1.y ≤ hy
  rw [e1, e2]
  exact ⟨x1, x2, y1, y2⟩

/-- A ring that is convex in the sense "every vertex lies on one side of every edge of the closed chain"
    has fan triangles of one orientation, so the partial theorem applies to it. -/
theorem convex_fan_sign (o : Pt α) (rest : List (Pt α)) (hc : ConvexRing (o :: rest)) :
    (∀ ta ∈ fanTris o rest, 0 ≤ ta.2) ∨ (∀ ta ∈ fanTris o rest, ta.2 ≤ 0) := by
  have key : ∀ ta ∈ fanTris o rest, ∃ e ∈ EvenOdd.edges (o :: rest), ta.2 = EvenOdd.cross e.1 e.2 o / 2 := by
    intro ta hta
    obtain ⟨p, q, hm, rfl⟩ := mem_fanTris o rest ta hta
    refine ⟨(p, q), ?_, ?_⟩
    · simp only [EvenOdd.edges]
      exact List.mem_cons_of_mem _ hm
    · simp only [EvenOdd.cross]
      ring
  refine hc.imp (fun hc ta hta => ?_) (fun hc ta hta => ?_)
  · obtain ⟨e, he, h⟩ := key ta hta
    exact h ▸ div_nonneg (hc e he o (List.mem_cons_self ..)) zero_le_two
  · obtain ⟨e, he, h⟩ := key ta hta
    exact h ▸ div_nonpos_of_nonpos_of_nonneg (hc e he o (List.mem_cons_self ..)) zero_le_two

/-- KNOWN DEFECT (DESIGN §7 #20), as a theorem about the code: a collection whose members all have dimension
    below 2 is only ever area-weighted, so its "centroid" is the origin whatever the members are … -/
theorem collection_lowerdim_centroid_origin (sqrt : α → α) (gs : List (Geom α)) (h : maxDim gs < 2) :
    centroidArea sqrt (.collection gs) = (⟨0, 0⟩, 0) := by
  refine collection_degenerate_centroid sqrt gs ?_
  rw [collection_area_sum_topdim]
  refine List.sum_eq_zero (List.forall_mem_map.2 fun g hg => area_lowerdim_zero sqrt g ?_)
  exact lt_of_le_of_lt (dimsMax_ge_mem gs _ g (List.mem_filter.1 hg).1) h

/-- … e.g. two horizontal unit-speed lines whose length-weighted mean is (1,1). -/
theorem collection_lines_witness (sqrt : α → α) :
    centroidArea sqrt (.collection [.lineString [⟨0, 0⟩, ⟨2, 0⟩], .lineString [⟨0, 2⟩, ⟨2, 2⟩]]) = ((⟨0, 0⟩ : Pt α), 0) := by
  apply collection_lowerdim_centroid_origin
  simp [maxDim, dimensions.dimsMax, dimensions]

/-- multi-line: the length-weighted mean of the member lines' centroids (members without a vertex are skipped;
    zero-length members carry weight 0); when no member has a length, the plain mean of their centroids.
    (orb before 495fe7f counted a zero-length member with weight 1 in the numerator only.) -/
theorem mls_centroid_weighted (sqrt : α → α) (mls : List (List (Pt α))) :
    let vs := mls.filterMap (lineStringCentroidDist sqrt)
    let L := (vs.map (·.2)).sum
    (vs = [] → multiLineStringCentroid sqrt mls = ⟨0, 0⟩) ∧
    (vs ≠ [] → L ≠ 0 → multiLineStringCentroid sqrt mls =
      ⟨(vs.map fun cd => cd.1.x * cd.2).sum / L, (vs.map fun cd => cd.1.y * cd.2).sum / L⟩) ∧
    (vs ≠ [] → L = 0 → multiLineStringCentroid sqrt mls =
      ⟨(vs.map (·.1.x)).sum / (vs.length : α), (vs.map (·.1.y)).sum / (vs.length : α)⟩) := by
  intro vs L
  have hlen : vs ≠ [] → ¬ vs.length = 0 := fun hv h => hv (List.length_eq_zero_iff.1 h)
  rw [multiLineStringCentroid_eq]
  exact ⟨fun hv => if_pos (congrArg List.length hv), fun hv hL => (if_neg (hlen hv)).trans (if_neg hL),
    fun hv hL => (if_neg (hlen hv)).trans (if_pos hL)⟩

/-- the witness of that defect: the line (0,0)-(2,0) plus the degenerate line at (10,10) give the length-weighted
    mean (1,0) (orb before 495fe7f gave (6,5)). -/
theorem mls_zero_length_line_example (sqrt : α → α) (h0 : sqrt 0 = 0) (h4 : sqrt 4 = 2) :
    multiLineStringCentroid sqrt [[⟨0, 0⟩, ⟨2, 0⟩], [⟨10, 10⟩, ⟨10, 10⟩]] = (⟨1, 0⟩ : Pt α) := by
  have l1 := (line_centroid_weighted sqrt (⟨0, 0⟩ : Pt α) [⟨2, 0⟩]).2
  have l2 := (line_centroid_weighted sqrt (⟨10, 10⟩ : Pt α) [⟨10, 10⟩]).1
  have e4 : ((0 : α) - 2) * (0 - 2) + (0 - 0) * (0 - 0) = 4 := by norm_num
  have e0 : ((10 : α) - 10) * (10 - 10) + (10 - 10) * (10 - 10) = 0 := by norm_num
  simp only [List.zip_cons_cons, List.zip_nil_right, List.map_cons, List.map_nil, List.sum_cons, List.sum_nil,
    add_zero, e4, e0, h4, h0] at l1 l2
  have l1' := l1 two_ne_zero
  have l2' := l2 trivial
  simp only [multiLineStringCentroid, List.foldl_cons, List.foldl_nil, mlsStep, l1', l2']
  norm_num

end centroid

section lengthdist
variable {α : Type} [Field α] [LinearOrder α] [IsStrictOrderedRing α]

/-- Length is the sum of `sqrt |segment|²` over every consecutive segment of every part
    (for a ring: the consecutive segments of its vertex list, the closing one when it is explicitly closed). -/
theorem length_sum (sqrt : α → α) (g : Geom α) :
    length sqrt g = ((segments g).map fun ab => sqrt (dist2 ab.1 ab.2)).sum := by
  induction g using Geom.ind with
  | point p => rfl
  | multiPoint ps => rfl
  | lineString ps => exact (lineStringLength_eq sqrt ps 0).trans (zero_add _)
  | multiLineString ls => exact polygonLength_eq sqrt ls
  | ring ps => exact (lineStringLength_eq sqrt ps 0).trans (zero_add _)
  | polygon rs => exact polygonLength_eq sqrt rs
  | multiPolygon mp =>
    refine (foldl_add_zero _ mp).trans ((sum_map_flatMap _ _ mp).trans ?_).symm
    exact congrArg List.sum (List.map_congr_left fun pg _ => (polygonLength_eq sqrt pg).symm)
  | bound a b => exact (lineStringLength_eq sqrt _ 0).trans (zero_add _)
  | collection gs ih => exact (lenLoop_eq sqrt gs ih 0).trans (zero_add _)

/-- `segmentDistanceFromSquared a b p` is the minimum over `t ∈ [0,1]` of `|p − (a + t(b−a))|²`. -/
theorem segdist_min (a b p : Pt α) :
    (∃ t, 0 ≤ t ∧ t ≤ 1 ∧ segmentDistanceFromSquared a b p = dist2 p (lerp a b t)) ∧
    ∀ t, 0 ≤ t → t ≤ 1 → segmentDistanceFromSquared a b p ≤ dist2 p (lerp a b t) := by
  rw [segdist_eq]
  exact ⟨⟨_, (nearT_mem a b p).1, (nearT_mem a b p).2, rfl⟩, nearT_le a b p⟩

/-- … hence zero exactly on the segment. -/
theorem segdist_zero_iff (a b p : Pt α) :
    segmentDistanceFromSquared a b p = 0 ↔ ∃ t, 0 ≤ t ∧ t ≤ 1 ∧ p = lerp a b t := by
  rw [segdist_eq, dist2_eq_zero_iff]
  refine ⟨fun h => ⟨_, (nearT_mem a b p).1, (nearT_mem a b p).2, h⟩, ?_⟩
  rintro ⟨t, h0, h1, h⟩
  have := nearT_le a b p t h0 h1
  rw [← h, (dist2_eq_zero_iff p p).2 rfl] at this
  exact (dist2_eq_zero_iff _ _).1 (le_antisymm this (dist2_nonneg _ _))

theorem distanceSquared_zero_iff (q p : Pt α) : distanceSquared q p = 0 ↔ q = p := dist2_eq_zero_iff q p

/-- Distance-from is `sqrt` of the minimum over ALL points / consecutive segments of the geometry
    (`none` = +Inf when there are none). -/
theorem distanceFrom_min (sqrt : α → α) (hm : Monotone sqrt) (g : Geom α) (p : Pt α) :
    distanceFrom sqrt g p = (atoms p g).min?.map sqrt := by
  induction g using Geom.ind with
  | point q => rfl
  | multiPoint ps => exact congrArg (Option.map sqrt) (memberLoop_fst_some (fun q => distanceSquared q p) ps)
  | lineString ps => exact lineStringDistanceFrom_fst sqrt ps p
  | multiLineString ls =>
    exact memberLoop_fst sqrt hm (fun l => (lineStringDistanceFrom sqrt l p).1) (lineAtoms p) ls
      fun l _ => lineStringDistanceFrom_fst sqrt l p
  | ring ps => exact lineStringDistanceFrom_fst sqrt ps p
  | polygon rs => exact polygonDistanceFrom_fst sqrt hm rs p
  | multiPolygon mp =>
    exact memberLoop_fst sqrt hm (fun pg => (polygonDistanceFrom sqrt pg p).1) (fun pg => pg.flatMap (lineAtoms p)) mp
      fun pg _ => polygonDistanceFrom_fst sqrt hm pg p
  | bound a b => exact lineStringDistanceFrom_fst sqrt _ p
  | collection gs ih => exact collLoop_fst sqrt hm p gs ih

/-- The index reported for a line (or ring) is the first segment attaining the minimum; -1 when there is none. -/
theorem lineStringDistanceFrom_index (sqrt : α → α) (ls : List (Pt α)) (p : Pt α) :
    let at' := (ls.zip ls.tail).map fun ab => segmentDistanceFromSquared ab.1 ab.2 p
    (at' = [] → lineStringDistanceFrom sqrt ls p = (none, -1)) ∧
    (∀ m, at'.min? = some m → ∃ i : Nat, (lineStringDistanceFrom sqrt ls p) = (some (sqrt m), (i : Int)) ∧
        at'[i]? = some m ∧ ∀ j, j < i → ∀ x, at'[j]? = some x → m < x) := by
  simp only [lineStringDistanceFrom, lineDistLoop_eq_foldl]
  exact firstMin_foldl_some sqrt (fun ab : Pt α × Pt α => segmentDistanceFromSquared ab.1 ab.2 p) (pairs ls)

omit [Field α] [IsStrictOrderedRing α] in
/-- What "the index names the first member attaining the minimum" means (`none` = +Inf: a member with no point or
    segment).  The definition, so that the statements below can be read from this file alone. -/
theorem firstMinIndex_iff (ds : List (Option α)) (r : Option α × Int) :
    FirstMinIndex ds r ↔
      (((∀ d ∈ ds, d = none) → r = (none, -1)) ∧
       ∀ m, (ds.filterMap id).min? = some m →
         ∃ i : Nat, r = (some m, (i : Int)) ∧ ds[i]? = some (some m) ∧
           ∀ j, j < i → ∀ x, ds[j]? = some (some x) → m < x) := Iff.rfl

/-- The index reported for a MultiPoint is the first point attaining the minimum (squared distances are compared,
    `sqrt` is taken at the end); -1 when there is none. -/
theorem multiPointDistanceFrom_index (sqrt : α → α) (mp : List (Pt α)) (p : Pt α) :
    let at' := mp.map fun q => distanceSquared q p
    (at' = [] → multiPointDistanceFrom sqrt mp p = (none, -1)) ∧
    (∀ m, at'.min? = some m → ∃ i : Nat, multiPointDistanceFrom sqrt mp p = (some (sqrt m), (i : Int)) ∧
        at'[i]? = some m ∧ ∀ j, j < i → ∀ x, at'[j]? = some x → m < x) :=
  firstMin_foldl_some sqrt (fun q => distanceSquared q p) mp

/-- The index reported for a MultiLineString is the first line attaining the minimum of the lines' distances … -/
theorem multiLineStringDistanceFrom_index (sqrt : α → α) (mls : List (List (Pt α))) (p : Pt α) :
    FirstMinIndex (mls.map fun l => (lineStringDistanceFrom sqrt l p).1)
      (distanceFromWithIndex sqrt p (.multiLineString mls)) :=
  firstMinIndex_foldl_map (fun l => (lineStringDistanceFrom sqrt l p).1) mls

/-- … for a MultiPolygon the first polygon … -/
theorem multiPolygonDistanceFrom_index (sqrt : α → α) (mp : List (List (List (Pt α)))) (p : Pt α) :
    FirstMinIndex (mp.map fun pg => (polygonDistanceFrom sqrt pg p).1)
      (distanceFromWithIndex sqrt p (.multiPolygon mp)) :=
  firstMinIndex_foldl_map (fun pg => (polygonDistanceFrom sqrt pg p).1) mp

/-- … and for a Collection the first member (each member's distance being its own `DistanceFrom`, see
    `distanceFrom_min`). -/
theorem collectionDistanceFrom_index (sqrt : α → α) (gs : List (Geom α)) (p : Pt α) :
    FirstMinIndex (gs.map fun g => distanceFrom sqrt g p) (distanceFromWithIndex sqrt p (.collection gs)) := by
  rw [distanceFromWithIndex, collLoop_eq_foldl]
  exact firstMinIndex_foldl_map (fun g => distanceFrom sqrt g p) gs

/-- The index reported for a Polygon is NOT a ring index (the loop counter is shadowed in the code): the whole answer is
    `lineStringDistanceFrom`'s for the FIRST ring attaining the minimum of the rings' distances (`optLt` is `<` with
    `none` = +Inf) — hence, by `lineStringDistanceFrom_index`, the first nearest segment of the first nearest ring. -/
theorem polygonDistanceFrom_index (sqrt : α → α) (pg : List (List (Pt α))) (p : Pt α) :
    (pg = [] → polygonDistanceFrom sqrt pg p = (none, -1)) ∧
    (pg ≠ [] → ∃ (k : Nat) (r : List (Pt α)), pg[k]? = some r ∧
      polygonDistanceFrom sqrt pg p = lineStringDistanceFrom sqrt r p ∧
      (∀ j, j < k → ∀ x, pg[j]? = some x →
        optLt (lineStringDistanceFrom sqrt r p).1 (lineStringDistanceFrom sqrt x p).1 = true) ∧
      ∀ x ∈ pg, optLt (lineStringDistanceFrom sqrt x p).1 (lineStringDistanceFrom sqrt r p).1 = false) := by
  refine ⟨fun h => by rw [h]; rfl, fun h => ?_⟩
  cases pg with
  | nil => exact absurd rfl h
  | cons o hs =>
    have key := firstLeast_foldl (hs.map fun r => lineStringDistanceFrom sqrt r p) (lineStringDistanceFrom sqrt o p)
    rw [List.foldl_map, ← List.map_cons (f := fun r => lineStringDistanceFrom sqrt r p)] at key
    exact key.map

/-- Distance-from is zero exactly when the point is a point of the geometry or lies on one of its segments
    (an atom is zero; see `segdist_zero_iff`, `distanceSquared_zero_iff`). -/
theorem distanceFrom_zero_iff_on_boundary (sqrt : α → α) (hm : Monotone sqrt)
    (hz : ∀ x, 0 ≤ x → (sqrt x = 0 ↔ x = 0)) (g : Geom α) (p : Pt α) :
    distanceFrom sqrt g p = some 0 ↔ (0 : α) ∈ atoms p g := by
  rw [distanceFrom_min sqrt hm g p]
  have hnn := atoms_nonneg p g
  generalize atoms p g = xs at hnn
  constructor
  · intro h
    rw [Option.map_eq_some_iff] at h
    obtain ⟨m, hmin, hm0⟩ := h
    have hmem : m ∈ xs := (List.min?_eq_some_iff.1 hmin).1
    rw [hz m (hnn m hmem)] at hm0
    exact hm0 ▸ hmem
  · intro h
    have hmin : xs.min? = some 0 := List.min?_eq_some_iff.2 ⟨h, hnn⟩
    rw [hmin, Option.map_some, (hz 0 le_rfl).2 rfl]

end lengthdist

/-- The geometric half of `polygon_area_nonneg_partial` for nested holes alone.  (A clause stated in full is a
    `Prop`-valued definition, so that it has a name whether it is proved, refuted or only stated.) -/
def polygon_area_nonneg_full : Prop :=
  ∀ (α : Type) [Field α] [LinearOrder α] [IsStrictOrderedRing α] (sqrt : α → α) (o : List (Pt α)) (hs : List (List (Pt α))),
    NestedHoles o hs → 0 ≤ (polygonCentroidArea sqrt (o :: hs)).2

/-- `polygon_area_nonneg_full` AS STATED IS FALSE: `NestedHoles` speaks about even-odd regions, and a hole that runs
    twice round the outer triangle (0,0) (4,0) (0,4) has an empty even-odd interior (so it is "nested") and twice the
    area: the polygon's area is 8 − 16 = −8.  The rings of the clause must be simple. -/
theorem polygon_area_nonneg_full_false : ¬ polygon_area_nonneg_full := by
  intro h
  have := h Rat id cexOuter [cexHole] cex_nested
  rw [polygon_area_eq] at this
  simp only [cexOuter, cexHole, ringArea_cons, fan, List.map_cons, List.map_nil, List.sum_cons, List.sum_nil] at this
  norm_num at this

/-- the geometric half of "never negative for nested rings", corrected: SIMPLE rings (stated, not proved) -/
def polygon_area_nonneg_simple_full : Prop :=
  ∀ (α : Type) [Field α] [LinearOrder α] [IsStrictOrderedRing α] (sqrt : α → α) (o : List (Pt α)) (hs : List (List (Pt α))),
    SimpleRing o → (∀ h ∈ hs, SimpleRing h) → NestedHoles o hs → 0 ≤ (polygonCentroidArea sqrt (o :: hs)).2

section nonneg_special
variable {α : Type} [Field α] [LinearOrder α] [IsStrictOrderedRing α]

/-- A ring of at most four vertices (a triangle, a quadrilateral — simple or not, degenerate or not) whose vertices all
    lie on one and the same side of EVERY edge line of a ring `r` of non-zero area (`OneSide`; for a convex `r`:
    anywhere in the polygon) has at most the area of `r`. -/
theorem ring_small_le_ring (r : List (Pt α)) (hA : ringArea r ≠ 0)
    (h : List (Pt α)) (hlen : h.length ≤ 4) (hin : ∀ p ∈ h, OneSide r p) :
    |ringArea h| ≤ |ringArea r| := by
  rcases lt_or_gt_of_ne hA with hneg | hpos
  · -- clockwise: the mirror image is counter-clockwise
    have := small_le_ring_ccw (r.map mirror) (ringArea_mirror r ▸ neg_pos.2 hneg) (h.map mirror)
      (by simpa using hlen) (fun p hp => by
        obtain ⟨p', hp', rfl⟩ := List.mem_map.1 hp
        exact oneSide_mirror r p' (hin p' hp'))
    rwa [ringArea_mirror, abs_neg, ringArea_mirror, ← abs_of_neg hneg] at this
  · rw [abs_of_pos hpos]
    exact small_le_ring_ccw r hpos h hlen hin

omit [IsStrictOrderedRing α] in
/-- what `OneSide` says (the definition, for the same reason as `firstMinIndex_iff`) -/
theorem oneSide_iff (r : List (Pt α)) (p : Pt α) :
    OneSide r p ↔ ((∀ e ∈ EvenOdd.edges r, 0 ≤ EvenOdd.cross e.1 e.2 p) ∨
      (∀ e ∈ EvenOdd.edges r, EvenOdd.cross e.1 e.2 p ≤ 0)) := Iff.rfl

/-- SPECIAL CASE of "never negative for nested rings", proved outright (no geometry assumed): an outer ring of non-zero
    area and ONE hole of at most four vertices (optionally closed explicitly: five listed) all of which lie on one side
    of every edge line of the outer ring — e.g. a triangular or quadrilateral hole anywhere in a convex outer ring.
    (More holes need their disjointness to be turned into additivity of area: `polygon_area_nonneg_simple_full`.) -/
theorem polygon_area_nonneg_small_hole (sqrt : α → α) (o : List (Pt α)) (hA : ringArea o ≠ 0)
    (h : List (Pt α)) (hin : ∀ p ∈ h, OneSide o p)
    (hlen : h.length ≤ 4 ∨ ∃ v t, h = v :: t ++ [v] ∧ t.length ≤ 3) :
    0 ≤ (polygonCentroidArea sqrt [o, h]).2 := by
  apply polygon_area_nonneg_partial
  simp only [List.map_cons, List.map_nil, List.sum_cons, List.sum_nil, add_zero]
  rcases hlen with hlen | ⟨v, t, rfl, hlen⟩
  · exact ring_small_le_ring o hA h hlen hin
  · rw [area_close]
    exact ring_small_le_ring o hA (v :: t) (by simpa using hlen) fun p hp => hin p (List.mem_append_left _ hp)

end nonneg_special

/-- the clause of `centroid_convex_in_bound_partial` in full: a convex ring of non-zero area -/
def centroid_convex_in_bound_full : Prop :=
  ∀ (α : Type) [Field α] [LinearOrder α] [IsStrictOrderedRing α] (r : List (Pt α)) (lx hx ly hy : α),
    ConvexRing r → ringArea r ≠ 0 → (∀ v ∈ r, lx ≤ v.x ∧ v.x ≤ hx ∧ ly ≤ v.y ∧ v.y ≤ hy) →
    lx ≤ (ringCentroidArea r).1.x ∧ (ringCentroidArea r).1.x ≤ hx ∧ ly ≤ (ringCentroidArea r).1.y ∧ (ringCentroidArea r).1.y ≤ hy

/-- … which holds: convexity in the edge-side sense makes the fan triangles of one orientation (`convex_fan_sign`) -/
theorem centroid_convex_in_bound : centroid_convex_in_bound_full :=
  fun _ _ _ _ r lx hx ly hy hc hA hb =>
    match r with
    | [] => absurd ringArea_nil hA
    | o :: rest => centroid_convex_in_bound_partial o rest hA (convex_fan_sign o rest hc) lx hx ly hy hb

/-! ### Scale invariance

Multiplying every coordinate of a geometry (and of the query point) by one positive factor `s` multiplies centroids,
lengths and distances by `s`, areas by `s²`, and leaves every reported index alone — for all nine kinds, nested
collections included.  No absolute threshold ("areas below 1e-9 count as empty", "segments shorter than 1e-9 carry no
weight") survives this: the degenerate fall-backs are taken exactly when the total weight IS zero, at every scale.
`sqrt` is abstract; the only thing assumed of it is `sqrt (s·s·x) = s·sqrt x`, which the real square root satisfies for
`s > 0` and float64's satisfies bit for bit for `s = 2^k` as long as nothing under- or overflows — there the whole
statement holds bit for bit, which is the executable clause `scale-invariance` of the correspondence run (op `scale`). -/
section scale
variable {α : Type} [Field α] [LinearOrder α] [IsStrictOrderedRing α]

/-- `CentroidArea (s·g) = (s·c, s²·a)` -/
theorem centroidArea_scale (sqrt : α → α) (s : α) (hs : 0 < s) (hq : ∀ x, sqrt (s * s * x) = s * sqrt x) (g : Geom α) :
    centroidArea sqrt (scaleGeom s g) = (scalePt s (centroidArea sqrt g).1, s * s * (centroidArea sqrt g).2) := by
  induction g using Geom.ind with
  | collection gs ih =>
    simp only [scaleGeom, centroidArea, maxDim_scale]
    simp only [caCollLoop_foldl, scaleList_eq_map]
    rw [foldl_scale_self (mul3 (s * s * s, s * s * s, s * s)) (mul3_zero _)]
    · exact finishWeighted_scale s hs.ne' _
    · intro g hg t
      simp only [dimensions_scale, ih g hg]
      split_ifs
      · rfl
      · exact weighted_step_scale s t _
  | point p =>
    have := multiPointCentroid_scale s [p]
    simp only [List.map_cons, List.map_nil] at this
    simp only [scaleGeom, centroidArea, this, mul_zero]
  | multiPoint ps => simp only [scaleGeom, centroidArea, multiPointCentroid_scale, mul_zero]
  | lineString ps =>
    have := multiLineStringCentroid_scale sqrt s hs.ne' hq [ps]
    simp only [List.map_cons, List.map_nil] at this
    simp only [scaleGeom, centroidArea, this, mul_zero]
  | multiLineString ls => simp only [scaleGeom, centroidArea, multiLineStringCentroid_scale sqrt s hs.ne' hq, mul_zero]
  | ring r => simp only [scaleGeom, centroidArea, ringCentroidArea_scale_of_ne s hs.ne']
  | polygon p => simp only [scaleGeom, centroidArea, polygonCentroidArea_scale sqrt s hs.ne' hq]
  | multiPolygon mp => simp only [scaleGeom, centroidArea, multiPolygonCentroidArea_scale sqrt s hs.ne' hq]
  | bound a b => simp only [scaleGeom, centroidArea, boundRing_scale, ringCentroidArea_scale_of_ne s hs.ne']

/-- `Area (s·g) = s²·Area g` -/
theorem area_scale (sqrt : α → α) (s : α) (hs : 0 < s) (hq : ∀ x, sqrt (s * s * x) = s * sqrt x) (g : Geom α) :
    area sqrt (scaleGeom s g) = s * s * area sqrt g := by
  simp only [area, centroidArea_scale sqrt s hs hq]

/-- the ring case needs no square root at all (and only `s ≠ 0`: `ringCentroidArea_scale_of_ne`) -/
theorem ringCentroidArea_scale (s : α) (hs : 0 < s) (r : List (Pt α)) :
    ringCentroidArea (r.map (scalePt s)) = (scalePt s (ringCentroidArea r).1, s * s * (ringCentroidArea r).2) :=
  ringCentroidArea_scale_of_ne s hs.ne' r

/-- `Length (s·g) = s·Length g` (whatever the sign of `s`: nothing is compared) -/
theorem length_scale (sqrt : α → α) (s : α) (hq : ∀ x, sqrt (s * s * x) = s * sqrt x) (g : Geom α) :
    length sqrt (scaleGeom s g) = s * length sqrt g := by
  induction g using Geom.ind with
  | collection gs ih =>
    simp only [scaleGeom, length, lenLoop_foldl, scaleList_eq_map]
    exact sumFold_scale s _ _ _ gs ih
  | point p => simp only [scaleGeom, length, mul_zero]
  | multiPoint ps => simp only [scaleGeom, length, mul_zero]
  | lineString ps => exact lineStringLength_scale sqrt s hq ps
  | multiLineString ls => exact sumFold_scale s _ _ _ ls fun l _ => lineStringLength_scale sqrt s hq l
  | ring r => exact lineStringLength_scale sqrt s hq r
  | polygon p => exact polygonLength_scale sqrt s hq p
  | multiPolygon mp => exact sumFold_scale s _ _ _ mp fun p _ => polygonLength_scale sqrt s hq p
  | bound a b => simp only [scaleGeom, length, boundRing_scale, lineStringLength_scale sqrt s hq]

/-- the squared point–segment distance scales by `s²` (the projection parameter `t` is scale-free); `s ≠ 0` is enough:
    `segmentDistanceFromSquared_scale_of_ne` -/
theorem segmentDistanceFromSquared_scale (s : α) (hs : 0 < s) (a b p : Pt α) :
    segmentDistanceFromSquared (scalePt s a) (scalePt s b) (scalePt s p) = s * s * segmentDistanceFromSquared a b p :=
  segmentDistanceFromSquared_scale_of_ne s hs.ne' a b p

/-- `DistanceFromWithIndex (s·g, s·p) = (s·d, i)`: the same member / segment is reported (`none` = +Inf stays +Inf) -/
theorem distanceFromWithIndex_scale (sqrt : α → α) (s : α) (hs : 0 < s) (hq : ∀ x, sqrt (s * s * x) = s * sqrt x)
    (g : Geom α) (p : Pt α) :
    distanceFromWithIndex sqrt (scalePt s p) (scaleGeom s g) =
      ((distanceFromWithIndex sqrt p g).1.map (s * ·), (distanceFromWithIndex sqrt p g).2) := by
  have hmono : StrictMono (s * ·) := strictMono_mul_left_of_pos hs
  induction g using Geom.ind with
  | collection gs ih =>
    simp only [scaleGeom, distanceFromWithIndex, collLoop_eq_foldl, scaleList_eq_map]
    exact memberFold_scale (s * ·) hmono (fun g => distanceFrom sqrt g p)
      (fun g => distanceFrom sqrt g (scalePt s p)) (scaleGeom s) gs fun g hg => by simp only [distanceFrom, ih g hg]
  | point q => simp only [scaleGeom, distanceFromWithIndex, distance_scale sqrt s hq, Option.map_some]
  | multiPoint ps => simp only [scaleGeom, distanceFromWithIndex, multiPointDistanceFrom_scale sqrt s hs hq]
  | lineString ps => simp only [scaleGeom, distanceFromWithIndex, lineStringDistanceFrom_scale sqrt s hs hq]
  | multiLineString ls =>
    exact memberFold_scale (s * ·) hmono (fun l => (lineStringDistanceFrom sqrt l p).1)
      (fun l => (lineStringDistanceFrom sqrt l (scalePt s p)).1) (fun l => l.map (scalePt s)) ls
      fun l _ => by simp only [lineStringDistanceFrom_scale sqrt s hs hq]
  | ring r => simp only [scaleGeom, distanceFromWithIndex, lineStringDistanceFrom_scale sqrt s hs hq]
  | polygon pg => simp only [scaleGeom, distanceFromWithIndex, polygonDistanceFrom_scale sqrt s hs hq]
  | multiPolygon mp =>
    exact memberFold_scale (s * ·) hmono (fun pg => (polygonDistanceFrom sqrt pg p).1)
      (fun pg => (polygonDistanceFrom sqrt pg (scalePt s p)).1) (fun pg => pg.map (·.map (scalePt s))) mp
      fun pg _ => by simp only [polygonDistanceFrom_scale sqrt s hs hq]
  | bound a b => simp only [scaleGeom, distanceFromWithIndex, boundRing_scale, lineStringDistanceFrom_scale sqrt s hs hq]

/-- `DistanceFrom (s·g, s·p) = s·DistanceFrom (g, p)` -/
theorem distanceFrom_scale (sqrt : α → α) (s : α) (hs : 0 < s) (hq : ∀ x, sqrt (s * s * x) = s * sqrt x)
    (g : Geom α) (p : Pt α) :
    distanceFrom sqrt (scaleGeom s g) (scalePt s p) = (distanceFrom sqrt g p).map (s * ·) := by
  simp only [distanceFrom, distanceFromWithIndex_scale sqrt s hs hq]

end scale

/-- scaling does not change `Dimensions()` (so the same members are the top-dimensional ones); the same statement as
    `dimensions_scale` -/
theorem dimensions_scaleGeom {α : Type} [Mul α] (s : α) (g : Geom α) : dimensions (scaleGeom s g) = dimensions g :=
  dimensions_scale s g

/-- The scale theorems on instances with `s = 1/1024`: two unit boxes as a multi-polygon, shrunk by 2^-10, keep their
    centroid and (scaled) area instead of collapsing to ((0,0), 0) (the constant-zero `sqrt` satisfies the hypothesis
    on `sqrt`); the 1:3 multi-line keeps its length-weighted centroid (both sides evaluated, with a square root that is
    right on the squares that occur). -/
example :
    centroidArea (fun _ => (0 : Rat)) (scaleGeom (1 / 1024) (.multiPolygon
      [[[⟨10, 20⟩, ⟨12, 20⟩, ⟨12, 22⟩, ⟨10, 22⟩, ⟨10, 20⟩]], [[⟨30, 40⟩, ⟨32, 40⟩, ⟨32, 42⟩, ⟨30, 42⟩, ⟨30, 40⟩]]])) =
      ((⟨21 / 1024, 31 / 1024⟩ : Pt Rat), 8 / (1024 * 1024)) ∧
    (let sq : Rat → Rat := fun x => if x = 1 then 1 else if x = 9 then 3 else if x = 1 / (1024 * 1024) then 1 / 1024
        else if x = 9 / (1024 * 1024) then 3 / 1024 else 0
     multiLineStringCentroid sq [[⟨0, 0⟩, ⟨1, 0⟩], [⟨100, 100⟩, ⟨100, 103⟩]] = ⟨(1 / 2 + 300) / 4, (0 + 3 * (203 / 2)) / 4⟩ ∧
     multiLineStringCentroid sq ([[⟨0, 0⟩, ⟨1, 0⟩], [⟨100, 100⟩, ⟨100, 103⟩]].map (·.map (scalePt (1 / 1024)))) =
       scalePt (1 / 1024) ⟨(1 / 2 + 300) / 4, (0 + 3 * (203 / 2)) / 4⟩) := by
  refine ⟨?_, ?_, ?_⟩ <;> decide +kernel

/-- Non-vacuity: a concrete CCW triangle (area 8, centroid (8/3, 4/3)), a square with a square hole (area 12),
    a 3-4-5 segment distance. -/
example : ringCentroidArea ([⟨0, 0⟩, ⟨4, 0⟩, ⟨4, 4⟩, ⟨0, 0⟩] : List (Pt Rat)) = (⟨8/3, 4/3⟩, 8) ∧
    (polygonCentroidArea id ([[⟨0, 0⟩, ⟨4, 0⟩, ⟨4, 4⟩, ⟨0, 4⟩, ⟨0, 0⟩], [⟨1, 1⟩, ⟨1, 3⟩, ⟨3, 3⟩, ⟨3, 1⟩, ⟨1, 1⟩]] : List (List (Pt Rat)))).2 = 12 ∧
    segmentDistanceFromSquared (⟨0, 0⟩ : Pt Rat) ⟨10, 0⟩ ⟨3, 4⟩ = 16 := by
  refine ⟨?_, ?_, ?_⟩ <;> decide +kernel

/-- Non-vacuity of the degenerate and index theorems: a flat polygon (falls back to the length-weighted centroid (2,0) of
    its outer ring as a line), a collection of two squares of areas 4 and 16 (centroid = area-weighted mean), and a
    tie between two members of a multi-point / multi-line (the FIRST is reported). -/
example : polygonCentroidArea id ([[⟨0, 0⟩, ⟨2, 0⟩, ⟨4, 0⟩, ⟨0, 0⟩]] : List (List (Pt Rat))) = (⟨2, 0⟩, 0) ∧
    centroidArea id (.collection [.polygon [[⟨0, 0⟩, ⟨2, 0⟩, ⟨2, 2⟩, ⟨0, 2⟩, ⟨0, 0⟩]], .lineString [⟨9, 9⟩, ⟨8, 8⟩],
      .ring [⟨10, 0⟩, ⟨14, 0⟩, ⟨14, 4⟩, ⟨10, 4⟩, ⟨10, 0⟩]] : Geom Rat) = (⟨(1 * 4 + 12 * 16) / 20, (1 * 4 + 2 * 16) / 20⟩, 20) ∧
    multiPointDistanceFrom id ([⟨5, 0⟩, ⟨0, 3⟩, ⟨3, 0⟩, ⟨0, -3⟩] : List (Pt Rat)) ⟨0, 0⟩ = (some 9, 1) ∧
    distanceFromWithIndex id (⟨0, 0⟩ : Pt Rat) (.multiLineString [[], [⟨2, -1⟩, ⟨2, 1⟩], [⟨-2, -1⟩, ⟨-2, 1⟩]]) = (some 4, 1) := by
  refine ⟨?_, ?_, ?_, ?_⟩ <;> decide +kernel

/-- Non-vacuity of the special case: the closed box (0,0)-(6,6), clockwise or counter-clockwise, and a triangular hole
    in it satisfy its hypotheses (and the area is 36 − 2 = 34). -/
example : (∀ p ∈ ([⟨1, 1⟩, ⟨1, 3⟩, ⟨3, 1⟩] : List (Pt Rat)), OneSide [⟨0, 0⟩, ⟨6, 0⟩, ⟨6, 6⟩, ⟨0, 6⟩, ⟨0, 0⟩] p) ∧
    (∀ p ∈ ([⟨1, 1⟩, ⟨1, 3⟩, ⟨3, 1⟩] : List (Pt Rat)), OneSide [⟨0, 0⟩, ⟨0, 6⟩, ⟨6, 6⟩, ⟨6, 0⟩, ⟨0, 0⟩] p) ∧
    ringArea ([⟨0, 0⟩, ⟨6, 0⟩, ⟨6, 6⟩, ⟨0, 6⟩, ⟨0, 0⟩] : List (Pt Rat)) ≠ 0 ∧
    (polygonCentroidArea id ([[⟨0, 0⟩, ⟨6, 0⟩, ⟨6, 6⟩, ⟨0, 6⟩, ⟨0, 0⟩], [⟨1, 1⟩, ⟨1, 3⟩, ⟨3, 1⟩]] : List (List (Pt Rat)))).2 = 34 := by
  simp only [OneSide]
  refine ⟨?_, ?_, ?_, ?_⟩ <;> decide +kernel

end Orb.Planar
