/-
  C07, the inner Cohen–Sutherland loop over an ordered field.  `intersect` puts the moved end at the parameter where
  the excess over the chosen edge vanishes, so one clip takes a bit off the codes and cuts off only points outside the
  region to keep: the loop without the rounding guards satisfies ONE specification, closed and open bound at once, in
  parameters of the segment (`segLoopU_spec`).  For the same reason no end is clipped a third time, and the model's
  loop with its guards is that loop (`segLoop_eq_segLoopU`).
-/
import OrbProofs.C07Seg

set_option linter.unusedSectionVars false

namespace Orb.Clip
open Orb Orb.Core Generated.Params

variable {α : Type} [Field α] [LinearOrder α] [IsStrictOrderedRing α]

/-- `k` is the edge `intersect` picks for the code `c` -/
def FirstBit (c k : Nat) : Prop :=
  (k = 8 ∧ c &&& 8 ≠ 0) ∨ (k = 4 ∧ c &&& 8 = 0 ∧ c &&& 4 ≠ 0) ∨
  (k = 2 ∧ c &&& 8 = 0 ∧ c &&& 4 = 0 ∧ c &&& 2 ≠ 0) ∨
  (k = 1 ∧ c &&& 8 = 0 ∧ c &&& 4 = 0 ∧ c &&& 2 = 0 ∧ c &&& 1 ≠ 0)

theorem firstBit_exists {c : Nat} (hc : c < 16) (h0 : c ≠ 0) : ∃ k, FirstBit c k := by
  rcases bits_first c hc h0 with h | h | h | h
  · exact ⟨8, Or.inl ⟨rfl, h⟩⟩
  · exact ⟨4, Or.inr (Or.inl ⟨rfl, h⟩)⟩
  · exact ⟨2, Or.inr (Or.inr (Or.inl ⟨rfl, h⟩))⟩
  · exact ⟨1, Or.inr (Or.inr (Or.inr ⟨rfl, h⟩))⟩

theorem FirstBit.edge {c k : Nat} (h : FirstBit c k) : Edge k := by
  rcases h with ⟨rfl, _⟩ | ⟨rfl, _⟩ | ⟨rfl, _⟩ | ⟨rfl, _⟩ <;> simp [Edge]

theorem FirstBit.bit {c k : Nat} (h : FirstBit c k) : c &&& k ≠ 0 := by
  rcases h with ⟨rfl, h⟩ | ⟨rfl, _, h⟩ | ⟨rfl, _, _, h⟩ | ⟨rfl, _, _, _, h⟩ <;> exact h

/-- the point computed by `intersect` for the edge `k` -/
def cross (box : Bound α) (k : Nat) (a b : Pt α) : Pt α :=
  if k = 8 then ⟨a.x + (b.x - a.x) * (box.hi.y - a.y) / (b.y - a.y), box.hi.y⟩
  else if k = 4 then ⟨a.x + (b.x - a.x) * (box.lo.y - a.y) / (b.y - a.y), box.lo.y⟩
  else if k = 2 then ⟨box.hi.x, a.y + (b.y - a.y) * (box.hi.x - a.x) / (b.x - a.x)⟩
  else ⟨box.lo.x, a.y + (b.y - a.y) * (box.lo.x - a.x) / (b.x - a.x)⟩

theorem intersect_eq_cross (box : Bound α) {c k : Nat} (h : FirstBit c k) (a b : Pt α) :
    intersect box c a b = some (cross box k a b) := by
  rcases h with ⟨rfl, h8⟩ | ⟨rfl, h8, h4⟩ | ⟨rfl, h8, h4, h2⟩ | ⟨rfl, h8, h4, h2, h1⟩ <;>
    simp [intersect, cross, clip_codeLeft, clip_codeRight, clip_codeBottom, clip_codeTop, *]
  rw [Nat.and_one_is_mod] at h1; omega

/-- the point computed for the edge `k` is the point of the line `a b` where the excess over `k`
    vanishes (when the excess is constant along the line: if that constant is 0) -/
theorem cross_eq_lerp (box : Bound α) {k : Nat} (hk : Edge k) (a b : Pt α)
    (h : exc box k a = exc box k b → exc box k a = 0) :
    cross box k a b = lerp a b (exc box k a / (exc box k a - exc box k b)) := by
  have hT : exc box k a / (exc box k a - exc box k b) * (exc box k a - exc box k b) = exc box k a := by
    by_cases huv : exc box k a = exc box k b
    · rw [h huv, zero_div, zero_mul]
    · exact div_mul_cancel₀ _ (sub_ne_zero.2 huv)
  rcases hk with rfl | rfl | rfl | rfl <;>
    simp only [exc_8, exc_4, exc_2, exc_1, sub_sub_sub_cancel_right, sub_sub_sub_cancel_left] at hT ⊢ <;>
    apply pt_eq
  · show a.x + (b.x - a.x) * (box.hi.y - a.y) / (b.y - a.y) = _
    rw [lerp_x, mul_div_assoc, ← neg_div_neg_eq (box.hi.y - a.y), neg_sub, neg_sub, mul_comm]
  · show box.hi.y = _
    rw [lerp_y, ← neg_sub a.y b.y, mul_neg, hT, neg_sub, add_sub_cancel]
  · show a.x + (b.x - a.x) * (box.lo.y - a.y) / (b.y - a.y) = _
    rw [lerp_x, mul_div_assoc, mul_comm]
  · show box.lo.y = _
    rw [lerp_y, hT, add_sub_cancel]
  · show box.hi.x = _
    rw [lerp_x, ← neg_sub a.x b.x, mul_neg, hT, neg_sub, add_sub_cancel]
  · show a.y + (b.y - a.y) * (box.hi.x - a.x) / (b.x - a.x) = _
    rw [lerp_y, mul_div_assoc, ← neg_div_neg_eq (box.hi.x - a.x), neg_sub, neg_sub, mul_comm]
  · show box.lo.x = _
    rw [lerp_x, hT, add_sub_cancel]
  · show a.y + (b.y - a.y) * (box.lo.x - a.x) / (b.x - a.x) = _
    rw [lerp_y, mul_div_assoc, mul_comm]

theorem cross_startEnd (box : Bound α) {k : Nat} (hk : Edge k) (a b : Pt α)
    (ha : 0 ≤ exc box k a) (hb : exc box k b ≤ 0) :
    ∃ T, 0 ≤ T ∧ T ≤ 1 ∧ cross box k a b = lerp a b T ∧ exc box k (lerp a b T) = 0 ∧
      ∀ t, 0 ≤ t → t < T → 0 < exc box k (lerp a b t) := by
  obtain ⟨h0, h1, hz, hpos, -, -⟩ := affine_cross ha hb
  refine ⟨_, h0, h1, cross_eq_lerp box hk a b (fun h => le_antisymm (h ▸ hb) ha), ?_, ?_⟩
  · rw [exc_lerp]; exact hz
  · intro t ht0 ht; rw [exc_lerp]; exact hpos t ht0 ht

theorem cross_farEnd (box : Bound α) {k : Nat} (hk : Edge k) (a b : Pt α)
    (ha : exc box k a ≤ 0) (hb : 0 ≤ exc box k b) :
    ∃ T, 0 ≤ T ∧ T ≤ 1 ∧ cross box k a b = lerp a b T ∧ exc box k (lerp a b T) = 0 ∧
      (∀ t, T < t → t ≤ 1 → 0 ≤ exc box k (lerp a b t)) ∧
      (0 < exc box k b → ∀ t, T < t → 0 < exc box k (lerp a b t)) := by
  obtain ⟨h0, h1, hz, hle, hlt⟩ := affine_cross_up ha hb
  refine ⟨_, h0, h1, cross_eq_lerp box hk a b (fun h => le_antisymm ha (h ▸ hb)), ?_, ?_, ?_⟩
  · rw [exc_lerp]; exact hz
  · intro t ht ht1; rw [exc_lerp]; exact hle t ht ht1
  · intro hpos t ht; rw [exc_lerp]; exact hlt hpos t ht

theorem bit_of_exc_pos {box : Bound α} {cA cB : Nat} {a b : Pt α} (hWA : W box cA a) (hWB : W box cB b)
    {T : α} (hT0 : 0 ≤ T) (hT1 : T ≤ 1) :
    ∀ j, Edge j → 0 < exc box j (lerp a b T) → cA &&& j ≠ 0 ∨ cB &&& j ≠ 0 := by
  intro j hj hpos
  by_contra hc
  push Not at hc
  have h1 := (hWA.2 j hj).2 hc.1
  have h2 := (hWB.2 j hj).2 hc.2
  rw [exc_lerp] at hpos
  exact not_le.2 hpos (convex_nonpos hT0 hT1 h1 h2)

/-- moving an end onto the line of an edge `k` of its code removes that bit and adds none that the two
    codes did not have -/
theorem bitCount_clip_lt {box : Bound α} (hb : BoxOK box) {c1 c2 : Nat} (h1 : c1 < 16) (h2 : c2 < 16) {k : Nat}
    (hk : Edge k) (hck : c1 &&& k ≠ 0) (hand : c1 &&& c2 = 0) (p : Pt α) (hz : exc box k p = 0)
    (hconv : ∀ j, Edge j → 0 < exc box j p → c1 &&& j ≠ 0 ∨ c2 &&& j ≠ 0) :
    bitCount (bitCode box p ||| c2) < bitCount (c1 ||| c2) := by
  have hk0 : bitCode box p &&& k = 0 := by
    by_contra h
    exact ((bitCode_bit hb p hk).1 h).ne' hz
  have hk2 : c2 &&& k = 0 := bits_disj c1 h1 c2 h2 hand k hk.mem hck
  refine bitCount_lt_of_bits _ (Nat.or_lt_two_pow (n := 4) (bitCode_lt16 box p) h2) _
    (Nat.or_lt_two_pow (n := 4) h1 h2) ?_ ?_
  · intro j hj
    simp only [Nat.and_or_distrib_right, ne_eq, Nat.or_eq_zero_iff, not_and_or]
    rintro (h | h)
    · exact hconv j (Edge.of_mem hj) ((bitCode_bit hb p (Edge.of_mem hj)).1 h)
    · exact Or.inr h
  · intro h
    have : (c1 ||| c2) &&& k = 0 := by rw [← h, Nat.and_or_distrib_right, hk0, hk2]; rfl
    rw [Nat.and_or_distrib_right] at this
    exact hck (Nat.or_eq_zero_iff.1 this).1

/-- `k` is the edge `intersect` picks for the start code, `T` the parameter of the point it returns -/
theorem clip_start_edge {box : Bound α} {cA cB : Nat} {a b : Pt α} (hWA : W box cA a) (hWB : W box cB b)
    (hne : cA ≠ 0) (hand : cA &&& cB = 0) :
    ∃ k T, Edge k ∧ cA &&& k ≠ 0 ∧ cB &&& k = 0 ∧ 0 ≤ T ∧ T ≤ 1 ∧ intersect box cA a b = some (lerp a b T) ∧
      exc box k (lerp a b T) = 0 ∧ ∀ t, 0 ≤ t → t < T → 0 < exc box k (lerp a b t) := by
  obtain ⟨k, hfb⟩ := firstBit_exists hWA.1 hne
  have hk := hfb.edge
  have hbitB : cB &&& k = 0 := bits_disj cA hWA.1 cB hWB.1 hand k hk.mem hfb.bit
  obtain ⟨T, hT0, hT1, hcross, hz, hdis⟩ :=
    cross_startEnd box hk a b ((hWA.2 k hk).1 hfb.bit) ((hWB.2 k hk).2 hbitB)
  exact ⟨k, T, hk, hfb.bit, hbitB, hT0, hT1, by rw [intersect_eq_cross box hfb, hcross], hz, hdis⟩

theorem clip_start {box : Bound α} (hb : BoxOK box) {cA cB : Nat} {a b : Pt α} (hWA : W box cA a)
    (hWB : W box cB b) (hne : cA ≠ 0) (hand : cA &&& cB = 0) :
    ∃ T, 0 ≤ T ∧ T ≤ 1 ∧ intersect box cA a b = some (lerp a b T) ∧
      bitCount (bitCode box (lerp a b T) ||| cB) < bitCount (cA ||| cB) ∧
      ∀ t, 0 ≤ t → t < T → ¬ InBox box (lerp a b t) := by
  obtain ⟨k, T, hk, hbit, -, hT0, hT1, hint, hz, hdis⟩ := clip_start_edge hWA hWB hne hand
  exact ⟨T, hT0, hT1, hint, bitCount_clip_lt hb hWA.1 hWB.1 hk hbit hand _ hz (bit_of_exc_pos hWA hWB hT0 hT1),
    fun t ht0 ht hin => not_le.2 (hdis t ht0 ht) (inBox_iff.1 hin k hk)⟩

theorem clip_far_edge {box : Bound α} {cA cB : Nat} {a b : Pt α} (hWA : W box cA a) (hWB : W box cB b)
    (hne : cB ≠ 0) (hand : cA &&& cB = 0) :
    ∃ k T, Edge k ∧ cB &&& k ≠ 0 ∧ cA &&& k = 0 ∧ 0 ≤ T ∧ T ≤ 1 ∧ intersect box cB a b = some (lerp a b T) ∧
      exc box k (lerp a b T) = 0 ∧ (∀ t, T < t → t ≤ 1 → 0 ≤ exc box k (lerp a b t)) ∧
      (0 < exc box k b → ∀ t, T < t → 0 < exc box k (lerp a b t)) := by
  obtain ⟨k, hfb⟩ := firstBit_exists hWB.1 hne
  have hk := hfb.edge
  have hbitA : cA &&& k = 0 :=
    bits_disj cB hWB.1 cA hWA.1 (by rw [Nat.and_comm]; exact hand) k hk.mem hfb.bit
  obtain ⟨T, hT0, hT1, hcross, hz, hdis, hdis'⟩ :=
    cross_farEnd box hk a b ((hWA.2 k hk).2 hbitA) ((hWB.2 k hk).1 hfb.bit)
  exact ⟨k, T, hk, hfb.bit, hbitA, hT0, hT1, by rw [intersect_eq_cross box hfb, hcross], hz, hdis, hdis'⟩

theorem clip_far {box : Bound α} (hb : BoxOK box) {cA cB : Nat} {a b : Pt α} (hWA : W box cA a)
    (hWB : W box cB b) (hne : cB ≠ 0) (hand : cA &&& cB = 0) :
    ∃ T, 0 ≤ T ∧ T ≤ 1 ∧ intersect box cB a b = some (lerp a b T) ∧
      bitCount (cA ||| bitCode box (lerp a b T)) < bitCount (cA ||| cB) ∧
      (∀ t, T < t → t ≤ 1 → ¬ InOpenBox box (lerp a b t)) ∧
      (cB = bitCode box b → ∀ t, T < t → ¬ InBox box (lerp a b t)) := by
  obtain ⟨k, T, hk, hbit, -, hT0, hT1, hint, hz, hdis, hdis'⟩ := clip_far_edge hWA hWB hne hand
  have hand' : cB &&& cA = 0 := by rw [Nat.and_comm]; exact hand
  refine ⟨T, hT0, hT1, hint, ?_, fun t ht ht1 hin => not_lt.2 (hdis t ht ht1) (inOpenBox_iff.1 hin k hk),
    fun hex t ht hin => not_le.2 (hdis' ((bitCode_bit hb b hk).1 (hex ▸ hbit)) t ht) (inBox_iff.1 hin k hk)⟩
  rw [Nat.or_comm cA, Nat.or_comm cA]
  exact bitCount_clip_lt hb hWB.1 hWA.1 hk hbit hand' _ hz
    fun j hj hpos => (bit_of_exc_pos hWA hWB hT0 hT1 j hj hpos).symm

/-- the region whose points must be kept: the open box, and when `S` holds (the closed bound) the closed box -/
def Reg (S : Prop) (box : Bound α) (q : Pt α) : Prop := InOpenBox box q ∨ (S ∧ InBox box q)

theorem Reg.inBox {S : Prop} {box : Bound α} {q : Pt α} (h : Reg S box q) : InBox box q := by
  rcases h with h | h
  · exact h.inBox
  · exact h.2

/-- post-condition of `segLoopU` run with `fuel` on the part `[s, e]` of the segment `a b`, with the codes `cA cB`:
    the accepted part is `[s', e']`, in parameters of `a b`; an end whose code is 0 is not moved; every parameter of the
    region to keep lies in `[s', e']`.  The loop only gets stuck when the fuel does not cover the bits of the codes. -/
def SegPost (box : Bound α) (S : Prop) (a b : Pt α) (s e : α) (cA cB fuel : Nat) : Seg α → Prop
  | .accept a' b' c => c = 0 ∧ cA &&& cB = 0 ∧ ∃ s' e', s ≤ s' ∧ s' ≤ e' ∧ e' ≤ e ∧
      a' = lerp a b s' ∧ b' = lerp a b e' ∧ InBox box a' ∧ InBox box b' ∧ (cA = 0 → s' = s) ∧ (cB = 0 → e' = e) ∧
      ∀ t, s ≤ t → t ≤ e → Reg S box (lerp a b t) → s' ≤ t ∧ t ≤ e'
  | .reject => cA ≠ 0 ∧ ∀ t, s ≤ t → t ≤ e → ¬ Reg S box (lerp a b t)
  | .stuck => fuel ≤ bitCount (cA ||| cB)

/-- THE SPECIFICATION of the inner loop, both bounds at once, in parameters of the segment `a b` the outer loop hands it.
    With the open bound the codes only read weakly (`W`) and the open box is kept; `S` stands for the closed bound: then
    the codes are the exact closed codes, a set bit is a strict excess, and the closed box is kept (`Reg`). -/
theorem segLoopU_spec {box : Bound α} (hb : BoxOK box) (S : Prop) (a b : Pt α) :
    ∀ (fuel : Nat) (s e : α) (cA cB : Nat), s ≤ e → W box cA (lerp a b s) → W box cB (lerp a b e) →
      (S → cA = bitCode box (lerp a b s) ∧ cB = bitCode box (lerp a b e)) →
      SegPost box S a b s e cA cB fuel (segLoopU box fuel (lerp a b s) (lerp a b e) cA cB) := by
  intro fuel
  induction fuel with
  | zero => intro s e cA cB _ _ _ _; exact Nat.zero_le _
  | succ n ih =>
    intro s e cA cB hse hWA hWB hS
    rcases segLoopU_succ box n (lerp a b s) (lerp a b e) cA cB with
      ⟨h1, e1⟩ | ⟨h2, e1⟩ | ⟨h3, hand, e1⟩ | ⟨hA0, hB0, e1⟩ <;> rw [e1]
    · -- accept
      obtain ⟨hA0, hB0⟩ := Nat.or_eq_zero_iff.1 h1
      subst hA0; subst hB0
      exact ⟨rfl, rfl, s, e, le_refl _, hse, le_refl _, rfl, rfl, W_zero_inBox hWA, W_zero_inBox hWB,
        fun _ => rfl, fun _ => rfl, fun t h1 h2 _ => ⟨h1, h2⟩⟩
    · -- reject: both ends weakly beyond a common edge
      refine ⟨fun h => h2 (by rw [h, Nat.zero_and]), ?_⟩
      obtain ⟨k, hkm, hkA, hkB⟩ := bits_common cA hWA.1 cB hWB.1 h2
      have hk := Edge.of_mem hkm
      intro t hst hte hreg
      obtain ⟨u, hu0, hu1, rfl⟩ := between_param hst hte
      rw [← lerp_lerp] at hreg
      have eA := (hWA.2 k hk).1 hkA
      have eB := (hWB.2 k hk).1 hkB
      rcases hreg with hreg | ⟨hs, hreg⟩
      · have := (inOpenBox_iff.1 hreg) k hk
        rw [exc_lerp] at this
        exact not_le.2 this (convex_nonneg hu0 hu1 eA eB)
      · obtain ⟨hcA, hcB⟩ := hS hs
        have eA' : 0 < exc box k (lerp a b s) := (bitCode_bit hb _ hk).1 (hcA ▸ hkA)
        have eB' : 0 < exc box k (lerp a b e) := (bitCode_bit hb _ hk).1 (hcB ▸ hkB)
        have := (inBox_iff.1 hreg) k hk
        rw [exc_lerp] at this
        exact not_lt.2 this (convex_pos hu0 hu1 eA' eB')
    · -- clip the start end: the part goes on from `s + T * (e - s)`, and nothing before that is in the box
      obtain ⟨T, hT0, hT1, hint, hdec, hdis⟩ := clip_start hb hWA hWB h3 hand
      rw [hint]
      show SegPost box S a b s e cA cB (n + 1) (segLoopU box n (lerp (lerp a b s) (lerp a b e) T) (lerp a b e)
        (bitCode box (lerp (lerp a b s) (lerp a b e) T)) cB)
      rw [lerp_lerp] at hdec ⊢
      obtain ⟨hsT, hTe⟩ := param_between hse hT0 hT1
      have key := ih (s + T * (e - s)) e _ cB hTe (W_bitCode hb _) hWB (fun h => ⟨rfl, (hS h).2⟩)
      have hge : ∀ t, s ≤ t → t ≤ e → InBox box (lerp a b t) → s + T * (e - s) ≤ t := by
        intro t hst hte hin
        obtain ⟨u, hu0, hu1, rfl⟩ := between_param hst hte
        by_contra hlt
        rw [← lerp_lerp] at hin
        exact hdis u hu0 (lt_of_mul_lt_mul_right (lt_of_add_lt_add_left (not_le.1 hlt)) (sub_nonneg.2 hse)) hin
      generalize segLoopU box n (lerp a b (s + T * (e - s))) (lerp a b e) (bitCode box (lerp a b (s + T * (e - s)))) cB
        = r at key ⊢
      cases r with
      | accept a' b' c =>
        obtain ⟨hc, -, s', e', k1, k2, k3, ka, kb, hia, hib, -, kB, hcomp⟩ := key
        exact ⟨hc, hand, s', e', hsT.trans k1, k2, k3, ka, kb, hia, hib, fun h => absurd h h3, kB,
          fun t hst hte hreg => hcomp t (hge t hst hte hreg.inBox) hte hreg⟩
      | reject => exact ⟨h3, fun t hst hte hreg => key.2 t (hge t hst hte hreg.inBox) hte hreg⟩
      | stuck => exact Nat.succ_le_of_lt (lt_of_le_of_lt key hdec)
    · -- clip the far end: the part ends at `s + T * (e - s)`, and nothing after that is in the region to keep
      have hand : cA &&& cB = 0 := by rw [hA0, Nat.zero_and]
      obtain ⟨T, hT0, hT1, hint, hdec, hdisO, hdisC⟩ := clip_far hb hWA hWB hB0 hand
      rw [hint]
      show SegPost box S a b s e cA cB (n + 1) (segLoopU box n (lerp a b s) (lerp (lerp a b s) (lerp a b e) T) cA
        (bitCode box (lerp (lerp a b s) (lerp a b e) T)))
      rw [lerp_lerp] at hdec ⊢
      obtain ⟨hsT, hTe⟩ := param_between hse hT0 hT1
      have key := ih s (s + T * (e - s)) cA _ hsT hWA (W_bitCode hb _) (fun h => ⟨(hS h).1, rfl⟩)
      have hle : ∀ t, s ≤ t → t ≤ e → Reg S box (lerp a b t) → t ≤ s + T * (e - s) := by
        intro t hst hte hreg
        obtain ⟨u, hu0, hu1, rfl⟩ := between_param hst hte
        by_contra hlt
        have hu : T < u := lt_of_mul_lt_mul_right (lt_of_add_lt_add_left (not_le.1 hlt)) (sub_nonneg.2 hse)
        rw [← lerp_lerp] at hreg
        rcases hreg with hreg | ⟨hs, hreg⟩
        · exact hdisO u hu hu1 hreg
        · exact hdisC (hS hs).2 u hu hreg
      generalize segLoopU box n (lerp a b s) (lerp a b (s + T * (e - s))) cA (bitCode box (lerp a b (s + T * (e - s))))
        = r at key ⊢
      cases r with
      | accept a' b' c =>
        obtain ⟨hc, -, s', e', k1, k2, k3, ka, kb, hia, hib, kA, -, hcomp⟩ := key
        exact ⟨hc, hand, s', e', k1, k2, k3.trans hTe, ka, kb, hia, hib, kA, fun h => absurd h hB0,
          fun t hst hte hreg => hcomp t hst (hle t hst hte hreg) hreg⟩
      | reject => exact ⟨key.1, fun t hst hte hreg => key.2 t hst (hle t hst hte hreg) hreg⟩
      | stuck => exact Nat.succ_le_of_lt (lt_of_le_of_lt key hdec)

theorem segLoopU_spec_whole {box : Bound α} (hb : BoxOK box) (S : Prop) (fuel : Nat) {a b : Pt α} {cA cB : Nat}
    (hWA : W box cA a) (hWB : W box cB b) (hS : S → cA = bitCode box a ∧ cB = bitCode box b) :
    SegPost box S a b 0 1 cA cB fuel (segLoopU box fuel a b cA cB) := by
  have := segLoopU_spec hb S a b fuel 0 1 cA cB zero_le_one (by rwa [lerp_zero]) (by rwa [lerp_one])
    (by rwa [lerp_zero, lerp_one])
  rwa [lerp_zero, lerp_one] at this

/-- about a segment, not the loop: a part `a' b'` of `a b` (`a' ≠ b'`) with both ends in the closed box runs strictly inside between
    its ends, unless the open codes of `a` and `b` share a bit (then the whole of `a b` may lie on one edge line) -/
theorem open_interior {box : Bound α} (hb : BoxOK box) {a b a' b' : Pt α}
    (hand : bitCodeOpen box a &&& bitCodeOpen box b = 0) (hia : InBox box a') (hib : InBox box b')
    (hoa : OnSeg a b a') (hob : OnSeg a b b') (hne : a' ≠ b') {t : α} (ht0 : 0 < t) (ht1 : t < 1) :
    InOpenBox box (lerp a' b' t) := by
  rw [inOpenBox_iff]
  intro k hk
  by_contra hge
  -- otherwise both ends of the piece segment lie on the line of the edge `k` …
  have hge : 0 ≤ exc box k (lerp a' b' t) := not_lt.1 hge
  rw [exc_lerp] at hge
  obtain ⟨za', zb'⟩ := convex_eq_zero ht0 ht1 ((inBox_iff.1 hia) k hk) ((inBox_iff.1 hib) k hk) hge
  -- … being different points of `a b`, so do `a` and `b`, and both open codes have the bit `k`
  obtain ⟨s, _, _, rfl⟩ := hoa
  obtain ⟨e, _, _, rfl⟩ := hob
  have hse : s ≠ e := by rintro rfl; exact hne rfl
  rw [exc_lerp] at za' zb'
  have hprod : (s - e) * (exc box k b - exc box k a) = 0 := by
    rw [← sub_self (0 : α)]
    nth_rewrite 1 [← za']
    nth_rewrite 1 [← zb']
    ring
  have hab : exc box k b = exc box k a :=
    sub_eq_zero.1 ((mul_eq_zero.1 hprod).resolve_left (sub_ne_zero.2 hse))
  have za : exc box k a = 0 := by rwa [hab, ← add_mul, sub_add_cancel, one_mul] at za'
  have bA := (bitCodeOpen_bit hb a hk).2 za.ge
  have bB := (bitCodeOpen_bit hb b hk).2 (hab.trans za).ge
  exact and_ne_zero_of_bits _ (bitCodeOpen_lt16 box a) _ (bitCodeOpen_lt16 box b) k hk.mem bA bB hand

theorem segLoopU_closed {box : Bound α} (hb : BoxOK box) (a b : Pt α) :
    (match segLoopU box 8 a b (bitCode box a) (bitCode box b) with
     | .accept a' b' _ => InBox box a' ∧ InBox box b' ∧ OnSeg a b a' ∧ OnSeg a b b' ∧
         ∀ q, OnSeg a b q → (InBox box q ↔ OnSeg a' b' q)
     | .reject => ∀ q, OnSeg a b q → ¬ InBox box q
     | .stuck => False) := by
  have key := segLoopU_spec_whole hb True 8 (W_bitCode hb a) (W_bitCode hb b) (fun _ => ⟨rfl, rfl⟩)
  generalize segLoopU box 8 a b (bitCode box a) (bitCode box b) = r at key ⊢
  cases r with
  | accept a' b' c =>
    obtain ⟨-, -, s, e, h0, hse, h1, rfl, rfl, hia, hib, -, -, hcomp⟩ := key
    refine ⟨hia, hib, onSeg_lerp a b h0 (hse.trans h1), onSeg_lerp a b (h0.trans hse) h1, ?_⟩
    rintro q ⟨t, t0, t1, rfl⟩
    refine ⟨fun hin => ?_, fun hq => inBox_of_onSeg hia hib hq⟩
    obtain ⟨k1, k2⟩ := hcomp t t0 t1 (Or.inr ⟨trivial, hin⟩)
    exact onSeg_between a b k1 k2
  | reject => rintro q ⟨t, t0, t1, rfl⟩ hin; exact key.2 t t0 t1 (Or.inr ⟨trivial, hin⟩)
  | stuck => exact absurd key (not_le.2 (bitCount_lt_eight _))

/-- what holds while the far end `b` is still the unclipped vertex (open bound): its code is its exact
    open code, and the start end is strictly within every edge line the far end lies on, unless its own
    code marks that edge -/
def FreshB (box : Bound α) (a b : Pt α) (cA cB : Nat) : Prop :=
  cB = bitCodeOpen box b ∧
    ∀ k, Edge k → cB &&& k ≠ 0 → exc box k b = 0 → cA &&& k = 0 → exc box k a < 0

theorem freshB_clipA {box : Bound α} (hb : BoxOK box) {cA cB : Nat} {a b a' : Pt α} (hWA : W box cA a)
    (hWB : W box cB b) (hF : FreshB box a b cA cB) (hne : cA ≠ 0) (hand : cA &&& cB = 0)
    (hint : intersect box cA a b = some a') : FreshB box a' b (bitCode box a') cB := by
  obtain ⟨hcb, hJ⟩ := hF
  refine ⟨hcb, fun k hk hkB hzb _ => ?_⟩
  obtain ⟨j, T, hj, -, hbitB, hT0, hT1, hint', hz, -⟩ := clip_start_edge hWA hWB hne hand
  cases hint'.symm.trans hint
  -- the crossing point is not the far end: the far end is strictly within the edge `j`
  have hT : T < 1 := by
    rcases lt_or_eq_of_le hT1 with h | h
    · exact h
    · exfalso
      rw [h, lerp_one] at hz
      have := (bitCodeOpen_bit hb b hj).2 hz.ge
      rw [← hcb] at this
      exact this hbitB
  have hand' : cB &&& cA = 0 := by rw [Nat.and_comm]; exact hand
  have hkA : cA &&& k = 0 := bits_disj cB hWB.1 cA hWA.1 hand' k hk.mem hkB
  have hneg := hJ k hk hkB hzb hkA
  rw [exc_lerp, hzb, mul_zero, add_zero]
  exact mul_neg_of_pos_of_neg (sub_pos.2 hT) hneg

theorem intersect_boundary_end {box : Bound α} {cB : Nat} {a b : Pt α} (hWA : W box 0 a) (hWB : W box cB b)
    (hF : FreshB box a b 0 cB) (hne : cB ≠ 0) (hbc : bitCode box b = 0) (hb : BoxOK box) :
    intersect box cB a b = some b := by
  obtain ⟨k, T, hk, hbit, -, -, -, hint, hz, -⟩ := clip_far_edge hWA hWB hne (Nat.zero_and cB)
  have hin : InBox box b := W_zero_inBox (hbc ▸ W_bitCode hb b)
  have hzb : exc box k b = 0 := le_antisymm ((inBox_iff.1 hin) k hk) ((hWB.2 k hk).1 hbit)
  have hneg : exc box k a < 0 := hF.2 k hk hbit hzb (Nat.zero_and k)
  rw [hint]
  rw [exc_lerp, hzb, mul_zero, add_zero] at hz
  have hT : T = 1 := by
    rcases mul_eq_zero.1 hz with h | h
    · exact (sub_eq_zero.1 h).symm
    · exact absurd h hneg.ne
  rw [hT, lerp_one]

/-- THE GUARDS CHANGE NOTHING over exact arithmetic: every `intersect` strictly lowers the number of
    region-code bits (`clip_start`, `clip_far`), a code has at most two, so no end is clipped a third time and the
    clamp branch is unreachable; and with the open bound a far end on the boundary is exactly what
    `intersect` returns.  So the model's loop `segLoop` coincides with the loop without the guards,
    `segLoopU`, about which this development reasons.  (`hopen`: with the open bound the two codes are
    the open codes of the two ends, as `lineStep` passes them.) -/
theorem segLoop_eq_segLoopU {box : Bound α} (hb : BoxOK box) (isOpen : Bool) {a b : Pt α} {cA cB : Nat}
    (hWA : W box cA a) (hWB : W box cB b) (hA2 : bitCount cA ≤ 2) (hB2 : bitCount cB ≤ 2)
    (hopen : isOpen = true → cA = bitCodeOpen box a ∧ cB = bitCodeOpen box b) (fuel : Nat) :
    segLoop box isOpen fuel a b cA cB 0 0 = segLoopU box fuel a b cA cB := by
  refine segLoop_eq_segLoopU_of box isOpen (fun a b cA cB => W box cA a ∧ W box cB b)
    (fun a b cA cB => isOpen = true → FreshB box a b cA cB) ?_ ?_ ?_ ?_ ?_
    fuel a b cA cB 0 0 ⟨hWA, hWB⟩ ?_ ?_ ?_
  · exact fun _ _ _ _ h => ⟨h.1.1, h.2.1⟩
  · rintro a b cA cB ⟨hWA, hWB⟩ hne hand a' hint
    obtain ⟨T, _, _, hint', hdec, _⟩ := clip_start hb hWA hWB hne hand
    rw [hint'] at hint
    cases hint
    exact ⟨⟨W_bitCode hb _, hWB⟩, hdec⟩
  · rintro a b cA cB ⟨hWA, hWB⟩ hF hne hand a' hint ho
    exact freshB_clipA hb hWA hWB (hF ho) hne hand hint
  · rintro a b cB ⟨hWA, hWB⟩ hne b' hint
    obtain ⟨T, _, _, hint', hdec, _⟩ := clip_far hb hWA hWB hne (Nat.zero_and cB)
    rw [hint'] at hint
    cases hint
    refine ⟨⟨hWA, W_bitCode hb _⟩, ?_⟩
    rw [Nat.zero_or, Nat.zero_or] at hdec
    exact hdec
  · rintro ho a b cB ⟨hWA, hWB⟩ hF hne hbc
    exact intersect_boundary_end hWA hWB (hF ho) hne hbc hb
  · intro _ ho
    obtain ⟨h1, h2⟩ := hopen ho
    rw [h1, h2]
    exact ⟨rfl, fun k hk _ _ hkA => by_contra fun hge => (bitCodeOpen_bit hb a hk).2 (not_lt.1 hge) hkA⟩
  · have := bitCount_or_le cA hWA.1 cB hWB.1
    omega
  · omega

/-- the region code the outer loop attaches to a vertex.  The same abbreviation as `codeAt` of OrbProofs/ClipLoop.lean:
    this one is declared over an ordered field, as the statements of the property are; the any-arithmetic theorems need the
    other. -/
abbrev code (box : Bound α) (isOpen : Bool) (p : Pt α) : Nat :=
  if isOpen then bitCodeOpen box p else bitCode box p

theorem W_code {box : Bound α} (hb : BoxOK box) (isOpen : Bool) (p : Pt α) :
    W box (code box isOpen p) p := by
  cases isOpen
  · exact W_bitCode hb p
  · exact W_bitCodeOpen hb p

theorem bitCount_code_le (box : Bound α) (isOpen : Bool) (p : Pt α) : bitCount (code box isOpen p) ≤ 2 := by
  cases isOpen
  · exact bitCount_bitCode_le box p
  · exact bitCount_bitCodeOpen_le box p

end Orb.Clip
