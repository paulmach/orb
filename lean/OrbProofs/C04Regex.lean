/-
  C04 — the hand-compiled regexps (`singleParen`, `doubleParen`), `FindAllStringSubmatchIndex` and
  `splitByRegexpYield`.  A matcher reports offsets inside its text (`MatcherOK`), so the index pairs are increasing
  (`SortedIdx`) and the slices in bounds.  That the splitter cuts exactly between the members is shown once for any
  matcher: scanning a member finds no match (`Scan`) until its closing bytes, where the match runs into the head of the
  next member (`SplitMember`; `headDouble` = how far).
-/
import OrbProofs.C04Base

namespace Orb.WKT

/-- a ring / line-string member as printed: `(` … `)` with no `)` inside -/
def IsRingText (q : Str) : Prop := ∃ inner, q = cLP :: (inner ++ [cRP]) ∧ cRP ∉ inner

/-- a polygon member of a MULTIPOLYGON as printed: `(` ring `,` ring … `)` with at least one ring.  Only
    `splitByRegexp_polys` speaks of it; the class the parsers' proofs use is `IsRespelledPolyText`. -/
def IsPolyText (q : Str) : Prop :=
  ∃ rings, rings ≠ [] ∧ (∀ r ∈ rings, IsRingText r) ∧ q = cLP :: (commaSep rings ++ [cRP])

/-- what `splitByRegexpLoop` needs of the index pairs: increasing, within the string -/
def SortedIdx (len : Nat) : Nat → List (Nat × Nat) → Prop
  | _, [] => True
  | lo, (a, b) :: more => lo ≤ a ∧ a ≤ b ∧ b ≤ len ∧ SortedIdx len b more

/-- a matcher reports offsets inside the text it was given: group ⊆ match ⊆ text, match non-empty -/
def MatcherOK (m : Matcher) : Prop :=
  ∀ s gs ge me, m s = some (gs, ge, me) → gs ≤ ge ∧ ge ≤ me ∧ 1 ≤ me ∧ me ≤ s.length

theorem takeWhile_dropWhile_length {p : UInt8 → Bool} {l : Str} {c : UInt8} {r : Str} (h : l.dropWhile p = c :: r) :
    (l.takeWhile p).length + 1 + r.length = l.length := by
  have := congrArg List.length (List.takeWhile_append_dropWhile (p := p) (l := l))
  rw [List.length_append, h, List.length_cons] at this
  omega

/-! The matchers are chains of stages "skip the class `W`, then expect one byte"; a chain that answers `some` has
    passed its first stage (`stage_inv`), and so on down the chain. -/

theorem stage_inv {β : Type} {l : Str} {X : UInt8} {k : UInt8 → Str → Option β} {x : β}
    (h : (match l with | [] => none | c :: r => if c != X then none else k c r) = some x) :
    ∃ r, l = X :: r ∧ k X r = some x := by
  cases l with
  | nil => cases h
  | cons c r =>
    dsimp only at h
    by_cases hc : (c != X) = true
    · rw [if_pos hc] at h; cases h
    rw [if_neg hc] at h
    obtain rfl : c = X := by simpa using hc
    exact ⟨r, rfl, h⟩

theorem matchSingle_ok : MatcherOK matchSingle := by
  intro s gs ge me h
  unfold matchSingle at h
  obtain ⟨r1, rfl, h⟩ := stage_inv h
  obtain ⟨r2, h1, h⟩ := stage_inv h
  obtain ⟨r3, h2, h⟩ := stage_inv h
  have e1 := takeWhile_dropWhile_length h1
  have e2 := takeWhile_dropWhile_length h2
  simp only [Option.some.injEq, Prod.mk.injEq] at h
  obtain ⟨rfl, rfl, rfl⟩ := h
  simp only [List.length_cons]
  omega

theorem matchDouble_ok : MatcherOK matchDouble := by
  intro s gs ge me h
  unfold matchDouble at h
  obtain ⟨r0, rfl, h⟩ := stage_inv h
  obtain ⟨r1, h0, h⟩ := stage_inv h
  obtain ⟨r2, h1, h⟩ := stage_inv h
  obtain ⟨r3, h2, h⟩ := stage_inv h
  obtain ⟨r4, h3, h⟩ := stage_inv h
  have e0 := takeWhile_dropWhile_length h0
  have e1 := takeWhile_dropWhile_length h1
  have e2 := takeWhile_dropWhile_length h2
  have e3 := takeWhile_dropWhile_length h3
  simp only [Option.some.injEq, Prod.mk.injEq] at h
  obtain ⟨rfl, rfl, rfl⟩ := h
  simp only [List.length_cons]
  omega

theorem SortedIdx.mono {len : Nat} : ∀ {l : List (Nat × Nat)} {lo lo' : Nat}, lo' ≤ lo →
    SortedIdx len lo l → SortedIdx len lo' l
  | [], _, _, _, _ => trivial
  | (a, b) :: more, lo, lo', h, hs => by
    obtain ⟨h1, h2, h3, h4⟩ := hs
    exact ⟨by omega, h2, h3, h4⟩

/-- The index pairs of `FindAll` are increasing and inside the text, and there are at most as many as
    bytes not yet covered: a match is not empty and the scan resumes behind it (`skip` = bytes the
    previous match still covers). -/
theorem findAllAux_spec {m : Matcher} (hm : MatcherOK m) : ∀ (s : Str) (skip pos : Nat), skip ≤ s.length →
    SortedIdx (pos + s.length) (pos + skip) (findAllAux m skip pos s) ∧
      (findAllAux m skip pos s).length + skip ≤ s.length
  | [], _, _, h => by rw [findAllAux]; exact ⟨trivial, (Nat.zero_add _).symm ▸ h⟩
  | b :: rest, skip + 1, pos, h => by
    obtain ⟨h1, h2⟩ := findAllAux_spec hm rest skip (pos + 1) (Nat.le_of_succ_le_succ h)
    rw [findAllAux, List.length_cons]
    have e1 : pos + (rest.length + 1) = pos + 1 + rest.length := by omega
    have e2 : pos + (skip + 1) = pos + 1 + skip := by omega
    exact ⟨e1 ▸ e2 ▸ h1, Nat.succ_le_succ h2⟩
  | b :: rest, 0, pos, _ => by
    have e1 : pos + (rest.length + 1) = pos + 1 + rest.length := by omega
    rw [findAllAux, List.length_cons, e1]
    cases hmb : m (b :: rest) with
    | none =>
      obtain ⟨h1, h2⟩ := findAllAux_spec hm rest 0 (pos + 1) (Nat.zero_le _)
      exact ⟨h1.mono (by omega), Nat.le_succ_of_le h2⟩
    | some r =>
      obtain ⟨gs, ge, me⟩ := r
      obtain ⟨h1, h2, h3, h4⟩ := hm _ _ _ _ hmb
      rw [List.length_cons] at h4
      obtain ⟨h5, h6⟩ := findAllAux_spec hm rest (me - 1) (pos + 1) (by omega)
      refine ⟨⟨by omega, by omega, by omega, h5.mono (by omega)⟩, ?_⟩
      rw [List.length_cons]
      omega

theorem findAll_sorted {m : Matcher} (hm : MatcherOK m) (s : Str) : SortedIdx s.length 0 (findAll m s) := by
  have := (findAllAux_spec hm s 0 0 (Nat.zero_le _)).1
  rwa [Nat.zero_add] at this

theorem MatcherOK.findAll_length_le {m : Matcher} (hm : MatcherOK m) (s : Str) : (findAll m s).length ≤ s.length :=
  (findAllAux_spec hm s 0 0 (Nat.zero_le _)).2

theorem splitByRegexpLoop_not_panic {β : Type} (s : Str) (f : β → Str → R β)
    (hf : ∀ acc p, (f acc p).isPanic = false) : ∀ (idx : List (Nat × Nat)) (start : Nat) (acc : β),
    start ≤ s.length → SortedIdx s.length start idx → (splitByRegexpLoop s f idx start acc).isPanic = false
  | [], start, acc, h, _ => by
    rw [splitByRegexpLoop, sliceFrom, if_pos h]
    exact hf _ _
  | (e2, e3) :: more, start, acc, h, hs => by
    obtain ⟨h1, h2, h3, h4⟩ := hs
    rw [splitByRegexpLoop, slice, if_pos ⟨h1, by omega⟩]
    simp only
    have := hf acc (List.take (e2 - start) (List.drop start s))
    split
    · rename_i heq; rw [heq] at this; simp [Res.isPanic] at this
    · rfl
    · exact splitByRegexpLoop_not_panic s f hf more e3 _ h3 h4

def splitRe (m : Matcher) : Splitter := fun s f init => splitByRegexp s m f init

/-- the slices `s[start:element[2]]` and `s[start:]` are always in bounds -/
theorem splitRe_np {m : Matcher} (hm : MatcherOK m) : SplitNP (splitRe m) := fun s f init hf =>
  splitByRegexpLoop_not_panic s f hf _ 0 init (Nat.zero_le _) (findAll_sorted hm s)

theorem isW_of_isBlank {c : UInt8} (h : isBlank c = true) : isW c = true := by
  simp only [isBlank, Bool.or_eq_true, beq_iff_eq] at h
  rcases h with (h | h) | h <;> subst h <;> decide

theorem ne_rp_of_isBlank {c : UInt8} (h : isBlank c = true) : c ≠ cRP := by
  intro e; subst e; revert h; decide

theorem takeWhile_isW_blanks {a : Str} (ha : AllBlank a) {x : UInt8} (hx : isW x = false) (r : Str) :
    (a ++ x :: r).takeWhile isW = a := by
  rw [List.takeWhile_append_of_pos fun c hc => isW_of_isBlank (ha c hc), List.takeWhile_cons_of_neg (by simp [hx]),
    List.append_nil]

theorem dropWhile_isW_blanks {a : Str} (ha : AllBlank a) {x : UInt8} (hx : isW x = false) (r : Str) :
    (a ++ x :: r).dropWhile isW = x :: r := by
  rw [List.dropWhile_append_of_pos fun c hc => isW_of_isBlank (ha c hc), List.dropWhile_cons_of_neg (by simp [hx])]

theorem matchSingle_sep {a b : Str} (ha : AllBlank a) (hb : AllBlank b) (rest : Str) :
    matchSingle (cRP :: (a ++ cComma :: (b ++ cLP :: rest))) =
      some (1, 1 + a.length + 1 + b.length, 1 + a.length + 1 + b.length + 1) := by
  have w1 : isW cComma = false := by decide
  have w2 : isW cLP = false := by decide
  simp [matchSingle, takeWhile_isW_blanks ha w1, dropWhile_isW_blanks ha w1, takeWhile_isW_blanks hb w2, dropWhile_isW_blanks hb w2]

theorem matchDouble_sep {c a b b' : Str} (hc : AllBlank c) (ha : AllBlank a) (hb : AllBlank b)
    (hb' : AllBlank b') (rest : Str) :
    matchDouble (cRP :: (c ++ cRP :: (a ++ cComma :: (b ++ cLP :: (b' ++ cLP :: rest))))) =
      some (1 + c.length + 1, 1 + c.length + 1 + a.length + 1 + b.length,
        1 + c.length + 1 + a.length + 1 + b.length + 1 + b'.length + 1) := by
  have w0 : isW cRP = false := by decide
  have w1 : isW cComma = false := by decide
  have w2 : isW cLP = false := by decide
  simp [matchDouble, takeWhile_isW_blanks hc w0, dropWhile_isW_blanks hc w0, takeWhile_isW_blanks ha w1, dropWhile_isW_blanks ha w1, takeWhile_isW_blanks hb w2, dropWhile_isW_blanks hb w2,
    takeWhile_isW_blanks hb' w2, dropWhile_isW_blanks hb' w2]

/-- what the splitting argument needs of a member `q`; `H q` = number of leading bytes of `q` the previous
    match may still cover, `P` = the shape of the members -/
def SplitMember (m : Matcher) (H : Str → Nat) (P : Str → Prop) (q : Str) : Prop :=
  (∀ pos k, k ≤ H q → findAllAux m k pos q = []) ∧
  (∀ a b q' w pos k, k ≤ H q → AllBlank a → AllBlank b → P q' →
    findAllAux m k pos (q ++ a ++ cComma :: (b ++ (q' ++ w))) =
      (pos + q.length, pos + q.length + a.length + 1 + b.length) ::
        findAllAux m (H q') (pos + q.length + a.length + 1 + b.length) (q' ++ w))

theorem splitByRegexpLoop_sepJoin {β : Type} {m : Matcher} {H : Str → Nat} {P : Str → Prop} (f : β → Str → R β)
    (hmem : ∀ q, P q → SplitMember m H P q) : ∀ {qs : List Str} {body : Str}, SepJoin qs body →
    (∀ q ∈ qs, P q) → ∀ (pre s : Str) (pos k : Nat) (acc : β), s = pre ++ body → pos = pre.length →
      (∀ q0 rest, qs = q0 :: rest → k ≤ H q0) →
      splitByRegexpLoop s f (findAllAux m k pos body) pos acc = foldlR f acc qs := by
  intro qs body hj
  induction hj with
  | one p =>
    intro hq pre s pos k acc hs hpos hk
    obtain ⟨hlast, _⟩ := hmem p (hq p (by simp))
    subst hs hpos
    rw [hlast _ _ (hk p [] rfl), splitByRegexpLoop, sliceFrom_append]
    simp only [foldlR]
    cases f acc p <;> rfl
  | cons p a b ps t ha hb hj ih =>
    intro hq pre s pos k acc hs hpos hk
    obtain ⟨_, hstep⟩ := hmem p (hq p (by simp))
    obtain ⟨q', rest, w, hps, ht⟩ := sepJoin_first hj
    have hq' : ∀ x ∈ ps, P x := fun x hx => hq x (List.mem_cons_of_mem _ hx)
    have hPq' : P q' := hq' q' (by rw [hps]; simp)
    have hfa := hstep a b q' w pos k (hk p ps rfl) ha hb hPq'
    rw [← ht] at hfa
    rw [hfa, splitByRegexpLoop]
    have hs' : s = pre ++ (p ++ (a ++ cComma :: (b ++ t))) := by rw [hs]; simp
    subst hpos
    rw [hs', slice_append_mid]
    simp only [foldlR]
    cases f acc p with
    | err e => rfl
    | panic e => rfl
    | ok acc' =>
      simp only
      refine ih hq' (pre ++ (p ++ a ++ [cComma] ++ b)) _ _ _ acc' (by simp) (by simp; omega) ?_
      intro q0 rest0 h0
      rw [hps] at h0
      cases h0
      exact Nat.le_refl _

theorem splits_of_splitMember {m : Matcher} {H : Str → Nat} {P : Str → Prop} (hmem : ∀ q, P q → SplitMember m H P q) :
    Splits (splitRe m) P := fun hj hq f init =>
  splitByRegexpLoop_sepJoin f hmem hj hq [] _ 0 0 init (by simp) rfl fun _ _ _ => Nat.zero_le _

/-- scanning over `u` finds no match, whatever follows -/
def Scan (m : Matcher) (u : Str) : Prop :=
  ∀ k pos v, findAllAux m k pos (u ++ v) = findAllAux m (k - u.length) (pos + u.length) v

theorem Scan.append {m : Matcher} {u u' : Str} (h : Scan m u) (h' : Scan m u') : Scan m (u ++ u') := by
  intro k pos v
  rw [List.append_assoc, h, h', List.length_append, Nat.sub_sub, Nat.add_assoc]

theorem Scan.cons {m : Matcher} {c : UInt8} {u : Str} (h : ∀ v, m (c :: (u ++ v)) = none)
    (hu : Scan m u) : Scan m (c :: u) := by
  intro k pos v
  cases k with
  | zero =>
    rw [List.cons_append, findAllAux, h]
    simp only
    rw [hu]
    simp only [List.length_cons, Nat.zero_sub]
    congr 1; omega
  | succ k =>
    rw [List.cons_append, findAllAux, hu]
    simp only [List.length_cons]
    congr 1 <;> omega

theorem Scan.single {m : Matcher} {c : UInt8} (h : ∀ v, m (c :: v) = none) : Scan m [c] :=
  Scan.cons (u := []) h fun _ _ _ => by simp

theorem Scan.of_forall {m : Matcher} : ∀ {u : Str}, (∀ c ∈ u, ∀ v, m (c :: v) = none) → Scan m u
  | [], _ => by intro k pos v; simp
  | c :: u, h => by
    have h1 : Scan m [c] := Scan.single (h c (by simp))
    have h2 : Scan m u := Scan.of_forall (fun d hd => h d (List.mem_cons_of_mem _ hd))
    exact h1.append h2

theorem findAllAux_skip (m : Matcher) : ∀ (u : Str) (j pos : Nat) (v : Str),
    findAllAux m (u.length + j) pos (u ++ v) = findAllAux m j (pos + u.length) v
  | [], j, pos, v => by simp
  | c :: u, j, pos, v => by
    have e : (c :: u).length + j = (u.length + j) + 1 := by simp; omega
    rw [e, List.cons_append, findAllAux, findAllAux_skip m u]
    simp only [List.length_cons]
    congr 1; omega

theorem matchSingle_ne {c : UInt8} (h : c ≠ cRP) (v : Str) : matchSingle (c :: v) = none := by
  simp [matchSingle, h]

theorem matchDouble_ne {c : UInt8} (h : c ≠ cRP) (v : Str) : matchDouble (c :: v) = none := by
  simp [matchDouble, h]

theorem scan_ring_body {inner : Str} (hin : cRP ∉ inner) : Scan matchDouble (cLP :: inner) := by
  refine Scan.of_forall ?_
  intro c hc v
  refine matchDouble_ne ?_ v
  rcases List.mem_cons.1 hc with hc | hc
  · subst hc; decide
  · intro e; subst e; exact hin hc

/-- A member is `pre ++ tl`: scanning `pre` finds nothing (`hscan`), the regexp matches from `tl`, its closing bytes,
    through the separator into the first `H q'` bytes of the next member `q'` (`hmatch`), and `tl` alone, at the end of the
    text, matches nothing (`hend`). -/
theorem splitMember_of_scan {m : Matcher} {H : Str → Nat} {P : Str → Prop} {pre tl : Str} (hscan : Scan m pre)
    (hH : H (pre ++ tl) ≤ pre.length)
    (hmatch : ∀ a b q' w, AllBlank a → AllBlank b → P q' →
      m (tl ++ a ++ cComma :: (b ++ (q' ++ w))) =
        some (tl.length, tl.length + a.length + 1 + b.length, tl.length + a.length + 1 + b.length + H q'))
    (hend : ∀ pos, findAllAux m 0 pos tl = []) (htl : tl ≠ []) : SplitMember m H P (pre ++ tl) := by
  refine ⟨?_, ?_⟩
  · intro pos k hk
    have hk0 : k - pre.length = 0 := by omega
    rw [hscan, hk0, hend]
  · intro a b q' w pos k hk ha hb hP
    have hk0 : k - pre.length = 0 := by omega
    have hm := hmatch a b q' w ha hb hP
    rw [List.append_assoc pre, List.append_assoc pre, hscan, hk0]
    cases tl with
    | nil => exact absurd rfl htl
    | cons t0 tl' =>
      simp only [List.cons_append] at hm ⊢
      rw [findAllAux, hm]
      simp only
      have e : (t0 :: tl').length + a.length + 1 + b.length + H q' - 1 =
          (tl' ++ a ++ [cComma] ++ b).length + H q' := by
        simp only [List.length_cons, List.length_append, List.length_nil]; omega
      have e2 : tl' ++ a ++ cComma :: (b ++ (q' ++ w)) = (tl' ++ a ++ [cComma] ++ b) ++ (q' ++ w) := by simp
      rw [e, e2, findAllAux_skip]
      refine congrArg₂ List.cons (Prod.ext ?_ ?_)
        (congrArg (fun n => findAllAux m (H q') n (q' ++ w)) ?_) <;>
      simp only [List.length_append, List.length_cons, List.length_nil] <;> omega

/-- the head `singleParen` may still cover is the `(` of the next member -/
theorem splitMember_ring {q : Str} (h : IsRingText q) : SplitMember matchSingle (fun _ => 1) IsRingText q := by
  obtain ⟨inner, rfl, hin⟩ := h
  have : cLP :: (inner ++ [cRP]) = (cLP :: inner) ++ [cRP] := by simp
  rw [this]
  refine splitMember_of_scan ?_ (by simp) ?_ ?_ (by simp)
  · refine Scan.of_forall ?_
    intro c hc v
    refine matchSingle_ne ?_ v
    rcases List.mem_cons.1 hc with hc | hc
    · subst hc; decide
    · intro e; subst e; exact hin hc
  · intro a b q' w ha hb hP
    obtain ⟨inner', rfl, _⟩ := hP
    have := matchSingle_sep ha hb (inner' ++ [cRP] ++ w)
    simpa [Nat.add_comm, Nat.add_left_comm, Nat.add_assoc] using this
  · intro pos
    simp [findAllAux, matchSingle]

theorem splits_single : Splits (splitRe matchSingle) IsRingText := splits_of_splitMember fun _ => splitMember_ring

/-- a polygon member of a MULTIPOLYGON with re-spelled separators: `( b ring sep ring … c )` -/
def IsRespelledPolyText (q : Str) : Prop :=
  ∃ rings body b c, (∀ r ∈ rings, IsRingText r) ∧ SepJoin rings body ∧ AllBlank b ∧ AllBlank c ∧
    q = bracketed [] b c body

/-- head length for `doubleParen`: `(`, blanks, `(` of the next member -/
def headDouble : Str → Nat := fun q => 2 + (q.tail.takeWhile isW).length

theorem scan_blanks {a : Str} (ha : AllBlank a) : Scan matchDouble a :=
  Scan.of_forall (fun c hc v => matchDouble_ne (ne_rp_of_isBlank (ha c hc)) v)

theorem scan_rp_sep {a : Str} (ha : AllBlank a) : Scan matchDouble (cRP :: (a ++ [cComma])) := by
  refine Scan.cons ?_ ((scan_blanks ha).append (Scan.single (matchDouble_ne (by decide))))
  intro v
  have w1 : isW cComma = false := by decide
  have e : a ++ [cComma] ++ v = a ++ cComma :: v := by simp
  have hne : cComma ≠ cRP := by decide
  rw [e]
  simp [matchDouble, dropWhile_isW_blanks ha w1, hne]

theorem scan_rings : ∀ {rings : List Str} {body : Str}, SepJoin rings body → (∀ r ∈ rings, IsRingText r) →
    ∃ X, body = cLP :: (X ++ [cRP]) ∧ Scan matchDouble (cLP :: X) := by
  intro rings body hj
  induction hj with
  | one p =>
    intro hr
    obtain ⟨inner, rfl, hin⟩ := hr p (by simp)
    exact ⟨inner, rfl, scan_ring_body hin⟩
  | cons p a b ps t ha hb hj ih =>
    intro hr
    obtain ⟨inner, rfl, hin⟩ := hr p (by simp)
    obtain ⟨X', rfl, hs'⟩ := ih (fun x hx => hr x (List.mem_cons_of_mem _ hx))
    refine ⟨inner ++ (cRP :: (a ++ [cComma])) ++ b ++ cLP :: X', by simp, ?_⟩
    have := (((scan_ring_body hin).append (scan_rp_sep ha)).append (scan_blanks hb)).append hs'
    simpa using this

theorem isRespelledPolyText_shape {q : Str} (h : IsRespelledPolyText q) : ∃ b X c, AllBlank b ∧ AllBlank c ∧
    q = (cLP :: (b ++ cLP :: X)) ++ (cRP :: (c ++ [cRP])) ∧ Scan matchDouble (cLP :: X) := by
  obtain ⟨rings, body, b, c, hr, hj, hb, hc, rfl⟩ := h
  obtain ⟨X, rfl, hs⟩ := scan_rings hj hr
  exact ⟨b, X, c, hb, hc, by simp [bracketed], hs⟩

theorem splitMember_poly {q : Str} (h : IsRespelledPolyText q) : SplitMember matchDouble headDouble IsRespelledPolyText q := by
  obtain ⟨b, X, c, hb, hc, rfl, hs⟩ := isRespelledPolyText_shape h
  have w0 : isW cRP = false := by decide
  have w2 : isW cLP = false := by decide
  refine splitMember_of_scan ?_ ?_ ?_ ?_ (by simp)
  · have h1 : Scan matchDouble [cLP] := Scan.single (matchDouble_ne (by decide))
    simpa using (h1.append (scan_blanks hb)).append hs
  · simp only [headDouble, List.cons_append, List.tail_cons, List.append_assoc]
    rw [takeWhile_isW_blanks hb w2]
    simp only [List.length_cons, List.length_append]
    omega
  · intro a b2 q' w ha hb2 hP
    obtain ⟨b', X', c', hb', _, rfl, _⟩ := isRespelledPolyText_shape hP
    have hH : headDouble ((cLP :: (b' ++ cLP :: X')) ++ (cRP :: (c' ++ [cRP]))) = 2 + b'.length := by
      simp only [headDouble, List.cons_append, List.tail_cons, List.append_assoc]
      rw [takeWhile_isW_blanks hb' w2]
    rw [hH]
    have := matchDouble_sep hc ha hb2 hb' (X' ++ (cRP :: (c' ++ [cRP])) ++ w)
    simp only [List.cons_append, List.append_assoc, List.length_cons, List.length_append,
      List.length_nil, List.nil_append] at this ⊢
    rw [this]
    simp only [Option.some.injEq, Prod.mk.injEq]
    omega
  · intro pos
    have hm : matchDouble (cRP :: (c ++ [cRP])) = none := by
      simp [matchDouble, dropWhile_isW_blanks hc w0]
    rw [findAllAux, hm]
    simp only
    rw [scan_blanks hc]
    simp [findAllAux, matchDouble]

theorem splits_double : Splits (splitRe matchDouble) IsRespelledPolyText :=
  splits_of_splitMember fun _ => splitMember_poly

/-- On ring texts joined by single commas, `singleParen` splits exactly between the rings: `splits_single` on the text
    `Marshal` writes (the parsers' proofs use `splits_single` itself). -/
theorem splitByRegexp_rings {β : Type} {qs : List Str} (hne : qs ≠ []) (hq : ∀ q ∈ qs, IsRingText q)
    (f : β → Str → R β) (init : β) :
    splitByRegexp (commaSep qs) matchSingle f init = foldlR f init qs :=
  splits_single (sepJoin_commaSep hne) hq f init

/-- On polygon texts joined by single commas, `doubleParen` splits exactly between the polygons: `splits_double` on the
    text `Marshal` writes. -/
theorem splitByRegexp_polys {β : Type} {qs : List Str} (hne : qs ≠ []) (hq : ∀ q ∈ qs, IsPolyText q)
    (f : β → Str → R β) (init : β) :
    splitByRegexp (commaSep qs) matchDouble f init = foldlR f init qs := by
  refine splits_double (sepJoin_commaSep hne) (fun q h => ?_) f init
  obtain ⟨rings, hr, hrt, rfl⟩ := hq q h
  exact ⟨rings, _, [], [], hrt, sepJoin_commaSep hr, allBlank_nil, allBlank_nil, by simp [bracketed]⟩

end Orb.WKT
