/-
  Facts about `List` that several packages' proofs share and the library does not have in this form.  Core Lean only.
-/
namespace Orb

/-- the accumulator out of a summing fold -/
theorem foldl_add_eq {α β : Type} [Add α] [Zero α] [Std.Associative (α := α) (· + ·)]
    [Std.LawfulIdentity (α := α) (· + ·) 0] (f : β → α) (l : List β) (acc : α) :
    l.foldl (fun s x => s + f x) acc = acc + (l.map f).sum := by
  rw [List.sum_eq_foldl, ← List.foldl_assoc (op := (· + ·)), Std.LawfulRightIdentity.right_id (op := (· + ·)),
    List.foldl_map]

theorem foldl_add_zero {α β : Type} [Add α] [Zero α] [Std.Associative (α := α) (· + ·)]
    [Std.LawfulIdentity (α := α) (· + ·) 0] (f : β → α) (l : List β) :
    l.foldl (fun s x => s + f x) 0 = (l.map f).sum :=
  (foldl_add_eq f l 0).trans (Std.LawfulLeftIdentity.left_id (op := (· + ·)) _)

/-- a loop written as a recursion with an accumulator is a fold as soon as its two equations hold (for the member loops
    of the models both are `rfl`) -/
theorem accLoop_eq_foldl {β σ : Type} (go : List β → σ → σ) (step : σ → β → σ) (h0 : ∀ s, go [] s = s)
    (h1 : ∀ x xs s, go (x :: xs) s = go xs (step s x)) (xs : List β) (s : σ) : go xs s = xs.foldl step s := by
  induction xs generalizing s with
  | nil => exact h0 s
  | cons x xs ih => rw [h1, ih, List.foldl_cons]

/-- … and a running sum when the step adds `f x` -/
theorem accLoop_eq {α β : Type} [Add α] [Zero α] [Std.Associative (α := α) (· + ·)]
    [Std.LawfulIdentity (α := α) (· + ·) 0] (go : List β → α → α) (f : β → α) (h0 : ∀ acc, go [] acc = acc)
    (h1 : ∀ x xs acc, go (x :: xs) acc = go xs (acc + f x)) (xs : List β) (acc : α) :
    go xs acc = acc + (xs.map f).sum :=
  (accLoop_eq_foldl go _ h0 h1 xs acc).trans (foldl_add_eq f xs acc)

theorem flatten_map_singleton {β : Type} (l : List β) : (l.map fun x => [x]).flatten = l := by
  rw [← List.flatMap_def, List.flatMap_singleton']

theorem modify_append_singleton {β : Type} (mid : List β) (x : β) (g : β → β) :
    (mid ++ [x]).modify mid.length g = mid ++ [g x] := by
  induction mid with
  | nil => rfl
  | cons a mid ih => simp [List.modify_succ_cons, ih]

theorem mem_modify {β : Type} (f : β → β) : ∀ (l : List β) (i : Nat) (x : β),
    x ∈ l.modify i f → x ∈ l ∨ ∃ y ∈ l, x = f y := by
  intro l i x h
  obtain ⟨j, hj⟩ := List.mem_iff_getElem?.1 h
  rw [List.getElem?_modify, Option.map_eq_map] at hj
  obtain ⟨y, hl, rfl⟩ := Option.map_eq_some_iff.1 hj
  have hy : y ∈ l := List.mem_of_getElem? hl
  by_cases e : i = j
  · exact .inr ⟨y, hy, if_pos e⟩
  · exact .inl (by rwa [if_neg e])

theorem mapM_cons_some {β γ : Type} {f : β → Option γ} {x : β} {t : List β} {ys : List γ}
    (hm : (x :: t).mapM f = some ys) : ∃ y ts, f x = some y ∧ t.mapM f = some ts ∧ ys = y :: ts := by
  rw [List.mapM_cons] at hm
  cases hx : f x with
  | none => simp [hx] at hm
  | some y =>
    cases ht : t.mapM f with
    | none => simp [hx, ht] at hm
    | some ts => exact ⟨y, ts, rfl, rfl, by simpa [hx, ht] using hm.symm⟩

/-- with the outputs related to the inputs one by one (`List.Forall₂`): `Orb.mapM_some_of_forall` in ResForall -/
theorem mapM_total {β γ : Type} {f : β → Option γ} (l : List β) (hf : ∀ x ∈ l, ∃ y, f x = some y) :
    ∃ ys, l.mapM f = some ys := by
  induction l with
  | nil => exact ⟨[], by simp⟩
  | cons x t ih =>
    obtain ⟨y, hy⟩ := hf x List.mem_cons_self
    obtain ⟨ts, ht⟩ := ih fun z hz => hf z (List.mem_cons_of_mem _ hz)
    exact ⟨y :: ts, by rw [List.mapM_cons, hy, ht]; rfl⟩

/-- every input has its output in the list, and every output comes from an input -/
theorem mapM_mem {β γ : Type} {f : β → Option γ} : ∀ {l : List β} {ys : List γ}, l.mapM f = some ys →
    (∀ x ∈ l, ∃ y ∈ ys, f x = some y) ∧ (∀ y ∈ ys, ∃ x ∈ l, f x = some y) := by
  intro l
  induction l with
  | nil => intro ys hm; simp at hm; subst hm; simp
  | cons x t ih =>
    intro ys hm
    obtain ⟨y, ts, hy, ht, rfl⟩ := mapM_cons_some hm
    obtain ⟨h1, h2⟩ := ih ht
    refine ⟨fun a ha => ?_, fun b hb => ?_⟩
    · rcases List.mem_cons.1 ha with rfl | ha
      · exact ⟨y, List.mem_cons_self, hy⟩
      · obtain ⟨c, hc, e⟩ := h1 a ha; exact ⟨c, List.mem_cons_of_mem _ hc, e⟩
    · rcases List.mem_cons.1 hb with rfl | hb
      · exact ⟨x, List.mem_cons_self, hy⟩
      · obtain ⟨c, hc, e⟩ := h2 b hb; exact ⟨c, List.mem_cons_of_mem _ hc, e⟩

/-- `List.mapM` over `Option` with a postcondition: where `f` answers on every member, with a result that satisfies
    `P`, `mapM f` answers, with results that all satisfy `P` -/
theorem mapM_post {β γ : Type} {f : β → Option γ} {P : γ → Prop} (l : List β)
    (hf : ∀ x ∈ l, ∃ y, f x = some y ∧ P y) : ∃ ys, l.mapM f = some ys ∧ ∀ y ∈ ys, P y := by
  obtain ⟨ys, hm⟩ := mapM_total l fun x hx => (hf x hx).imp fun _ h => h.1
  refine ⟨ys, hm, fun y hy => ?_⟩
  obtain ⟨x, hx, e⟩ := (mapM_mem hm).2 y hy
  obtain ⟨y', hy', hP⟩ := hf x hx
  cases hy'.symm.trans e
  exact hP

end Orb
