/-
  C02 — the geometry round trip, for Go values WITH NIL MEMBERS (`orb.Polygon{nil}`,
  `orb.MultiPolygon{nil, {nil}}`, `orb.Collection{orb.MultiPoint(nil)}` …): what `NewGeometry(v)`
  writes for such a value, with its `null`s, decodes to `canonV (toV n)`: the canonical value of the
  same geometry with its nil slices read as empty ones, a typed nil at the top kept.  The values
  without nil members are the image of `CoreNil.ofGeom` / `ofGVal`, on which `geomMemberN` is `geomJ` /
  `geomMember`: the theorems about them are that one read through the embedding.  After `decode_geomJ`
  stands what the typed helper types `geojson.Point` … add to it (their type assertion compares kinds).
-/
import OrbProofs.C02Lemmas

namespace Orb.GeoJSON
open Orb

theorem slice_npts (c : Codec) (ps : CoreNil.NPts UInt64) (h : (CoreNil.ptsOf ps).all finitePt = true) :
    sliceOf (ptOf c) (nptsJ ps) = some ps := by
  cases ps with
  | none => rfl
  | some l => exact sliceOf_arr_map _ _ _ fun p hp => ptOf_ptJ c p (Or.inr (List.all_eq_true.1 h p hp))

theorem ptsOf_nptsJ (c : Codec) (ps : CoreNil.NPts UInt64) (h : (CoreNil.ptsOf ps).all finitePt = true) :
    ptsOf c (nptsJ ps) = some (CoreNil.ptsOf ps) := by
  simp only [ptsOf, sliceOf', slice_npts c ps h]
  cases ps <;> rfl

theorem slice_nptss (c : Codec) (ls : CoreNil.NPtss UInt64)
    (h : (CoreNil.ptssOf ls).all (·.all finitePt) = true) :
    sliceOf (ptsOf c) (nptssJ ls) = some (ls.map (·.map CoreNil.ptsOf)) := by
  cases ls with
  | none => rfl
  | some l =>
    have hl : ((l.map CoreNil.ptsOf).all (·.all finitePt)) = true := by simpa [CoreNil.ptssOf] using h
    simp only [nptssJ, sliceOf, Option.map_some]
    rw [mapOpt_map (ptsOf c) nptsJ CoreNil.ptsOf l fun x hx =>
      ptsOf_nptsJ c x (List.all_eq_true.1 hl _ (List.mem_map.2 ⟨x, hx, rfl⟩))]
    rfl

theorem ptssOf_nptssJ (c : Codec) (ls : CoreNil.NPtss UInt64)
    (h : (CoreNil.ptssOf ls).all (·.all finitePt) = true) :
    ptssOf c (nptssJ ls) = some (CoreNil.ptssOf ls) := by
  simp only [ptssOf, sliceOf', slice_nptss c ls h]
  cases ls <;> rfl

theorem slice_nptsss (c : Codec) (ps : CoreNil.NPtsss UInt64)
    (h : (CoreNil.ptsssOf ps).all (·.all (·.all finitePt)) = true) :
    sliceOf (ptssOf c) (nptsssJ ps) = some (ps.map (·.map CoreNil.ptssOf)) := by
  cases ps with
  | none => rfl
  | some l =>
    have hl : ((l.map CoreNil.ptssOf).all (·.all (·.all finitePt))) = true := by simpa [CoreNil.ptsssOf] using h
    have hx : ∀ x ∈ l, ptssOf c (nptssJ x) = some (CoreNil.ptssOf x) := by
      intro x hx
      exact ptssOf_nptssJ c x (List.all_eq_true.1 hl (CoreNil.ptssOf x) (List.mem_map.2 ⟨x, hx, rfl⟩))
    simp only [nptsssJ, sliceOf, Option.map_some]
    rw [mapOpt_map (ptssOf c) nptssJ CoreNil.ptssOf l hx]
    rfl

theorem lenN_ptssOf (ls : CoreNil.NPtss UInt64) : (CoreNil.ptssOf ls).length = lenN ls := by
  simp [CoreNil.ptssOf, lenN]

theorem lenN_ptsssOf (ps : CoreNil.NPtsss UInt64) : (CoreNil.ptsssOf ps).length = lenN ps := by
  simp [CoreNil.ptsssOf, lenN]

theorem forgetNils_eq_map (gs : List NG) : forgetNils gs = gs.map forgetNil := by
  induction gs with
  | nil => rfl
  | cons g gs ih => simp [forgetNils, ih]

theorem geomMembersN_eq_map (c : Codec) (gs : List NG) : geomMembersN c gs = gs.map (geomMemberN c) := by
  induction gs with
  | nil => rfl
  | cons g gs ih => simp [geomMembersN, ih]

theorem canonV_toV_toGeom (n : NG) (hne : isEmptyColl (forgetNil n) = false) :
    (canonV (toV n)).toGeom = canonG (forgetNil n) := by
  cases n with
  | collection gs => cases gs with
    | nil => cases hne
    | cons g gs => rfl
  | nilIface => cases hne
  | nilCollection => cases hne
  | point p => rfl
  | bound a b => rfl
  | multiPoint ps => cases ps <;> rfl
  | lineString ps => cases ps <;> rfl
  | ring ps => cases ps <;> rfl
  | multiLineString ps => cases ps <;> rfl
  | polygon ps => cases ps <;> rfl
  | multiPolygon ps => cases ps <;> rfl

theorem decodeGElems_map {α : Type} (c : Codec) (f : α → Json) (d : α → DG) (l : List α)
    (h : ∀ a ∈ l, decodeGeometry c (f a) = .ok (d a)) :
    decodeGElems c (l.map f) = .ok ((l.map d).map some) := by
  rw [decodeGElems_eq, List.map_map]
  exact C20M.resMapM_map_ok _ _ _ l fun a ha => gElemOf_ok c _ _ (h a ha)

/-- a ring and a bound are written as the polygon with that one ring -/
theorem decode_oneRing (c : Codec) (ps : CoreNil.NPts UInt64) (hf : (CoreNil.ptsOf ps).all finitePt = true) :
    decodeGeometry c (.obj [("type", .str "Polygon"), ("coordinates", .arr [nptsJ ps])]) =
      .ok ⟨.val (.polygon [CoreNil.ptsOf ps]), false⟩ := by
  have hs := slice_nptss c (some [ps]) (by simpa [CoreNil.ptssOf] using hf)
  simp only [nptssJ, List.map, Option.map_some] at hs
  exact decode_coordObj c _ _ _ (by simp only [coordsOf, hs])

/-- **Round trip at the member level** (json and bson): the document of a value with nil members, `null`s
    included, decodes to `canonV (toV n)` — a typed nil at the top kept, nil slices below read as empty. -/
theorem decode_geomMemberN (c : Codec) : ∀ n : NG, okG (forgetNil n) = true →
    (c = .json ∨ nonEmptyMulti (forgetNil n) = true) → isEmptyColl (forgetNil n) = false →
    decodeGeometry c (geomMemberN c n) = .ok ⟨canonV (toV n), false⟩ := by
  intro n
  induction n using CoreNil.NGeom.ind with
  | nilIface => intro _ _ hne; cases hne
  | nilCollection => intro _ _ hne; cases hne
  | point p =>
    intro hok _ _
    exact decode_coordObj c _ _ _ (by simp [coordsOf, ptOf_ptJ c p (Or.inr (by simpa [forgetNil, okG] using hok))]; rfl)
  | multiPoint ps =>
    intro hok hb _
    have hf : (CoreNil.ptsOf ps).all finitePt = true := by simpa [forgetNil, okG] using hok
    rw [geomMemberN, coordDoc_eq c _ _ (lenN ps) (hb.imp id length_ne_zero_of_not_isEmpty)]
    exact decode_coordObj c _ _ _ (by simp only [coordsOf, slice_npts c ps hf]; cases ps <;> rfl)
  | lineString ps =>
    intro hok hb _
    have hf : (CoreNil.ptsOf ps).all finitePt = true := by simpa [forgetNil, okG] using hok
    rw [geomMemberN, coordDoc_eq c _ _ (lenN ps) (hb.imp id length_ne_zero_of_not_isEmpty)]
    exact decode_coordObj c _ _ _ (by simp only [coordsOf, slice_npts c ps hf]; cases ps <;> rfl)
  | multiLineString ls =>
    intro hok hb _
    have hf : (CoreNil.ptssOf ls).all (·.all finitePt) = true := by simpa [forgetNil, okG] using hok
    rw [geomMemberN, coordDoc_eq c _ _ _ (hb.imp id fun h => lenN_ptssOf ls ▸ length_ne_zero_of_not_isEmpty h)]
    exact decode_coordObj c _ _ _ (by simp only [coordsOf, slice_nptss c ls hf]; cases ls <;> rfl)
  | ring ps =>
    intro hok _ _
    have := decode_oneRing c ps (by simpa [forgetNil, okG] using hok)
    cases ps <;> exact this
  | polygon rs =>
    intro hok hb _
    have hf : (CoreNil.ptssOf rs).all (·.all finitePt) = true := by simpa [forgetNil, okG] using hok
    rw [geomMemberN, coordDoc_eq c _ _ _ (hb.imp id fun h => lenN_ptssOf rs ▸ length_ne_zero_of_not_isEmpty h)]
    exact decode_coordObj c _ _ _ (by simp only [coordsOf, slice_nptss c rs hf]; cases rs <;> rfl)
  | multiPolygon ps =>
    intro hok hb _
    have hf : (CoreNil.ptsssOf ps).all (·.all (·.all finitePt)) = true := by simpa [forgetNil, okG] using hok
    rw [geomMemberN, coordDoc_eq c _ _ _ (hb.imp id fun h => lenN_ptsssOf ps ▸ length_ne_zero_of_not_isEmpty h)]
    exact decode_coordObj c _ _ _ (by simp only [coordsOf, slice_nptsss c ps hf]; cases ps <;> rfl)
  | bound a b =>
    intro hok _ _
    have hab : finitePt a = true ∧ finitePt b = true := by simpa [forgetNil, okG] using hok
    exact decode_oneRing c (some (boundRing a b)) (boundRing_finite a b hab.1 hab.2)
  | collection gs ih =>
    intro hok hb hne
    cases gs with
    | nil => cases hne
    | cons g0 gs' =>
      have hm := coll_members c ((g0 :: gs').map forgetNil) (by simpa [forgetNil, forgetNils_eq_map] using hok)
        (by simpa [forgetNil, forgetNils_eq_map] using hb)
      have hm' := fun g hg => hm _ (List.mem_map.2 ⟨g, hg, rfl⟩)
      have hds := decodeGElems_map c (geomMemberN c) (fun g => ⟨canonV (toV g), false⟩) (g0 :: gs')
        fun g hg => ih g hg (hm' g hg).2.1 (hm' g hg).2.2 (hm' g hg).1
      have hdoc : geomMemberN c (.collection (g0 :: gs')) =
          .obj [("type", .str "GeometryCollection"), ("geometries", .arr ((g0 :: gs').map (geomMemberN c)))] := by
        simp [geomMemberN, geomMembersN_eq_map]
      rw [hdoc, decode_collObj c _ _ hds, List.map_map]
      have : (g0 :: gs').map ((fun d : DG => d.v.toGeom) ∘ fun g => ⟨canonV (toV g), false⟩) =
          (g0 :: gs').map (canonG ∘ forgetNil) :=
        List.map_congr_left fun g hg => canonV_toV_toGeom g (hm' g hg).1
      rw [this]
      simp [toV, canonV, forgetNil, forgetNils_eq_map, canonG, canonGs_eq_map, List.map_map]

theorem geomDocN_eq_member (c : Codec) (n : NG) (h : geomMemberN c n ≠ .null) : geomDocN c n = geomMemberN c n := by
  unfold geomDocN
  cases c <;> cases hj : geomMemberN _ n <;> simp_all

/-- `decode_geomMemberN` through `UnmarshalGeometry` / `bson.Unmarshal` (e.g. `Polygon(nil)` comes back
    from `"coordinates":null` as the typed nil) -/
theorem geomOfDocN_eq (c : Codec) (n : NG) (hok : okG (forgetNil n) = true)
    (hb : c = .json ∨ nonEmptyMulti (forgetNil n) = true) (hne : isEmptyColl (forgetNil n) = false) :
    geomOfDoc c (geomDocN c n) = .ok (canonV (toV n)) := by
  have hv := decode_geomMemberN c n hok hb hne
  rw [geomDocN_eq_member c n (decodeGeometry_ok_ne_null c _ _ hv), geomOfDoc, hv]
  rfl

/-! ### the values without nil members: the image of `ofGeom` / `ofGVal` -/

theorem map_nptsJ_some (ls : List (List (Pt UInt64))) : (ls.map some).map nptsJ = ls.map ptsJ := by
  induction ls with
  | nil => rfl
  | cons l ls ih => simp [nptsJ, ih]

theorem nptssJ_some (ls : List (List (Pt UInt64))) : nptssJ (some (ls.map some)) = ptssJ ls := by
  simp only [nptssJ, ptssJ, map_nptsJ_some]

theorem nptsssJ_some (ps : List (List (List (Pt UInt64)))) :
    nptsssJ (some (ps.map fun rs => some (rs.map some))) = ptsssJ ps := by
  simp only [nptsssJ, ptsssJ]
  congr 1
  induction ps with
  | nil => rfl
  | cons p ps ih => simp [nptssJ_some, ih]

theorem geomMemberN_ofGeom (c : Codec) : ∀ g : G, geomMemberN c (CoreNil.ofGeom g) = geomJ c g := by
  intro g
  induction g using Geom.ind with
  | point p => rfl
  | multiPoint ps => simp [CoreNil.ofGeom, geomMemberN, geomJ, nptsJ, lenN]
  | lineString ps => simp [CoreNil.ofGeom, geomMemberN, geomJ, nptsJ, lenN]
  | multiLineString ls => simp [CoreNil.ofGeom, geomMemberN, geomJ, nptssJ_some, lenN]
  | ring ps => simp [CoreNil.ofGeom, geomMemberN, geomJ, nptsJ]
  | polygon rs => simp [CoreNil.ofGeom, geomMemberN, geomJ, nptssJ_some, lenN]
  | multiPolygon ps => simp [CoreNil.ofGeom, geomMemberN, geomJ, nptsssJ_some, lenN]
  | bound a b => rfl
  | collection gs ih =>
    have hl : geomMembersN c (CoreNil.ofGeomList gs) = geomsJ c gs := by
      rw [CoreNil.ofGeomList_eq_map, geomMembersN_eq_map, geomsJ_eq_map, List.map_map]
      exact List.map_congr_left ih
    cases gs with
    | nil => rfl
    | cons g0 gs' => simpa [CoreNil.ofGeom, CoreNil.ofGeomList, geomMemberN, geomJ, geomMembersN, geomsJ] using hl

theorem forgetNil_ofGeom : ∀ g : G, forgetNil (CoreNil.ofGeom g) = g := by
  intro g
  induction g using Geom.ind with
  | collection gs ih =>
    rw [CoreNil.ofGeom, forgetNil, forgetNils_eq_map, CoreNil.ofGeomList_eq_map, List.map_map,
      List.map_congr_left (f := forgetNil ∘ CoreNil.ofGeom) (g := id) ih, List.map_id]
  | _ => simp [CoreNil.ofGeom, forgetNil, CoreNil.ptsOf, CoreNil.ptssOf, CoreNil.ptsssOf, Function.comp_def]

theorem toV_ofGeom (g : G) : toV (CoreNil.ofGeom g) = .val g := by
  have := forgetNil_ofGeom g
  cases g <;> simpa [CoreNil.ofGeom, toV] using this

theorem canonV_val (g : G) (hne : isEmptyColl g = false) : canonV (.val g) = .val (canonG g) := by
  cases g with
  | collection gs => cases gs with
    | nil => cases hne
    | cons _ _ => rfl
  | _ => rfl

theorem decode_geomJ (c : Codec) (g : G) (hok : okG g = true) (hb : c = .json ∨ nonEmptyMulti g = true)
    (hne : isEmptyColl g = false) : decodeGeometry c (geomJ c g) = .ok ⟨.val (canonG g), false⟩ := by
  have := decode_geomMemberN c (CoreNil.ofGeom g)
  rw [forgetNil_ofGeom, geomMemberN_ofGeom, toV_ofGeom, canonV_val g hne] at this
  exact this hok hb hne

/-! ### the typed helper types `geojson.Point` … `geojson.MultiPolygon`, round trip (totality: C02Total.lean) -/

theorem typedGeomPtr_obj (c : Codec) (ms : Members) :
    typedGeomPtr c (.obj ms) = (decodeGeometry c (.obj ms)).map some := by
  cases c <;> rfl

/-- the six kinds of the helper types -/
def typedKind (g : G) : Bool :=
  match g with
  | .point _ | .multiPoint _ | .lineString _ | .multiLineString _ | .polygon _ | .multiPolygon _ => true
  | _ => false

theorem typed_canon (g : G) (h : typedKind g = true) : canonG g = g ∧ isEmptyColl g = false := by
  cases g <;> simp [typedKind] at h <;> exact ⟨rfl, rfl⟩

theorem kind_beq_iff (a b : Kind) : (a == b) = true ↔ a = b := by cases a <;> cases b <;> decide

theorem assertKind_val (k : Kind) (g : G) (h : typedKind g = true) : assertKind k (.val g) = (g.kind == k) := by
  cases g <;> first | rfl | cases h

/-! ### top-level Go values (`V`) -/

theorem geomMemberN_null (c : Codec) (n : NG) (he : isEmptyColl (forgetNil n) = true) :
    geomMemberN c n = .null ∧ canonV (toV n) = .nilIface := by
  cases n with
  | collection gs => cases gs with
    | nil => exact ⟨rfl, rfl⟩
    | cons _ _ => cases he
  | nilIface => exact ⟨rfl, rfl⟩
  | nilCollection => exact ⟨rfl, rfl⟩
  | _ => cases he

/-- `ofGVal` on the Go values that exist -/
theorem ofGVal_spec (v : V) (hok : okV v = true) :
    forgetNil (CoreNil.ofGVal v) = v.toGeom ∧ toV (CoreNil.ofGVal v) = v ∧
      ∀ c, geomMemberN c (CoreNil.ofGVal v) = geomMember c v := by
  cases v with
  | nilIface => exact ⟨rfl, rfl, fun _ => rfl⟩
  | val g => exact ⟨forgetNil_ofGeom g, toV_ofGeom g, fun c => geomMemberN_ofGeom c g⟩
  | nilSlice k => cases k <;> first | exact ⟨rfl, rfl, fun _ => rfl⟩ | cases hok

theorem decode_geomMemberN_cases (c : Codec) (n : NG) (hok : okG (forgetNil n) = true)
    (hb : c = .json ∨ nonEmptyMulti (forgetNil n) = true) :
    (geomMemberN c n = .null ∧ canonV (toV n) = .nilIface) ∨
    decodeGeometry c (geomMemberN c n) = .ok ⟨canonV (toV n), false⟩ := by
  by_cases he : isEmptyColl (forgetNil n) = true
  · exact Or.inl (geomMemberN_null c n he)
  · exact Or.inr (decode_geomMemberN c n hok hb (by simpa using he))

theorem decode_geomMember (c : Codec) (v : V) (hok : okV v = true) (hb : c = .json ∨ okVB v = true) :
    (geomMember c v = .null ∧ canonV v = .nilIface) ∨
    decodeGeometry c (geomMember c v) = .ok ⟨canonV v, false⟩ := by
  obtain ⟨h1, h2, h3⟩ := ofGVal_spec v hok
  have := decode_geomMemberN_cases c (CoreNil.ofGVal v)
    (by rw [h1]; cases v with
      | val g => exact hok
      | nilIface => rfl
      | nilSlice k => cases k <;> rfl)
    (by rw [h1]; refine hb.imp id fun h => ?_
        cases v with
        | val g => exact h
        | nilIface => rfl
        | nilSlice k => cases h)
  rwa [h3 c, h2] at this

end Orb.GeoJSON
