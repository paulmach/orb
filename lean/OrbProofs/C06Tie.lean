/-
  C06 — translation tie for the root package (bound.go, point.go, ring.go, and the `Bound()` / `Equal()`
  loops of multi_point.go, line_string.go, polygon.go, multi_line_string.go, multi_polygon.go).
  `Generated/BoundGo.lean` is REGENERATED from /repo on every run by the Go→Lean translator in
  harness/cmd/factgen/translate_float.go.  The theorems below prove that each regenerated
  definition IS the hand-written model definition (of `Orb.Core`, and of the copies of
  `Bound.ToRing` / `Bound.Center` in `Orb.Planar` / `Orb.TileGeo`) — for every number type and
  every choice of instances — so a change of the Go source of these functions changes a Lean
  definition and breaks a proof obligation here, independently of any sampling.
-/
import Orb.Core
import Orb.Planar
import Orb.TileGeo
import Orb.LoopForms
import Generated.BoundGo
import OrbProofs.FoldPairs

namespace Orb.C06Tie
open Orb Orb.Core

set_option linter.unusedSectionVars false

-- the instance list of Generated/BoundGo.lean, so that `rfl` unifies; most ties use a few of them
variable {α : Type} [Add α] [Sub α] [Mul α] [Div α] [Neg α] [LT α] [LE α] [DecidableLT α] [DecidableLE α]
  [BEq α] [Min α] [Max α] [OfNat α 0] [OfNat α 1] [OfNat α 2] [OfNat α 6] [NatCast α]

theorem boundTop_tie (b : Bound α) : Generated.BoundGo.boundTop b = b.hi.y := rfl
theorem boundBottom_tie (b : Bound α) : Generated.BoundGo.boundBottom b = b.lo.y := rfl
theorem boundRight_tie (b : Bound α) : Generated.BoundGo.boundRight b = b.hi.x := rfl
theorem boundLeft_tie (b : Bound α) : Generated.BoundGo.boundLeft b = b.lo.x := rfl
theorem boundLeftTop_tie (b : Bound α) : Generated.BoundGo.boundLeftTop b = b.leftTop := rfl
theorem boundRightBottom_tie (b : Bound α) : Generated.BoundGo.boundRightBottom b = b.rightBottom := rfl
theorem boundIsEmpty_tie (b : Bound α) : Generated.BoundGo.boundIsEmpty b = b.isEmpty := rfl
theorem boundContains_tie (b : Bound α) (p : Pt α) : Generated.BoundGo.boundContains b p = b.contains p := rfl
theorem boundExtend_tie (b : Bound α) (p : Pt α) : Generated.BoundGo.boundExtend b p = b.extend p := rfl
theorem boundUnion_tie (b o : Bound α) : Generated.BoundGo.boundUnion b o = b.union o := rfl
theorem boundIntersects_tie (b o : Bound α) : Generated.BoundGo.boundIntersects b o = b.intersects o := rfl

/-- `Bound.Equal` is the `.bound` case of `orb.Equal` -/
theorem boundEqual_tie (a b c d : Pt α) :
    Generated.BoundGo.boundEqual ⟨a, b⟩ ⟨c, d⟩ = Core.equal (.bound a b) (.bound c d) := rfl

/-- `Bound.ToRing` (modelled in `Orb.Planar`, where area / length / distance of a bound use it) -/
theorem boundToRing_tie (b : Bound α) : Generated.BoundGo.boundToRing b = Planar.boundRing b.lo b.hi := rfl

/-- `Bound.Center` (modelled in `Orb.TileGeo` for `Tile.Center`) -/
theorem boundCenter_tie (b : Bound α) :
    Generated.BoundGo.boundCenter b = TileGeo.bndCenter ⟨b.lo, b.hi⟩ := rfl

/-- coordinate order: `X` / `Lon` is `p[0]`, `Y` / `Lat` is `p[1]` -/
theorem pointX_tie (p : Pt α) : Generated.BoundGo.pointX p = p.x := rfl
theorem pointY_tie (p : Pt α) : Generated.BoundGo.pointY p = p.y := rfl
theorem pointLon_tie (p : Pt α) : Generated.BoundGo.pointLon p = p.x := rfl
theorem pointLat_tie (p : Pt α) : Generated.BoundGo.pointLat p = p.y := rfl
theorem pointEqual_tie (p q : Pt α) : Generated.BoundGo.pointEqual p q = Core.ptEq p q := rfl

/-- the shoelace loop `for i := 1; i < len(r)-1; i++` of `Ring.Orientation` -/
theorem orientArea_go_eq (o : Pt α) (l : List (Pt α)) (acc : α) :
    orientArea.go o l acc =
      Generated.BoundGo.foldPairs (fun (area : α) (p q : Pt α) =>
        area + ((p.x - o.x) * (q.y - o.y) - (q.x - o.x) * (p.y - o.y))) l acc :=
  (LoopForms.foldPairs_sim id _ (orientArea.go o) _ (fun _ => rfl) (fun _ _ => rfl) (fun _ _ _ _ => rfl)
    (fun _ _ _ => rfl) l acc).symm

/-- `Ring.Orientation`.  For the empty ring the Go code returns 0 before looking at the area; the
    model compares the area `0` with `0`, which is the same as soon as `0 < 0` is false. -/
theorem ringOrientation_tie (r : List (Pt α)) (h0 : ¬ (0 : α) < 0) :
    Generated.BoundGo.ringOrientation r = orientation r := by
  cases r with
  | nil => simp [Generated.BoundGo.ringOrientation, orientation, orientArea, h0]
  | cons o rest =>
    simp only [Generated.BoundGo.ringOrientation, orientation, orientArea, orientArea_go_eq]
    simp

/-! ### multi_point.go, line_string.go, ring.go, polygon.go, multi_line_string.go, multi_polygon.go

The loops of the slice kinds.  `Bound()`: `for _, p := range mp { b = b.Extend(p) }` is a `List.foldl`,
`for i := 1; i < len(mls); i++ { bound = bound.Union(mls[i].Bound()) }` a `List.foldl` over
`mls.drop 1`; the package variable `emptyBound` is the explicit parameter `eb`, as in the models.
`Equal()`: the length guard followed by `for i := range mp { if !mp[i].Equal(o[i]) { return false } }`
is the returning loop `foldlRet` over the indices, which `Orb.LoopForms.equal_loop` turns into
`all2` ("same length and pointwise"), the shape of `Core.ptsEq` / `ptssEq` / `ptsssEq`. -/

open Orb.LoopForms

theorem multiPointBound_tie (eb : Bound α) (mp : List (Pt α)) :
    Generated.BoundGo.multiPointBound eb mp = multiPointBound eb mp := by
  cases mp with
  | nil => rfl
  | cons p t => rfl

theorem lineStringBound_tie (eb : Bound α) (ls : List (Pt α)) :
    Generated.BoundGo.lineStringBound eb ls = multiPointBound eb ls := multiPointBound_tie eb ls

theorem ringBound_tie (eb : Bound α) (r : List (Pt α)) :
    Generated.BoundGo.ringBound eb r = multiPointBound eb r := multiPointBound_tie eb r

theorem polygonBound_tie (eb : Bound α) (p : List (List (Pt α))) :
    Generated.BoundGo.polygonBound eb p = polygonBound eb p := by
  cases p with
  | nil => rfl
  | cons r t => exact ringBound_tie eb r

/-- the loop `for i := 1; i < len(g); i++ { bound = bound.Union(g[i].Bound()) }` of the two multi-kinds, given the
    tie of the member's `Bound()` -/
theorem unionLoop_tie {X : Type} (f g : X → Bound α) (h : ∀ x, f x = g x) (x : X) (rest : List X) :
    rest.foldl (fun bound y => Generated.BoundGo.boundUnion bound (f y)) (f x) =
      rest.foldl (fun b y => b.union (g y)) (g x) := by
  rw [funext h]; rfl

theorem multiLineStringBound_tie (eb : Bound α) (mls : List (List (Pt α))) :
    Generated.BoundGo.multiLineStringBound eb mls = multiLineStringBound eb mls := by
  cases mls with
  | nil => rfl
  | cons l rest => exact unionLoop_tie _ _ (lineStringBound_tie eb) l rest

theorem multiPolygonBound_tie (eb : Bound α) (mp : List (List (List (Pt α)))) :
    Generated.BoundGo.multiPolygonBound eb mp = multiPolygonBound eb mp := by
  cases mp with
  | nil => rfl
  | cons p rest => exact unionLoop_tie _ _ (polygonBound_tie eb) p rest

/-- "same length and pointwise `ptEq`" is the model's recursion -/
theorem all2_ptsEq (xs ys : List (Pt α)) :
    all2 (fun a b => Generated.BoundGo.pointEqual a b) xs ys = ptsEq xs ys :=
  all2_unique _ ptsEq rfl (fun _ _ => rfl) (fun _ _ => rfl) (fun _ _ _ _ => rfl) xs ys

theorem multiPointEqual_tie (mp o : List (Pt α)) :
    Generated.BoundGo.multiPointEqual mp o = ptsEq mp o := by
  rw [← all2_ptsEq]
  exact equal_loop (fun a b => Generated.BoundGo.pointEqual a b) mp o ⟨0, 0⟩ ⟨0, 0⟩

theorem lineStringEqual_tie (ls o : List (Pt α)) :
    Generated.BoundGo.lineStringEqual ls o = ptsEq ls o := multiPointEqual_tie ls o

theorem ringEqual_tie (r o : List (Pt α)) :
    Generated.BoundGo.ringEqual r o = ptsEq r o := multiPointEqual_tie r o

theorem all2_ptssEq (f : List (Pt α) → List (Pt α) → Bool) (hf : ∀ a b, f a b = ptsEq a b)
    (xs ys : List (List (Pt α))) : all2 f xs ys = ptssEq xs ys :=
  all2_unique _ ptssEq rfl (fun _ _ => rfl) (fun _ _ => rfl) (fun x t y u => by rw [hf]; rfl) xs ys

theorem polygonEqual_tie (p o : List (List (Pt α))) :
    Generated.BoundGo.polygonEqual p o = ptssEq p o := by
  rw [← all2_ptssEq (fun a b => Generated.BoundGo.ringEqual a b) ringEqual_tie]
  exact equal_loop (fun a b => Generated.BoundGo.ringEqual a b) p o [] []

theorem multiLineStringEqual_tie (mls o : List (List (Pt α))) :
    Generated.BoundGo.multiLineStringEqual mls o = ptssEq mls o := by
  rw [← all2_ptssEq (fun a b => Generated.BoundGo.lineStringEqual a b) lineStringEqual_tie]
  exact equal_loop (fun a b => Generated.BoundGo.lineStringEqual a b) mls o [] []

theorem all2_ptsssEq (f : List (List (Pt α)) → List (List (Pt α)) → Bool) (hf : ∀ a b, f a b = ptssEq a b)
    (xs ys : List (List (List (Pt α)))) : all2 f xs ys = ptsssEq xs ys :=
  all2_unique _ ptsssEq rfl (fun _ _ => rfl) (fun _ _ => rfl) (fun x t y u => by rw [hf]; rfl) xs ys

theorem multiPolygonEqual_tie (mp o : List (List (List (Pt α)))) :
    Generated.BoundGo.multiPolygonEqual mp o = ptsssEq mp o := by
  rw [← all2_ptsssEq (fun a b => Generated.BoundGo.polygonEqual a b) polygonEqual_tie]
  exact equal_loop (fun a b => Generated.BoundGo.polygonEqual a b) mp o [] []

/-- the `Equal` / `Bound` methods of the slice kinds are the cases of `Core.equal` / `Core.bound` -/
theorem equal_kinds_tie :
    (∀ p q : List (Pt α), Generated.BoundGo.multiPointEqual p q = Core.equal (.multiPoint p) (.multiPoint q)) ∧
    (∀ p q : List (Pt α), Generated.BoundGo.lineStringEqual p q = Core.equal (.lineString p) (.lineString q)) ∧
    (∀ p q : List (Pt α), Generated.BoundGo.ringEqual p q = Core.equal (.ring p) (.ring q)) ∧
    (∀ p q : List (List (Pt α)), Generated.BoundGo.polygonEqual p q = Core.equal (.polygon p) (.polygon q)) ∧
    (∀ p q : List (List (Pt α)),
      Generated.BoundGo.multiLineStringEqual p q = Core.equal (.multiLineString p) (.multiLineString q)) ∧
    (∀ p q : List (List (List (Pt α))),
      Generated.BoundGo.multiPolygonEqual p q = Core.equal (.multiPolygon p) (.multiPolygon q)) :=
  ⟨multiPointEqual_tie, lineStringEqual_tie, ringEqual_tie, polygonEqual_tie, multiLineStringEqual_tie,
    multiPolygonEqual_tie⟩

theorem bound_kinds_tie (eb : Bound α) :
    (∀ p : List (Pt α), Generated.BoundGo.multiPointBound eb p = Core.bound eb (.multiPoint p)) ∧
    (∀ p : List (Pt α), Generated.BoundGo.lineStringBound eb p = Core.bound eb (.lineString p)) ∧
    (∀ p : List (Pt α), Generated.BoundGo.ringBound eb p = Core.bound eb (.ring p)) ∧
    (∀ p : List (List (Pt α)), Generated.BoundGo.polygonBound eb p = Core.bound eb (.polygon p)) ∧
    (∀ p : List (List (Pt α)), Generated.BoundGo.multiLineStringBound eb p = Core.bound eb (.multiLineString p)) ∧
    (∀ p : List (List (List (Pt α))), Generated.BoundGo.multiPolygonBound eb p = Core.bound eb (.multiPolygon p)) :=
  ⟨fun p => by rw [Core.bound]; exact multiPointBound_tie eb p,
   fun p => by rw [Core.bound]; exact lineStringBound_tie eb p,
   fun p => by rw [Core.bound]; exact ringBound_tie eb p,
   fun p => by rw [Core.bound]; exact polygonBound_tie eb p,
   fun p => by rw [Core.bound]; exact multiLineStringBound_tie eb p,
   fun p => by rw [Core.bound]; exact multiPolygonBound_tie eb p⟩

/-- every function the translator is asked for in the root package was translated (`ringClosed` is tied
    in C16Tie.lean, where its model lives) -/
theorem all_translated_BoundGo : Generated.BoundGo.translated =
    ["boundTop", "boundBottom", "boundRight", "boundLeft", "boundLeftTop", "boundRightBottom", "boundIsEmpty",
     "boundContains", "boundExtend", "boundUnion", "boundIntersects", "boundCenter", "boundEqual", "boundToRing",
     "pointX", "pointY", "pointLon", "pointLat", "pointEqual", "ringClosed", "ringOrientation",
     "multiPointBound", "multiPointEqual", "lineStringBound", "lineStringEqual", "ringBound", "ringEqual",
     "polygonBound", "polygonEqual", "multiLineStringBound", "multiLineStringEqual", "multiPolygonBound",
     "multiPolygonEqual"] := rfl

end Orb.C06Tie
