/-
  Integers ⇄ bytes, the geometry header, and the stream primitives on what the encoder writes.
-/
import Orb.WKB

namespace Orb.WKB
open Orb Generated.Params

theorem leBytes_length (n k : Nat) : (leBytes n k).length = k := by
  induction k generalizing n with
  | zero => rfl
  | succ k ih => simp [leBytes, ih]

theorem leNat_leBytes (n k : Nat) : leNat (leBytes n k) = n % 256 ^ k := by
  induction k generalizing n with
  | zero => simp [leBytes, leNat, Nat.mod_one]
  | succ k ih =>
    have h1 : n % 256 ^ (k + 1) = n % 256 + 256 * (n / 256 % 256 ^ k) := by
      rw [Nat.pow_succ', Nat.mod_mul]
    have h2 : n % 256 % 2 ^ 8 = n % 256 := by omega
    simp only [leBytes, leNat, ih, UInt8.toNat_ofNat', h2, h1]

theorem leNat_lt (bs : Bytes) : leNat bs < 256 ^ bs.length := by
  induction bs with
  | nil => simp [leNat]
  | cons b bs ih =>
    simp only [leNat, List.length_cons, Nat.pow_succ']
    have := b.toNat_lt
    omega

theorem u32_length (o : Order) (n : Nat) : (u32 o n).length = 4 := by
  cases o <;> simp [u32, leBytes_length]

theorem u64_length (o : Order) (b : UInt64) : (u64 o b).length = 8 := by
  cases o <;> simp [u64, leBytes_length]

theorem encPt_length (o : Order) (p : Pt UInt64) : (encPt o p).length = 16 := by
  simp [encPt, u64_length]

theorem rd32_u32 (o : Order) (n : Nat) (rest : Bytes) : rd32 o (u32 o n ++ rest) = n % 2 ^ 32 := by
  cases o
  · simp only [rd32, u32]
    rw [List.take_left' (by simp [leBytes_length]), List.reverse_reverse, leNat_leBytes]
    omega
  · simp only [rd32, u32]
    rw [List.take_left' (by simp [leBytes_length]), leNat_leBytes]
    omega

theorem rd32_u32_of_lt (o : Order) (n : Nat) (rest : Bytes) (h : n < 2 ^ 32) : rd32 o (u32 o n ++ rest) = n := by
  rw [rd32_u32]; omega

theorem rd32_lt (o : Order) (bs : Bytes) : rd32 o bs < 2 ^ 32 := by
  have key : ∀ l : Bytes, l.length ≤ 4 → leNat l < 2 ^ 32 := by
    intro l hl
    have h1 := leNat_lt l
    have h2 : 256 ^ l.length ≤ 256 ^ 4 := Nat.pow_le_pow_right (by decide) hl
    have h3 : (256 : Nat) ^ 4 = 2 ^ 32 := by decide
    omega
  cases o
  · simp only [rd32]; apply key; simp; omega
  · simp only [rd32]; apply key; simp; omega

theorem rd64_u64 (o : Order) (b : UInt64) (rest : Bytes) : rd64 o (u64 o b ++ rest) = b := by
  have hb : b.toNat % 256 ^ 8 = b.toNat := by
    have := b.toNat_lt
    have h3 : (256 : Nat) ^ 8 = 2 ^ 64 := by decide
    omega
  cases o
  · simp only [rd64, u64]
    rw [List.take_left' (by simp [leBytes_length]), List.reverse_reverse, leNat_leBytes, hb,
      UInt64.ofNat_toNat]
  · simp only [rd64, u64]
    rw [List.take_left' (by simp [leBytes_length]), leNat_leBytes, hb, UInt64.ofNat_toNat]

theorem rd32_u32_nil (o : Order) (n : Nat) : rd32 o (u32 o n) = n % 2 ^ 32 := by
  have := rd32_u32 o n []
  simpa using this

theorem rd64_u64_nil (o : Order) (b : UInt64) : rd64 o (u64 o b) = b := by
  have := rd64_u64 o b []
  simpa using this

@[simp] theorem drop_u32 (o : Order) (n : Nat) (rest : Bytes) : (u32 o n ++ rest).drop 4 = rest :=
  List.drop_left' (u32_length o n)

@[simp] theorem take_u32 (o : Order) (n : Nat) (rest : Bytes) : (u32 o n ++ rest).take 4 = u32 o n :=
  List.take_left' (u32_length o n)

/-- type word (+ EWKB flag and SRID word when `srid ≠ 0`) -/
def hdr (o : Order) (t srid : Nat) : Bytes :=
  if srid = 0 then u32 o t else u32 o (t ||| wkb_ewkbType) ++ u32 o srid

/-- the seven type codes (`wkb_pointType` … `wkb_geometryCollectionType` of `Generated.Params`, as literals) -/
def TC (t : Nat) : Prop := t = 1 ∨ t = 2 ∨ t = 3 ∨ t = 4 ∨ t = 5 ∨ t = 6 ∨ t = 7

theorem typePrefix_eq (o : Order) (t l srid : Nat) : typePrefix o t l srid = hdr o t srid ++ u32 o l := by
  unfold typePrefix hdr
  split <;> simp

theorem hdr_length_ge (o : Order) (t srid : Nat) : 4 ≤ (hdr o t srid).length := by
  unfold hdr; split <;> simp [u32_length]

theorem hdr_zero (o : Order) (t : Nat) : hdr o t 0 = u32 o t := by simp [hdr]

theorem tc_mod {t : Nat} (ht : TC t) : t % 2 ^ 32 = t := by
  rcases ht with h | h | h | h | h | h | h <;> subst h <;> decide

/- `tc_flag0` … `tc_maskS1`: the header tests on a type code, without (`0`) and with (`1`) the EWKB flag.  `flag` is the
   test of the flag itself, `maskB` / `maskS` what `wkb_hdrMaskBytes` (byte-slice path) / `wkb_hdrMaskStream` (stream
   path) leave of the word — the stream path masks only when the flag is set, so there is no `maskS0`. -/

theorem tc_flag0 {t : Nat} (ht : TC t) : t % 2 ^ 32 &&& wkb_ewkbType = 0 := by
  rcases ht with h | h | h | h | h | h | h <;> subst h <;> decide

theorem tc_flag1 {t : Nat} (ht : TC t) : (t ||| wkb_ewkbType) % 2 ^ 32 &&& wkb_ewkbType ≠ 0 := by
  rcases ht with h | h | h | h | h | h | h <;> subst h <;> decide

theorem tc_maskB0 {t : Nat} (ht : TC t) : t % 2 ^ 32 &&& wkb_hdrMaskBytes = t := by
  rcases ht with h | h | h | h | h | h | h <;> subst h <;> decide

theorem tc_maskB1 {t : Nat} (ht : TC t) : (t ||| wkb_ewkbType) % 2 ^ 32 &&& wkb_hdrMaskBytes = t := by
  rcases ht with h | h | h | h | h | h | h <;> subst h <;> decide

theorem tc_maskS1 {t : Nat} (ht : TC t) : (t ||| wkb_ewkbType) % 2 ^ 32 &&& wkb_hdrMaskStream = t := by
  rcases ht with h | h | h | h | h | h | h <;> subst h <;> decide

/-- The mark is one of the two bytes the decoders accept.  (The inequalities are `orderByte_ne92`, `orderByte_ne48`.) -/
theorem orderByte_ne (o : Order) : orderByte o = 0 ∨ orderByte o = 1 := by
  cases o <;> simp [orderByte]

/-- `hb`: `byteOrderType` refuses fewer than six bytes, the five of a header and one more. -/
theorem unmarshalBOT_hdr (o : Order) (t srid : Nat) (body : Bytes) (ht : TC t) (hs : srid < 2 ^ 32)
    (hb : 1 ≤ body.length) :
    unmarshalBOT (orderByte o :: (hdr o t srid ++ body)) = .ok (o, t, srid, body) := by
  have hbo : byteOrderType (orderByte o :: (hdr o t srid ++ body)) =
      .ok (o, rd32 o (hdr o t srid ++ body)) := by
    unfold byteOrderType
    have h4 := hdr_length_ge o t srid
    have : ¬ (orderByte o :: (hdr o t srid ++ body)).length < 6 := by
      simp only [List.length_cons, List.length_append]; omega
    rw [if_neg this]
    cases o <;> simp [orderByte]
  unfold unmarshalBOT
  rw [hbo]
  by_cases h0 : srid = 0
  · subst h0
    simp only [hdr_zero, rd32_u32, tc_flag0 ht, tc_maskB0 ht, if_true, List.drop_succ_cons, drop_u32]
  · have hne := tc_flag1 ht
    have hlen : ¬ (orderByte o :: (hdr o t srid ++ body)).length < 10 := by
      simp only [hdr, if_neg h0, List.length_cons, List.length_append, u32_length]; omega
    simp only [hdr, if_neg h0, List.append_assoc] at hlen ⊢
    simp only [rd32_u32, if_neg hne, tc_maskB1 ht]
    have d5 : (orderByte o :: (u32 o (t ||| wkb_ewkbType) ++ (u32 o srid ++ body))).drop 5
        = u32 o srid ++ body := by
      simp [List.drop_succ_cons]
    have d9 : (orderByte o :: (u32 o (t ||| wkb_ewkbType) ++ (u32 o srid ++ body))).drop 9 = body := by
      rw [show (9 : Nat) = 8 + 1 from rfl, List.drop_succ_cons, ← List.append_assoc]
      exact List.drop_left' (by simp [u32_length])
    rw [d5, d9, rd32_u32_of_lt _ _ _ hs, if_neg hlen]

theorem readFull_append (l rest : Bytes) (n : Nat) (h : l.length = n) :
    readFull n (l ++ rest) = .ok (l, rest) := by
  unfold readFull
  have h1 : ¬ ((l ++ rest).length = 0 ∧ n > 0) := by
    simp only [List.length_append]; omega
  have h2 : ¬ (l ++ rest).length < n := by
    simp only [List.length_append]; omega
  rw [if_neg h1, if_neg h2, List.take_left' h, List.drop_left' h]

theorem readU32_u32 (o : Order) (n : Nat) (rest : Bytes) :
    readU32 o (u32 o n ++ rest) = .ok (n % 2 ^ 32, rest) := by
  unfold readU32
  rw [readFull_append _ _ _ (u32_length o n)]
  simp only [rd32_u32_nil]

theorem readU32_u32_of_lt (o : Order) (n : Nat) (rest : Bytes) (h : n < 2 ^ 32) :
    readU32 o (u32 o n ++ rest) = .ok (n, rest) := by
  rw [readU32_u32, Nat.mod_eq_of_lt h]

theorem readPoint_encPt (o : Order) (p : Pt UInt64) (rest : Bytes) :
    readPoint o (encPt o p ++ rest) = .ok (p, rest) := by
  unfold readPoint encPt
  rw [List.append_assoc, readFull_append _ _ _ (u64_length o p.x)]
  simp only
  rw [readFull_append _ _ _ (u64_length o p.y)]
  simp only [rd64_u64_nil]

theorem readBOT_hdr (o : Order) (t srid : Nat) (body : Bytes) (ht : TC t) (hs : srid < 2 ^ 32) :
    readBOT (orderByte o :: (hdr o t srid ++ body)) = .ok (o, t, srid, body) := by
  unfold readBOT
  have hoo : (if orderByte o = 0 then some Order.big else if orderByte o = 1 then some Order.little else none)
      = some o := by
    cases o <;> simp [orderByte]
  simp only [hoo]
  by_cases h0 : srid = 0
  · subst h0
    have hf : t &&& wkb_ewkbType = 0 := by
      have := tc_flag0 ht; rwa [tc_mod ht] at this
    simp only [hdr_zero, readU32_u32, tc_mod ht, hf, if_true]
  · simp only [hdr, if_neg h0, List.append_assoc, readU32_u32, if_neg (tc_flag1 ht), tc_maskS1 ht,
      Nat.mod_eq_of_lt hs]

end Orb.WKB
