/-
  The ring trace of `line` and the crossings of the horizontal ray: the potential identity for one segment's
  chain of cells, summed along the cells of a line (`LTrace.pot`, which `C14Fill` builds on); and what `walk`,
  `segment` and `lineSegs` leave in the state, read off `run` (`walk_trace`, `segment_trace`, `lineSegs_trace`:
  stated for their own sake, nothing cites them; the interior proof reads the same facts in `line_ring_cells`).
-/
import OrbProofs.C14FillGeom

namespace Orb.TileCover
open Orb Orb.Tile

section trace
variable {K : Type} [Field K] [LinearOrder K] [IsStrictOrderedRing K] [FloorRing K]
set_option linter.unusedSectionVars false

/-- The walk of one segment: the cells visited after the current one, each with the parameter at which
    it is entered; what happens to the set, the ring trace and `prevX, prevY, y`. -/
theorem walk_trace (zoom : Nat) (a b : Pt K) (sx sy tdx tdy : K)
    (hax : 0 ≤ a.x) (hbx : 0 ≤ b.x) (hay : 0 ≤ a.y) (hby : 0 ≤ b.y) (s' : LState K) :
    ∀ (fuel : Nat) (tMX tMY : Option K) (s : LState K) (z w : ℤ) (τ : K),
      AxInv a.x b.x z tMX sx tdx → AxInv a.y b.y w tMY sy tdy → s.x = z → s.y = w →
      s.prevX = z → s.prevY = w →
      0 ≤ τ → τ ≤ 1 → InCl a.x b.x z τ → InCl a.y b.y w τ → LeOpt τ tMX → LeOpt τ tMY →
      walk (opsK K) zoom sx sy tdx tdy fuel tMX tMY s = some s' →
      ∃ l : List (PC K),
        List.IsChain (PLink a b) (⟨(z.toNat, w.toNat), τ⟩ :: l) ∧
        (∀ v ∈ l, v.τ ≤ 1) ∧
        InSq (lastOf (⟨(z.toNat, w.toNat), τ⟩ : PC K) l).c (segX a b 1) (segY a b 1) ∧
        s'.set = (l.map fun v => tileOf zoom v.c).reverse ++ s.set ∧
        s'.ring = s.ring.map (· ++ rows (some w.toNat) (l.map (·.c))) ∧
        s'.y = (((lastOf (⟨(z.toNat, w.toNat), τ⟩ : PC K) l).c.2 : ℕ) : K) ∧
        s'.prevX = (((lastOf (⟨(z.toNat, w.toNat), τ⟩ : PC K) l).c.1 : ℕ) : K) ∧
        s'.prevY = (((lastOf (⟨(z.toNat, w.toNat), τ⟩ : PC K) l).c.2 : ℕ) : K) := by
  intro fuel tMX tMY s z w τ hx hy hsx hsy hpx hpy hτ0 hτ1 hzτ hwτ hτX hτY hwalk
  obtain ⟨l, htr, rfl⟩ := walk_run zoom a b sx sy tdx tdy hax hbx hay hby fuel tMX tMY s s' z w τ
    hx hy hsx hsy hpx hpy hτ0 hτ1 hzτ hwτ hτX hτY hwalk
  have hz := natCast_toNat (K := K) (ax_nonneg hx hax hbx)
  have hw := natCast_toNat (K := K) (ax_nonneg hy hay hby)
  have hprev : PrevAt s (some (z.toNat, w.toNat)) := ⟨hpx.trans hz.symm, hpy.trans hw.symm⟩
  refine ⟨l, htr.plink, fun v hv => (htr.sound v (List.mem_cons_of_mem _ hv)).2.1, htr.stop, ?_,
    run_ring zoom _ s _ hprev, ?_⟩
  · rw [run_set zoom _ s _ hprev htr.distinct, List.map_map]; rfl
  · cases l with
    | nil => exact ⟨hsy.trans hw.symm, hpx.trans hz.symm, hpy.trans hw.symm⟩
    | cons v t =>
      have := run_last zoom s v.c (t.map (·.c))
      rw [lastOf_map (fun v : PC K => v.c)] at this
      exact this

/-- One non-degenerate segment of `line`, from a state that satisfies `St`. -/
theorem segment_trace (zoom fuel : Nat) (a b : Pt K) (s s' : LState K)
    (hax : 0 ≤ a.x) (hay : 0 ≤ a.y) (hbx : 0 ≤ b.x) (hby : 0 ≤ b.y)
    (cur : Option (ℕ × ℕ)) (hst : St zoom s cur) (hab : a ≠ b)
    (h : segment (opsK K) zoom fuel s a b = some s') :
    ∃ l : List (PC K),
      List.IsChain (PLink a b) (⟨cellOf a, 0⟩ :: l) ∧ (∀ v ∈ l, v.τ ≤ 1) ∧
      InSq (lastOf (⟨cellOf a, 0⟩ : PC K) l).c (segX a b 1) (segY a b 1) ∧
      (∀ c ∈ ((⟨cellOf a, 0⟩ : PC K) :: l).map (·.c), tileOf zoom c ∈ s'.set) ∧
      (∀ t ∈ s.set, t ∈ s'.set) ∧
      s'.ring = s.ring.map (· ++ rows (cur.map (·.2)) (((⟨cellOf a, 0⟩ : PC K) :: l).map (·.c))) ∧
      St zoom s' (some (lastOf (⟨cellOf a, 0⟩ : PC K) l).c) := by
  obtain ⟨l, htr, rfl⟩ := segment_run hax hay hbx hby hab h
  obtain ⟨r1, r2⟩ := run_spec zoom (cellOf a :: l.map (·.c)) s cur hst
  rw [lastO_seg cur ⟨cellOf a, 0⟩ l] at r1
  exact ⟨l, htr.plink, fun v hv => (htr.sound v (List.mem_cons_of_mem _ hv)).2.1, htr.stop,
    fun c hc => (r2 _).2 (Or.inl (List.mem_map_of_mem hc)), fun t ht => (r2 t).2 (Or.inr ht),
    run_ring zoom _ s cur hst.prevAt, r1⟩

/-- parity of the `RA` transitions along `cur :: l` -/
def raParO (i j : ℕ) : Option (ℕ × ℕ) → List (ℕ × ℕ) → Bool
  | _, [] => false
  | none, c :: t => raParO i j (some c) t
  | some p, c :: t => RA (rightOf i) j p c != raParO i j (some c) t

def RAe (i j : ℕ) (se : (ℕ × ℕ) × (ℕ × ℕ)) : Bool := RA (rightOf i) j se.1 se.2

theorem raParO_eq_par (i j : ℕ) (l : List (ℕ × ℕ)) : ∀ cur : Option (ℕ × ℕ),
    raParO i j cur l = Contains.par (RAe i j) (Contains.chain (cur.toList ++ l)) := by
  induction l with
  | nil => intro cur; cases cur <;> rfl
  | cons c t ih =>
    intro cur
    cases cur with
    | none => exact ih (some c)
    | some p => rw [raParO, ih (some c)]; exact (Contains.par_cons (RAe i j) (p, c) _).symm

theorem raParO_append (i j : ℕ) (cur : Option (ℕ × ℕ)) (l1 l2 : List (ℕ × ℕ)) :
    raParO i j cur (l1 ++ l2) = (raParO i j cur l1 != raParO i j (lastO cur l1) l2) := by
  induction l1 generalizing cur with
  | nil => simp [raParO, lastO]
  | cons c t ih =>
    cases cur with
    | none => simp only [List.cons_append, raParO, lastO]; exact ih _
    | some p =>
      simp only [List.cons_append, raParO, lastO]; rw [ih]
      cases RA (rightOf i) j p c <;> cases raParO i j (some c) t <;>
        cases raParO i j (lastO (some c) t) l2 <;> rfl

theorem raPar_eq_raParO (i j : ℕ) (c : ℕ × ℕ) (t : List (ℕ × ℕ)) :
    raPar i j (c :: t) = raParO i j (some c) t :=
  (Contains.par_chain_of_rec rfl (fun _ => rfl) (fun _ _ _ => rfl) _).trans (raParO_eq_par i j t (some c)).symm

/-- even-odd crossing test: the horizontal ray from `q` to the right crosses the edge `a b` -/
def xCross (q a b : Pt K) : Bool :=
  decide ((a.y > q.y) ≠ (b.y > q.y)) &&
    decide (q.x < a.x + (q.y - a.y) * (b.x - a.x) / (b.y - a.y))

/-- parity of the number of crossing edges of an open chain -/
def xPar (q : Pt K) : List (Pt K) → Bool
  | a :: b :: t => xCross q a b != xPar q (b :: t)
  | _ => false

/-- the potential of a vertex `v` handled in the cell `c` -/
def psi (i j : ℕ) (q : Pt K) (c : ℕ × ℕ) (v : Pt K) : Bool := Rt i j c && decide (q.y < v.y)

theorem xFrom_zero (q a b : Pt K) : xFrom q a b 0 = xCross q a b := by
  simp only [xFrom, xCross, sP, segY, xint, zero_mul, add_zero, one_mul, add_sub_cancel, gt_iff_lt]
  by_cases h1 : q.y < a.y <;> by_cases h2 : q.y < b.y <;> simp [h1, h2] <;> congr

theorem xCross_self (q a : Pt K) : xCross q a a = false := by
  simp [xCross]

/-- The potential identity for one segment, with the hand-over from the cell `cur` emitted before it. -/
theorem segment_pot (i j : ℕ) (q : Pt K) (hqx : (i : K) < q.x ∧ q.x < (i : K) + 1)
    (hqy : (j : K) < q.y ∧ q.y < (j : K) + 1) (a b : Pt K) (hax : 0 ≤ a.x) (hay : 0 ≤ a.y)
    (l : List (PC K)) (hch : List.IsChain (PLink a b) (⟨cellOf a, 0⟩ :: l)) (hl1 : ∀ v ∈ l, v.τ ≤ 1)
    (hlast : InSq (lastOf (⟨cellOf a, 0⟩ : PC K) l).c (segX a b 1) (segY a b 1))
    (cur : Option (ℕ × ℕ)) (hin : ∀ p, cur = some p → InSq p a.x a.y)
    (hne : ∀ c ∈ cur.toList ++ cellOf a :: l.map (·.c), c ≠ (i, j)) :
    (xCross q a b != raParO i j cur (cellOf a :: l.map (·.c))) =
      ((Rt i j (lastOf (⟨cellOf a, 0⟩ : PC K) l).c && decide (q.y < b.y)) !=
        (Rt i j (cur.getD (cellOf a)) && decide (q.y < a.y))) := by
  have hin0 : InSq (cellOf a) a.x a.y := inSq_cellOf a hax hay
  have hne1 : ∀ v ∈ (⟨cellOf a, 0⟩ : PC K) :: l, v.c ≠ (i, j) := fun v hv =>
    hne v.c (List.mem_append_right _ (List.mem_map.mpr ⟨v, hv, rfl⟩))
  have POT := pchain_pot i j q hqx hqy a b l ⟨cellOf a, 0⟩ hch
    (by simpa [segX, segY] using hin0)
    (fun v hv => (List.mem_cons.mp hv).elim (fun h => h ▸ zero_le_one) (hl1 v))
    hlast hne1
  have e0 : sP q a b 0 = decide (q.y < a.y) := by simp [sP, segY]
  have e1 : sP q a b 1 = decide (q.y < b.y) := by simp [sP, segY]
  rw [e0, e1, xFrom_zero, List.map_cons, raPar_eq_raParO] at POT
  cases cur with
  | none => exact POT
  | some p =>
    have J := junction i j q hqy p (cellOf a) a.x a.y (hin p rfl) hin0 (hne p List.mem_cons_self)
      (hne1 _ List.mem_cons_self)
    simp only [raParO, Option.getD_some]
    rw [← J] at POT
    revert POT
    generalize xCross q a b = X
    generalize raParO i j (some (cellOf a)) (l.map (·.c)) = T
    generalize (Rt i j (lastOf (⟨cellOf a, 0⟩ : PC K) l).c && decide (q.y < b.y)) = P1
    generalize (Rt i j p && decide (q.y < a.y)) = Pp
    generalize RA (rightOf i) j p (cellOf a) = A
    cases X <;> cases T <;> cases P1 <;> cases Pp <;> cases A <;> decide

theorem LTrace.pot (i j : ℕ) (q : Pt K) (hqx : (i : K) < q.x ∧ q.x < (i : K) + 1)
    (hqy : (j : K) < q.y ∧ q.y < (j : K) + 1) {pts : List (Pt K)} {cells : List (ℕ × ℕ)}
    (h : LTrace pts cells) (hnn : ∀ p ∈ pts, 0 ≤ p.x ∧ 0 ≤ p.y) :
    ∀ cur : Option (ℕ × ℕ), (∀ p v, cur = some p → pts.head? = some v → InSq p v.x v.y) →
      (∀ c ∈ cur.toList ++ cells, c ≠ (i, j)) → ∀ v0 vl, pts.head? = some v0 → pts.getLast? = some vl →
      (xPar q pts != raParO i j cur cells) =
        (psi i j q ((lastO cur cells).getD (cellOf vl)) vl != psi i j q (cur.getD (cellOf v0)) v0) := by
  induction h with
  | nil => exact fun cur _ _ v0 vl h0 => nomatch h0
  | single a =>
    intro cur _ _ v0 vl h0 hl
    cases h0; cases hl
    simp [xPar, raParO, lastO]
  | @skip a rest cells _ ih =>
    intro cur hin hne v0 vl h0 hl
    rw [List.getLast?_cons_cons] at hl
    have := ih (fun p hp => hnn p (List.mem_cons_of_mem _ hp)) cur hin hne v0 vl h0 hl
    simp only [xPar, xCross_self, Bool.false_bne]
    exact this
  | @seg a b rest l cells hab htr hrest ih =>
    intro cur hin hne v0 vl h0 hl
    cases h0
    rw [List.getLast?_cons_cons] at hl
    have ha := hnn a List.mem_cons_self
    have hlo := lastO_seg cur (⟨cellOf a, 0⟩ : PC K) l
    have hmem : (lastOf (⟨cellOf a, 0⟩ : PC K) l).c ∈ cellOf a :: l.map (·.c) :=
      List.mem_map.mpr ⟨_, lastOf_mem (⟨cellOf a, 0⟩ : PC K) l, rfl⟩
    have hne1 : ∀ c ∈ cellOf a :: l.map (·.c), c ≠ (i, j) := fun c hc =>
      hne c (List.mem_append_right _ (List.mem_append_left _ hc))
    have IH := ih (fun p hp => hnn p (List.mem_cons_of_mem _ hp)) (some (lastOf ⟨cellOf a, 0⟩ l).c)
      (fun p v hp hv => by cases hp; cases hv; exact htr.stop_at)
      (fun c hc => by
        rcases List.mem_cons.mp hc with rfl | hc
        · exact hne1 _ hmem
        · exact hne c (List.mem_append_right _ (List.mem_append_right _ hc))) b vl rfl hl
    have SP := segment_pot i j q hqx hqy a b ha.1 ha.2 l htr.plink
      (fun v hv => (htr.sound v (List.mem_cons_of_mem _ hv)).2.1) htr.stop cur
      (fun p hp => hin p a hp rfl) (fun c hc => hne c (by
        rw [← List.append_assoc]; exact List.mem_append_left _ hc))
    rw [raParO_append, lastO_append, hlo]
    simp only [xPar]
    simp only [Option.getD_some, psi] at IH ⊢
    rw [bne_regroup, SP, IH]
    exact bne_comm.trans (bne_telescope _ _ _)

/-- The segment loop of `line` as a list of visited cells: set, ring trace, final state, adjacency of
    consecutive cells, and the potential identity for a query point `q` strictly inside an unvisited
    tile `(i, j)`. -/
theorem lineSegs_trace (zoom fuel : Nat) (i j : ℕ) (q : Pt K)
    (hqx : (i : K) < q.x ∧ q.x < (i : K) + 1) (hqy : (j : K) < q.y ∧ q.y < (j : K) + 1) :
    ∀ (pts : List (Pt K)) (s s' : LState K) (cur : Option (ℕ × ℕ)),
      (∀ p ∈ pts, 0 ≤ p.x ∧ 0 ≤ p.y) → St zoom s cur →
      (∀ p v, cur = some p → pts.head? = some v → InSq p v.x v.y) →
      lineSegs (opsK K) zoom fuel s pts = some s' →
      ∃ cells : List (ℕ × ℕ),
        (∀ c ∈ cells, tileOf zoom c ∈ s'.set) ∧ (∀ t ∈ s.set, t ∈ s'.set) ∧
        s'.ring = s.ring.map (· ++ rows (cur.map (·.2)) cells) ∧
        St zoom s' (lastO cur cells) ∧
        chainO Near cur cells ∧
        (∀ p v, lastO cur cells = some p → pts.getLast? = some v → InSq p v.x v.y) ∧
        (cur = none → ∀ c v, cells.head? = some c → pts.head? = some v → c = cellOf v) ∧
        ((∀ c ∈ cur.toList ++ cells, c ≠ (i, j)) → ∀ v0 vl, pts.head? = some v0 →
          pts.getLast? = some vl →
          (xPar q pts != raParO i j cur cells) =
            (psi i j q ((lastO cur cells).getD (cellOf vl)) vl != psi i j q (cur.getD (cellOf v0)) v0)) := by
  intro pts s s' cur hnn hst hin h
  obtain ⟨cells, htr, rfl⟩ := lineSegs_run zoom fuel pts s s' hnn h
  obtain ⟨r1, r2⟩ := run_spec zoom cells s cur hst
  obtain ⟨n1, n2, n3⟩ := htr.near hnn cur hin
  exact ⟨cells, fun c hc => (r2 _).2 (Or.inl (List.mem_map_of_mem hc)), fun t ht => (r2 t).2 (Or.inr ht),
    run_ring zoom cells s cur hst.prevAt, r1, n1, n2, fun _ => n3, htr.pot i j q hqx hqy hnn cur hin⟩

end trace
end Orb.TileCover
