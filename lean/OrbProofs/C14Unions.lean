/-
  `line` and `polygon` only ever add tiles to the set they are handed, and what they add does not depend
  on it (any number type, in particular the Float twin): hence the cover of a multi-line-string or
  multi-polygon is the union of its members' covers, or the outcome of the first member without one, and
  a result of `traceRings`, `multiLine`, `multiPolygon` is read off the list of its members' outputs.
  In exact arithmetic the ring loop of `polygon` is sound and complete edge by edge, which gives boundary
  completeness and the bound by the vertices' box.
-/
import OrbProofs.C14Trace
import OrbProofs.ResForall

namespace Orb.TileCover
open Orb Orb.Tile

section generic
set_option linter.unusedSectionVars false
variable {α : Type} [Add α] [Sub α] [Div α] [Neg α] [OfNat α 0] [OfNat α 1] [LT α] [DecidableLT α] [BEq α]

/-- the same state over a larger starting set -/
def LState.addSet (s : LState α) (base : List Tile) : LState α := { s with set := s.set ++ base }

theorem emit_addSet (ops : Ops α) (zoom : Nat) (s : LState α) (base : List Tile) :
    LState.emit ops zoom (s.addSet base) = (LState.emit ops zoom s).addSet base := rfl

theorem walk_addSet (ops : Ops α) (zoom : Nat) (sx sy tdx tdy : α) (base : List Tile) :
    ∀ (fuel : Nat) (tMaxX tMaxY : Option α) (s : LState α),
      walk ops zoom sx sy tdx tdy fuel tMaxX tMaxY (s.addSet base) =
        (walk ops zoom sx sy tdx tdy fuel tMaxX tMaxY s).map (·.addSet base) := by
  intro fuel
  induction fuel with
  | zero =>
    intro tX tY s
    simp only [walk]
    split <;> rfl
  | succ n ih =>
    intro tX tY s
    simp only [walk]
    split
    · split
      · exact ih _ _ (LState.emit ops zoom { s with x := s.x + sx })
      · exact ih _ _ (LState.emit ops zoom { s with y := s.y + sy })
    · rfl

theorem segment_addSet (ops : Ops α) (zoom fuel : Nat) (s : LState α) (a b : Pt α) (base : List Tile) :
    segment ops zoom fuel (s.addSet base) a b = (segment ops zoom fuel s a b).map (·.addSet base) := by
  unfold segment
  dsimp only
  by_cases hc : (b.y - a.y == 0 && b.x - a.x == 0) = true
  · rw [if_pos hc, if_pos hc]; rfl
  · rw [if_neg hc, if_neg hc]
    refine Eq.trans ?_ (walk_addSet ops zoom _ _ _ _ base fuel _ _ _)
    congr 1
    have key : ∀ (c : Prop) [Decidable c] (A B : LState α),
        (if c then A.addSet base else B.addSet base) = (if c then A else B).addSet base := by
      intro c _ A B; split <;> rfl
    exact key _ (LState.emit ops zoom { s with x := ops.floor a.x, y := ops.floor a.y })
      { s with x := ops.floor a.x, y := ops.floor a.y }

theorem lineSegs_addSet (ops : Ops α) (zoom fuel : Nat) (base : List Tile) :
    ∀ (pts : List (Pt α)) (s : LState α),
      lineSegs ops zoom fuel (s.addSet base) pts = (lineSegs ops zoom fuel s pts).map (·.addSet base) := by
  intro pts
  induction pts with
  | nil => intro s; simp only [lineSegs, Option.map_some]
  | cons a l ih =>
    intro s
    cases l with
    | nil => simp only [lineSegs, Option.map_some]
    | cons b l' =>
      rw [lineSegs, lineSegs, segment_addSet]
      cases segment ops zoom fuel s a b with
      | none => rfl
      | some s1 =>
        simp only [Option.map_some, Option.bind_some]
        exact ih s1

/-- `line` over a larger starting set: the same tiles are added, the same ring trace is returned. -/
theorem line_append (ops : Ops α) (zoom fuel : Nat) (set base : List Tile) (pts : List (Pt α))
    (ring : Option (List (Nat × Nat))) :
    line ops zoom fuel (set ++ base) pts ring =
      (line ops zoom fuel set pts ring).map (fun r => (r.1 ++ base, r.2)) := by
  have h := lineSegs_addSet ops zoom fuel base pts ⟨set, ring, -1, -1, 0, 0⟩
  change lineSegs ops zoom fuel ⟨set ++ base, ring, -1, -1, 0, 0⟩ pts = _ at h
  rw [line_eq, line_eq, h]
  cases lineSegs ops zoom fuel ⟨set, ring, -1, -1, 0, 0⟩ pts <;> rfl

theorem line_nil_append (ops : Ops α) (zoom fuel : Nat) (base : List Tile) (pts : List (Pt α))
    (ring : Option (List (Nat × Nat))) :
    line ops zoom fuel base pts ring =
      (line ops zoom fuel [] pts ring).map (fun r => (r.1 ++ base, r.2)) :=
  line_append ops zoom fuel [] base pts ring

theorem foldl_pair_add {γ δ : Type} (T : γ → List Tile) (I : γ → List δ) :
    ∀ (os : List γ) (set : List Tile) (inter : List δ),
      os.foldl (fun (s : List Tile × List δ) o => (T o ++ s.1, s.2 ++ I o)) (set, inter) =
        (os.reverse.flatMap T ++ set, inter ++ os.flatMap I)
  | [], _, _ => by simp
  | o :: os, set, inter => by
    rw [List.foldl_cons, foldl_pair_add T I os]
    simp [List.append_assoc]

/-- The ring loop of `polygon` as an equation: `line` on every ring from the empty set, then the rings' tiles
    on top of the set and their filtered traces after the intersections, in order. -/
theorem traceRings_eq (ops : Ops α) (zoom fuel : Nat) (rs : List (List (Pt α))) (set : List Tile)
    (inter : List (Nat × Nat)) :
    traceRings ops zoom fuel set inter rs =
      (C20M.resMapM (fun r => line ops zoom fuel [] r (some [])) rs).map fun os =>
        (os.reverse.flatMap (·.1) ++ set, inter ++ os.flatMap fun o => ringIntersections (o.2.getD [])) := by
  rw [traceRings_eq_loop, foldlM_res_eq_resMapM (g := fun r => line ops zoom fuel [] r (some []))
    (add := fun o s => (o.1 ++ s.1, s.2 ++ ringIntersections (o.2.getD []))) (fun s r => by
      rw [line_nil_append]; cases line ops zoom fuel [] r (some []) <;> rfl)]
  simp only [foldl_pair_add (fun o : List Tile × Option (List (Nat × Nat)) => o.1)]

theorem traceRings_append (ops : Ops α) (zoom fuel : Nat) (base : List Tile) :
    ∀ (rings : List (List (Pt α))) (set : List Tile) (inter : List (Nat × Nat)),
      traceRings ops zoom fuel (set ++ base) inter rings =
        (traceRings ops zoom fuel set inter rings).map (fun r => (r.1 ++ base, r.2)) := by
  intro rings set inter
  rw [traceRings_eq, traceRings_eq]
  cases C20M.resMapM (fun r => line ops zoom fuel [] r (some [])) rings <;> simp [Res.map]

/-- `polygon` over a larger starting set: the same tiles are added. -/
theorem polygon_append (ops : Ops α) (zoom fuel : Nat) (set base : List Tile) (rings : List (List (Pt α))) :
    polygon ops zoom fuel (set ++ base) rings = (polygon ops zoom fuel set rings).map (· ++ base) := by
  unfold polygon
  rw [traceRings_append]
  cases traceRings ops zoom fuel set [] rings with
  | ok res =>
    obtain ⟨s1, inter⟩ := res
    simp only [Res.map]
    split
    · rfl
    · simp only [List.append_assoc]
  | err e => rfl
  | panic w => rfl

theorem polygon_nil_append (ops : Ops α) (zoom fuel : Nat) (base : List Tile) (rings : List (List (Pt α))) :
    polygon ops zoom fuel base rings = (polygon ops zoom fuel [] rings).map (· ++ base) :=
  polygon_append ops zoom fuel [] base rings

theorem mem_foldl_add {γ : Type} (T : γ → List Tile) (os : List γ) : ∀ (set : List Tile) (t : Tile),
    t ∈ os.foldl (fun s o => T o ++ s) set ↔ t ∈ set ∨ ∃ o ∈ os, t ∈ T o := by
  induction os with
  | nil => intro set t; simp
  | cons o os ih =>
    intro set t
    rw [List.foldl_cons, ih, List.mem_append]
    constructor
    · rintro ((h | h) | ⟨o', ho', h⟩)
      · exact .inr ⟨o, List.mem_cons_self, h⟩
      · exact .inl h
      · exact .inr ⟨o', List.mem_cons_of_mem _ ho', h⟩
    · rintro (h | ⟨o', ho', h⟩)
      · exact .inl (.inr h)
      · rcases List.mem_cons.1 ho' with rfl | ho'
        · exact .inl (.inl h)
        · exact .inr ⟨o', ho', h⟩

theorem traceRings_ok_iff (ops : Ops α) (zoom fuel : Nat) (rs : List (List (Pt α))) (set set' : List Tile)
    (inter inter' : List (Nat × Nat)) :
    traceRings ops zoom fuel set inter rs = .ok (set', inter') ↔
      ∃ os, List.Forall₂ (fun r o => line ops zoom fuel [] r (some []) = .ok o) rs os ∧
        set' = os.reverse.flatMap (·.1) ++ set ∧
        inter' = inter ++ os.flatMap fun o => ringIntersections (o.2.getD []) := by
  rw [traceRings_eq, C20M.map_resMapM_ok_iff]
  simp only [Prod.mk.injEq]

theorem traceRings_total (ops : Ops α) (zoom fuel : Nat) (rs : List (List (Pt α))) (set : List Tile)
    (inter : List (Nat × Nat)) (h : ∀ r ∈ rs, ∃ o, line ops zoom fuel [] r (some []) = .ok o) :
    ∃ res, traceRings ops zoom fuel set inter rs = .ok res :=
  (exists_forall₂ rs h).elim fun os hos => ⟨_, (traceRings_ok_iff ..).2 ⟨os, hos, rfl, rfl⟩⟩

/-- one call of `line` without a ring trace, the body of the `multiLine` loop -/
theorem line_adds (ops : Ops α) (zoom fuel : Nat) (set : List Tile) (l : List (Pt α)) :
    (line ops zoom fuel set l none).map (·.1) = (line ops zoom fuel [] l none).map fun o => o.1 ++ set := by
  rw [line_nil_append]
  cases line ops zoom fuel [] l none <;> rfl

theorem multiLine_ok {ops : Ops α} {zoom fuel : Nat} {ls : List (List (Pt α))} {set S : List Tile}
    (h : multiLine ops zoom fuel set ls = .ok S) :
    ∃ os, List.Forall₂ (fun l o => line ops zoom fuel [] l none = .ok o) ls os ∧
      ∀ t, t ∈ S ↔ t ∈ set ∨ ∃ o ∈ os, t ∈ o.1 := by
  rw [multiLine_eq_loop, foldlM_res_ok_iff (g := fun l => line ops zoom fuel [] l none)
    (add := fun o s => o.1 ++ s) (line_adds ops zoom fuel)] at h
  obtain ⟨os, hos, rfl⟩ := h
  exact ⟨os, hos, mem_foldl_add (·.1) os set⟩

theorem multiPolygon_ok {ops : Ops α} {zoom fuel : Nat} {ps : List (List (List (Pt α)))} {set S : List Tile}
    (h : multiPolygon ops zoom fuel set ps = .ok S) :
    ∃ os, List.Forall₂ (fun p o => polygon ops zoom fuel [] p = .ok o) ps os ∧
      ∀ t, t ∈ S ↔ t ∈ set ∨ ∃ o ∈ os, t ∈ o := by
  rw [multiPolygon_eq_loop, foldlM_res_ok_iff (g := polygon ops zoom fuel []) (add := fun o s => o ++ s)
    (polygon_nil_append ops zoom fuel)] at h
  obtain ⟨os, hos, rfl⟩ := h
  exact ⟨os, hos, mem_foldl_add id os set⟩


theorem multiLine_union (ops : Ops α) (zoom fuel : Nat) :
    ∀ (ls : List (List (Pt α))) (set : List Tile),
      (∀ l ∈ ls, ∃ r, line ops zoom fuel [] l none = .ok r) →
      ∃ S, multiLine ops zoom fuel set ls = .ok S ∧
        ∀ t, t ∈ S ↔ (t ∈ set ∨ ∃ l ∈ ls, ∃ r, line ops zoom fuel [] l none = .ok r ∧ t ∈ r.1) := by
  intro ls set hs
  obtain ⟨S, hS, hmem⟩ := foldlM_union (line_adds ops zoom fuel) ls set hs
  exact ⟨S, (multiLine_eq_loop ops zoom fuel ls set).trans hS, hmem⟩

theorem multiLine_error (ops : Ops α) (zoom fuel : Nat) (l : List (Pt α)) (ls₂ : List (List (Pt α)))
    (hl : (line ops zoom fuel [] l none).isOk = false) :
    ∀ (ls₁ : List (List (Pt α))) (set : List Tile),
      (∀ l' ∈ ls₁, ∃ r, line ops zoom fuel [] l' none = .ok r) →
      multiLine ops zoom fuel set (ls₁ ++ l :: ls₂) = (line ops zoom fuel [] l none).map (·.1) := by
  intro ls₁ set hs
  rw [multiLine_eq_loop]
  exact foldlM_error (line_adds ops zoom fuel) l ls₂ hl ls₁ set hs []

theorem multiPolygon_union (ops : Ops α) (zoom fuel : Nat) :
    ∀ (ps : List (List (List (Pt α)))) (set : List Tile),
      (∀ p ∈ ps, ∃ s, polygon ops zoom fuel [] p = .ok s) →
      ∃ S, multiPolygon ops zoom fuel set ps = .ok S ∧
        ∀ t, t ∈ S ↔ (t ∈ set ∨ ∃ p ∈ ps, ∃ s, polygon ops zoom fuel [] p = .ok s ∧ t ∈ s) := by
  intro ps set hs
  obtain ⟨S, hS, hmem⟩ := foldlM_union (polygon_nil_append ops zoom fuel) ps set hs
  exact ⟨S, (multiPolygon_eq_loop ops zoom fuel ps set).trans hS, hmem⟩

theorem multiPolygon_error (ops : Ops α) (zoom fuel : Nat) (p : List (List (Pt α)))
    (ps₂ : List (List (List (Pt α)))) (hp : (polygon ops zoom fuel [] p).isOk = false) :
    ∀ (ps₁ : List (List (List (Pt α)))) (set : List Tile),
      (∀ p' ∈ ps₁, ∃ s, polygon ops zoom fuel [] p' = .ok s) →
      multiPolygon ops zoom fuel set (ps₁ ++ p :: ps₂) = polygon ops zoom fuel [] p := by
  intro ps₁ set hs
  rw [multiPolygon_eq_loop]
  exact foldlM_error (polygon_nil_append ops zoom fuel) p ps₂ hp ps₁ set hs []

theorem cover_lineString_ok_iff (ops : Ops α) (frac : Pt α → Pt α) (zoom fuel : Nat) (l : List (Pt α))
    (s : List Tile) :
    cover ops frac zoom fuel (.lineString l) = .ok s ↔
      ∃ r, line ops zoom fuel [] (l.map frac) none = .ok r ∧ r.1 = s := by
  simp only [cover]
  cases line ops zoom fuel [] (l.map frac) none with
  | ok r => simp [Res.map]
  | err e => simp [Res.map]
  | panic w => simp [Res.map]

theorem cover_multiLineString_eq (ops : Ops α) (frac : Pt α → Pt α) (zoom fuel : Nat)
    (ls : List (List (Pt α))) :
    cover ops frac zoom fuel (.multiLineString ls) =
      ls.foldlM (fun set l => (line ops zoom fuel set (l.map frac) none).map (·.1)) [] := by
  rw [cover, multiLine_eq_loop, List.foldlM_map]

theorem cover_lineString_adds (ops : Ops α) (frac : Pt α → Pt α) (zoom fuel : Nat) (set : List Tile)
    (l : List (Pt α)) :
    (line ops zoom fuel set (l.map frac) none).map (·.1) =
      (cover ops frac zoom fuel (.lineString l)).map (· ++ set) := by
  rw [cover, line_adds]
  cases line ops zoom fuel [] (l.map frac) none <;> rfl

/-- The cover of a multi-line-string whose members all have covers is their union. -/
theorem cover_multiLineString_union' (ops : Ops α) (frac : Pt α → Pt α) (zoom fuel : Nat)
    (ls : List (List (Pt α)))
    (hs : ∀ l ∈ ls, ∃ s, cover ops frac zoom fuel (.lineString l) = .ok s) :
    ∃ S, cover ops frac zoom fuel (.multiLineString ls) = .ok S ∧
      ∀ t, t ∈ S ↔ ∃ l ∈ ls, ∃ s, cover ops frac zoom fuel (.lineString l) = .ok s ∧ t ∈ s := by
  obtain ⟨S, hS, hmem⟩ := foldlM_union (g := fun l => cover ops frac zoom fuel (.lineString l))
    (cover_lineString_adds ops frac zoom fuel) ls [] hs
  exact ⟨S, (cover_multiLineString_eq ops frac zoom fuel ls).trans hS,
    fun t => (hmem t).trans (or_iff_right List.not_mem_nil)⟩

/-- … and otherwise the outcome of the first member without a cover. -/
theorem cover_multiLineString_error' (ops : Ops α) (frac : Pt α → Pt α) (zoom fuel : Nat)
    (ls₁ : List (List (Pt α))) (l : List (Pt α)) (ls₂ : List (List (Pt α)))
    (hs : ∀ l' ∈ ls₁, ∃ s, cover ops frac zoom fuel (.lineString l') = .ok s)
    (hl : (cover ops frac zoom fuel (.lineString l)).isOk = false) :
    cover ops frac zoom fuel (.multiLineString (ls₁ ++ l :: ls₂)) = cover ops frac zoom fuel (.lineString l) := by
  rw [cover_multiLineString_eq]
  exact (foldlM_error (g := fun l => cover ops frac zoom fuel (.lineString l))
    (cover_lineString_adds ops frac zoom fuel) l ls₂ hl ls₁ [] hs []).trans (by rw [cover])

theorem cover_polygon_eq (ops : Ops α) (frac : Pt α → Pt α) (zoom fuel : Nat) (p : List (List (Pt α))) :
    cover ops frac zoom fuel (.polygon p) = polygon ops zoom fuel [] (p.map (·.map frac)) := by
  simp only [cover]

theorem cover_multiPolygon_eq (ops : Ops α) (frac : Pt α → Pt α) (zoom fuel : Nat)
    (ps : List (List (List (Pt α)))) :
    cover ops frac zoom fuel (.multiPolygon ps) =
      ps.foldlM (fun set p => polygon ops zoom fuel set (p.map (·.map frac))) [] := by
  rw [cover, multiPolygon_eq_loop, List.foldlM_map]

/-- The cover of a multi-polygon whose members all have covers is their union. -/
theorem cover_multiPolygon_union' (ops : Ops α) (frac : Pt α → Pt α) (zoom fuel : Nat)
    (ps : List (List (List (Pt α))))
    (hs : ∀ p ∈ ps, ∃ s, cover ops frac zoom fuel (.polygon p) = .ok s) :
    ∃ S, cover ops frac zoom fuel (.multiPolygon ps) = .ok S ∧
      ∀ t, t ∈ S ↔ ∃ p ∈ ps, ∃ s, cover ops frac zoom fuel (.polygon p) = .ok s ∧ t ∈ s := by
  obtain ⟨S, hS, hmem⟩ := foldlM_union (g := fun p => cover ops frac zoom fuel (.polygon p))
    (fun set p => (polygon_nil_append ops zoom fuel set _).trans (by rw [cover_polygon_eq])) ps [] hs
  exact ⟨S, (cover_multiPolygon_eq ops frac zoom fuel ps).trans hS,
    fun t => (hmem t).trans (or_iff_right List.not_mem_nil)⟩

/-- … and otherwise the outcome of the first member without a cover (`ErrUnevenIntersections`). -/
theorem cover_multiPolygon_error' (ops : Ops α) (frac : Pt α → Pt α) (zoom fuel : Nat)
    (ps₁ : List (List (List (Pt α)))) (p : List (List (Pt α))) (ps₂ : List (List (List (Pt α))))
    (hs : ∀ p' ∈ ps₁, ∃ s, cover ops frac zoom fuel (.polygon p') = .ok s)
    (hp : (cover ops frac zoom fuel (.polygon p)).isOk = false) :
    cover ops frac zoom fuel (.multiPolygon (ps₁ ++ p :: ps₂)) = cover ops frac zoom fuel (.polygon p) := by
  rw [cover_multiPolygon_eq]
  exact (foldlM_error (g := fun p => cover ops frac zoom fuel (.polygon p))
    (fun set p => (polygon_nil_append ops zoom fuel set _).trans (by rw [cover_polygon_eq])) p ps₂ hp ps₁ [] hs
    []).trans (cover_polygon_eq ops frac zoom fuel p).symm

/-- every entry of the ring trace has its tile in the set -/
def CovIn (zoom : Nat) (s : LState α) : Prop :=
  ∀ r, s.ring = some r → ∀ e ∈ r, (⟨e.1, e.2, zoom⟩ : Tile) ∈ s.set

theorem walk_invariant (ops : Ops α) (zoom : Nat) (sx sy tdx tdy : α) {P : LState α → Prop}
    (hx : ∀ s, P s → P (LState.emit ops zoom { s with x := s.x + sx }))
    (hy : ∀ s, P s → P (LState.emit ops zoom { s with y := s.y + sy })) (fuel : Nat) :
    ∀ (tMaxX tMaxY : Option α) (s s' : LState α),
      walk ops zoom sx sy tdx tdy fuel tMaxX tMaxY s = some s' → P s → P s' := by
  induction fuel with
  | zero =>
    intro tMaxX tMaxY s s' h hs
    rw [walk] at h
    split at h
    · cases h
    · cases h; exact hs
  | succ fuel ih =>
    intro tMaxX tMaxY s s' h hs
    rw [walk] at h
    split at h
    · split at h
      · exact ih _ _ _ _ h (hx s hs)
      · exact ih _ _ _ _ h (hy s hs)
    · cases h; exact hs

theorem covIn_emit (ops : Ops α) (zoom : Nat) (s : LState α) (h : CovIn zoom s) :
    CovIn zoom (LState.emit ops zoom s) := by
  intro r hr e he
  cases hring : s.ring with
  | none => simp only [LState.emit, hring] at hr; cases hr
  | some r0 =>
    simp only [LState.emit, hring] at hr ⊢
    have hold : ∀ e ∈ r0, (⟨e.1, e.2, zoom⟩ : Tile) ∈ (⟨ops.toU32 s.x, ops.toU32 s.y, zoom⟩ : Tile) :: s.set :=
      fun e he => List.mem_cons_of_mem _ (h r0 hring e he)
    split at hr
    · cases hr
      rcases List.mem_append.1 he with he | he
      · exact hold e he
      · rw [List.mem_singleton] at he
        subst he
        exact List.mem_cons_self ..
    · cases hr
      exact hold e he

theorem covIn_segment (ops : Ops α) (zoom fuel : Nat) (s s' : LState α) (start stop : Pt α)
    (h : segment ops zoom fuel s start stop = some s') (hg : CovIn zoom s) : CovIn zoom s' := by
  unfold segment at h
  dsimp only at h
  by_cases hc : (stop.y - start.y == 0 && stop.x - start.x == 0) = true
  · rw [if_pos hc] at h; cases h; exact hg
  · rw [if_neg hc] at h
    refine walk_invariant ops zoom _ _ _ _ (P := CovIn zoom)
      (fun s hs => covIn_emit ops zoom { s with x := s.x + _ } hs)
      (fun s hs => covIn_emit ops zoom { s with y := s.y + _ } hs) fuel _ _ _ _ h ?_
    split
    · exact covIn_emit ops zoom _ hg
    · exact hg

theorem covIn_lineSegs (ops : Ops α) (zoom fuel : Nat) (pts : List (Pt α)) :
    ∀ (s s' : LState α), lineSegs ops zoom fuel s pts = some s' → CovIn zoom s → CovIn zoom s' := by
  induction pts with
  | nil => intro s s' h hg; simp only [lineSegs] at h; cases h; exact hg
  | cons a l ih =>
    intro s s' h hg
    cases l with
    | nil => simp only [lineSegs] at h; cases h; exact hg
    | cons b l' =>
      rw [lineSegs] at h
      cases hseg : segment ops zoom fuel s a b with
      | none => rw [hseg] at h; cases h
      | some s1 =>
        rw [hseg] at h
        exact ih s1 s' h (covIn_segment ops zoom fuel s s1 a b hseg hg)

theorem covIn_line (ops : Ops α) (zoom fuel : Nat)
    (set : List Tile) (pts : List (Pt α)) (set' : List Tile) (ring : Option (List (Nat × Nat)))
    (h : line ops zoom fuel set pts (some []) = .ok (set', ring)) :
    ∀ e ∈ ring.getD [], (⟨e.1, e.2, zoom⟩ : Tile) ∈ set' := by
  obtain ⟨s, hs, hr⟩ := line_ok h
  have hg : CovIn zoom s := covIn_lineSegs ops zoom fuel pts _ s hs fun r hr e he => by cases hr; cases he
  obtain ⟨rfl, rfl⟩ := Prod.mk.inj hr
  intro e he
  cases hring : s.ring with
  | none => simp only [hring, Option.map_none, Option.getD_none] at he; cases he
  | some r =>
    simp only [hring, Option.map_some, Option.getD_some] at he
    split at he
    · exact hg r hring e (List.dropLast_subset _ he)
    · exact hg r hring e he

/-- every intersection the ring loop collects is a traced tile -/
theorem covIn_traceRings (ops : Ops α) (zoom fuel : Nat)
    (rings : List (List (Pt α))) :
    ∀ (set : List Tile) (inter : List (Nat × Nat)) (set' : List Tile) (inter' : List (Nat × Nat)),
      traceRings ops zoom fuel set inter rings = .ok (set', inter') →
      (∀ e ∈ inter, (⟨e.1, e.2, zoom⟩ : Tile) ∈ set) →
      (∀ t ∈ set, t ∈ set') ∧ ∀ e ∈ inter', (⟨e.1, e.2, zoom⟩ : Tile) ∈ set' := by
  intro set inter set' inter' h hin
  obtain ⟨os, hos, rfl, rfl⟩ := (traceRings_ok_iff ..).1 h
  refine ⟨fun t ht => List.mem_append_right _ ht, fun e he => ?_⟩
  rcases List.mem_append.1 he with he | he
  · exact List.mem_append_right _ (hin e he)
  · obtain ⟨o, ho, heo⟩ := List.mem_flatMap.1 he
    obtain ⟨r, -, hro⟩ := forall₂_mem_right hos ho
    exact List.mem_append_left _ (List.mem_flatMap.2 ⟨o, List.mem_reverse.2 ho,
      covIn_line ops zoom fuel [] r o.1 o.2 hro e (ringIntersections_subset _ e heo)⟩)

/-- Every tile of a polygon cover is a traced tile or was filled on the row of a traced tile, strictly
    between two traced tiles — provided no INTERSECTION ENTRY sits in the last `uint32` column (the Go
    loop `for x := I[i].x + 1; …` would wrap there).  The hypothesis concerns only the entries of the
    intersection list of this very input. -/
theorem polygon_within_trace_bound' (ops : Ops α) (zoom fuel : Nat)
    (rings : List (List (Pt α))) (S : List Tile) (h : polygon ops zoom fuel [] rings = .ok S) :
    ∃ set' inter, traceRings ops zoom fuel [] [] rings = .ok (set', inter) ∧
      (∀ e ∈ inter, (⟨e.1, e.2, zoom⟩ : Tile) ∈ set') ∧
      ((∀ e ∈ inter, e.1 + 1 < 2 ^ 32) →
        ∀ t ∈ S, t ∈ set' ∨
          ∃ a b, a ∈ set' ∧ b ∈ set' ∧ t.z = zoom ∧ t.y = a.y ∧ a.x < t.x ∧ t.x < b.x) := by
  obtain ⟨set', inter, heq, -, rfl⟩ := polygon_ok h
  obtain ⟨-, hent⟩ := covIn_traceRings ops zoom fuel rings [] [] set' inter heq
    (fun e he => by cases he)
  refine ⟨set', inter, heq, hent, ?_⟩
  intro hU t ht
  rcases List.mem_append.1 ht with ht | ht
  · right
    obtain ⟨hz, a, ha, b, hb, hy, hlo, hhi⟩ := fillPairs_mem zoom _ t ht
    have hA := hent a (List.mem_mergeSort.1 ha)
    have hB := hent b (List.mem_mergeSort.1 hb)
    refine ⟨⟨a.1, a.2, zoom⟩, ⟨b.1, b.2, zoom⟩, hA, hB, hz, hy, ?_, hhi⟩
    have := add32_eq (hU a (List.mem_mergeSort.1 ha))
    show a.1 < t.x
    omega
  · exact Or.inl ht

end generic

section exact
variable {K : Type} [Field K] [LinearOrder K] [IsStrictOrderedRing K] [FloorRing K]
set_option linter.unusedSectionVars false

/-- the tile `c` meets the segment `a → b` (closed square); `dda_sound`, `lineString_cover_exact` and
    `multiLineString_cover_exact'` spell the same conjunction out -/
def Meets (ax bx ay by_ : K) (c : Tile) : Prop :=
  ∃ t : K, 0 ≤ t ∧ t ≤ 1 ∧
    (c.x : K) ≤ ax + t * (bx - ax) ∧ ax + t * (bx - ax) ≤ (c.x : K) + 1 ∧
    (c.y : K) ≤ ay + t * (by_ - ay) ∧ ay + t * (by_ - ay) ≤ (c.y : K) + 1

/-- `line` (with or without a ring trace) from any starting set, edge by edge -/
theorem line_geo (zoom fuel : Nat) (set : List Tile) (pts : List (Pt K))
    (ring : Option (List (Nat × Nat))) (hnn : ∀ p ∈ pts, 0 ≤ p.x ∧ 0 ≤ p.y)
    (r : List Tile × Option (List (Nat × Nat)))
    (h : line (opsK K) zoom fuel set pts ring = .ok r) :
    (∀ c ∈ r.1, c ∈ set ∨ (c.z = zoom ∧ ∃ e ∈ pts.zip (pts.drop 1), Meets e.1.x e.2.x e.1.y e.2.y c)) ∧
    (∀ c ∈ set, c ∈ r.1) ∧
    (∀ e ∈ pts.zip (pts.drop 1), e.1 ≠ e.2 → ∀ (i j : Nat) (t : K), 0 ≤ t → t ≤ 1 →
      (i : K) < e.1.x + t * (e.2.x - e.1.x) → e.1.x + t * (e.2.x - e.1.x) < (i : K) + 1 →
      (j : K) < e.1.y + t * (e.2.y - e.1.y) → e.1.y + t * (e.2.y - e.1.y) < (j : K) + 1 →
      (⟨i, j, zoom⟩ : Tile) ∈ r.1) := by
  obtain ⟨cells, htr, rfl⟩ := line_run hnn h
  -- `prevX, prevY` thread the last emitted cell through the segments; a first cell that is not emitted
  -- again is in the set already (`run_spec`)
  have hset : ∀ t, t ∈ (lineOut (opsK K) (run zoom (⟨set, ring, -1, -1, 0, 0⟩ : LState K) cells)).1 ↔ _ :=
    (run_spec zoom cells (⟨set, ring, -1, -1, 0, 0⟩ : LState K) none ⟨rfl, rfl⟩).2
  refine ⟨fun c hc => ?_, fun c hc => (hset c).2 (Or.inr hc), fun e he hne i j t h0 h1 e1 e2 e3 e4 => ?_⟩
  · refine ((hset c).1 hc).symm.imp_right fun hc => ?_
    obtain ⟨d, hd, rfl⟩ := List.mem_map.mp hc
    exact ⟨rfl, (htr.sound d hd).imp fun e he => ⟨he.1, he.2⟩⟩
  · obtain ⟨c, hc, hin⟩ := htr.covers e he hne t h0 h1
    exact (hset _).2 (Or.inl (List.mem_map.mpr ⟨c, hc, by rw [eq_of_inSq_open hin e1 e2 e3 e4]; rfl⟩))

/-- the ring loop of `polygon`, edge by edge -/
theorem traceRings_geo (zoom fuel : Nat) :
    ∀ (rings : List (List (Pt K))) (set : List Tile) (inter : List (Nat × Nat)) (set' : List Tile)
      (inter' : List (Nat × Nat)),
      (∀ r ∈ rings, ∀ p ∈ r, 0 ≤ p.x ∧ 0 ≤ p.y) →
      traceRings (opsK K) zoom fuel set inter rings = .ok (set', inter') →
      (∀ c ∈ set', c ∈ set ∨ (c.z = zoom ∧ ∃ r ∈ rings, ∃ e ∈ r.zip (r.drop 1),
        Meets e.1.x e.2.x e.1.y e.2.y c)) ∧
      (∀ c ∈ set, c ∈ set') ∧
      (∀ r ∈ rings, ∀ e ∈ r.zip (r.drop 1), e.1 ≠ e.2 → ∀ (i j : Nat) (t : K), 0 ≤ t → t ≤ 1 →
        (i : K) < e.1.x + t * (e.2.x - e.1.x) → e.1.x + t * (e.2.x - e.1.x) < (i : K) + 1 →
        (j : K) < e.1.y + t * (e.2.y - e.1.y) → e.1.y + t * (e.2.y - e.1.y) < (j : K) + 1 →
        (⟨i, j, zoom⟩ : Tile) ∈ set') := by
  intro rings set inter set' inter' hnn h
  obtain ⟨os, hos, rfl, rfl⟩ := (traceRings_ok_iff ..).1 h
  refine ⟨fun c hc => ?_, fun c hc => List.mem_append_right _ hc, fun r hr e he hne i j t ht0 ht1 e1 e2 e3 e4 => ?_⟩
  · refine (List.mem_append.1 hc).elim (fun hc => ?_) Or.inl
    obtain ⟨o, ho, hco⟩ := List.mem_flatMap.1 hc
    obtain ⟨r, hr, hro⟩ := forall₂_mem_right hos (List.mem_reverse.1 ho)
    exact ((line_geo zoom fuel [] r (some []) (hnn r hr) o hro).1 c hco).elim (fun h => nomatch h)
      fun ⟨hz, e, he, hm⟩ => Or.inr ⟨hz, r, hr, e, he, hm⟩
  · obtain ⟨o, ho, hro⟩ := forall₂_mem_left hos hr
    exact List.mem_append_left _ (List.mem_flatMap.2 ⟨o, List.mem_reverse.2 ho,
      (line_geo zoom fuel [] r (some []) (hnn r hr) o hro).2.2 e he hne i j t ht0 ht1 e1 e2 e3 e4⟩)

/-- **Polygon boundary completeness.**  Every tile whose open square an edge of any ring enters is in
    the polygon's cover (rings need not be closed; any starting set). -/
theorem polygon_boundary_complete' (zoom fuel : Nat) (set : List Tile) (rings : List (List (Pt K)))
    (S : List Tile) (hnn : ∀ r ∈ rings, ∀ p ∈ r, 0 ≤ p.x ∧ 0 ≤ p.y)
    (h : polygon (opsK K) zoom fuel set rings = .ok S) :
    ∀ r ∈ rings, ∀ e ∈ r.zip (r.drop 1), e.1 ≠ e.2 → ∀ (i j : Nat) (t : K), 0 ≤ t → t ≤ 1 →
      (i : K) < e.1.x + t * (e.2.x - e.1.x) → e.1.x + t * (e.2.x - e.1.x) < (i : K) + 1 →
      (j : K) < e.1.y + t * (e.2.y - e.1.y) → e.1.y + t * (e.2.y - e.1.y) < (j : K) + 1 →
      (⟨i, j, zoom⟩ : Tile) ∈ S := by
  obtain ⟨set', inter, htr, -, rfl⟩ := polygon_ok h
  have hsub : ∀ t ∈ set', t ∈ fillPairs zoom (sortYX inter) ++ set' := fun t ht => List.mem_append_right _ ht
  obtain ⟨_, _, gC⟩ := traceRings_geo zoom fuel rings set [] set' inter hnn htr
  intro r hr e he hne i j t ht0 ht1 e1 e2 e3 e4
  exact hsub _ (gC r hr e he hne i j t ht0 ht1 e1 e2 e3 e4)

theorem seg_between {a b t lo hi : K} (ht0 : 0 ≤ t) (ht1 : t ≤ 1) (ha : lo ≤ a ∧ a ≤ hi)
    (hb : lo ≤ b ∧ b ≤ hi) : lo ≤ a + t * (b - a) ∧ a + t * (b - a) ≤ hi :=
  ⟨(le_min ha.1 hb.1).trans (lerp1_between a b t ht0 ht1).1, (lerp1_between a b t ht0 ht1).2.trans (max_le ha.2 hb.2)⟩

theorem mem_of_mem_zip_drop {β : Type} (l : List β) (e : β × β) (h : e ∈ l.zip (l.drop 1)) :
    e.1 ∈ l ∧ e.2 ∈ l := by
  obtain ⟨h1, h2⟩ := List.of_mem_zip h
  exact ⟨h1, List.mem_of_mem_drop h2⟩

/-- **No tile outside the polygon's tile-space bound.**  In exact arithmetic, for rings with non-negative
    tile-space coordinates whose vertices all lie in the box `[x0, x1] × [y0, y1]` (with `x1` below the
    last `uint32` column): every tile of the cover has the cover's zoom and its closed square meets the
    box. -/
theorem polygon_within_vertex_bound' (zoom fuel : Nat) (rings : List (List (Pt K))) (S : List Tile)
    (x0 x1 y0 y1 : K) (hnn : ∀ r ∈ rings, ∀ p ∈ r, 0 ≤ p.x ∧ 0 ≤ p.y)
    (hbox : ∀ r ∈ rings, ∀ p ∈ r, x0 ≤ p.x ∧ p.x ≤ x1 ∧ y0 ≤ p.y ∧ p.y ≤ y1)
    (hx1 : x1 + 1 < 2 ^ 32)
    (h : polygon (opsK K) zoom fuel [] rings = .ok S) :
    ∀ t ∈ S, t.z = zoom ∧ x0 ≤ (t.x : K) + 1 ∧ (t.x : K) ≤ x1 ∧ y0 ≤ (t.y : K) + 1 ∧ (t.y : K) ≤ y1 := by
  obtain ⟨set', inter, htr, hent, hfill⟩ := polygon_within_trace_bound' (opsK K) zoom fuel rings S h
  obtain ⟨gA, _, _⟩ := traceRings_geo zoom fuel rings [] [] set' inter hnn htr
  -- every traced tile meets an edge, hence the box
  have htrace : ∀ c ∈ set', c.z = zoom ∧ x0 ≤ (c.x : K) + 1 ∧ (c.x : K) ≤ x1 ∧
      y0 ≤ (c.y : K) + 1 ∧ (c.y : K) ≤ y1 := by
    intro c hc
    rcases gA c hc with h' | ⟨hz, r, hr, e, he, t, ht0, ht1, m1, m2, m3, m4⟩
    · cases h'
    · obtain ⟨hm1, hm2⟩ := mem_of_mem_zip_drop r e he
      have b1 := hbox r hr e.1 hm1
      have b2 := hbox r hr e.2 hm2
      have bx := seg_between ht0 ht1 ⟨b1.1, b1.2.1⟩ ⟨b2.1, b2.2.1⟩
      have by_ := seg_between ht0 ht1 ⟨b1.2.2.1, b1.2.2.2⟩ ⟨b2.2.2.1, b2.2.2.2⟩
      exact ⟨hz, le_trans bx.1 m2, le_trans m1 bx.2, le_trans by_.1 m4, le_trans m3 by_.2⟩
  have hU : ∀ e ∈ inter, e.1 + 1 < 2 ^ 32 := by
    intro e he
    have h2 : (e.1 : K) + 1 < 2 ^ 32 :=
      (add_le_add_left (htrace _ (hent e he)).2.2.1 1).trans_lt hx1
    exact_mod_cast h2
  intro t ht
  rcases hfill hU t ht with h' | ⟨a, b, ha, hb, hz, hy, hlo, hhi⟩
  · exact htrace t h'
  · obtain ⟨_, a1, _, a3, a4⟩ := htrace a ha
    obtain ⟨_, _, b2, _, _⟩ := htrace b hb
    have hlo' : (a.x : K) + 1 ≤ (t.x : K) := by exact_mod_cast hlo
    have hhi' : (t.x : K) ≤ (b.x : K) := by exact_mod_cast hhi.le
    rw [hy]
    exact ⟨hz, (a1.trans hlo').trans (lt_add_one _).le, le_trans hhi' b2, a3, a4⟩

/-- the exact cover of a multi-line-string: sound and complete segment by segment -/
theorem multiLineString_cover_exact' (frac : Pt K → Pt K) (zoom fuel : Nat) (ls : List (List (Pt K)))
    (hnn : ∀ l ∈ ls, ∀ p ∈ l, 0 ≤ (frac p).x ∧ 0 ≤ (frac p).y) (S : List Tile)
    (h : cover (opsK K) frac zoom fuel (.multiLineString ls) = .ok S) :
    (∀ c ∈ S, c.z = zoom ∧ ∃ l ∈ ls, ∃ e ∈ (l.map frac).zip ((l.map frac).drop 1), ∃ t : K, 0 ≤ t ∧ t ≤ 1 ∧
        (c.x : K) ≤ e.1.x + t * (e.2.x - e.1.x) ∧ e.1.x + t * (e.2.x - e.1.x) ≤ (c.x : K) + 1 ∧
        (c.y : K) ≤ e.1.y + t * (e.2.y - e.1.y) ∧ e.1.y + t * (e.2.y - e.1.y) ≤ (c.y : K) + 1) ∧
    (∀ l ∈ ls, ∀ e ∈ (l.map frac).zip ((l.map frac).drop 1), e.1 ≠ e.2 →
      ∀ (i j : Nat) (t : K), 0 ≤ t → t ≤ 1 →
        (i : K) < e.1.x + t * (e.2.x - e.1.x) → e.1.x + t * (e.2.x - e.1.x) < (i : K) + 1 →
        (j : K) < e.1.y + t * (e.2.y - e.1.y) → e.1.y + t * (e.2.y - e.1.y) < (j : K) + 1 →
        (⟨i, j, zoom⟩ : Tile) ∈ S) := by
  simp only [cover] at h
  obtain ⟨os, hos, hS⟩ := multiLine_ok h
  have hnn' : ∀ l ∈ ls, ∀ p ∈ l.map frac, 0 ≤ p.x ∧ 0 ≤ p.y := fun l hl p hp =>
    (List.mem_map.1 hp).elim fun p0 h0 => h0.2 ▸ hnn l hl p0 h0.1
  refine ⟨fun c hc => ?_, fun l hl e he hne i j t ht0 ht1 e1 e2 e3 e4 => ?_⟩
  · obtain ⟨o, ho, hco⟩ := ((hS c).1 hc).resolve_left List.not_mem_nil
    obtain ⟨l', hl', hlo⟩ := forall₂_mem_right hos ho
    obtain ⟨l, hl, rfl⟩ := List.mem_map.1 hl'
    obtain ⟨hz, e, he, hm⟩ :=
      ((line_geo zoom fuel [] _ none (hnn' l hl) o hlo).1 c hco).resolve_left List.not_mem_nil
    exact ⟨hz, l, hl, e, he, hm⟩
  · obtain ⟨o, ho, hlo⟩ := forall₂_mem_left hos (List.mem_map_of_mem (f := (·.map frac)) hl)
    exact (hS _).2 (.inr ⟨o, ho,
      (line_geo zoom fuel [] _ none (hnn' l hl) o hlo).2.2 e he hne i j t ht0 ht1 e1 e2 e3 e4⟩)

/-- boundary completeness of a multi-polygon: every tile whose open square an edge of any ring of any
    member enters is in the cover -/
theorem multiPolygon_boundary_complete' (zoom fuel : Nat) :
    ∀ (ps : List (List (List (Pt K)))) (set S : List Tile),
      (∀ pg ∈ ps, ∀ r ∈ pg, ∀ p ∈ r, 0 ≤ p.x ∧ 0 ≤ p.y) →
      multiPolygon (opsK K) zoom fuel set ps = .ok S →
      (∀ c ∈ set, c ∈ S) ∧
      ∀ pg ∈ ps, ∀ r ∈ pg, ∀ e ∈ r.zip (r.drop 1), e.1 ≠ e.2 → ∀ (i j : Nat) (t : K), 0 ≤ t → t ≤ 1 →
        (i : K) < e.1.x + t * (e.2.x - e.1.x) → e.1.x + t * (e.2.x - e.1.x) < (i : K) + 1 →
        (j : K) < e.1.y + t * (e.2.y - e.1.y) → e.1.y + t * (e.2.y - e.1.y) < (j : K) + 1 →
        (⟨i, j, zoom⟩ : Tile) ∈ S := by
  intro ps set S hnn h
  obtain ⟨os, hos, hS⟩ := multiPolygon_ok h
  refine ⟨fun t ht => (hS t).2 (.inl ht), fun pg hpg r hr e he hne i j t ht0 ht1 e1 e2 e3 e4 => ?_⟩
  obtain ⟨o, ho, hpo⟩ := forall₂_mem_left hos hpg
  exact (hS _).2 (.inr ⟨o, ho, polygon_boundary_complete' zoom fuel [] pg o (hnn pg hpg) hpo
    r hr e he hne i j t ht0 ht1 e1 e2 e3 e4⟩)

end exact
end Orb.TileCover
