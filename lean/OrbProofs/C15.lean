/-
  C15 — Projections invert each other and transform every vertex in place: property theorems about
  the model `Orb.Project` (project/helpers.go, project/projections.go, internal/mercator/mercator.go,
  encoding/mvt/projection.go, encoding/mvt/layer.go).

  `project.Geometry` is treated for all inputs and arbitrary, even stateful, point functions.  The
  tile round trip is proved for ABSTRACT planar/geo maps over an ordered field under a POINTWISE
  accuracy hypothesis (`CloseAt P G ε c`, only at the pixel centre that the code feeds to `ToGeo`: the
  real `toPlanar ∘ toGeo` is not uniformly accurate because of its clamp).  The mercator closed forms
  are mutually inverse given explicit inverse-pair hypotheses on `atan/tan/exp/log/sin` and an
  inactive clamp; OrbProofs/C15Real.lean proves every such hypothesis for Mathlib's real functions.
  A round trip is blind to an origin that both directions get wrong in the same way; the statements
  on the absolute position of a tile's pixels (`toWGS84_absolute_*`, `tile_corner_*`) are not.

  NOT proved: the numeric bounds 1e-9° / 1 mm and the exact integer recovery under float64 `exp/atan/
  log/sin` are float-accuracy statements (`…_full` below); the correspondence check measures them.
-/
import OrbProofs.C15ProjLemmas
import OrbProofs.C06Lemmas

set_option linter.unusedSectionVars false

namespace Orb.Project
open Orb Orb.Core

section project
variable {σ α : Type} [LinearOrder α]

/-- Structure preservation with an arbitrary stateful point function: the calls to `proj` are
    exactly the run of `proj` over the vertex list in storage order (each vertex once), the final
    state is the state after that run, and the result is the input's shape filled with the outputs. -/
theorem project_map (proj : Proj σ α) (g : Geom α) (s : σ) :
    geometryM proj g s = (fill g (ptsM proj (verts g) s).1, (ptsM proj (verts g) s).2) := by
  simpa using geometryM_fill proj g s []

/-- "exactly once, in order", spelled out: recording the arguments of `proj` yields the vertex list. -/
theorem project_calls (f : Pt α → Pt α) (g : Geom α) :
    (geometryM (fun p (l : List (Pt α)) => (f p, l ++ [p])) g []).2 = verts g := by
  rw [project_map]
  simp [ptsM_recorded]

/-- Kind, nesting and member counts are preserved. -/
theorem project_shape (proj : Proj σ α) (g : Geom α) (s : σ) :
    shape (geometryM proj g s).1 = shape g :=
  geometryM_shape proj g s

/-- `project.Geometry` with a pure point function: the input's shape filled with the function
    mapped over every vertex. -/
theorem project_pure (f : Pt α → Pt α) (g : Geom α) :
    geometry f g = fill g ((verts g).map f) := by
  unfold geometry
  rw [project_map, ptsM_pure]

/-- `project.Geometry` with a pure point function maps it over the vertex list literally when no
    bound is involved (a bound is re-boxed, see `project_bound`). -/
theorem project_verts (f : Pt α → Pt α) (g : Geom α) (h : NoBounds g) :
    verts (geometry f g) = (verts g).map f :=
  (congrArg Prod.fst (geometryM_flat _ g h ())).trans (ptsM_pure f _)

/-- The projected bound is the box of the two projected corners. -/
theorem project_bound (f : Pt α → Pt α) (lo hi : Pt α) :
    geometry f (.bound lo hi) =
      .bound ⟨min (f lo).x (f hi).x, min (f lo).y (f hi).y⟩ ⟨max (f lo).x (f hi).x, max (f lo).y (f hi).y⟩ := by
  have hne : (⟨f lo, f lo⟩ : Bound α).isEmpty = false := point_nonempty (f lo)
  have := extend_nonempty (⟨f lo, f lo⟩ : Bound α) (f hi) hne
  simp only [geometry, geometryM, boundOf]
  rw [this]

/-- nil interfaces and typed nil slices are returned as they are, without calling `proj`.
    (True by definition of the model `geometryVM`: the content of this clause is the correspondence
    check, which compares value, kind of nil and call count with the Go code.) -/
theorem project_nil (proj : Proj σ α) (s : σ) (k : Kind) :
    geometryVM proj .nilIface s = (.nilIface, s) ∧ geometryVM proj (.nilSlice k) s = (.nilSlice k, s) := by
  exact ⟨rfl, rfl⟩

/-- If `f` undoes `h` on every vertex, `project.Geometry(·, f)` undoes `project.Geometry(·, h)` on
    geometries without bounds (each stage re-boxes a bound: `project_bound`). -/
theorem geometry_roundtrip (f h : Pt α → Pt α) (g : Geom α) (hn : NoBounds g)
    (hfh : ∀ p ∈ verts g, f (h p) = p) : geometry f (geometry h g) = g := by
  induction g using Geom.ind with
  | point p =>
    simp only [verts, List.mem_singleton, forall_eq] at hfh
    simp only [geometry_point, hfh]
  | multiPoint ps | lineString ps | ring ps =>
    simp only [verts] at hfh
    simp only [geometry_multiPoint, geometry_lineString, geometry_ring, List.map_map]
    congr 1; exact map_id_of _ _ (fun p hp => by simpa using hfh p hp)
  | multiLineString ls | polygon ls =>
    simp only [verts] at hfh
    simp only [geometry_multiLineString, geometry_polygon, List.map_map]
    congr 1
    refine map_id_of _ _ (fun l hl => ?_)
    simp only [Function.comp, List.map_map]
    exact map_id_of _ _ (fun p hp => by simpa using hfh p (List.mem_flatten_of_mem hl hp))
  | multiPolygon ps =>
    simp only [verts] at hfh
    simp only [geometry_multiPolygon, List.map_map]
    congr 1
    refine map_id_of _ _ (fun pg hpg => ?_)
    simp only [Function.comp, List.map_map]
    refine map_id_of _ _ (fun l hl => ?_)
    simp only [Function.comp, List.map_map]
    exact map_id_of _ _ (fun p hp => by
      simpa using hfh p (List.mem_flatten_of_mem (List.mem_flatten_of_mem hpg hl) hp))
  | bound a b => simp [NoBounds] at hn
  | collection gs ih =>
    simp only [geometry_collection, List.map_map]
    congr 1
    refine map_id_of _ _ (fun g hg => ?_)
    simp only [Function.comp]
    simp only [NoBounds] at hn
    exact ih g hg (hn g hg) fun p hp =>
      hfh p (by rw [verts, verts_go_eq_flatMap]; exact List.mem_flatMap.2 ⟨g, hg, hp⟩)

end project

section mercator
variable {α : Type} [Field α] [LinearOrder α] [IsStrictOrderedRing α] (F : MFn α)

/-- WGS84 → Mercator → WGS84 is the identity, GIVEN the inverse pairs `exp∘log`, `atan∘tan` on the
    ranges that occur, the relations between the folded constants, and an inactive clamp. -/
theorem merc_roundtrip_partial (g : Pt α)
    (hpi : 0 < F.pi) (hR : F.R ≠ 0)
    (hrPi : F.rPi = F.R * F.pi) (hrPi180 : F.rPi180 = F.rPi / 180)
    (hd : F.d180pi = 180 / F.pi) (hph : F.piHalf = F.pi / 2)
    (hexplog : ∀ t, 0 < t → F.exp (F.log t) = t)
    (htanpos : ∀ θ, 0 < θ → θ < F.pi / 2 → 0 < F.tan θ)
    (hatantan : ∀ θ, 0 < θ → θ < F.pi / 2 → F.atan (F.tan θ) = θ)
    (hlat : -90 < g.y ∧ g.y < 90)
    (hclamp : F.max (-F.rPi) (F.min (F.log (F.tan ((90 + g.y) * F.pi / 360)) * F.R) F.rPi)
                = F.log (F.tan ((90 + g.y) * F.pi / 360)) * F.R) :
    mercatorToWGS84 F (wgs84ToMercator F g) = g := by
  obtain ⟨gx, gy⟩ := g
  simp only at hlat hclamp
  have hpi' : F.pi ≠ 0 := ne_of_gt hpi
  have h0 : 0 < (90 + gy) * F.pi / 360 :=
    div_pos (mul_pos (neg_lt_iff_pos_add'.mp hlat.1) hpi) (by norm_num)
  have h1 : (90 + gy) * F.pi / 360 < F.pi / 2 :=
    calc (90 + gy) * F.pi / 360 < (90 + 90) * F.pi / 360 :=
          div_lt_div_of_pos_right (mul_lt_mul_of_pos_right ((add_lt_add_iff_left 90).2 hlat.2) hpi) (by norm_num)
      _ = F.pi / 2 := by ring
  simp only [mercatorToWGS84, wgs84ToMercator, hclamp, Pt.mk.injEq]
  constructor
  · rw [hrPi180, hrPi]; field_simp
  · rw [mul_div_cancel_right₀ _ hR, hexplog _ (htanpos _ h0 h1), hatantan _ h0 h1, hd, hph]
    field_simp; ring

/-- Mercator → WGS84 → Mercator is the identity, GIVEN `tan∘atan`, `log∘exp` and an inactive clamp. -/
theorem merc_roundtrip_rev_partial (p : Pt α)
    (hpi : F.pi ≠ 0) (hR : F.R ≠ 0)
    (hrPi : F.rPi = F.R * F.pi) (hrPi180 : F.rPi180 = F.rPi / 180)
    (hd : F.d180pi = 180 / F.pi) (hph : F.piHalf = F.pi / 2)
    (htanatan : ∀ u, F.tan (F.atan u) = u) (hlogexp : ∀ t, F.log (F.exp t) = t)
    (hclamp : F.max (-F.rPi) (F.min p.y F.rPi) = p.y) :
    wgs84ToMercator F (mercatorToWGS84 F p) = p := by
  obtain ⟨px, py⟩ := p
  simp only at hclamp
  simp only [mercatorToWGS84, wgs84ToMercator, Pt.mk.injEq]
  have harg : (90 + F.d180pi * (2 * F.atan (F.exp (py / F.R)) - F.piHalf)) * F.pi / 360
      = F.atan (F.exp (py / F.R)) := by
    rw [hd, hph]; field_simp; ring
  constructor
  · rw [hrPi180, hrPi]; field_simp
  · rw [harg, htanatan, hlogexp, div_mul_cancel₀ _ hR, hclamp]

/-- `ToPlanar (ToGeo p) = p` at every zoom, GIVEN the Gudermannian identity
    `log((1+sin(2·atan(eᵗ)−π/2))/(1−sin(2·atan(eᵗ)−π/2))) = 2t` as a hypothesis on the opaque functions,
    and the 0.9999 clamp not active AT `p`.  Pointwise, like the tile theorems' hypothesis `CloseAt`. -/
theorem planar_geo_roundtrip_partial (z : Nat) (p : Pt α)
    (hpi : F.pi ≠ 0) (hm : maxTiles F z ≠ 0) (htwo : F.twoPi = 2 * F.pi) (hd : F.d180pi = 180 / F.pi)
    (hgd : ∀ t, F.log ((1 + F.sin (2 * F.atan (F.exp t) - F.pi / 2)) / (1 - F.sin (2 * F.atan (F.exp t) - F.pi / 2))) = 2 * t)
    (hclamp : ¬ F.sin (2 * F.atan (F.exp (F.pi - F.twoPi * (p.y / maxTiles F z))) - F.pi / 2) < -F.c9999 ∧
              ¬ F.c9999 < F.sin (2 * F.atan (F.exp (F.pi - F.twoPi * (p.y / maxTiles F z))) - F.pi / 2)) :
    toPlanar F z (toGeo F z p) = p := by
  obtain ⟨px, py⟩ := p
  simp only at hclamp
  obtain ⟨hc1, hc2⟩ := hclamp
  simp only [toPlanar, toGeo, Pt.mk.injEq]
  have harg : (2 * F.atan (F.exp (F.pi - F.twoPi * (py / maxTiles F z))) * F.d180pi - 90) * F.pi / 180
      = 2 * F.atan (F.exp (F.pi - F.twoPi * (py / maxTiles F z))) - F.pi / 2 := by
    rw [hd]; field_simp; ring
  simp only [harg]
  rw [if_neg hc1, if_neg hc2, hgd, htwo]
  constructor
  · field_simp; ring
  · field_simp; ring

end mercator

section tile
variable {α : Type} [Field α] [LinearOrder α] [IsStrictOrderedRing α]

/-- Other extents, the code as it is now (`+0.5` pixel centre, fix 7b86dd1): there is a margin —
    an error `ε` with `ε·e < ½` AT THE PIXEL CENTRE `((i+½)/e + minx, (j+½)/e + miny)` is absorbed and
    the integer tile coordinates survive exactly. -/
theorem tile_roundtrip_nonpow2_fixed_margin (floor : α → α)
    (hfloor : ∀ (x : α) (n : ℤ), (n : α) ≤ x → x < (n : α) + 1 → floor x = (n : α))
    (P G : Pt α → Pt α) (ε : α) (minx miny e : α) (he : 0 < e) (hε : ε * e < 1 / 2) (i j : ℤ)
    (hPG : CloseAt P G ε ⟨((i : α) + 1 / 2) / e + minx, ((j : α) + 1 / 2) / e + miny⟩) :
    (nonPow2Proj floor P G minx miny e).toTile ((nonPow2Proj floor P G minx miny e).toWGS84 ⟨(i : α), (j : α)⟩)
      = ⟨(i : α), (j : α)⟩ := by
  obtain ⟨hx, hy⟩ := hPG
  simp only [nonPow2Proj, Pt.mk.injEq]
  exact ⟨floor_scaled_of_close hfloor he hε i hx rfl, floor_scaled_of_close hfloor he hε j hy rfl⟩

/-- Power-of-two extents: if the planar/geo maps invert each other to within `ε < ½` pixel AT THE
    PIXEL CENTRE `(i + mx + ½, j + my + ½)` (nowhere else), the integer tile coordinates `(i, j)`
    survive tile → WGS84 → tile exactly (the `+0.5` gives a margin of ½).  The instance `e = 1` of
    `tile_roundtrip_nonpow2_fixed_margin` (`pow2Proj_eq`). -/
theorem tile_roundtrip_margin (floor : α → α)
    (hfloor : ∀ (x : α) (n : ℤ), (n : α) ≤ x → x < (n : α) + 1 → floor x = (n : α))
    (P G : Pt α → Pt α) (ε : α) (hε : ε < 1 / 2) (mx my i j : ℤ)
    (hPG : CloseAt P G ε ⟨(i : α) + mx + 1 / 2, (j : α) + my + 1 / 2⟩) :
    (pow2Proj floor P G (mx : α) (my : α)).toTile ((pow2Proj floor P G (mx : α) (my : α)).toWGS84 ⟨(i : α), (j : α)⟩)
      = ⟨(i : α), (j : α)⟩ := by
  rw [pow2Proj_eq]
  refine tile_roundtrip_nonpow2_fixed_margin floor hfloor P G ε _ _ 1 one_pos (by rwa [mul_one]) i j ?_
  rwa [div_one, div_one, add_right_comm (i : α), add_right_comm (j : α)]

/-- Other extents, code BEFORE fix 7b86dd1 (`nonPow2ProjUnfixed`): the tile round trip was the
    identity for an EXACT inverse pair (ε = 0). -/
theorem tile_roundtrip_nonpow2_exact (floor : α → α)
    (hfloor : ∀ (x : α) (n : ℤ), (n : α) ≤ x → x < (n : α) + 1 → floor x = (n : α))
    (P G : Pt α → Pt α) (hPG : ∀ u, P (G u) = u) (minx miny e : α) (he : e ≠ 0) (i j : ℤ) :
    (nonPow2ProjUnfixed floor P G minx miny e).toTile ((nonPow2ProjUnfixed floor P G minx miny e).toWGS84 ⟨(i : α), (j : α)⟩)
      = ⟨(i : α), (j : α)⟩ := by
  simp only [nonPow2ProjUnfixed, hPG, Pt.mk.injEq]
  exact ⟨floor_corner hfloor he i, floor_corner hfloor he j⟩

/-- Other extents, code BEFORE fix 7b86dd1: the tile round trip failed for every negative error,
    pointwise and per axis: if AT THE POINT `(i/e + minx,
    j/e + miny)` the planar/geo pair comes back low by `δx > 0` in x and `δy > 0` in y (each at most a
    pixel, `δ·e ≤ 1`; the two need not be equal and nothing is assumed at other points), pixel
    `(i, j)` comes back as `(i − 1, j − 1)`.  There is no margin. -/
theorem tile_roundtrip_nonpow2_no_margin (floor : α → α)
    (hfloor : ∀ (x : α) (n : ℤ), (n : α) ≤ x → x < (n : α) + 1 → floor x = (n : α))
    (P G : Pt α → Pt α) (minx miny e : α) (he : 0 < e) (i j : ℤ) (δx δy : α)
    (hδx : 0 < δx) (hδxe : δx * e ≤ 1) (hδy : 0 < δy) (hδye : δy * e ≤ 1)
    (hx : (P (G ⟨(i : α) / e + minx, (j : α) / e + miny⟩)).x = (i : α) / e + minx - δx)
    (hy : (P (G ⟨(i : α) / e + minx, (j : α) / e + miny⟩)).y = (j : α) / e + miny - δy) :
    (nonPow2ProjUnfixed floor P G minx miny e).toTile ((nonPow2ProjUnfixed floor P G minx miny e).toWGS84 ⟨(i : α), (j : α)⟩)
      = ⟨(i : α) - 1, (j : α) - 1⟩ := by
  simp only [nonPow2ProjUnfixed, hx, hy, Pt.mk.injEq]
  exact ⟨floor_below_corner hfloor he hδx hδxe i, floor_below_corner hfloor he hδy hδye j⟩

/-- Other extents, code BEFORE fix 7b86dd1, one axis alone: an error in x only loses the column and
    keeps the row. -/
theorem tile_roundtrip_nonpow2_no_margin_x (floor : α → α)
    (hfloor : ∀ (x : α) (n : ℤ), (n : α) ≤ x → x < (n : α) + 1 → floor x = (n : α))
    (P G : Pt α → Pt α) (minx miny e : α) (he : 0 < e) (i j : ℤ) (δx : α)
    (hδx : 0 < δx) (hδxe : δx * e ≤ 1)
    (hx : (P (G ⟨(i : α) / e + minx, (j : α) / e + miny⟩)).x = (i : α) / e + minx - δx)
    (hy : (P (G ⟨(i : α) / e + minx, (j : α) / e + miny⟩)).y = (j : α) / e + miny) :
    (nonPow2ProjUnfixed floor P G minx miny e).toTile ((nonPow2ProjUnfixed floor P G minx miny e).toWGS84 ⟨(i : α), (j : α)⟩)
      = ⟨(i : α) - 1, (j : α)⟩ := by
  simp only [nonPow2ProjUnfixed, hx, hy, Pt.mk.injEq]
  exact ⟨floor_below_corner hfloor he hδx hδxe i, floor_corner hfloor he.ne' j⟩

/-- A concrete witness over ℚ: with the unfixed code an inverse pair off by 10⁻⁹ brings pixel (5,7) of a
    1000-extent tile back as (4,6), while the power-of-two path with the same pair returns (5,7). -/
theorem tile_roundtrip_nonpow2_witness :
    (nonPow2ProjUnfixed ratFloor (fun u => ⟨u.x - 1 / 1000000000, u.y - 1 / 1000000000⟩) id 3 2 1000).toTile
        ((nonPow2ProjUnfixed ratFloor (fun u => ⟨u.x - 1 / 1000000000, u.y - 1 / 1000000000⟩) id 3 2 1000).toWGS84 ⟨5, 7⟩)
      = (⟨4, 6⟩ : Pt Rat) ∧
    (pow2Proj ratFloor (fun u => ⟨u.x - 1 / 1000000000, u.y - 1 / 1000000000⟩) id 3072 2048).toTile
        ((pow2Proj ratFloor (fun u => ⟨u.x - 1 / 1000000000, u.y - 1 / 1000000000⟩) id 3072 2048).toWGS84 ⟨5, 7⟩)
      = (⟨5, 7⟩ : Pt Rat) := by
  constructor
  · simp only [nonPow2ProjUnfixed, id, Pt.mk.injEq]
    constructor
    · rw [ratFloor_spec _ 4 (by norm_num) (by norm_num)]; norm_num
    · rw [ratFloor_spec _ 6 (by norm_num) (by norm_num)]; norm_num
  · simp only [pow2Proj, id, Pt.mk.injEq]
    constructor
    · rw [ratFloor_spec _ 5 (by norm_num) (by norm_num)]; norm_num
    · rw [ratFloor_spec _ 7 (by norm_num) (by norm_num)]; norm_num

/-- `newProjection` is the power-of-two path at zoom `Z + log₂ extent` for power-of-two extents and the
    other path otherwise. -/
theorem newProjection_pow2 (F : MFn α) (X Y Z extent : Nat) (h : isPowerOfTwo extent = true) :
    newProjection F X Y Z extent =
      pow2Proj F.floor (toPlanar F (Z + trailingZeros32 extent)) (toGeo F (Z + trailingZeros32 extent))
        (F.ofNat ((X * 2 ^ trailingZeros32 extent) % 2 ^ 64)) (F.ofNat ((Y * 2 ^ trailingZeros32 extent) % 2 ^ 64)) := by
  unfold newProjection
  rw [if_pos h]

theorem newProjection_nonpow2 (F : MFn α) (X Y Z extent : Nat) (h : isPowerOfTwo extent = false) :
    newProjection F X Y Z extent =
      nonPow2Proj F.floor (toPlanar F Z) (toGeo F Z) (F.ofNat X) (F.ofNat Y) (F.ofNat extent) := by
  unfold newProjection
  rw [h]
  simp

/-- `isPowerOfTwo(n) = (n & (n-1)) == 0` is true exactly for 0 and the powers of two. -/
theorem isPowerOfTwo_iff (e : Nat) : isPowerOfTwo e = true ↔ e = 0 ∨ ∃ k, e = 2 ^ k := by
  unfold isPowerOfTwo
  by_cases h : e = 0
  · simp [h]
  · have := Nat.and_sub_one_eq_zero_iff_isPowerOfTwo h
    simp only [Bool.or_eq_true, beq_iff_eq, h, false_or]
    rw [this]
    rfl

theorem isPowerOfTwo_two_pow (k : Nat) : isPowerOfTwo (2 ^ k) = true :=
  (isPowerOfTwo_iff _).2 (Or.inr ⟨k, rfl⟩)

/-- `bits.TrailingZeros32(2^k) = k` for every uint32 power of two. -/
theorem trailingZeros32_two_pow (k : Nat) (hk : k < 32) : trailingZeros32 (2 ^ k) = k := by
  unfold trailingZeros32
  have hlt : 2 ^ k < 2 ^ 32 := Nat.pow_lt_pow_right (by omega) hk
  have hpos : 0 < 2 ^ k := Nat.two_pow_pos k
  have : ¬ ((2 ^ k % 2 ^ 32 == 0) = true) := by
    rw [Nat.mod_eq_of_lt hlt]; simp
  rw [if_neg this]
  exact trailingZeros32_go_two_pow 32 k hk

/-- `bits.TrailingZeros32(0) = 32`: extent 0 (which `isPowerOfTwo` accepts) takes the power-of-two
    path at zoom + 32. -/
theorem trailingZeros32_zero : trailingZeros32 0 = 32 := by
  simp [trailingZeros32]

/-- `maxtiles = float64(uint64(1 << level))` is `2^level` below level 64. -/
theorem maxTiles_eq (F : MFn α) (hofNat : ∀ n : Nat, F.ofNat n = (n : α)) (z : Nat) (hz : z < 64) :
    maxTiles F z = 2 ^ z := by
  unfold maxTiles
  rw [hofNat, Nat.mod_eq_of_lt (Nat.pow_lt_pow_right (by omega) hz)]
  push_cast
  rfl

/-- `maxtiles = float64(uint64(1 << level))` is 0 from level 64 on (the shift wraps): every later
    division is by zero. -/
theorem maxTiles_wrap (F : MFn α) (hofNat : ∀ n : Nat, F.ofNat n = (n : α)) (z : Nat) (hz : 64 ≤ z) :
    maxTiles F z = 0 := by
  unfold maxTiles
  rw [hofNat, Nat.mod_eq_zero_of_dvd (Nat.pow_dvd_pow 2 hz)]
  simp

theorem maxTiles_pos (F : MFn α) (hofNat : ∀ n : Nat, F.ofNat n = (n : α)) (z : Nat) (hz : z < 64) :
    0 < maxTiles F z := by
  rw [maxTiles_eq F hofNat z hz]
  positivity

theorem maxTiles_ne_zero (F : MFn α) (hofNat : ∀ n : Nat, F.ofNat n = (n : α)) (z : Nat) (hz : z < 64) :
    maxTiles F z ≠ 0 :=
  (maxTiles_pos F hofNat z hz).ne'

/-- Integrality of the origin: with an exact `float64(uint64(·))` the `minx, miny` of the
    power-of-two path are integers of the field. -/
theorem newProjection_origin_int (F : MFn α) (hofNat : ∀ n : Nat, F.ofNat n = (n : α)) (X n : Nat) :
    F.ofNat ((X * 2 ^ n) % 2 ^ 64) = ((((X * 2 ^ n) % 2 ^ 64 : ℕ) : ℤ) : α) := by
  rw [hofNat, Int.cast_natCast]

/-- the level: `Z + k` for extent `2^k`, `Z + 32` for extent 0, `Z` otherwise -/
theorem projLevel_two_pow (Z k : Nat) (hk : k < 32) : projLevel Z (2 ^ k) = Z + k := by
  simp [projLevel, isPowerOfTwo_two_pow, trailingZeros32_two_pow k hk]

theorem projLevel_zero (Z : Nat) : projLevel Z 0 = Z + 32 := by
  simp [projLevel, isPowerOfTwo, trailingZeros32_zero]

theorem projLevel_other (Z e : Nat) (h : isPowerOfTwo e = false) : projLevel Z e = Z := by
  simp [projLevel, h]

/-- the pixel centre handed to `ToGeo`, spelled out for extent `2^k` (valid tile indices never
    wrap). -/
theorem pixelCentre_two_pow (X Y k : Nat) (hk : k < 32) (hX : X < 2 ^ 32) (hY : Y < 2 ^ 32) (i j : ℤ) :
    (pixelCentre X Y (2 ^ k) i j : Pt α) =
      ⟨(i : α) + (X : α) * 2 ^ k + 1 / 2, (j : α) + (Y : α) * 2 ^ k + 1 / 2⟩ := by
  simp only [pixelCentre, isPowerOfTwo_two_pow, if_true, trailingZeros32_two_pow k hk,
    origin_no_wrap X k hX (by omega), origin_no_wrap Y k hY (by omega)]
  push_cast
  rfl

/-- The pixel centre handed to `ToGeo`, spelled out for an extent that is not a power of two. -/
theorem pixelCentre_other (X Y e : Nat) (h : isPowerOfTwo e = false) (i j : ℤ) :
    (pixelCentre X Y e i j : Pt α) =
      ⟨((i : α) + 1 / 2) / (e : α) + (X : α), ((j : α) + 1 / 2) / (e : α) + (Y : α)⟩ := by
  simp [pixelCentre, h]

/-- THE composed theorem about `mvt.newProjection(tile, extent)` — both paths, every extent
    (powers of two, 0, all others), every tile: with an exact floor and an exact `float64(uint64(·))`,
    if `ToPlanar ∘ ToGeo` at the projection's level is accurate to `ε` with `ε · pixelScale < ½`
    at the centre of pixel `(i, j)`, then `ToTile (ToWGS84 (i, j)) = (i, j)`. -/
theorem newProjection_roundtrip (F : MFn α)
    (hfloor : ∀ (x : α) (n : ℤ), (n : α) ≤ x → x < (n : α) + 1 → F.floor x = (n : α))
    (hofNat : ∀ n : Nat, F.ofNat n = (n : α))
    (X Y Z extent : Nat) (ε : α) (hε : ε * pixelScale extent < 1 / 2) (i j : ℤ)
    (hclose : CloseAt (toPlanar F (projLevel Z extent)) (toGeo F (projLevel Z extent)) ε
      (pixelCentre X Y extent i j)) :
    (newProjection F X Y Z extent).toTile ((newProjection F X Y Z extent).toWGS84 ⟨(i : α), (j : α)⟩)
      = ⟨(i : α), (j : α)⟩ := by
  rw [newProjection_eq F hofNat]
  rw [pixelCentre_eq] at hclose
  exact tile_roundtrip_nonpow2_fixed_margin F.floor hfloor _ _ ε _ _ _ (pixelScale_pos extent) hε i j hclose

/-- The chain `planar_geo_roundtrip_partial → CloseAt … 0 → tile round trip → newProjection`: given the
    Gudermannian identity on the opaque functions and `ToPlanar`'s clamp inactive AT THE PIXEL CENTRE,
    `newProjection` returns exactly the same integers (level below 64, where `maxtiles ≠ 0`). -/
theorem newProjection_roundtrip_exact (F : MFn α)
    (hfloor : ∀ (x : α) (n : ℤ), (n : α) ≤ x → x < (n : α) + 1 → F.floor x = (n : α))
    (hofNat : ∀ n : Nat, F.ofNat n = (n : α))
    (X Y Z extent : Nat) (hlev : projLevel Z extent < 64) (i j : ℤ)
    (hpi : F.pi ≠ 0) (htwo : F.twoPi = 2 * F.pi) (hd : F.d180pi = 180 / F.pi)
    (hgd : ∀ t, F.log ((1 + F.sin (2 * F.atan (F.exp t) - F.pi / 2)) / (1 - F.sin (2 * F.atan (F.exp t) - F.pi / 2))) = 2 * t)
    (hclamp :
      ¬ F.sin (2 * F.atan (F.exp (F.pi - F.twoPi *
          ((pixelCentre X Y extent i j : Pt α).y / maxTiles F (projLevel Z extent)))) - F.pi / 2) < -F.c9999 ∧
      ¬ F.c9999 < F.sin (2 * F.atan (F.exp (F.pi - F.twoPi *
          ((pixelCentre X Y extent i j : Pt α).y / maxTiles F (projLevel Z extent)))) - F.pi / 2)) :
    (newProjection F X Y Z extent).toTile ((newProjection F X Y Z extent).toWGS84 ⟨(i : α), (j : α)⟩)
      = ⟨(i : α), (j : α)⟩ := by
  have hrt := planar_geo_roundtrip_partial F (projLevel Z extent) (pixelCentre X Y extent i j) hpi
    (maxTiles_ne_zero F hofNat _ hlev) htwo hd hgd hclamp
  refine newProjection_roundtrip F hfloor hofNat X Y Z extent 0 ?_ i j (closeAt_of_eq _ _ _ hrt)
  simp

/-- The same chain for the bare power-of-two path with an abstract integer origin. -/
theorem tile_roundtrip_pow2_of_planar_geo (F : MFn α)
    (hfloor : ∀ (x : α) (n : ℤ), (n : α) ≤ x → x < (n : α) + 1 → F.floor x = (n : α))
    (z : Nat) (mx my i j : ℤ)
    (hpi : F.pi ≠ 0) (hm : maxTiles F z ≠ 0) (htwo : F.twoPi = 2 * F.pi) (hd : F.d180pi = 180 / F.pi)
    (hgd : ∀ t, F.log ((1 + F.sin (2 * F.atan (F.exp t) - F.pi / 2)) / (1 - F.sin (2 * F.atan (F.exp t) - F.pi / 2))) = 2 * t)
    (hclamp :
      ¬ F.sin (2 * F.atan (F.exp (F.pi - F.twoPi * (((j : α) + my + 1 / 2) / maxTiles F z))) - F.pi / 2) < -F.c9999 ∧
      ¬ F.c9999 < F.sin (2 * F.atan (F.exp (F.pi - F.twoPi * (((j : α) + my + 1 / 2) / maxTiles F z))) - F.pi / 2)) :
    (pow2Proj F.floor (toPlanar F z) (toGeo F z) (mx : α) (my : α)).toTile
        ((pow2Proj F.floor (toPlanar F z) (toGeo F z) (mx : α) (my : α)).toWGS84 ⟨(i : α), (j : α)⟩)
      = ⟨(i : α), (j : α)⟩ := by
  have hrt := planar_geo_roundtrip_partial F z ⟨(i : α) + mx + 1 / 2, (j : α) + my + 1 / 2⟩ hpi hm htwo hd hgd hclamp
  exact tile_roundtrip_margin F.floor hfloor _ _ 0 (by norm_num) mx my i j (closeAt_of_eq _ _ _ hrt)

/-- `Layer.ProjectToTile` builds ONE projection from (tile, l.Extent) and maps `project.Geometry`
    with its `ToTile` over the features; nil and typed-nil geometries stay as they are (`gmap`). -/
theorem layer_projectToTile_eq (F : MFn α) (X Y Z extent : Nat) (feats : List (GVal α)) :
    layerProjectToTile F X Y Z extent feats = feats.map (gmap (newProjection F X Y Z extent).toTile) :=
  layerProjectToTile_eq' F X Y Z extent feats

theorem layer_projectToWGS84_eq (F : MFn α) (X Y Z extent : Nat) (feats : List (GVal α)) :
    layerProjectToWGS84 F X Y Z extent feats = feats.map (gmap (newProjection F X Y Z extent).toWGS84) :=
  layerProjectToWGS84_eq' F X Y Z extent feats

/-- The layer-level statement of the property: `Layer.ProjectToWGS84` then `Layer.ProjectToTile`
    returns exactly the same layer — same features, kinds, nesting, order, same integers — when every
    vertex of every feature is an integer pixel at whose centre `ToPlanar ∘ ToGeo` is accurate to
    better than half a pixel (`PixelsOK`; nil / typed-nil features are allowed). -/
theorem layer_roundtrip (F : MFn α)
    (hfloor : ∀ (x : α) (n : ℤ), (n : α) ≤ x → x < (n : α) + 1 → F.floor x = (n : α))
    (hofNat : ∀ n : Nat, F.ofNat n = (n : α))
    (X Y Z extent : Nat) (feats : List (GVal α))
    (hpix : ∀ g, GVal.val g ∈ feats → PixelsOK F X Y Z extent g) :
    layerProjectToTile F X Y Z extent (layerProjectToWGS84 F X Y Z extent feats) = feats := by
  rw [layer_projectToTile_eq, layer_projectToWGS84_eq, List.map_map]
  refine map_id_of _ _ fun g hg => ?_
  cases g with
  | nilIface => rfl
  | nilSlice k => rfl
  | val g =>
    obtain ⟨hn, hv⟩ := hpix g hg
    simp only [Function.comp, gmap]
    congr 1
    apply geometry_roundtrip _ _ g hn
    intro p hp
    obtain ⟨i, j, ε, rfl, hε, hc⟩ := hv p hp
    exact newProjection_roundtrip F hfloor hofNat X Y Z extent ε hε i j hc

/-- `Layers.ProjectToWGS84` then `Layers.ProjectToTile`: every layer with its own extent. -/
theorem layers_roundtrip (F : MFn α)
    (hfloor : ∀ (x : α) (n : ℤ), (n : α) ≤ x → x < (n : α) + 1 → F.floor x = (n : α))
    (hofNat : ∀ n : Nat, F.ofNat n = (n : α))
    (X Y Z : Nat) (ls : List (Nat × List (GVal α)))
    (hpix : ∀ l ∈ ls, ∀ g, GVal.val g ∈ l.2 → PixelsOK F X Y Z l.1 g) :
    layersProjectToTile F X Y Z (layersProjectToWGS84 F X Y Z ls) = ls := by
  unfold layersProjectToTile layersProjectToWGS84
  rw [List.map_map]
  refine map_id_of _ _ fun l hl => ?_
  simp only [Function.comp]
  rw [layer_roundtrip F hfloor hofNat X Y Z l.1 l.2 (hpix l hl)]

/-- Extent `2^k` (k < 32, a valid tile, level below 64): the WGS84 image of ANY pixel coordinate
    `(p, q)` of the field is `ToGeo` at the tile's own zoom `Z` of `tile + (pixel + ½)/2^k`. -/
theorem toWGS84_absolute_two_pow (F : MFn α) (hofNat : ∀ n : Nat, F.ofNat n = (n : α))
    (X Y Z k : Nat) (hk : k < 32) (hX : X < 2 ^ 32) (hY : Y < 2 ^ 32) (hlev : Z + k < 64) (p q : α) :
    (newProjection F X Y Z (2 ^ k)).toWGS84 ⟨p, q⟩ =
      toGeo F Z ⟨(X : α) + (p + 1 / 2) / 2 ^ k, (Y : α) + (q + 1 / 2) / 2 ^ k⟩ := by
  rw [newProjection_pow2 F X Y Z (2 ^ k) (isPowerOfTwo_two_pow k), trailingZeros32_two_pow k hk,
    origin_no_wrap X k hX (by omega), origin_no_wrap Y k hY (by omega), hofNat, hofNat]
  simp only [pow2Proj]
  have hm1 := maxTiles_eq F hofNat (Z + k) hlev
  have hm2 := maxTiles_eq F hofNat Z (by omega)
  refine toGeo_congr F _ _ _ _ ?_ ?_
  · rw [hm1, hm2]; push_cast; exact world_fraction _ _ Z k
  · rw [hm1, hm2]; push_cast; exact world_fraction _ _ Z k

/-- The same for every extent that is not a power of two. -/
theorem toWGS84_absolute_other (F : MFn α) (hofNat : ∀ n : Nat, F.ofNat n = (n : α))
    (X Y Z e : Nat) (h : isPowerOfTwo e = false) (p q : α) :
    (newProjection F X Y Z e).toWGS84 ⟨p, q⟩ =
      toGeo F Z ⟨(X : α) + (p + 1 / 2) / (e : α), (Y : α) + (q + 1 / 2) / (e : α)⟩ := by
  rw [newProjection_nonpow2 F X Y Z e h, hofNat, hofNat, hofNat]
  simp only [nonPow2Proj]
  rw [add_comm ((p + 1 / 2) / (e : α)), add_comm ((q + 1 / 2) / (e : α))]

/-- Pixel −½ is the north-west corner `ToGeo(X, Y, Z)` of the tile. -/
theorem tile_corner_nw_two_pow (F : MFn α) (hofNat : ∀ n : Nat, F.ofNat n = (n : α))
    (X Y Z k : Nat) (hk : k < 32) (hX : X < 2 ^ 32) (hY : Y < 2 ^ 32) (hlev : Z + k < 64) :
    (newProjection F X Y Z (2 ^ k)).toWGS84 ⟨-(1 / 2), -(1 / 2)⟩ = toGeo F Z ⟨(X : α), (Y : α)⟩ := by
  rw [toWGS84_absolute_two_pow F hofNat X Y Z k hk hX hY hlev]
  simp

theorem tile_corner_nw_other (F : MFn α) (hofNat : ∀ n : Nat, F.ofNat n = (n : α))
    (X Y Z e : Nat) (h : isPowerOfTwo e = false) :
    (newProjection F X Y Z e).toWGS84 ⟨-(1 / 2), -(1 / 2)⟩ = toGeo F Z ⟨(X : α), (Y : α)⟩ := by
  rw [toWGS84_absolute_other F hofNat X Y Z e h]
  simp

/-- Pixel extent−½ is the south-east corner `ToGeo(X+1, Y+1, Z)` of the tile. -/
theorem tile_corner_se_two_pow (F : MFn α) (hofNat : ∀ n : Nat, F.ofNat n = (n : α))
    (X Y Z k : Nat) (hk : k < 32) (hX : X < 2 ^ 32) (hY : Y < 2 ^ 32) (hlev : Z + k < 64) :
    (newProjection F X Y Z (2 ^ k)).toWGS84 ⟨2 ^ k - 1 / 2, 2 ^ k - 1 / 2⟩ =
      toGeo F Z ⟨(X : α) + 1, (Y : α) + 1⟩ := by
  rw [toWGS84_absolute_two_pow F hofNat X Y Z k hk hX hY hlev]
  have h2 : (2 : α) ^ k ≠ 0 := by positivity
  simp [h2]

theorem tile_corner_se_other (F : MFn α) (hofNat : ∀ n : Nat, F.ofNat n = (n : α))
    (X Y Z e : Nat) (h : isPowerOfTwo e = false) :
    (newProjection F X Y Z e).toWGS84 ⟨(e : α) - 1 / 2, (e : α) - 1 / 2⟩ =
      toGeo F Z ⟨(X : α) + 1, (Y : α) + 1⟩ := by
  rw [toWGS84_absolute_other F hofNat X Y Z e h]
  have he : (e : α) ≠ 0 := by exact_mod_cast ne_zero_of_not_pow2 h
  simp [he]

end tile

section unproved
variable {α : Type} [Field α] [LinearOrder α] [IsStrictOrderedRing α] (F : MFn α)

/-! Full statements that are NOT proved (float accuracy; measured by the correspondence check). -/

/-- lon/lat → mercator → lon/lat within `tol` (1e-9°) for latitudes inside the mercator range. -/
def merc_roundtrip_full (tol lim : α) : Prop :=
  ∀ g : Pt α, -180 ≤ g.x → g.x ≤ 180 → -lim ≤ g.y → g.y ≤ lim →
    |(mercatorToWGS84 F (wgs84ToMercator F g)).x - g.x| ≤ tol ∧
    |(mercatorToWGS84 F (wgs84ToMercator F g)).y - g.y| ≤ tol

/-- mercator → lon/lat → mercator within `tol` (1 mm). -/
def merc_roundtrip_rev_full (tol : α) : Prop :=
  ∀ p : Pt α, -F.rPi ≤ p.x → p.x ≤ F.rPi → -F.rPi ≤ p.y → p.y ≤ F.rPi →
    |(wgs84ToMercator F (mercatorToWGS84 F p)).x - p.x| ≤ tol ∧
    |(wgs84ToMercator F (mercatorToWGS84 F p)).y - p.y| ≤ tol

/-- integer tile coordinates survive tile → WGS84 → tile exactly, for every tile and extent
    (was false for non-power-of-two extents before fix 7b86dd1: `tile_roundtrip_nonpow2_no_margin`;
    still false for buffer pixels of zoom 0/1 tiles beyond latitude asin(0.9999), where `toPlanar` clamps). -/
def tile_roundtrip_full : Prop :=
  ∀ (X Y Z extent : Nat) (i j : ℤ), Z ≤ 22 → X < 2 ^ Z → Y < 2 ^ Z → 0 < extent →
    -(extent : ℤ) ≤ i → i < 2 * extent → -(extent : ℤ) ≤ j → j < 2 * extent →
    (newProjection F X Y Z extent).toTile ((newProjection F X Y Z extent).toWGS84 ⟨(i : α), (j : α)⟩) = ⟨(i : α), (j : α)⟩

end unproved

/-- Non-vacuity: the hypotheses of the tile theorems hold for `ratFloor` with `P = G = id`, `ε = 0`
    at every pixel centre (over ℝ with the real `toPlanar`, `toGeo`: OrbProofs/C15Real.lean). -/
example : (∀ (x : Rat) (n : ℤ), (n : Rat) ≤ x → x < (n : Rat) + 1 → ratFloor x = (n : Rat)) ∧
    (∀ c : Pt Rat, CloseAt id id 0 c) :=
  ⟨ratFloor_spec, fun c => closeAt_of_eq id id c rfl⟩

/-- the hypotheses of `tile_roundtrip_nonpow2_no_margin` are satisfiable with DIFFERENT errors on the
    two axes, at one point only (`P` is exact everywhere else) -/
example : ∃ (P G : Pt Rat → Pt Rat),
    (P (G ⟨(5 : ℤ) / 1000 + 3, (7 : ℤ) / 1000 + 2⟩)).x = (5 : ℤ) / 1000 + 3 - 1 / 1000000 ∧
    (P (G ⟨(5 : ℤ) / 1000 + 3, (7 : ℤ) / 1000 + 2⟩)).y = (7 : ℤ) / 1000 + 2 - 1 / 3000 ∧
    P (G ⟨0, 0⟩) = ⟨0, 0⟩ :=
  ⟨fun u => if u.x = (5 : ℤ) / 1000 + 3 then ⟨u.x - 1 / 1000000, u.y - 1 / 3000⟩ else u, id, by
    refine ⟨?_, ?_, ?_⟩ <;> norm_num⟩

/-- a stateful projection (a call counter added to x) over a nested collection is called once per
    vertex: two line vertices and two bound corners -/
example : (geometryM (fun (p : Pt Int) (k : Int) => (⟨p.x + k, p.y⟩, k + 1))
      (.collection [.lineString [⟨0, 0⟩, ⟨0, 1⟩], .bound ⟨5, 5⟩ ⟨0, 9⟩]) 0).2 = 4 := by decide

end Orb.Project
