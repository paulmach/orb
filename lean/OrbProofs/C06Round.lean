/-
  C06 — `orb.Round` (round.go): THEOREMS about the model `Orb.Round`.

  `env : REnv α` holds the numeric primitives (`math.Round`, `float64(int)`, `int(float64)`, the
  default factor) as an ARBITRARY structure over an arbitrary coordinate type with `*` and `/`: nothing
  below depends on float arithmetic, and the Float instance used by the correspondence run
  (`Orb.Round.goEnv`) is one instance.  `f` is the working factor of the call
  (`round_default` / `round_factor` say where it comes from).

    (a) totality            the models are plain total functions: no `Res`/`Option` outcome, every Go path
                            returns (the closing `panic` of the type switch is unreachable for the nine kinds).
    (b) kind / shape        `round_kind`, `round_shape`: kind, nesting and all lengths are those of the argument.
    (c) every vertex        `round_verts`: every stored vertex `(x, y)` became
                            `(math.Round(x*f)/f, math.Round(y*f)/f)`, in storage order, at every depth.
    (d) collection = map    `round_collection`: `Round(Collection{g…}, f) = Collection{Round(g, f)…}`.
    (e) idempotent          `round_idem`: when `round(round(x*f)/f*f) = round(x*f)` for every coordinate of
                            the value, a second call changes nothing.  `round_idem_field`: over any field,
                            any `f ≠ 0` and any `rnd` that fixes its own values the hypothesis holds
                            (non-vacuity on ℚ with Mathlib's `round` at the end of the file).  In float64
                            it fails for some |x*f| ≥ 2^52 (seen by the run: tag `round-not-idempotent`).
    (f) nil                 `roundV_nil`, `roundV_typed_nil`: nil stays nil, a typed nil slice stays that typed
                            nil; with nil members (`Orb.CoreNil.NGeom`): `roundN_nil_members`.
    (g) argument            `argAfter_*`: what the caller's value reads as after the call (by value for
                            Point / Bound, in place for the slice kinds and for collection members).
    (h) two levels          `roundN_ofGeom`: on values without nil members the `NGeom` model is the `Geom` model.
-/
import Orb.Round
import Orb.Project
import OrbProofs.C06Nil
import OrbProofs.C15Pure
import Mathlib.Algebra.Order.Round
import Mathlib.Algebra.Order.Field.Rat
import Mathlib.Algebra.Order.Floor.Defs
import Mathlib.Data.Rat.Floor

set_option linter.unusedSectionVars false

namespace Orb.Round
open Orb Orb.Core Orb.CoreNil

section generic
variable {α : Type} [Mul α] [Div α] (env : REnv α) (f : α)

/-- no factor argument: the current value of `orb.DefaultRoundingFactor` -/
theorem round_default (v : GVal α) : round env [] v = roundV env env.dflt v := rfl

/-- a factor argument: `float64(factor[0])`; further arguments are ignored -/
theorem round_factor (n : Int) (more : List Int) (v : GVal α) :
    round env (n :: more) v = roundV env (env.ofInt n) v := rfl

theorem rpts_eq (rnd : α → α) : rpts rnd f = List.map (rpt rnd f) := rfl
theorem rptss_eq (rnd : α → α) : rptss rnd f = List.map (List.map (rpt rnd f)) := rfl
theorem rptsss_eq (rnd : α → α) : rptsss rnd f = List.map (List.map (List.map (rpt rnd f))) := rfl

theorem round_kind (g : Geom α) : (roundG env f g).kind = g.kind := by
  cases g <;> rfl

theorem roundG_go_eq_map (f' : α) (gs : List (Geom α)) :
    roundG.go env f' gs = gs.map (roundG env f') := by
  induction gs with
  | nil => rfl
  | cons g gs ih => rw [roundG.go, ih, List.map_cons]

theorem round_collection (gs : List (Geom α)) :
    roundG env f (.collection gs) = .collection (gs.map (roundG env f)) := by
  rw [roundG, roundG_go_eq_map]

/-- about `Project.shape.go` alone (nothing of `Round` in it); `round_shape` below is its user -/
theorem shape_go_eq_map (gs : List (Geom α)) : Project.shape.go gs = gs.map Project.shape := by
  induction gs with
  | nil => rfl
  | cons g gs ih => rw [Project.shape.go, ih, List.map_cons]

/-- the same statement as `Project.verts_go_eq_flatMap` -/
theorem verts_go_eq_flatMap (gs : List (Geom α)) : Project.verts.go gs = gs.flatMap Project.verts :=
  Project.verts_go_eq_flatMap gs

/-- kind, nesting and every length are those of the argument (whatever the factor does at depth) -/
theorem round_shape (g : Geom α) : Project.shape (roundG env f g) = Project.shape g := by
  induction g using Geom.ind with
  | collection gs ih =>
    rw [round_collection, Project.shape, Project.shape, shape_go_eq_map, shape_go_eq_map, List.map_map]
    congr 1
    apply List.map_congr_left
    intro g hg
    exact ih g hg
  | _ => simp only [roundG, Project.shape, rpts_eq, rptss_eq, rptsss_eq, List.map_map, Function.comp_def]

theorem round_verts_flat (g : Geom α) (hg : g.kind ≠ .collection) :
    Project.verts (roundG env f g) = (Project.verts g).map (rpt env.rnd f) := by
  cases g <;>
    first
    | exact absurd rfl hg
    | simp [roundG, Project.verts, rpts_eq, rptss_eq, rptsss_eq, List.map_flatten]

theorem round_verts (g : Geom α) :
    Project.verts (roundG env f g) = (Project.verts g).map (rpt env.rnd f) := by
  induction g using Geom.ind with
  | collection gs ih =>
    rw [round_collection env f, Project.verts, Project.verts, verts_go_eq_flatMap, verts_go_eq_flatMap,
      List.flatMap_map, List.map_flatMap]
    apply List.flatMap_congr
    intro g hg
    exact ih g hg
  | _ => exact round_verts_flat env f _ (by simp [Geom.kind])

/-- in coordinates: `x ↦ math.Round(x*f) / f` on both components -/
theorem rpt_def (p : Pt α) : rpt env.rnd f p = ⟨env.rnd (p.x * f) / f, env.rnd (p.y * f) / f⟩ := rfl

/-- the hypothesis of idempotence for one coordinate -/
def Stable (x : α) : Prop := env.rnd (rc env.rnd f x * f) = env.rnd (x * f)

theorem rc_idem (x : α) (h : Stable env f x) : rc env.rnd f (rc env.rnd f x) = rc env.rnd f x := by
  unfold Stable at h
  unfold rc at h ⊢
  rw [h]

theorem rpt_idem (p : Pt α) (hx : Stable env f p.x) (hy : Stable env f p.y) :
    rpt env.rnd f (rpt env.rnd f p) = rpt env.rnd f p := by
  simp only [rpt, rc_idem env f _ hx, rc_idem env f _ hy]

/-- every coordinate of every stored vertex is stable -/
def StableG (g : Geom α) : Prop := ∀ p ∈ Project.verts g, Stable env f p.x ∧ Stable env f p.y

theorem rpts_idem (ps : List (Pt α)) (h : ∀ p ∈ ps, Stable env f p.x ∧ Stable env f p.y) :
    rpts env.rnd f (rpts env.rnd f ps) = rpts env.rnd f ps := by
  simp only [rpts, List.map_map]
  apply List.map_congr_left
  intro p hp
  exact rpt_idem env f p (h p hp).1 (h p hp).2

theorem rptss_idem (ls : List (List (Pt α))) (h : ∀ p ∈ ls.flatten, Stable env f p.x ∧ Stable env f p.y) :
    rptss env.rnd f (rptss env.rnd f ls) = rptss env.rnd f ls := by
  simp only [rptss, List.map_map]
  apply List.map_congr_left
  intro l hl
  exact rpts_idem env f l (fun p hp => h p (List.mem_flatten.2 ⟨l, hl, hp⟩))

theorem rptsss_idem (ps : List (List (List (Pt α))))
    (h : ∀ p ∈ ps.flatten.flatten, Stable env f p.x ∧ Stable env f p.y) :
    rptsss env.rnd f (rptsss env.rnd f ps) = rptsss env.rnd f ps := by
  simp only [rptsss, List.map_map]
  apply List.map_congr_left
  intro l hl
  exact rptss_idem env f l (fun p hp => by
    obtain ⟨r, hr, hpr⟩ := List.mem_flatten.1 hp
    exact h p (List.mem_flatten.2 ⟨r, List.mem_flatten.2 ⟨l, hl, hr⟩, hpr⟩))

/-- A second call with the same factor changes nothing, provided `round(round(x*f)/f*f) = round(x*f)`
    for every coordinate of the value. -/
theorem round_idem (g : Geom α) (h : StableG env f g) :
    roundG env f (roundG env f g) = roundG env f g := by
  induction g using Geom.ind with
  | collection gs ih =>
    rw [round_collection env f, round_collection env f, List.map_map]
    congr 1
    apply List.map_congr_left
    intro g hg
    apply ih g hg
    intro p hp
    apply h p
    rw [Project.verts, verts_go_eq_flatMap]
    exact List.mem_flatMap.2 ⟨g, hg, hp⟩
  | point p =>
    simp only [roundG]
    rw [rpt_idem env f p (h p (by simp [Project.verts])).1 (h p (by simp [Project.verts])).2]
  | multiPoint ps => simp only [roundG]; rw [rpts_idem env f ps (fun p hp => h p (by simpa [Project.verts] using hp))]
  | lineString ps => simp only [roundG]; rw [rpts_idem env f ps (fun p hp => h p (by simpa [Project.verts] using hp))]
  | ring ps => simp only [roundG]; rw [rpts_idem env f ps (fun p hp => h p (by simpa [Project.verts] using hp))]
  | multiLineString ls => simp only [roundG]; rw [rptss_idem env f ls (fun p hp => h p (by simpa [Project.verts] using hp))]
  | polygon ls => simp only [roundG]; rw [rptss_idem env f ls (fun p hp => h p (by simpa [Project.verts] using hp))]
  | multiPolygon ps => simp only [roundG]; rw [rptsss_idem env f ps (fun p hp => h p (by simpa [Project.verts] using hp))]
  | bound a b =>
    simp only [roundG]
    rw [rpt_idem env f a (h a (by simp [Project.verts])).1 (h a (by simp [Project.verts])).2,
      rpt_idem env f b (h b (by simp [Project.verts])).1 (h b (by simp [Project.verts])).2]

theorem roundV_nil : roundV env f .nilIface = .nilIface := rfl

/-- a typed nil slice is returned as it is -/
theorem roundV_typed_nil (k : Kind) : roundV env f (.nilSlice k) = .nilSlice k := rfl

theorem roundV_val (g : Geom α) : roundV env f (.val g) = .val (roundG env f g) := rfl

theorem roundNList_eq_map (gs : List (NGeom α)) : roundNList env f gs = gs.map (roundN env f) := by
  induction gs with
  | nil => rfl
  | cons g gs ih => rw [roundNList, ih, List.map_cons]

/-- with nil members: the nil interface and every typed nil slice (top level or member of a
    collection) stay what they are, a nil ring / line / polygon below the top level stays nil (the
    `range` loops do not visit it), and a collection is rounded member by member. -/
theorem roundN_nil_members :
    roundN env f .nilIface = .nilIface ∧
    roundN env f (.multiPoint none) = .multiPoint none ∧ roundN env f (.lineString none) = .lineString none ∧
    roundN env f (.ring none) = .ring none ∧ roundN env f (.multiLineString none) = .multiLineString none ∧
    roundN env f (.polygon none) = .polygon none ∧ roundN env f (.multiPolygon none) = .multiPolygon none ∧
    roundN env f .nilCollection = .nilCollection ∧
    rNPts env.rnd f none = none ∧
    (∀ ls, roundN env f (.polygon (some (none :: ls))) = .polygon (some (none :: rNPtsL env.rnd f ls))) ∧
    (∀ ps, roundN env f (.multiPolygon (some (none :: ps))) = .multiPolygon (some (none :: rNPtssL env.rnd f ps))) ∧
    (∀ gs, roundN env f (.collection gs) = .collection (gs.map (roundN env f))) :=
  ⟨rfl, rfl, rfl, rfl, rfl, rfl, rfl, rfl, rfl, fun _ => rfl, fun _ => rfl,
    fun gs => by rw [roundN, roundNList_eq_map]⟩

/-- a Point or a Bound travels by value: the caller's value is untouched -/
theorem argAfter_point (p : Pt α) : argAfterV env f (.val (.point p)) = .val (.point p) := rfl
theorem argAfter_bound (a b : Pt α) : argAfterV env f (.val (.bound a b)) = .val (.bound a b) := rfl

/-- every other kind is rounded in place: afterwards the argument reads as the result -/
theorem argAfter_in_place (g : Geom α) (hp : g.kind ≠ .point) (hb : g.kind ≠ .bound) :
    argAfterV env f (.val g) = roundV env f (.val g) := by
  cases g <;> first | exact absurd rfl hp | exact absurd rfl hb | rfl

/-- a nil interface / a typed nil slice is still what it was -/
theorem argAfter_nil : argAfterV env f .nilIface = .nilIface ∧ ∀ k, argAfterV env f (.nilSlice k) = .nilSlice k :=
  ⟨rfl, fun _ => rfl⟩

theorem rNPtsL_map_some (ls : List (List (Pt α))) :
    rNPtsL env.rnd f (ls.map some) = (rptss env.rnd f ls).map some := by
  simp [rNPtsL, rNPts, rptss, List.map_map, Function.comp_def]

theorem rNPtssL_map_some (ps : List (List (List (Pt α)))) :
    rNPtssL env.rnd f (ps.map fun rs => some (rs.map some)) =
      (rptsss env.rnd f ps).map fun rs => some (rs.map some) := by
  simp [rNPtssL, rptsss, List.map_map, Function.comp_def, rNPtsL_map_some]

theorem roundN_ofGeom (g : Geom α) : roundN env f (ofGeom g) = ofGeom (roundG env f g) := by
  induction g using Geom.ind with
  | collection gs ih =>
    rw [ofGeom, roundN, roundG, ofGeom, ofGeomList_eq_map, roundNList_eq_map, roundG_go_eq_map, ofGeomList_eq_map,
      List.map_map, List.map_map, List.map_congr_left (f := roundN env f ∘ ofGeom) (g := ofGeom ∘ roundG env f) ih]
  | _ => simp [ofGeom, roundN, roundG, rNPtsL_map_some, rNPtssL_map_some]

end generic

section exact
variable {α : Type} [Field α] (env : REnv α) (f : α)

/-- Over a field, for a non-zero factor and a rounding function that leaves its own values alone
    (`round (round y) = round y`), every coordinate is stable … -/
theorem stable_of_field (hf0 : f ≠ 0) (hfix : ∀ y, env.rnd (env.rnd y) = env.rnd y) (x : α) : Stable env f x := by
  unfold Stable rc
  rw [div_mul_cancel₀ _ hf0, hfix]

/-- … hence `Round` is idempotent on every value. -/
theorem round_idem_field (hf0 : f ≠ 0) (hfix : ∀ y, env.rnd (env.rnd y) = env.rnd y)
    (g : Geom α) : roundG env f (roundG env f g) = roundG env f g :=
  round_idem env f g (fun p _ => ⟨stable_of_field env f hf0 hfix p.x, stable_of_field env f hf0 hfix p.y⟩)

/-- the rational numbers with Mathlib's `round`, exact `int` conversions and the default 10^6 -/
def ratEnv : REnv ℚ := ⟨fun x => ((_root_.round x : ℤ) : ℚ), fun n => (n : ℚ), fun x => ⌊x⌋, 1000000⟩

/-- Non-vacuity: on ℚ the hypotheses of `round_idem_field` hold for every integer factor other than 0
    (in particular the default), so `round_idem` is not about an empty class of environments. -/
theorem ratEnv_ok (n : ℤ) (hn : n ≠ 0) :
    ((n : ℚ) ≠ 0) ∧ (∀ y, ratEnv.rnd (ratEnv.rnd y) = ratEnv.rnd y) := by
  refine ⟨by exact_mod_cast hn, fun y => ?_⟩
  simp [ratEnv]

example : roundG ratEnv 10 (.collection [.point ⟨1/4, -7/20⟩, .lineString [⟨123456/100000, 5/100⟩]]) =
    .collection [.point ⟨3/10, -3/10⟩, .lineString [⟨12/10, 1/10⟩]] := by
  simp [roundG, roundG.go, rpt, rpts, rc, ratEnv]
  norm_num [round_eq, Int.floor_eq_iff]

end exact

end Orb.Round
