/-
  The readers of the format are built in four ways — a fixed-width word, a `counted` repetition (`rep`), a `member`
  with a header of its own, and the byte-slice decoders' `strided` element (scan, then skip the re-derived stride).
  A stream reader has ONE statement: `Codec rd enc WF m` (no panic; a success is in `WF` and consumed `m` bytes at
  least; on `enc a` followed by anything `rd` returns `a` and what follows), with one lemma per way of building.
  Every loop of both decoders is `rep` of its element reader (`…_eq`, proved by cases: the `match` auxiliaries of
  two definitions never unify, but they agree on each constructor), so there is one induction and one round trip.
-/
import OrbProofs.C01Bytes
import OrbProofs.ResLemmas

namespace Orb.WKB
open Orb Generated.Params

variable {α β : Type}

/- Sums of `Nat` lists, on core Lean alone (Mathlib's `List.sum_map_add` &c. are not in reach of these modules). -/

theorem sum_const (c : Nat) (xs : List α) : (xs.map fun _ => c).sum = c * xs.length := by
  rw [List.map_const', List.sum_replicate_nat, Nat.mul_comm]

theorem sum_map_add (f g : α → Nat) (xs : List α) :
    (xs.map fun x => f x + g x).sum = (xs.map f).sum + (xs.map g).sum := by
  induction xs with
  | nil => rfl
  | cons x xs ih => simp only [List.map_cons, List.sum_cons, ih]; omega

theorem sum_map_mul (c : Nat) (f : α → Nat) (xs : List α) : (xs.map fun x => c * f x).sum = c * (xs.map f).sum := by
  induction xs with
  | nil => rfl
  | cons x xs ih => simp only [List.map_cons, List.sum_cons, ih, Nat.mul_add]

theorem readFull_post (n : Nat) (s : Bytes) : Res.Post (fun p => p.2.length + n = s.length) (readFull n s) := by
  unfold readFull
  split; exact trivial
  split; exact trivial
  show (s.drop n).length + n = s.length
  simp only [List.length_drop]; omega

theorem readU32_eq (o : Order) (s : Bytes) :
    readU32 o s = (readFull 4 s).bind fun p => .ok (rd32 o p.1, p.2) := by
  unfold readU32; cases readFull 4 s <;> rfl

theorem readU32_post (o : Order) (s : Bytes) :
    Res.Post (fun p => p.2.length + 4 = s.length ∧ p.1 < 2 ^ 32) (readU32 o s) := by
  rw [readU32_eq]
  exact ((readFull_post 4 s).mono fun _ h => ⟨h, rd32_lt _ _⟩).bind

theorem readU32_len {o : Order} {s r : Bytes} {n : Nat} (h : readU32 o s = .ok (n, r)) :
    r.length + 4 = s.length := ((readU32_post o s).ok h).1

theorem readPoint_eq (o : Order) (s : Bytes) :
    readPoint o s = (readFull 8 s).bind fun p => (readFull 8 p.2).bind fun q =>
      .ok (⟨rd64 o p.1, rd64 o q.1⟩, q.2) := by
  unfold readPoint
  cases readFull 8 s with
  | ok p => cases h : readFull 8 p.2 <;> simp only [h, Res.bind]
  | err e => rfl
  | panic m => rfl

theorem readPoint_post (o : Order) (s : Bytes) :
    Res.Post (fun p => p.2.length + 16 = s.length) (readPoint o s) := by
  rw [readPoint_eq]
  refine ((readFull_post 8 s).mono fun p h1 => ?_).bind
  refine ((readFull_post 8 p.2).mono fun q h2 => ?_).bind
  show q.2.length + 16 = s.length
  omega

theorem readPoint_len {o : Order} {s r : Bytes} {p : Pt UInt64} (h : readPoint o s = .ok (p, r)) :
    r.length + 16 = s.length := (readPoint_post o s).ok h

theorem readBOT_eq (b : UInt8) (s : Bytes) :
    readBOT (b :: s) =
      match (if b = 0 then some Order.big else if b = 1 then some .little else none) with
      | none => .err .notWKBHeader
      | some o => (readU32 o s).bind fun p =>
          if p.1 &&& wkb_ewkbType = 0 then .ok (o, p.1, 0, p.2)
          else (readU32 o p.2).bind fun q => .ok (o, p.1 &&& wkb_hdrMaskStream, q.1, q.2) := by
  simp only [readBOT]
  generalize (if b = 0 then some Order.big else if b = 1 then some Order.little else none) = oo
  cases oo with
  | none => rfl
  | some o =>
    simp only []
    cases readU32 o s with
    | ok p => simp only [Res.bind]; split; rfl; cases readU32 o p.2 <;> rfl
    | err e => rfl
    | panic m => rfl

/-- five bytes at least: the mark and the type word (nine when the EWKB flag announces an SRID) -/
theorem readBOT_post (s : Bytes) : Res.Post (fun p => p.2.2.2.length + 5 ≤ s.length) (readBOT s) := by
  cases s with
  | nil => exact trivial
  | cons b s =>
    rw [readBOT_eq]
    split; exact trivial
    rename_i o _
    refine ((readU32_post o s).mono fun p h1 => ?_).bind
    split
    · show p.2.length + 5 ≤ (b :: s).length
      simp only [List.length_cons]; omega
    · refine ((readU32_post o p.2).mono fun q h2 => ?_).bind
      show q.2.length + 5 ≤ (b :: s).length
      simp only [List.length_cons]; omega

theorem readBOT_len {s r : Bytes} {o : Order} {t srid : Nat} (h : readBOT s = .ok (o, t, srid, r)) :
    r.length + 5 ≤ s.length := (readBOT_post s).ok h

theorem sliceFrom_post (d : Bytes) (n : Nat) (h : n ≤ d.length) :
    Res.Post (fun rest => rest.length + n = d.length) (sliceFrom d n) := by
  unfold sliceFrom; rw [if_pos h]
  show (d.drop n).length + n = d.length
  simp only [List.length_drop]; omega

theorem sliceFrom_len {data rest : Bytes} {n : Nat} (h : sliceFrom data n = .ok rest) :
    rest.length + n = data.length := by
  unfold sliceFrom at h
  split at h
  · injection h with h; subst h; simp only [List.length_drop]; omega
  · contradiction

theorem sliceFrom_append (l rest : Bytes) (n : Nat) (h : l.length = n) :
    sliceFrom (l ++ rest) n = .ok rest := by
  unfold sliceFrom
  have : n ≤ (l ++ rest).length := by simp only [List.length_append]; omega
  rw [if_pos this, List.drop_left' h]

def rep (rd : Bytes → R (α × Bytes)) : Nat → Bytes → R (List α × Bytes)
  | 0, s => .ok ([], s)
  | n+1, s => (rd s).bind fun p => (rep rd n p.2).bind fun q => .ok (p.1 :: q.1, q.2)

/-- The induction over a loop, once: it does not panic when its element reader does not, and a success is built
    from successes of the element reader.  `E s x s1`: what a successful element read of `s` (value `x`, rest `s1`)
    establishes; `L n s xs r`: what is claimed of `n` turns. -/
theorem rep_post {rd : Bytes → R (α × Bytes)} {E : Bytes → α → Bytes → Prop}
    (hrd : ∀ s, Res.Post (fun p => E s p.1 p.2) (rd s))
    (L : Nat → Bytes → List α → Bytes → Prop) (h0 : ∀ s, L 0 s [] s)
    (hs : ∀ {n s x s1 xs r}, E s x s1 → L n s1 xs r → L (n + 1) s (x :: xs) r) :
    ∀ n s, Res.Post (fun q => L n s q.1 q.2) (rep rd n s)
  | 0, s => h0 s
  | n+1, s => ((hrd s).mono fun _ hp => ((rep_post hrd L h0 hs n _).mono fun _ hq => hs hp hq).bind).bind

/-- The success half alone, for an element reader of which nothing is known: the step gets the element read itself. -/
theorem rep_ind {rd : Bytes → R (α × Bytes)} (L : Nat → Bytes → List α → Bytes → Prop) (h0 : ∀ s, L 0 s [] s)
    (hs : ∀ {n s x s1 xs r}, rd s = .ok (x, s1) → L n s1 xs r → L (n + 1) s (x :: xs) r) :
    ∀ n {s xs r}, rep rd n s = .ok (xs, r) → L n s xs r
  | 0, s, xs, r, h => by
    simp only [rep, Res.ok.injEq, Prod.mk.injEq] at h
    obtain ⟨rfl, rfl⟩ := h
    exact h0 s
  | n+1, s, xs, r, h => by
    obtain ⟨p, hp, h⟩ := Res.bind_eq_ok h
    obtain ⟨q, hq, h⟩ := Res.bind_eq_ok h
    cases h
    exact hs hp (rep_ind L h0 hs n hq)

theorem rep_len {rd : Bytes → R (α × Bytes)} (m : α → Nat) (P : α → Prop)
    (hrd : ∀ s, Res.Post (fun p => m p.1 + p.2.length ≤ s.length ∧ P p.1) (rd s)) (n : Nat) (s : Bytes) :
    Res.Post (fun q => (q.1.map m).sum + q.2.length ≤ s.length ∧ q.1.length = n ∧ ∀ x ∈ q.1, P x) (rep rd n s) :=
  rep_post (E := fun s x s1 => m x + s1.length ≤ s.length ∧ P x) hrd
    (fun n s xs r => (xs.map m).sum + r.length ≤ s.length ∧ xs.length = n ∧ ∀ x ∈ xs, P x)
    (fun _ => ⟨by simp, rfl, nofun⟩)
    (fun h ih => ⟨by simp only [List.map_cons, List.sum_cons]; omega, by simp only [List.length_cons, ih.2.1],
      List.forall_mem_cons.2 ⟨h.2, ih.2.2⟩⟩) n s

theorem rep_enc {rd : Bytes → R (α × Bytes)} (enc : α → Bytes) (xs : List α) (rest : Bytes)
    (h : ∀ x ∈ xs, ∀ rest', rd (enc x ++ rest') = .ok (x, rest')) :
    rep rd xs.length (xs.flatMap enc ++ rest) = .ok (xs, rest) := by
  induction xs with
  | nil => rfl
  | cons x xs ih =>
    simp only [List.flatMap_cons, List.length_cons, rep, List.append_assoc, h x (by simp), Res.bind_ok,
      ih fun y hy => h y (by simp [hy])]

structure Codec (rd : Bytes → R (α × Bytes)) (enc : α → Bytes) (WF : α → Prop) (m : α → Nat) : Prop where
  post : ∀ s, Res.Post (fun p => m p.1 + p.2.length ≤ s.length ∧ WF p.1) (rd s)
  enc : ∀ a rest, WF a → rd (enc a ++ rest) = .ok (a, rest)

theorem Codec.rep {rd : Bytes → R (α × Bytes)} {enc : α → Bytes} {WF : α → Prop} {m : α → Nat}
    (h : Codec rd enc WF m) (n : Nat) :
    Codec (rep rd n) (fun xs => xs.flatMap enc) (fun xs => xs.length = n ∧ ∀ x ∈ xs, WF x)
      (fun xs => (xs.map m).sum) where
  post := rep_len m WF h.post n
  enc := fun xs rest hw => hw.1 ▸ rep_enc enc xs rest fun x hx r => h.enc x r (hw.2 x hx)

def counted (o : Order) (rd : Bytes → R (α × Bytes)) (s : Bytes) : R (List α × Bytes) :=
  (readU32 o s).bind fun p => rep rd p.1 p.2

theorem Codec.counted {rd : Bytes → R (α × Bytes)} {enc : α → Bytes} {WF : α → Prop} {m : α → Nat}
    (h : Codec rd enc WF m) (o : Order) :
    Codec (counted o rd) (fun xs => u32 o xs.length ++ xs.flatMap enc)
      (fun xs => xs.length < 2 ^ 32 ∧ ∀ x ∈ xs, WF x) (fun xs => (xs.map m).sum + 4) where
  post := fun s => ((readU32_post o s).mono fun p h1 =>
    ((h.rep p.1).post p.2).mono fun q h2 => ⟨by omega, by omega, h2.2.2⟩).bind
  enc := fun xs rest hw => by
    simp only [Orb.WKB.counted, List.append_assoc, readU32_u32_of_lt _ _ _ hw.1, Res.bind_ok]
    exact (h.rep xs.length).enc xs rest ⟨rfl, hw.2⟩

/-- a member of a multi in the stream: a header of its own, whose type must be `want` and whose SRID is dropped -/
def member (want : Nat) (rd : Order → Bytes → R (β × Bytes)) (s : Bytes) : R (β × Bytes) :=
  (readBOT s).bind fun h => if h.2.1 ≠ want then .err .badMember else rd h.1 h.2.2.2

theorem member_post (want : Nat) (rd : Order → Bytes → R (β × Bytes)) (m : β → Nat) (P : β → Prop)
    (hrd : ∀ o s, Res.Post (fun p => m p.1 + p.2.length ≤ s.length ∧ P p.1) (rd o s)) (s : Bytes) :
    Res.Post (fun p => m p.1 + 5 + p.2.length ≤ s.length ∧ P p.1) (member want rd s) := by
  refine ((readBOT_post s).mono fun t h1 => ?_).bind
  split; exact trivial
  exact (hrd _ _).mono fun p h2 => ⟨by omega, h2.2⟩

theorem Codec.member {rd : Order → Bytes → R (β × Bytes)} {encB : Order → β → Bytes} {WF : β → Prop} {m : β → Nat}
    (h : ∀ o, Codec (rd o) (encB o) WF m) (want : Nat) (ht : TC want) (o : Order) :
    Codec (member want rd) (fun x => orderByte o :: (hdr o want 0 ++ encB o x)) WF (fun x => m x + 5) where
  post := member_post want rd m WF fun o => (h o).post
  enc := fun x rest hw => by
    simp only [Orb.WKB.member, List.cons_append, List.append_assoc, readBOT_hdr o want 0 _ ht (by decide),
      Res.bind_ok, ne_eq, not_true_eq_false, if_false, (h o).enc x rest hw]

/-- the byte-slice decoders' way of reading one element: scan it, then go on at `d[stride x:]` of the SAME slice -/
def strided (scan : Bytes → R (β × Nat)) (stride : β → Nat) (d : Bytes) : R (β × Bytes) :=
  (scan d).bind fun p => (sliceFrom d (stride p.1)).bind fun rest => .ok (p.1, rest)

theorem strided_inv {scan : Bytes → R (β × Nat)} {stride : β → Nat} {d rest : Bytes} {x : β}
    (h : strided scan stride d = .ok (x, rest)) :
    (∃ srid, scan d = .ok (x, srid)) ∧ rest.length + stride x = d.length := by
  obtain ⟨p, hp, h⟩ := Res.bind_eq_ok h
  obtain ⟨rest', hr, h⟩ := Res.bind_eq_ok h
  cases h
  exact ⟨⟨p.2, hp⟩, sliceFrom_len hr⟩

/-- `hpost`: the scan accounts for the stride that is re-derived from its value — why the slice expression cannot
    panic. -/
theorem strided_post (scan : Bytes → R (β × Nat)) (stride : β → Nat) (P : β → Prop)
    (hpost : ∀ d, Res.Post (fun p => stride p.1 ≤ d.length ∧ P p.1) (scan d)) (d : Bytes) :
    Res.Post (fun p => stride p.1 + p.2.length ≤ d.length ∧ P p.1) (strided scan stride d) := by
  refine ((hpost d).mono fun p h1 => ?_).bind
  exact ((sliceFrom_post d _ h1.1).mono fun rest h2 =>
    ⟨by show stride p.1 + rest.length ≤ d.length; omega, h1.2⟩).bind

theorem readPtsLoop_eq (o : Order) : ∀ n s, readPtsLoop o n s = rep (readPoint o) n s
  | 0, _ => rfl
  | n+1, s => by
    rw [readPtsLoop, rep]
    cases readPoint o s with
    | ok p => simp only [Res.bind_ok, ← readPtsLoop_eq o n]; cases readPtsLoop o n p.2 <;> rfl
    | err e => rfl
    | panic m => rfl

theorem readLineString_eq (o : Order) (s : Bytes) : readLineString o s = counted o (readPoint o) s := by
  unfold readLineString counted; cases readU32 o s <;> simp only [Res.bind, readPtsLoop_eq]

theorem readRingsLoop_eq (o : Order) : ∀ n s, readRingsLoop o n s = rep (readLineString o) n s
  | 0, _ => rfl
  | n+1, s => by
    rw [readRingsLoop, rep]
    cases readLineString o s with
    | ok p => simp only [Res.bind_ok, ← readRingsLoop_eq o n]; cases readRingsLoop o n p.2 <;> rfl
    | err e => rfl
    | panic m => rfl

theorem readPolygon_eq (o : Order) (s : Bytes) : readPolygon o s = counted o (readLineString o) s := by
  unfold readPolygon counted; cases readU32 o s <;> simp only [Res.bind, readRingsLoop_eq]

theorem readMembers_eq (want : Nat) (rd : Order → Bytes → R (β × Bytes)) :
    ∀ n s, readMembers want rd n s = rep (member want rd) n s
  | 0, _ => rfl
  | n+1, s => by
    rw [readMembers, rep, member]
    cases readBOT s with
    | ok h =>
      simp only [Res.bind_ok]
      split; rfl
      cases rd h.1 h.2.2.2 with
      | ok p => simp only [Res.bind_ok, ← readMembers_eq want rd n]; cases readMembers want rd n p.2 <;> rfl
      | err e => rfl
      | panic m => rfl
    | err e => rfl
    | panic m => rfl

/-- a member of a collection: `Decode`, the member's SRID dropped -/
def collMember (dec : Bytes → R (G × Nat × Bytes)) (s : Bytes) : R (G × Bytes) :=
  (dec s).bind fun t => .ok (t.1, t.2.2)

theorem collLoop_eq (dec : Bytes → R (G × Nat × Bytes)) : ∀ n s, collLoop dec n s = rep (collMember dec) n s
  | 0, _ => rfl
  | n+1, s => by
    rw [collLoop, rep, collMember]
    cases dec s with
    | ok t => simp only [Res.bind_ok, ← collLoop_eq dec n]; cases collLoop dec n t.2.2 <;> rfl
    | err e => rfl
    | panic m => rfl

theorem readCollectionF_eq (left : Nat) (o : Order) (s : Bytes) :
    readCollectionF (left + 1) o s = counted o (collMember (decodeWith (readCollectionF left))) s := by
  rw [readCollectionF, counted]; cases readU32 o s <;> simp only [Res.bind, collLoop_eq]

theorem memberLoop_eq (scan : Bytes → R (β × Nat)) (stride : β → Nat) :
    ∀ n d, memberLoop scan stride n d = (rep (strided scan stride) n d).bind fun q => .ok q.1
  | 0, _ => rfl
  | n+1, d => by
    rw [memberLoop, rep, strided]
    cases scan d with
    | ok p =>
      simp only [Res.bind_ok]
      cases sliceFrom d (stride p.1) with
      | ok rest =>
        simp only [Res.bind_ok, memberLoop_eq scan stride n]
        cases rep (strided scan stride) n rest <;> rfl
      | err e => rfl
      | panic m => rfl
    | err e => rfl
    | panic m => rfl

/-- a ring of `unmarshalPolygon` seen as a member scan: `unmarshalPoints`, no SRID -/
def ringScan (o : Order) (d : Bytes) : R (List (Pt UInt64) × Nat) :=
  (unmarshalPoints o d).bind fun ps => .ok (ps, 0)

theorem unmarshalPolygon_loop_eq (o : Order) : ∀ n d,
    unmarshalPolygon.loop o n d = memberLoop (ringScan o) (fun ps => 16 * ps.length + 4) n d
  | 0, _ => rfl
  | n+1, d => by
    rw [unmarshalPolygon.loop, memberLoop, ringScan]
    cases unmarshalPoints o d with
    | ok ps =>
      simp only [Res.bind_ok, unmarshalPolygon_loop_eq o n]
      cases sliceFrom d (16 * ps.length + 4) with
      | ok rest => simp only []; cases memberLoop _ _ n rest <;> rfl
      | err e => rfl
      | panic m => rfl
    | err e => rfl
    | panic m => rfl

/-- the byte-slice decoders' counted list: a length guard for the count word, then that many strided members.
    `unmarshalMultiF tS single stride` is, by definition, `countedB (scanMember tS single) stride`. -/
def countedB (scan : Bytes → R (β × Nat)) (stride : β → Nat) (o : Order) (d : Bytes) : R (List β) :=
  if d.length < 4 then .err .notWKB else memberLoop scan stride (rd32 o d) (d.drop 4)

theorem unmarshalPolygon_eq (o : Order) (d : Bytes) :
    unmarshalPolygon o d = countedB (ringScan o) (fun ps => 16 * ps.length + 4) o d := by
  unfold unmarshalPolygon countedB; split; rfl; exact unmarshalPolygon_loop_eq o _ _

end Orb.WKB
