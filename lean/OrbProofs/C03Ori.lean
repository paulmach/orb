/-
  C03, regrouping of rings by `Ring.Orientation`: on a ring of small extent every number the
  shifted shoelace computes is an integer of magnitude ≤ 2^53 (hence exactly representable in
  float64), whatever the distance of the ring from the origin.  See `Orb.MVT.oriExactDomain`.
-/
import Orb.MVTOri
import Mathlib.Tactic.Linarith
import Mathlib.Algebra.Order.Ring.Abs

namespace Orb.MVT
open Orb

theorem orientTrace_last (o : Pt Int) (l : List (Pt Int)) (acc : Int) :
    Core.orientArea.go o l acc = ((orientTrace o l acc).getLast?).getD acc := by
  fun_induction Core.orientArea.go o l acc with
  | case1 p q t acc ih =>
    rw [ih, orientTrace]
    cases h : orientTrace o (q :: t) (acc + ((p.x - o.x) * (q.y - o.y) - (q.x - o.x) * (p.y - o.y))) with
    | nil => simp
    | cons v vs => simp [List.getLast?_eq_some_getLast (List.cons_ne_nil v vs)]
  | case2 l acc h =>
    rw [orientTrace]
    · rfl
    · exact h

private theorem abs_mul_le_sq {a b D : Int} (ha : |a| ≤ D) (hb : |b| ≤ D) : |a * b| ≤ D * D := by
  rw [abs_mul]
  exact mul_le_mul ha hb (abs_nonneg b) (le_trans (abs_nonneg a) ha)

/-- The bound on every intermediate.  With all vertices of `l` within `D` of `o` (in both
    coordinates) a step adds a term of magnitude ≤ 2·D² to the accumulator; so a bound `B ≥ D`
    that leaves the accumulator room for 2·D² per vertex still to come bounds every number of
    the trace. -/
theorem orientTrace_bounded (o : Pt Int) {D B : Int} (hDB : D ≤ B) (l : List (Pt Int)) (acc : Int)
    (hl : ∀ p ∈ l, |p.x - o.x| ≤ D ∧ |p.y - o.y| ≤ D)
    (hacc : |acc| + 2 * (l.length : Int) * (D * D) ≤ B) :
    ∀ v ∈ orientTrace o l acc, |v| ≤ B := by
  fun_induction orientTrace o l acc with
  | case2 => simp
  | case1 p q t acc a b c d acc' ih =>
    have hp := hl p (by simp)
    have hq := hl q (by simp)
    have hD : (0 : Int) ≤ D := le_trans (abs_nonneg _) hp.1
    have hab : |a * b| ≤ D * D := abs_mul_le_sq hp.1 hq.2
    have hcd : |c * d| ≤ D * D := abs_mul_le_sq hq.1 hp.2
    have hterm := abs_sub (a * b) (c * d)
    have hacc' := abs_add_le acc (a * b - c * d)
    have hDD : (0 : Int) ≤ D * D := mul_nonneg hD hD
    have hrest : (0 : Int) ≤ (t.length : Int) * (D * D) := mul_nonneg (Int.natCast_nonneg _) hDD
    have h0 := abs_nonneg acc
    simp only [List.length_cons, Nat.cast_add, Nat.cast_one] at hacc
    have hB : |acc| + 2 * (D * D) ≤ B := by linarith only [hacc, hrest, hDD]
    intro v hv
    simp only [List.mem_append, List.mem_cons, List.not_mem_nil, or_false] at hv
    rcases hv with (rfl | rfl | rfl | rfl | rfl | rfl | rfl | rfl) | h
    · exact hp.1.trans hDB
    · exact hq.2.trans hDB
    · exact hq.1.trans hDB
    · exact hp.2.trans hDB
    · linarith only [hab, hDD, h0, hB]
    · linarith only [hcd, hDD, h0, hB]
    · linarith only [hterm, hab, hcd, h0, hB]
    · linarith only [hacc', hterm, hab, hcd, hB]
    · refine ih (fun p' hp' => hl p' (List.mem_cons_of_mem _ hp')) ?_ v h
      simp only [List.length_cons, Nat.cast_add, Nat.cast_one]
      linarith only [hacc, hacc', hterm, hab, hcd]

theorem le_foldl_max {α : Type} (g : α → Nat) (l : List α) (m : Nat) :
    m ≤ l.foldl (fun m p => max m (g p)) m ∧ ∀ p ∈ l, g p ≤ l.foldl (fun m p => max m (g p)) m := by
  induction l generalizing m with
  | nil => simp
  | cons q t ih =>
    obtain ⟨h1, h2⟩ := ih (max m (g q))
    refine ⟨le_trans (le_max_left _ _) h1, fun p hp => ?_⟩
    rcases List.mem_cons.mp hp with rfl | hp
    · exact le_trans (le_max_right _ _) h1
    · exact h2 p hp

theorem ringExtent_spec (o : Pt Int) (rest : List (Pt Int)) :
    ∀ p ∈ rest, |p.x - o.x| ≤ (ringExtent (o :: rest) : Int) ∧ |p.y - o.y| ≤ (ringExtent (o :: rest) : Int) := by
  intro p hp
  have h := (le_foldl_max (fun p : Pt Int => max (p.x - o.x).natAbs (p.y - o.y).natAbs) rest 0).2 p hp
  simp only [ringExtent]
  rw [Int.abs_eq_natAbs, Int.abs_eq_natAbs]
  exact ⟨by exact_mod_cast le_trans (le_max_left _ _) h, by exact_mod_cast le_trans (le_max_right _ _) h⟩

/-- The instance of `orientTrace_bounded` for a whole ring (`ringTrace`) on `oriExactDomain`, with `B = 2^53`. -/
theorem orientTrace_fits (r : List (Pt Int)) (h : oriExactDomain r = true) :
    ∀ v ∈ ringTrace r, |v| ≤ 2 ^ 53 := by
  cases r with
  | nil => simp [ringTrace]
  | cons o rest =>
    simp only [oriExactDomain, decide_eq_true_eq, List.length_cons] at h
    generalize hD : ringExtent (o :: rest) = D at h
    have hDB : D ≤ 2 ^ 53 :=
      calc D ≤ D * D := Nat.le_mul_self D
        _ ≤ 2 * (rest.length + 1) * (D * D) := Nat.le_mul_of_pos_left _ (by omega)
        _ = 2 * (rest.length + 1) * D * D := (Nat.mul_assoc _ _ _).symm
        _ ≤ 2 ^ 53 := h
    have hZ : 2 * ((rest.length : Int) + 1) * D * D ≤ 2 ^ 53 := by exact_mod_cast h
    refine orientTrace_bounded o (D := D) (by exact_mod_cast hDB) rest 0 (hD ▸ ringExtent_spec o rest) ?_
    rw [abs_zero, zero_add]
    linarith [mul_self_nonneg (D : Int)]

/-- Non-vacuity, at the far corner of the quantifier: a unit square at (2^28−2, −(2^28−2)) is in
    the exact domain, while a thin triangle spanning 2^27 (the known finding's witness) is not. -/
example : oriExactDomain [⟨268435454, -268435454⟩, ⟨268435455, -268435454⟩, ⟨268435455, -268435453⟩,
    ⟨268435454, -268435453⟩, ⟨268435454, -268435454⟩] = true := by decide
example : oriExactDomain [⟨0, 0⟩, ⟨134217728, 134217727⟩, ⟨134217729, 134217728⟩, ⟨0, 0⟩] = false := by decide

end Orb.MVT
