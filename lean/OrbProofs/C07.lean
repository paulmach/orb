/-
  C07 — Line clipping returns exactly the part of the line inside the box.
  PROPERTY THEOREMS about the model `Orb.Clip` (clip/clip.go `line`, `bitCode`, `bitCodeOpen`,
  `intersect`, `push`; clip/helpers.go LineString / MultiLineString).

  The clauses "pieces appear in travel order" and "total length equals the length inside" are proved
  in OrbProofs/C07Order.lean (`clip_order`, `clip_segments`, `clip_length`, `clip_length_sem`), which
  is audited together with this file.

  Coordinates range over an arbitrary ordered field (exact arithmetic; floating-point rounding is
  not modelled).  `BoxOK` = positive width and height.
-/
import OrbProofs.C07Lemmas
import OrbProofs.C07Mls
import OrbProofs.C07Options
import Mathlib.Algebra.Order.Field.Rat
import Mathlib.Tactic.NormNum

namespace Orb.Clip
open Orb Orb.Core

variable {α : Type} [Field α] [LinearOrder α] [IsStrictOrderedRing α]

set_option linter.unusedVariables false in
set_option linter.unusedSectionVars false in
/-- The Cohen–Sutherland loop never gets stuck (fuel 8 suffices, `intersect` always finds an edge):
    `line` returns a value for every input, in both modes.  (`hb` is not used by the proof: this is `line_total_any`
    below with the property's precondition.) -/
theorem line_total (box : Bound α) (hb : BoxOK box) (isOpen : Bool) (inp : List (Pt α)) :
    ∃ out, line box isOpen inp = some out := line_total_any' box isOpen inp

/-- Segment level, closed mode: an accepted segment is exactly the part of the segment inside the
    closed box, a rejected one has no point inside. -/
theorem segLoop_closed_spec (box : Bound α) (hb : BoxOK box) (a b : Pt α) :
    (match segLoop box false 8 a b (bitCode box a) (bitCode box b) 0 0 with
     | .accept a' b' _ => InBox box a' ∧ InBox box b' ∧ OnSeg a b a' ∧ OnSeg a b b' ∧
         ∀ q, OnSeg a b q → (InBox box q ↔ OnSeg a' b' q)
     | .reject => ∀ q, OnSeg a b q → ¬ InBox box q
     | .stuck => False) := by
  rw [segLoop_eq_segLoopU hb false (W_bitCode hb a) (W_bitCode hb b) (bitCount_bitCode_le box a)
    (bitCount_bitCode_le box b) (fun h => Bool.noConfusion h) 8]
  exact segLoopU_closed hb a b

/-- THE ROUNDING GUARDS CHANGE NOTHING over an ordered field.  clip.line clips an end point at most
    twice and then snaps it onto the box (`clampToBound`; cf. finding
    C07-corner-rounding-nontermination), and with the open bound keeps a far end that is a vertex on the
    boundary instead of recomputing it.  Started as the outer loop starts it, with either option, the
    model's inner loop equals the loop without these guards (`segLoopU`, OrbProofs/ClipLoop.lean): the
    theorems of this file speak about the code as it is.  (The same statement as `segLoop_code_eq`, with `code` written
    out.) -/
theorem segLoop_guard_unused (box : Bound α) (hb : BoxOK box) (isOpen : Bool) (a b : Pt α) :
    segLoop box isOpen 8 a b (if isOpen then bitCodeOpen box a else bitCode box a)
        (if isOpen then bitCodeOpen box b else bitCode box b) 0 0 =
      segLoopU box 8 a b (if isOpen then bitCodeOpen box a else bitCode box a)
        (if isOpen then bitCodeOpen box b else bitCode box b) :=
  segLoop_code_eq hb isOpen a b

/-- TOTALITY FOR ANY ARITHMETIC (no exactness, no hypothesis on the box): whatever `+ - * / < ≤` do on
    the coordinate type — `Float` with its rounding, NaN and infinities included — the inner loop ends
    within its 8 rounds (at most two clips and one snap per end) and `line` returns a value. -/
theorem line_total_any {β : Type} [Add β] [Sub β] [Mul β] [Div β] [LT β] [LE β] [DecidableLT β]
    [DecidableLE β] [BEq β] [Min β] [Max β] (box : Bound β) (isOpen : Bool) (inp : List (Pt β)) :
    ∃ out, line box isOpen inp = some out := line_total_any' box isOpen inp

/-- … in particular on the floats the implementation runs on. -/
theorem line_total_float (box : Bound Float) (isOpen : Bool) (inp : List (Pt Float)) :
    ∃ out, line box isOpen inp = some out := line_total_any box isOpen inp

/-- PROVENANCE, FOR ANY ARITHMETIC (no exactness, no hypothesis on the box, either option): every vertex `line`
    returns is an input vertex AS IT IS (`v ∈ inp`: no arithmetic touched it) or has a coordinate that IS an edge
    value of the box (`intersect` stores the edge value in the clipped coordinate, `clampToBound` stores edge values
    only).  So a vertex off the boundary must be bit-identical to an input vertex (driver clause
    `vertex-neither-input-nor-on-boundary`, exact). -/
theorem line_vertex_copy_or_computed {β : Type} [Add β] [Sub β] [Mul β] [Div β] [LT β] [LE β] [DecidableLT β]
    [DecidableLE β] [BEq β] [Min β] [Max β] (box : Bound β) (isOpen : Bool) (inp : List (Pt β))
    (out : List (List (Pt β))) (h : line box isOpen inp = some out) :
    ∀ piece ∈ out, ∀ v ∈ piece, v ∈ inp ∨ OnEdgeValue box v :=
  pieces_prov (pieces_of_line h)

/-- … in particular on the floats the implementation runs on. -/
theorem line_vertex_copy_or_computed_float (box : Bound Float) (isOpen : Bool) (inp : List (Pt Float))
    (out : List (List (Pt Float))) (h : line box isOpen inp = some out) :
    ∀ piece ∈ out, ∀ v ∈ piece, v ∈ inp ∨ OnEdgeValue box v :=
  line_vertex_copy_or_computed box isOpen inp out h

/-- Every output vertex is inside the closed box (both modes). -/
theorem clip_vertices_in_box (box : Bound α) (hb : BoxOK box) (isOpen : Bool) (inp : List (Pt α))
    (out : List (List (Pt α))) (h : line box isOpen inp = some out) :
    ∀ piece ∈ out, ∀ v ∈ piece, InBox box v := clip_vertices_in_box' box hb isOpen inp out h

/-- Every output vertex lies on the input line (both modes). -/
theorem clip_vertices_on_input (box : Bound α) (hb : BoxOK box) (isOpen : Bool) (inp : List (Pt α))
    (out : List (List (Pt α))) (h : line box isOpen inp = some out) :
    ∀ piece ∈ out, ∀ v ∈ piece, OnPath inp v :=
  fun piece hp v hv => ((good_of_line hb h).vertex piece hp v hv).2

/-- SOUND AND COMPLETE, closed mode: the pieces together are exactly the set of points of the
    input lying in the closed box — nothing outside, no inside portion missing. -/
theorem clip_exact (box : Bound α) (hb : BoxOK box) (inp : List (Pt α)) (out : List (List (Pt α)))
    (h : line box false inp = some out) :
    ∀ q, OnPieces out q ↔ (OnPath inp q ∧ InBox box q) := clip_exact' box hb inp out h

set_option linter.unusedVariables false in
/-- A line wholly inside the closed box is returned as it is (one piece, same vertices).  (`hb` is not used by the
    proof; the hypothesis is the property's precondition.) -/
theorem clip_inside_id (box : Bound α) (hb : BoxOK box) (inp : List (Pt α)) (h2 : 2 ≤ inp.length)
    (hin : ∀ v ∈ inp, InBox box v) : line box false inp = some [inp] :=
  line_inside_any box false inp h2 (fun v hv => bitCode_eq_zero_iff.2 (hin v hv))

/-- Clipping a returned piece again returns it unchanged (idempotence). -/
theorem clip_idempotent (box : Bound α) (hb : BoxOK box) (inp : List (Pt α)) (out : List (List (Pt α)))
    (h : line box false inp = some out) : ∀ piece ∈ out, line box false piece = some [piece] := fun piece hp =>
  clip_inside_id box hb piece ((good_of_line hb h).1 piece hp) (clip_vertices_in_box box hb false inp out h piece hp)

/-- Nothing inside ⇒ no pieces (`LineString` then returns nil). -/
theorem clip_empty (box : Bound α) (hb : BoxOK box) (inp : List (Pt α))
    (hout : ∀ q, OnPath inp q → ¬ InBox box q) : line box false inp = some [] := by
  obtain ⟨out, h⟩ := line_total_any' box false inp
  obtain ⟨g1, g2, _⟩ := good_of_line hb h
  cases out with
  | nil => exact h
  | cons piece out =>
    exfalso
    obtain ⟨s, hs⟩ := exists_mem_segsOf (g1 piece List.mem_cons_self)
    obtain ⟨h1, _, ⟨u, hu, hu1, _⟩, _⟩ := g2 piece List.mem_cons_self s hs
    exact hout s.1 ⟨u, hu, hu1⟩ h1

/-- Open mode, soundness: every piece segment minus its endpoints is strictly inside the box. -/
theorem clip_open_interior (box : Bound α) (hb : BoxOK box) (inp : List (Pt α)) (out : List (List (Pt α)))
    (h : line box true inp = some out) :
    ∀ piece ∈ out, ∀ s ∈ segsOf piece, ∀ t, 0 < t → t < 1 → s.1 ≠ s.2 → InOpenBox box (lerp s.1 s.2 t) :=
  clip_open_interior' box hb inp out h

/-- Open mode, completeness: every point of the input strictly inside the box is on a piece. -/
theorem clip_open_complete (box : Bound α) (hb : BoxOK box) (inp : List (Pt α)) (out : List (List (Pt α)))
    (h : line box true inp = some out) :
    ∀ q, OnPath inp q → InOpenBox box q → OnPieces out q := clip_open_complete' box hb inp out h

/-- Open mode returns zero-length pieces where the line merely touches the boundary from outside
    (known finding C07-open-zero-length-touch): witness on ℚ. -/
theorem clip_open_touch_witness :
    line (⟨⟨1, 1⟩, ⟨2, 3⟩⟩ : Bound ℚ) true [⟨0, 0⟩, ⟨4, 2⟩] = some [[⟨2, 1⟩, ⟨2, 1⟩]] := by
  decide +kernel

/-- A line wholly inside is returned as it is ONLY from two vertices on: a one-vertex line string has no
    segment, the loop body never runs and nothing is returned (`clip.LineString` gives nil) — in both
    modes, for every box, also when the vertex lies inside the box. -/
theorem clip_one_vertex (box : Bound α) (isOpen : Bool) (p : Pt α) : line box isOpen [p] = some [] :=
  clip_one_vertex' box isOpen p

/-- Likewise for no vertex at all. -/
theorem clip_no_vertex (box : Bound α) (isOpen : Bool) : line box isOpen [] = some [] :=
  clip_no_vertex' box isOpen

/-- CONCATENATION (no hypothesis on the box, both modes): `multiLineString` returns `out` iff every
    member is clipped by `line` with the same option and `out` is the concatenation of the member
    results in member order. -/
theorem mls_concat_iff (box : Bound α) (isOpen : Bool) (mls : List (List (Pt α))) (out : List (List (Pt α))) :
    multiLineString box isOpen mls = some out ↔
      ∃ outs, List.Forall₂ (fun ls o => line box isOpen ls = some o) mls outs ∧ out = outs.flatten :=
  mls_concat_iff' box isOpen mls out

/-- … and it always returns (never stuck; `hb`, the property's precondition, is not needed for that). -/
theorem mls_concat (box : Bound α) (hb : BoxOK box) (isOpen : Bool) (mls : List (List (Pt α))) :
    ∃ outs, List.Forall₂ (fun ls o => line box isOpen ls = some o) mls outs ∧
      multiLineString box isOpen mls = some outs.flatten := mls_concat' box hb isOpen mls

/-- The two entry points agree on a single line string (both modes). -/
theorem mls_singleton (box : Bound α) (isOpen : Bool) (ls : List (Pt α)) :
    multiLineString box isOpen [ls] = line box isOpen ls := mls_singleton' box isOpen ls

/-- Every output vertex of `multiLineString` is inside the closed box (both modes). -/
theorem mls_vertices_in_box (box : Bound α) (hb : BoxOK box) (isOpen : Bool) (mls : List (List (Pt α)))
    (out : List (List (Pt α))) (h : multiLineString box isOpen mls = some out) :
    ∀ piece ∈ out, ∀ v ∈ piece, InBox box v := mls_vertices_in_box' box hb isOpen mls out h

/-- SOUND AND COMPLETE, closed mode, for `multiLineString`: the pieces together are exactly the points
    of the members lying in the closed box. -/
theorem mls_exact (box : Bound α) (hb : BoxOK box) (mls : List (List (Pt α))) (out : List (List (Pt α)))
    (h : multiLineString box false mls = some out) :
    ∀ q, OnPieces out q ↔ ((∃ ls ∈ mls, OnPath ls q) ∧ InBox box q) := mls_exact' box hb mls out h

/-- Open mode, soundness, for `multiLineString`. -/
theorem mls_open_interior (box : Bound α) (hb : BoxOK box) (mls : List (List (Pt α))) (out : List (List (Pt α)))
    (h : multiLineString box true mls = some out) :
    ∀ piece ∈ out, ∀ s ∈ segsOf piece, ∀ t, 0 < t → t < 1 → s.1 ≠ s.2 → InOpenBox box (lerp s.1 s.2 t) :=
  mls_open_interior' box hb mls out h

/-- Open mode, completeness, for `multiLineString`. -/
theorem mls_open_complete (box : Bound α) (hb : BoxOK box) (mls : List (List (Pt α))) (out : List (List (Pt α)))
    (h : multiLineString box true mls = some out) :
    ∀ ls ∈ mls, ∀ q, OnPath ls q → InOpenBox box q → OnPieces out q := mls_open_complete' box hb mls out h

/-- Non-vacuity of the open-mode split on `multiLineString`: a member that never leaves the closed box
    but touches its boundary is split at the touch point (it is not "returned as is"). -/
theorem mls_open_split_witness :
    multiLineString (⟨⟨0, 0⟩, ⟨2, 2⟩⟩ : Bound ℚ) true [[⟨1, 1⟩, ⟨2, 1⟩, ⟨1, 3/2⟩]] =
      some [[⟨1, 1⟩, ⟨2, 1⟩], [⟨2, 1⟩, ⟨1, 3/2⟩]] := mls_open_split_witness'

/-! ### the option list `opts ...Option` of both entry points (clip/options.go; model Orb/ClipOptions.lean)

  `clip.LineString(b, ls, opts...)` / `clip.MultiLineString(b, mls, opts...)` run the options, in list order,
  over a FRESH `options{}` value and pass its flag to `line`: the clip depends on the list through its
  last entry only (no entry: closed bound), and on no earlier call. -/

/-- no option: the closed bound -/
theorem options_none : applyOptions [] = false := rfl

/-- the flag is the argument of the last `OpenBound` of the list, `false` for the empty list -/
theorem options_eq_last (opts : List Opt) : applyOptions opts = (opts.getLast?.map Opt.yes).getD false := by
  unfold applyOptions
  cases opts with
  | nil => rfl
  | cons x xs =>
    have : (x :: xs).length > 0 := by simp
    rw [if_pos this, foldl_apply_openBound]

/-- THE LAST OPTION WINS, whatever precedes it -/
theorem options_last_wins (opts : List Opt) (b : Bool) : applyOptions (opts ++ [Opt.openBound b]) = b := by
  rw [options_eq_last]
  simp [Opt.yes]

/-- two spellings with the same last entry (or both empty) are the same request -/
theorem options_spelling (o₁ o₂ : List Opt) (h : o₁.getLast?.map Opt.yes = o₂.getLast?.map Opt.yes) :
    applyOptions o₁ = applyOptions o₂ := by
  rw [options_eq_last, options_eq_last, h]

/-- `[OpenBound(true), OpenBound(false)]` asks for the closed bound (an override appended to a default),
    `[OpenBound(false), OpenBound(true)]` for the open one -/
theorem options_override_witness :
    applyOptions [Opt.openBound true, Opt.openBound false] = false ∧
    applyOptions [Opt.openBound false, Opt.openBound true] = true ∧
    applyOptions [Opt.openBound true] = true ∧ applyOptions [Opt.openBound false] = false := by decide

/-- the entry points with their option lists ARE `line` / `multiLineString` at that flag — for any
    arithmetic on the coordinate type -/
theorem lineStringOpts_eq {β : Type} [Add β] [Sub β] [Mul β] [Div β] [LT β] [LE β] [DecidableLT β]
    [DecidableLE β] [BEq β] [Min β] [Max β] (box : Bound β) (opts : List Opt) (ls : List (Pt β)) :
    lineStringOpts box opts ls = line box ((opts.getLast?.map Opt.yes).getD false) ls := by
  unfold lineStringOpts lineString
  rw [options_eq_last]

theorem multiLineStringOpts_eq {β : Type} [Add β] [Sub β] [Mul β] [Div β] [LT β] [LE β] [DecidableLT β]
    [DecidableLE β] [BEq β] [Min β] [Max β] (box : Bound β) (opts : List Opt) (mls : List (List (Pt β))) :
    multiLineStringOpts box opts mls = multiLineString box ((opts.getLast?.map Opt.yes).getD false) mls := by
  unfold multiLineStringOpts
  rw [options_eq_last]

/-- SOUND AND COMPLETE for the entry point as it is called: whenever the option list asks for the closed
    bound (it is empty, or its last entry is `OpenBound(false)` — whatever the earlier entries say) the
    pieces are exactly the points of the input in the closed box -/
theorem lineStringOpts_closed_exact (box : Bound α) (hb : BoxOK box) (opts : List Opt) (hc : AsksClosed opts)
    (inp : List (Pt α)) (out : List (List (Pt α))) (h : lineStringOpts box opts inp = some out) :
    ∀ q, OnPieces out q ↔ (OnPath inp q ∧ InBox box q) := by
  rw [lineStringOpts_eq, asksClosed_flag opts hc] at h
  exact clip_exact' box hb inp out h

/-- every output vertex is in the closed box, for every option list -/
theorem lineStringOpts_vertices_in_box (box : Bound α) (hb : BoxOK box) (opts : List Opt)
    (inp : List (Pt α)) (out : List (List (Pt α))) (h : lineStringOpts box opts inp = some out) :
    ∀ piece ∈ out, ∀ v ∈ piece, InBox box v := by
  rw [lineStringOpts_eq] at h
  exact clip_vertices_in_box' box hb _ inp out h

/-- Non-vacuity of `BoxOK`: the box of the two-piece example at the end of OrbProofs/C07Order.lean. -/
example : BoxOK (⟨⟨1, 1⟩, ⟨3, 3⟩⟩ : Bound ℚ) := by constructor <;> norm_num

end Orb.Clip
