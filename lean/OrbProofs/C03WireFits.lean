/-
  C03, the wire level: every layer that `marshalLayer` builds from Go-typed input holds numbers
  that fit the Go types of `vectortile.Tile` (`marshalLayer_fits`), and the quantifier of C03 is
  Go-typed input (`mvtWF_inputFits`).
-/
import Orb.ProtoWire
import OrbProofs.C03Props
import OrbProofs.C03Line

namespace Orb.ProtoWire
open Orb Orb.MVT

theorem convertIntID_lt (i : Int) (h : i < (2^63 : Int)) (n : Nat) (hn : convertIntID i = some n) : n < 2^64 := by
  unfold convertIntID at hn
  split at hn
  · simp at hn
  · simp only [Option.some.injEq] at hn; omega

theorem truncF_lt (b : UInt64) : truncF b < (2^63 : Int) := by
  unfold truncF
  split
  · decide
  · dsimp only
    split
    · decide
    · omega

/-- The range test both branches of `atoi?` end in. -/
theorem atoi_tail (c : Prop) [Decidable c] (v i : Int)
    (h : (if c then none else if v < -(2^63 : Int) ∨ v ≥ (2^63 : Int) then none else some v) = some i) :
    i < (2^63 : Int) := by
  split at h
  · simp at h
  · split at h
    · simp at h
    · simp only [Option.some.injEq] at h; omega

theorem atoi_lt (s : String) (i : Int) (h : atoi? s = some i) : i < (2^63 : Int) := by
  unfold atoi? at h
  dsimp only at h
  split at h <;> exact atoi_tail _ _ _ h

theorem convertID_lt (id : IdVal) (h : idFits id = true) (n : Nat) (hn : convertID id = some n) : n < 2^64 := by
  cases id with
  | none => simp [convertID] at hn
  | int v =>
    simp only [idFits, decide_eq_true_eq] at h
    exact convertIntID_lt v h n hn
  | uint v =>
    simp only [idFits, decide_eq_true_eq] at h
    simp only [convertID, Option.some.injEq] at hn; omega
  | flt b => exact convertIntID_lt _ (truncF_lt b) n hn
  | str s =>
    simp only [convertID] at hn
    split at hn
    · next i hi => exact convertIntID_lt _ (atoi_lt s i hi) n hn
    · simp at hn
  | other => simp [convertID] at hn

theorem encodeGeometry_gtype (g : Geom Int) (gt : Int) (ws : List W) (h : encodeGeometry g = .ok (gt, ws)) :
    gt = 1 ∨ gt = 2 ∨ gt = 3 := by
  have hc : ∀ gs, g ≠ .collection gs := by rintro gs rfl; simp [encodeGeometry] at h
  rw [encodeGeometry_eq g hc] at h
  have hgt : (gwords g).1 = gt := congrArg Prod.fst (Res.ok.inj h)
  rw [← hgt]
  cases g <;> first | exact absurd rfl (hc _) | simp [gwords, tPoint, tLineString, tPolygon]

/-- Every `Tile_Value` of the table fits its Go type. -/
def ValsFit (e : KVE) : Prop := ∀ p ∈ e.vals, valueFits p.2 = true

theorem encodeValue_fits (v v' : PVal) (tv : TVal) (hv : pvalFits v = true) (hj : jsonStep v = .ok v')
    (he : MVT.encodeValue v' = .ok tv) : valueFits tv = true := by
  cases v <;> simp only [jsonStep, Res.ok.injEq] at hj <;> (try subst hj) <;>
    simp only [MVT.encodeValue, Res.ok.injEq] at he <;> (try subst he) <;>
    first
      | rfl
      | (simpa [pvalFits, valueFits] using hv)
      | (simp at hj)
      | (simp at he)

theorem KVE.value_fits (e e' : KVE) (v : PVal) (i : Nat) (hv : pvalFits v = true) (he : ValsFit e)
    (h : e.value v = .ok (i, e')) : ValsFit e' := by
  revert h
  fun_cases KVE.value e v
  · rintro ⟨⟩; exact he
  · next v' hj _ tv hen =>
    rintro ⟨⟩ p hp
    rcases List.mem_append.1 hp with hp | hp
    · exact he p hp
    · rw [List.mem_singleton.1 hp]; exact encodeValue_fits v v' tv hv hj hen
  all_goals nofun

theorem encodeTags_fits (ps : List (String × PVal)) (hps : ∀ p ∈ ps, pvalFits p.2 = true) (ks : List String)
    (e e' : KVE) (ts : List W) (he : ValsFit e) (h : encodeTags ps e ks = .ok (ts, e')) : ValsFit e' := by
  revert h
  fun_induction encodeTags ps e ks generalizing ts e'
  · rintro ⟨⟩; exact he
  · next e k ks kk vi e2 hval ts' e3 hrec ih =>
    rintro ⟨⟩
    refine ih _ _ (KVE.value_fits _ _ _ _ (lookupP_prop (P := (pvalFits · = true)) ps rfl hps k) ?_ hval) hrec
    intro p hp; rw [(KVE.key_spec e k).2.2.1] at hp; exact he p hp
  all_goals nofun

theorem _root_.Orb.MVT.Emit.fits {e e' : KVE} {feats : List Feature} {out : List VTFeature} (h : Emit e feats out e')
    (hin : ∀ f ∈ feats, idFits f.id = true ∧ ∀ p ∈ f.props, pvalFits p.2 = true) (he : ValsFit e) :
    (∀ v ∈ out, featureFits v = true) ∧ ValsFit e' := by
  induction h with
  | nil => exact ⟨by simp, he⟩
  | skip _ _ ih => exact ih (fun g hg => hin g (List.mem_cons_of_mem _ hg)) he
  | @one e e1 e' f feats out g gt ws tags _ hgeo hp _ ih =>
    obtain ⟨hid, hps⟩ := hin f List.mem_cons_self
    obtain ⟨a, b⟩ := ih (fun g hg => hin g (List.mem_cons_of_mem _ hg))
      (encodeTags_fits f.props hps _ _ _ _ he hp)
    refine ⟨fun v hv => ?_, b⟩
    rcases List.mem_cons.1 hv with rfl | hv
    · simp only [featureFits, Bool.and_eq_true, decide_eq_true_eq]
      constructor
      · cases hc : convertID f.id with
        | none => rfl
        | some n => simpa using convertID_lt f.id hid n hc
      · rcases encodeGeometry_gtype g gt ws hgeo with h | h | h <;> subst h <;> decide
    · exact a v hv

theorem marshalLayer_fits (l : Layer) (v : VTLayer) (hv : l.version < 2^32) (hx : l.extent < 2^32)
    (hin : ∀ f ∈ l.features, idFits f.id = true ∧ ∀ p ∈ f.props, pvalFits p.2 = true)
    (h : marshalLayer l = .ok v) : layerFits v = true := by
  obtain ⟨fs, e, hem, rfl⟩ := marshalLayer_of_ok h
  obtain ⟨a, b⟩ := hem.fits hin (by intro p hp; simp [KVE.empty] at hp)
  simp only [layerFits, Bool.and_eq_true, decide_eq_true_eq, List.all_eq_true]
  refine ⟨⟨⟨hv, hx⟩, ?_⟩, a⟩
  intro tv htv
  simp only [List.mem_map] at htv
  obtain ⟨p, hp, rfl⟩ := htv
  exact b p hp

theorem mvtWF_inputFits (ls : List Layer) (h : mvtWF ls = true) : inputFits ls = true := by
  simp only [mvtWF, List.all_eq_true] at h
  simp only [inputFits, List.all_eq_true, Bool.and_eq_true, decide_eq_true_eq]
  intro l hl
  have hwf := h l hl
  simp only [layerWF, Bool.and_eq_true, Bool.or_eq_true, beq_iff_eq, decide_eq_true_eq, List.all_eq_true] at hwf
  obtain ⟨⟨⟨hver, hext⟩, hfeat⟩, _⟩ := hwf
  refine ⟨⟨by rcases hver with h | h <;> omega, hext⟩, ?_⟩
  intro f hf
  have hfw := hfeat f hf
  simp only [featureWF, Bool.and_eq_true, List.all_eq_true] at hfw
  obtain ⟨⟨⟨_, hid⟩, _⟩, hpv⟩ := hfw
  constructor
  · cases hi : f.id <;> simp only [hi, idWF, idFits, decide_eq_true_eq] at hid ⊢ <;> first | rfl | omega
  · intro p hp
    have := hpv p hp
    cases hpp : p.2 <;> simp only [hpp, pvalWF, pvalFits, decide_eq_true_eq] at this ⊢ <;> first | rfl | exact this

end Orb.ProtoWire
