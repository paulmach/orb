/-
  Vocabulary and helper lemmas for C15.  `project.Geometry` with a stateful point function, three laws valid for
  every projection: the result is `fill` of the outputs of the flat run, it has the input's `shape`, and without
  bounds its vertices are those outputs; `fill` is the instance at the projection that pops a list.  Then one
  axis of a tile round trip, for any function that is the floor where an integer bracket is known; in front of it
  the rational floor and the tile projection as it was before fix 7b86dd1, which the witnesses of C15.lean use.
-/
import OrbProofs.C15Pure
import OrbProofs.GeomInd
import Mathlib.Tactic.Positivity
import Mathlib.Tactic.NormNum
import Mathlib.Algebra.Order.Field.Basic
import Mathlib.Algebra.Order.Floor.Ring
import Mathlib.Data.Rat.Floor
import Mathlib.Order.MinMax
import Mathlib.Tactic.Ring
import Mathlib.Tactic.FieldSimp
import Mathlib.Tactic.Linarith

namespace Orb.Project
open Orb Orb.Core

/-- no `Bound` value anywhere inside the geometry -/
def NoBounds {α : Type} : Geom α → Prop
  | .bound _ _ => False
  | .collection gs => ∀ g ∈ gs, NoBounds g
  | _ => True

section lists
variable {σ α : Type}

theorem ptsM_append (proj : Proj σ α) (a b : List (Pt α)) (s : σ) :
    ptsM proj (a ++ b) s =
      ((ptsM proj a s).1 ++ (ptsM proj b (ptsM proj a s).2).1, (ptsM proj b (ptsM proj a s).2).2) := by
  induction a generalizing s with
  | nil => simp [ptsM]
  | cons p ps ih => simp [ptsM, ih]

theorem ptsM_length (proj : Proj σ α) (l : List (Pt α)) (s : σ) :
    (ptsM proj l s).1.length = l.length := by
  induction l generalizing s with
  | nil => simp [ptsM]
  | cons p ps ih => simp [ptsM, ih]

theorem ptsM_pure (f : Pt α → Pt α) (l : List (Pt α)) :
    (ptsM (σ := Unit) (fun p s => (f p, s)) l ()).1 = l.map f :=
  congrArg Prod.fst (ptsM_of_pure f l ())

theorem ptsM_recorded (f : Pt α → Pt α) (l init : List (Pt α)) :
    (ptsM (fun p (l : List (Pt α)) => (f p, l ++ [p])) l init).2 = init ++ l := by
  induction l generalizing init with
  | nil => simp [ptsM]
  | cons p ps ih => simp [ptsM, ih]

/-- what follows the outputs in the list does not matter: `rest` is what makes the statement pass through the
    inductions one nesting level up (`ptsssM_fill`, `geometryM_go_fill`), where a member's outputs are followed by
    those of the later members -/
theorem ptssM_fill (proj : Proj σ α) (ls : List (List (Pt α))) (s : σ) (rest : List (Pt α)) :
    ptssM proj ls s = (unflatten ls ((ptsM proj ls.flatten s).1 ++ rest), (ptsM proj ls.flatten s).2) := by
  induction ls generalizing s with
  | nil => rfl
  | cons l ls ih =>
    simp only [ptssM, List.flatten_cons, ptsM_append, unflatten, List.append_assoc, ih]
    rw [List.take_left' (ptsM_length proj l s), List.drop_left' (ptsM_length proj l s)]

theorem ptsssM_fill (proj : Proj σ α) (ps : List (List (List (Pt α)))) (s : σ) (rest : List (Pt α)) :
    ptsssM proj ps s =
      (fill.fillPolys ps ((ptsM proj ps.flatten.flatten s).1 ++ rest), (ptsM proj ps.flatten.flatten s).2) := by
  induction ps generalizing s with
  | nil => rfl
  | cons p ps ih =>
    simp only [ptsssM, List.flatten_cons, List.flatten_append, ptsM_append, fill.fillPolys, List.append_assoc, ih]
    rw [ptssM_fill proj p s ((ptsM proj ps.flatten.flatten (ptsM proj p.flatten s).2).1 ++ rest)]
    simp only [List.drop_left' (ptsM_length proj _ s)]

theorem ptsM_shape {δ : Type} (u : δ) (proj : Proj σ α) (l : List (Pt α)) (s : σ) :
    (ptsM proj l s).1.map (fun _ => u) = l.map fun _ => u := by
  rw [List.map_const', List.map_const', ptsM_length]

theorem ptssM_shape {δ : Type} (u : δ) (proj : Proj σ α) (ls : List (List (Pt α))) (s : σ) :
    (ptssM proj ls s).1.map (fun l => l.map fun _ => u) = ls.map (fun l => l.map fun _ => u) := by
  induction ls generalizing s with
  | nil => rfl
  | cons l ls ih => simp only [ptssM, List.map_cons, ih, ptsM_shape]

theorem ptsssM_shape {δ : Type} (u : δ) (proj : Proj σ α) (ps : List (List (List (Pt α)))) (s : σ) :
    (ptsssM proj ps s).1.map (fun p => p.map fun l => l.map fun _ => u)
      = ps.map (fun p => p.map fun l => l.map fun _ => u) := by
  induction ps generalizing s with
  | nil => rfl
  | cons p ps ih => simp only [ptsssM, List.map_cons, ih, ptssM_shape]

theorem ptssM_flatten (proj : Proj σ α) (ls : List (List (Pt α))) (s : σ) :
    ((ptssM proj ls s).1.flatten, (ptssM proj ls s).2) = ptsM proj ls.flatten s := by
  induction ls generalizing s with
  | nil => rfl
  | cons l ls ih => simp only [ptssM, List.flatten_cons, ptsM_append, ← ih]

theorem ptsssM_flatten (proj : Proj σ α) (ps : List (List (List (Pt α)))) (s : σ) :
    ((ptsssM proj ps s).1.flatten.flatten, (ptsssM proj ps s).2) = ptsM proj ps.flatten.flatten s := by
  induction ps generalizing s with
  | nil => rfl
  | cons p ps ih => simp only [ptsssM, List.flatten_cons, List.flatten_append, ptsM_append, ← ih, ← ptssM_flatten]

/-- the projection that ignores its vertex and pops the next element of a list -/
def popP : Proj (List (Pt α)) α := fun p qs => (qs.headD p, qs.tail)

theorem ptsM_pop (l qs : List (Pt α)) (h : l.length ≤ qs.length) :
    ptsM popP l qs = (qs.take l.length, qs.drop l.length) := by
  induction l generalizing qs with
  | nil => simp [ptsM]
  | cons p l ih =>
    obtain _ | ⟨q, qs⟩ := qs
    · simp at h
    · simp only [ptsM, popP, List.tail_cons, ih qs (by simpa using h)]; rfl

end lists

section project
variable {σ α : Type} [LinearOrder α]

/-! `Geom` is a nested inductive (a collection holds a list of geometries): each fact about `geometryM` is
    proved for the member list first, with the fact about the members as a hypothesis, and then by
    `Geom.ind`, whose collection case supplies that hypothesis. -/

theorem geometryM_go_fill (proj : Proj σ α) (gs : List (Geom α))
    (ih : ∀ g ∈ gs, ∀ s rest, geometryM proj g s =
      (fill g ((ptsM proj (verts g) s).1 ++ rest), (ptsM proj (verts g) s).2))
    (s : σ) (rest : List (Pt α)) :
    geometryM.go proj gs s =
      (fill.go gs ((ptsM proj (verts.go gs) s).1 ++ rest), (ptsM proj (verts.go gs) s).2) := by
  induction gs generalizing s with
  | nil => rfl
  | cons g gs ihg =>
    simp only [geometryM.go, verts.go, fill.go, ptsM_append, List.append_assoc, ihg (fun g hg => ih g (by simp [hg]))]
    rw [ih g (by simp) s ((ptsM proj (verts.go gs) (ptsM proj (verts g) s).2).1 ++ rest)]
    simp only [List.drop_left' (ptsM_length proj _ s)]

theorem geometryM_fill (proj : Proj σ α) (g : Geom α) : ∀ (s : σ) (rest : List (Pt α)),
    geometryM proj g s = (fill g ((ptsM proj (verts g) s).1 ++ rest), (ptsM proj (verts g) s).2) := by
  induction g using Geom.ind with
  | point p | bound a b => intro s rest; simp [geometryM, fill, verts, ptsM]
  | multiPoint ps | lineString ps | ring ps =>
    intro s rest
    simp only [geometryM, fill, verts, List.take_left' (ptsM_length proj ps s)]
  | multiLineString ls | polygon ls => intro s rest; simp only [geometryM, fill, verts, ptssM_fill proj ls s rest]
  | multiPolygon ps => intro s rest; simp only [geometryM, fill, verts, ptsssM_fill proj ps s rest]
  | collection gs ih =>
    intro s rest
    simp only [geometryM, fill, verts, geometryM_go_fill proj gs ih s rest]

theorem geometryM_go_shape (proj : Proj σ α) (gs : List (Geom α))
    (ih : ∀ g ∈ gs, ∀ s, shape (geometryM proj g s).1 = shape g) (s : σ) :
    shape.go (geometryM.go proj gs s).1 = shape.go gs := by
  induction gs generalizing s with
  | nil => rfl
  | cons g gs ihg => simp only [geometryM.go, shape.go, ih g (by simp), ihg fun g hg => ih g (by simp [hg])]

theorem geometryM_shape (proj : Proj σ α) (g : Geom α) : ∀ s : σ, shape (geometryM proj g s).1 = shape g := by
  induction g using Geom.ind with
  | point p | bound a b => intro s; rfl
  | multiPoint ps | lineString ps | ring ps => intro s; simp only [geometryM, shape, ptsM_shape]
  | multiLineString ls | polygon ls => intro s; simp only [geometryM, shape, ptssM_shape]
  | multiPolygon ps => intro s; simp only [geometryM, shape, ptsssM_shape]
  | collection gs ih => intro s; simp only [geometryM, shape, geometryM_go_shape proj gs ih s]

theorem geometryM_go_flat (proj : Proj σ α) (gs : List (Geom α))
    (ih : ∀ g ∈ gs, ∀ s, (verts (geometryM proj g s).1, (geometryM proj g s).2) = ptsM proj (verts g) s) (s : σ) :
    (verts.go (geometryM.go proj gs s).1, (geometryM.go proj gs s).2) = ptsM proj (verts.go gs) s := by
  induction gs generalizing s with
  | nil => rfl
  | cons g gs ihg =>
    simp only [geometryM.go, verts.go, ptsM_append, ← ih g (by simp), ← ihg fun g hg => ih g (by simp [hg])]

theorem geometryM_flat (proj : Proj σ α) (g : Geom α) : NoBounds g → ∀ s : σ,
    (verts (geometryM proj g s).1, (geometryM proj g s).2) = ptsM proj (verts g) s := by
  induction g using Geom.ind with
  | point p => intro _ s; rfl
  | multiPoint ps | lineString ps | ring ps => intro _ s; rfl
  | multiLineString ls | polygon ls => intro _ s; exact ptssM_flatten proj ls s
  | multiPolygon ps => intro _ s; exact ptsssM_flatten proj ps s
  | bound a b => intro hn; simp [NoBounds] at hn
  | collection gs ih =>
    intro hn s
    simp only [NoBounds] at hn
    exact geometryM_go_flat proj gs (fun g hg => ih g hg (hn g hg)) s

/-! `fill` is itself an instance of `project.Geometry`, at `popP`: so what holds of `geometryM` for every
    projection holds of `fill`.  No proof below uses `fill_append`, `shape_fill`, `verts_fill`: they say what `fill`
    does, for whoever reasons about the right side of `project_map`. -/

theorem fill_eq_pop (g : Geom α) (qs : List (Pt α)) (h : (verts g).length ≤ qs.length) :
    fill g qs = (geometryM popP g qs).1 := by
  rw [geometryM_fill _ g qs (qs.drop (verts g).length), ptsM_pop _ _ h, List.take_append_drop]

theorem fill_append (g : Geom α) (A B : List (Pt α)) (h : (verts g).length ≤ A.length) :
    fill g (A ++ B) = fill g A := by
  have e := fun rest => congrArg Prod.fst (geometryM_fill popP g A rest)
  simp only [ptsM_pop _ _ h] at e
  rw [← List.take_append_drop (verts g).length A, List.append_assoc, ← e, ← e]

theorem shape_fill (g : Geom α) (qs : List (Pt α)) (h : (verts g).length ≤ qs.length) :
    shape (fill g qs) = shape g := by
  rw [fill_eq_pop g qs h, geometryM_shape]

theorem verts_fill (g : Geom α) (hn : NoBounds g) (qs : List (Pt α)) (h : (verts g).length ≤ qs.length) :
    verts (fill g qs) = qs.take (verts g).length := by
  rw [fill_eq_pop g qs h]
  exact (congrArg Prod.fst (geometryM_flat _ g hn qs)).trans (by rw [ptsM_pop _ _ h])

end project

/-- `⌊x⌋` on ℚ, as a rational -/
def ratFloor (x : Rat) : Rat := ((⌊x⌋ : ℤ) : Rat)

/-- `nonPowerOfTwoProjection` as it was BEFORE fix 7b86dd1 (no half pixel on the way out): kept on
    the spec side only, as the witness of why the fix was needed (`tile_roundtrip_nonpow2_no_margin`). -/
def nonPow2ProjUnfixed {α : Type} [Add α] [Sub α] [Mul α] [Div α]
    (floor : α → α) (P G : Pt α → Pt α) (minx miny e : α) : TileProj α where
  toTile := fun p => let q := P p; ⟨floor ((q.x - minx) * e), floor ((q.y - miny) * e)⟩
  toWGS84 := fun p => G ⟨p.x / e + minx, p.y / e + miny⟩

theorem ratFloor_spec : ∀ (x : Rat) (n : ℤ), (n : Rat) ≤ x → x < (n : Rat) + 1 → ratFloor x = (n : Rat) := by
  intro x n h1 h2
  unfold ratFloor
  have : ⌊x⌋ = n := Int.floor_eq_iff.2 ⟨h1, h2⟩
  rw [this]

section tile
variable {α : Type} [Field α] [LinearOrder α] [IsStrictOrderedRing α]

/-- `P ∘ G` returns the ONE point `c` to within `ε` on both axes.  A pointwise hypothesis: the real
    `toPlanar ∘ toGeo` satisfies it at the pixel centres it is used at, but NOT at every point
    (beyond ±0.9999 `toPlanar` clamps and is off by more than half a world). -/
def CloseAt (P G : Pt α → Pt α) (ε : α) (c : Pt α) : Prop :=
  |(P (G c)).x - c.x| ≤ ε ∧ |(P (G c)).y - c.y| ≤ ε

theorem closeAt_of_eq (P G : Pt α → Pt α) (c : Pt α) (h : P (G c) = c) : CloseAt P G 0 c := by
  simp [CloseAt, h]

/-! One axis of a tile round trip.  `floor` is any function that is the floor wherever an integer
    bracket is known (`math.Floor` in the code, `ratFloor`, the real floor). -/

section axis
variable {floor : α → α}
  (hfloor : ∀ (x : α) (n : ℤ), (n : α) ≤ x → x < (n : α) + 1 → floor x = (n : α))
include hfloor

theorem floor_of_near_half {ε x : α} (hε : ε < 1 / 2) (n : ℤ) (h : |x - ((n : α) + 1 / 2)| ≤ ε) :
    floor x = n := by
  obtain ⟨h1, h2⟩ := abs_le.1 h
  refine hfloor _ _ ?_ ?_
  · calc (n : α) = -(1 / 2) + (n + 1 / 2) := by ring
      _ ≤ -ε + (n + 1 / 2) := (add_le_add_iff_right _).2 (neg_le_neg hε.le)
      _ ≤ x := le_sub_iff_add_le.mp h1
  · calc x ≤ ε + (n + 1 / 2) := sub_le_iff_le_add.mp h2
      _ < 1 / 2 + (n + 1 / 2) := (add_lt_add_iff_right _).2 hε
      _ = n + 1 := by ring

/-- Other extents, with the half pixel: within `ε` of the centre `(n + ½)/e + m`, where `ε·e < ½`
    (the error is scaled by `e` pixels per unit). -/
theorem floor_scaled_of_close {ε e v c m : α} (he : 0 < e) (hε : ε * e < 1 / 2) (n : ℤ)
    (h : |v - c| ≤ ε) (hc : c = ((n : α) + 1 / 2) / e + m) : floor ((v - m) * e) = n := by
  refine floor_of_near_half hfloor hε n ?_
  have e1 : (v - m) * e - ((n : α) + 1 / 2) = (v - c) * e := by
    rw [hc, show (v - (((n : α) + 1 / 2) / e + m)) * e = (v - m) * e - ((n : α) + 1 / 2) / e * e by ring,
      div_mul_cancel₀ _ he.ne']
  rw [e1, abs_mul, abs_of_pos he]
  exact mul_le_mul_of_nonneg_right h he.le

/-- Other extents, without the half pixel: the pixel's own corner `n/e + m` floors back to `n`. -/
theorem floor_corner {e m : α} (he : e ≠ 0) (n : ℤ) : floor (((n : α) / e + m - m) * e) = n := by
  rw [add_sub_cancel_right, div_mul_cancel₀ _ he]
  exact hfloor _ _ le_rfl (lt_add_one _)

/-- Other extents, without the half pixel: anything below the pixel's corner, by however little,
    floors to `n - 1`. -/
theorem floor_below_corner {e m δ : α} (he : 0 < e) (hδ : 0 < δ) (hδe : δ * e ≤ 1) (n : ℤ) :
    floor (((n : α) / e + m - δ - m) * e) = (n : α) - 1 := by
  have h1 : ((n : α) / e + m - δ - m) * e = n - δ * e := by
    rw [show (n : α) / e + m - δ - m = (n : α) / e - δ by ring, sub_mul, div_mul_cancel₀ _ he.ne']
  have hp := mul_pos hδ he
  rw [h1, ← Int.cast_one (R := α), ← Int.cast_sub]
  refine hfloor _ _ ?_ ?_
  · rw [Int.cast_sub, Int.cast_one]; exact sub_le_sub_left hδe _
  · rw [Int.cast_sub, Int.cast_one, sub_add_cancel]; exact sub_lt_self _ hp

end axis

end tile

end Orb.Project
