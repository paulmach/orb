/-
  `wkbcommon.Scan`'s framing detection, for any payload and whatever `scanDest` does with it: raw bytes, bare hex and
  `\x`-prefixed hex reach `scanDest` on the same bytes, and the detection itself does not panic; the hex codec; what
  the in-place hex decode leaves of the caller's buffer, which the retry of `wkb.Scanner` slices again.
-/
import Orb.WKB

namespace Orb.WKB
open Orb Generated.Params

/-- The bytes `Scan` looks at: 92 120 is `\x`, 48 is `0`, 49 is `1` (a hex-encoded byte-order mark is `00` or
    `01`).  `hlen` is `Scan`'s refusal of fewer than five bytes, the two named ones counted. -/
theorem scan_no_bslash (bnd : BoundFn) (d : Dest) (b0 b1 : UInt8) (tl : Bytes) (h92 : b0 ≠ 92)
    (hlen : 3 ≤ tl.length) :
    scan bnd d (b0 :: b1 :: tl) =
      (if b0 = 48 ∧ (b1 = 48 ∨ b1 = 49) then
        (match hexDecode (b0 :: b1 :: tl) with
         | some x => (.ok x : R Bytes)
         | none => .err .badHex)
       else .ok (b0 :: b1 :: tl)).bind (scanDest bnd d) := by
  unfold scan
  have : ¬ (b0 :: b1 :: tl).length < 5 := by simp only [List.length_cons]; omega
  rw [if_neg this]
  simp only []
  -- the `\x` test does not fire: the first step hands the data on as it is
  split
  · rename_i data heq
    split at heq
    · rename_i rest h
      injection h with h _
      exact absurd h h92
    · injection heq with heq
      subst heq
      by_cases hc : b0 = 48 ∧ (b1 = 48 ∨ b1 = 49)
      · simp only [if_pos hc]; cases hexDecode (b0 :: b1 :: tl) <;> rfl
      · simp only [if_neg hc]; rfl
  all_goals
    rename_i e heq
    split at heq
    · rename_i rest h
      injection h with h _
      exact absurd h h92
    · cases heq

theorem scan_raw (bnd : BoundFn) (d : Dest) (b0 b1 : UInt8) (tl : Bytes) (h92 : b0 ≠ 92) (h48 : b0 ≠ 48)
    (hlen : 3 ≤ tl.length) : scan bnd d (b0 :: b1 :: tl) = scanDest bnd d (b0 :: b1 :: tl) := by
  rw [scan_no_bslash bnd d b0 b1 tl h92 hlen, if_neg fun h => h48 h.1]; rfl

theorem hexVal_hexDigit (n : Nat) (up : Bool) (h : n < 16) : hexVal (hexDigit n up) = some n := by
  have : ∀ (n : Fin 16) (up : Bool), hexVal (hexDigit n.val up) = some n.val := by decide
  exact this ⟨n, h⟩ up

theorem hexDecode_hexEncode (up : Bool) (bs : Bytes) : hexDecode (hexEncode up bs) = some bs := by
  induction bs with
  | nil => rfl
  | cons b bs ih =>
    have hb := b.toNat_lt
    have h1 : b.toNat / 16 < 16 := by omega
    have h2 : b.toNat % 16 < 16 := by omega
    simp only [hexEncode, hexDecode, hexVal_hexDigit _ up h1, hexVal_hexDigit _ up h2, ih,
      Nat.div_add_mod', UInt8.ofNat_toNat]

theorem scan_hex (bnd : BoundFn) (d : Dest) (c : UInt8) (rest' Y : Bytes) (hc : c = 48 ∨ c = 49)
    (hdec : hexDecode (48 :: c :: rest') = some Y) (hlen : 3 ≤ rest'.length) :
    scan bnd d (48 :: c :: rest') = scanDest bnd d Y := by
  rw [scan_no_bslash bnd d 48 c rest' (by decide) hlen, if_pos ⟨rfl, hc⟩, hdec]; rfl

theorem scan_bslash (bnd : BoundFn) (d : Dest) (hx : Bytes) (b0 b1 : UInt8) (tl : Bytes)
    (hdec : hexDecode hx = some (b0 :: b1 :: tl)) (h48 : b0 ≠ 48) (hlen : 3 ≤ hx.length) :
    scan bnd d (92 :: 120 :: hx) = scanDest bnd d (b0 :: b1 :: tl) := by
  unfold scan
  have : ¬ (92 :: 120 :: hx).length < 5 := by simp only [List.length_cons]; omega
  rw [if_neg this]
  simp only []
  rw [hdec]
  simp only [show ¬ (b0 = 48 ∧ (b1 = 48 ∨ b1 = 49)) from fun h => h48 h.1, if_false]

theorem hexDecode_len : ∀ (l d : Bytes), hexDecode l = some d → l.length = 2 * d.length
  | [], d, h => by simp only [hexDecode] at h; injection h with h; subst h; rfl
  | [_], d, h => by simp only [hexDecode] at h; contradiction
  | a :: b :: rest, d, h => by
    simp only [hexDecode] at h
    split at h
    · rename_i x y bs _ _ hr
      injection h with h; subst h
      have := hexDecode_len rest _ hr
      simp only [List.length_cons]; omega
    · contradiction

theorem hexEncode_length (up : Bool) (bs : Bytes) : (hexEncode up bs).length = 2 * bs.length := by
  induction bs with
  | nil => rfl
  | cons b bs ih => simp only [hexEncode, List.length_cons, ih]; omega

theorem scan_np_of_dest {bnd : BoundFn} {d : Dest} (h : ∀ data, (scanDest bnd d data).isPanic = false) (data : Bytes) :
    (scan bnd d data).isPanic = false := by
  unfold scan
  split
  · rfl
  · rename_i hlen
    simp only []
    split
    · rename_i data' heq
      -- the decoded / raw data has at least two bytes, so the unguarded `data[0]`, `data[1]` are there
      have h2 : 2 ≤ data'.length := by
        split at heq
        · rename_i rest
          split at heq
          · rename_i dd hdec
            injection heq with heq; subst heq
            have := hexDecode_len _ _ hdec
            simp only [List.length_cons] at hlen
            omega
          · contradiction
        · injection heq with heq; subst heq; omega
      rcases data' with _ | ⟨a, _ | ⟨b, tl⟩⟩
      · exact absurd h2 (by decide)
      · exact absurd h2 (by simp)
      · simp only []
        split
        · exact h _
        · rfl
        · rename_i heq2
          split at heq2
          · split at heq2 <;> contradiction
          · contradiction
    · rfl
    · rename_i heq
      split at heq
      · split at heq <;> contradiction
      · contradiction

/-- (fewer than five bytes is `ErrNotWKB`, another error) -/
theorem scan_hdr_len {bnd : BoundFn} {d : Dest} {raw : Bytes} (h : scan bnd d raw = .err .notWKBHeader) :
    5 ≤ raw.length := by
  unfold scan at h
  split at h
  · injection h with h; contradiction
  · omega

/-- `hex.Decode(buf, x)` with `x` no longer than `buf` (it is a part of it): the decoded bytes overwrite the front of
    the buffer, whose length stays -/
theorem hexDecode_inplace {x d buf : Bytes} (h : hexDecode x = some d) (hx : x.length ≤ buf.length) :
    d.length ≤ buf.length ∧ (d ++ buf.drop d.length).length = buf.length := by
  have := hexDecode_len _ _ h
  simp only [List.length_append, List.length_drop]; omega

theorem scanBuf_length (data : Bytes) : (scanBuf data).length = data.length := by
  unfold scanBuf
  split
  · rfl
  · extract_lets step1
    -- (the current slice, the caller's buffer) after the `\x` step: the slice is no longer than the buffer
    have h1 : step1.1.length ≤ data.length ∧ step1.2.length = data.length := by
      simp only [step1]
      split
      · split
        · rename_i d hd; exact hexDecode_inplace hd (by simp only [List.length_drop]; omega)
        · exact ⟨Nat.le_refl _, rfl⟩
      · exact ⟨Nat.le_refl _, rfl⟩
    clear_value step1
    split
    · split
      · rename_i d hd; rw [(hexDecode_inplace hd (h1.2 ▸ h1.1)).2, h1.2]
      · exact h1.2
    · exact h1.2

theorem scanBuf_raw (a b : UInt8) (t : Bytes) (h92 : a ≠ 92) (h48 : a ≠ 48) :
    scanBuf (a :: b :: t) = a :: b :: t := by
  simp [scanBuf, h92, h48]

end Orb.WKB
