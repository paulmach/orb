/-
  The induction principles of the two value trees `Orb.Geom` and `Orb.CoreNil.NGeom` (the values with nil
  members); the heap and document trees have theirs beside their lemmas.  Both are nested through `List`, so the
  recursors Lean derives speak of an auxiliary motive on lists; here the collection case gets the hypothesis for every member (`Geom.ind`, `NGeom.ind`), or
  the list motive is kept for statements about a value and a member list at once (`NGeom.ind2`).  The member loop of the
  embedding `ofGeom` is a map (`ofGeomList_eq_map`), so that its collection case is a fact about lists.  Core Lean only.
-/
import Orb.Basic
import Orb.CoreNil

namespace Orb

theorem Geom.ind {α : Type} {motive : Geom α → Prop}
    (point : ∀ p, motive (.point p)) (multiPoint : ∀ ps, motive (.multiPoint ps))
    (lineString : ∀ ps, motive (.lineString ps)) (multiLineString : ∀ ls, motive (.multiLineString ls))
    (ring : ∀ ps, motive (.ring ps)) (polygon : ∀ rs, motive (.polygon rs))
    (multiPolygon : ∀ ps, motive (.multiPolygon ps)) (bound : ∀ a b, motive (.bound a b))
    (collection : ∀ gs, (∀ g ∈ gs, motive g) → motive (.collection gs)) : ∀ g, motive g := by
  intro g
  refine Geom.rec (motive_1 := motive) (motive_2 := fun gs => ∀ g ∈ gs, motive g)
    point multiPoint lineString multiLineString ring polygon multiPolygon bound collection ?_ ?_ g
  · intro g hg; cases hg
  · intro head tail hh ht g hg
    rcases List.mem_cons.1 hg with rfl | hg
    · exact hh
    · exact ht g hg

namespace CoreNil

theorem NGeom.ind2 {α : Type} {motive : NGeom α → Prop} {motiveL : List (NGeom α) → Prop}
    (nilIface : motive .nilIface) (point : ∀ p, motive (.point p)) (multiPoint : ∀ ps, motive (.multiPoint ps))
    (lineString : ∀ ps, motive (.lineString ps)) (multiLineString : ∀ ls, motive (.multiLineString ls))
    (ring : ∀ ps, motive (.ring ps)) (polygon : ∀ rs, motive (.polygon rs))
    (multiPolygon : ∀ ps, motive (.multiPolygon ps)) (bound : ∀ a b, motive (.bound a b))
    (nilCollection : motive .nilCollection) (collection : ∀ gs, motiveL gs → motive (.collection gs))
    (nil : motiveL []) (cons : ∀ g gs, motive g → motiveL gs → motiveL (g :: gs)) :
    (∀ g, motive g) ∧ (∀ gs, motiveL gs) := by
  have hg : ∀ g, motive g := fun g =>
    NGeom.rec (motive_1 := motive) (motive_2 := motiveL) nilIface point multiPoint lineString multiLineString
      ring polygon multiPolygon bound nilCollection collection nil cons g
  refine ⟨hg, ?_⟩
  intro gs
  induction gs with
  | nil => exact nil
  | cons g gs ih => exact cons g gs (hg g) ih

theorem NGeom.ind {α : Type} {motive : NGeom α → Prop}
    (nilIface : motive .nilIface) (point : ∀ p, motive (.point p)) (multiPoint : ∀ ps, motive (.multiPoint ps))
    (lineString : ∀ ps, motive (.lineString ps)) (multiLineString : ∀ ls, motive (.multiLineString ls))
    (ring : ∀ ps, motive (.ring ps)) (polygon : ∀ rs, motive (.polygon rs))
    (multiPolygon : ∀ ps, motive (.multiPolygon ps)) (bound : ∀ a b, motive (.bound a b))
    (nilCollection : motive .nilCollection)
    (collection : ∀ gs, (∀ g ∈ gs, motive g) → motive (.collection gs)) : ∀ g, motive g :=
  (NGeom.ind2 (motiveL := fun gs => ∀ g ∈ gs, motive g) nilIface point multiPoint lineString multiLineString ring
    polygon multiPolygon bound nilCollection collection (fun _ h => nomatch h)
    (fun g gs hg hgs x hx => by
      rcases List.mem_cons.1 hx with rfl | hx
      · exact hg
      · exact hgs x hx)).1

theorem ofGeomList_eq_map {α : Type} (gs : List (Geom α)) : ofGeomList gs = gs.map ofGeom := by
  induction gs with
  | nil => rfl
  | cons g gs ih => rw [ofGeomList, ih, List.map_cons]

end CoreNil

end Orb
