/-
  From the list of visited cells of a closed ring to the ring trace that
  `polygon` filters (pure combinatorics).
-/
import OrbProofs.C14FillTrace

namespace Orb.TileCover
open Orb Orb.Tile

/-- consecutive rows differ by exactly one -/
def Step1 (a b : ℕ × ℕ) : Prop := a.2 + 1 = b.2 ∨ b.2 + 1 = a.2

/-- same row, same side of `(i, j)` -/
def Sim (i j : ℕ) (x y : ℕ × ℕ) : Prop := x.2 = y.2 ∧ Rt i j x = Rt i j y

/-- neighbours that are on the same side of `(i, j)` when they are in the same row -/
def NearS (i j : ℕ) (c c' : ℕ × ℕ) : Prop := Near c c' ∧ (c.2 = c'.2 → Rt i j c = Rt i j c')

theorem nearS_of_near {i j : ℕ} {c c' : ℕ × ℕ} (h : Near c c') (hc : c ≠ (i, j)) (hc' : c' ≠ (i, j)) :
    NearS i j c c' := by
  refine ⟨h, ?_⟩
  intro e
  obtain ⟨n1, n2, _, _⟩ := h
  have g1 : ¬ (c.1 = i ∧ c.2 = j) := fun ⟨e1, e2⟩ => hc (Prod.ext e1 e2)
  have g2 : ¬ (c'.1 = i ∧ c'.2 = j) := fun ⟨e1, e2⟩ => hc' (Prod.ext e1 e2)
  simp only [Rt]
  by_cases e1 : c.2 = j
  · have e2 : c'.2 = j := by omega
    have : (i < c.1) ↔ (i < c'.1) := by omega
    simp [e1, e2, this]
  · have e2 : ¬ c'.2 = j := by omega
    simp [e1, e2]

theorem RA_eq (i j : ℕ) (a b : ℕ × ℕ) :
    RA (rightOf i) j a b = ((Rt i j a && decide (b.2 = j + 1)) || (decide (a.2 = j + 1) && Rt i j b)) := by
  simp only [RA, Rt, rightOf, Bool.and_assoc]

theorem RA_congr_left {i j : ℕ} {x y : ℕ × ℕ} (h : Sim i j x y) (b : ℕ × ℕ) :
    RA (rightOf i) j x b = RA (rightOf i) j y b := by
  rw [RA_eq, RA_eq, h.1, h.2]

theorem RA_congr_right {i j : ℕ} {x y : ℕ × ℕ} (h : Sim i j x y) (a : ℕ × ℕ) :
    RA (rightOf i) j a x = RA (rightOf i) j a y := by
  rw [RA_eq, RA_eq, h.1, h.2]

theorem RA_same_row (i j : ℕ) {a b : ℕ × ℕ} (h : a.2 = b.2) : RA (rightOf i) j a b = false := by
  simp only [RA, h]
  by_cases e1 : b.2 = j <;> by_cases e2 : b.2 = j + 1 <;> simp [e1, e2]

theorem sim_refl (i j : ℕ) (x : ℕ × ℕ) : Sim i j x x := ⟨rfl, rfl⟩
theorem sim_trans {i j : ℕ} {x y z : ℕ × ℕ} (h1 : Sim i j x y) (h2 : Sim i j y z) : Sim i j x z :=
  ⟨h1.1.trans h2.1, h1.2.trans h2.2⟩
theorem sim_symm {i j : ℕ} {x y : ℕ × ℕ} (h1 : Sim i j x y) : Sim i j y x := ⟨h1.1.symm, h1.2.symm⟩

theorem rows_cons_same {p : ℕ} {c : ℕ × ℕ} (h : c.2 = p) (t : List (ℕ × ℕ)) :
    rows (some p) (c :: t) = rows (some c.2) t := by
  simp [rows, h]

theorem rows_cons_ne {p : ℕ} {c : ℕ × ℕ} (h : c.2 ≠ p) (t : List (ℕ × ℕ)) :
    rows (some p) (c :: t) = c :: rows (some c.2) t := by
  simp [rows, h.symm]

/-- consecutive entries of the trace are one row apart -/
theorem rows_step1 (t : List (ℕ × ℕ)) : ∀ (p e : ℕ × ℕ), e.2 = p.2 → chainO Near (some p) t →
    chainO Step1 (some e) (rows (some p.2) t) := by
  induction t with
  | nil => intro p e _ _; trivial
  | cons c t ih =>
    intro p e he h
    obtain ⟨hpc, hrest⟩ := h
    by_cases hc : c.2 = p.2
    · rw [rows_cons_same hc]
      exact ih c e (he.trans hc.symm) hrest
    · rw [rows_cons_ne hc]
      have hs : Step1 e c := by
        obtain ⟨_, _, n3, n4⟩ := hpc
        unfold Step1
        omega
      exact ⟨hs, ih c c rfl hrest⟩

/-- the entries that `rows` drops are same-row successors, so the last entry of the trace and the last cell are related by
    any reflexive, transitive `S` that relates a cell to such a successor -/
theorem rows_last_rel {S : ℕ × ℕ → ℕ × ℕ → Prop} (hrefl : ∀ x, S x x) (htrans : ∀ {x y z}, S x y → S y z → S x z)
    (t : List (ℕ × ℕ)) : ∀ (p e : ℕ × ℕ), S e p → chainO (fun p c => c.2 = p.2 → S p c) (some p) t →
    S (lastOf e (rows (some p.2) t)) (lastOf p t) := by
  induction t with
  | nil => intro p e he _; exact he
  | cons c t ih =>
    intro p e he h
    obtain ⟨hpc, hrest⟩ := h
    by_cases hc : c.2 = p.2
    · rw [rows_cons_same hc, lastOf]
      exact ih c e (htrans he (hpc hc)) hrest
    · rw [rows_cons_ne hc, lastOf, lastOf]
      exact ih c c (hrefl c) hrest

/-- the last entry of the trace stands for the last cell -/
theorem rows_last (i j : ℕ) (t : List (ℕ × ℕ)) : ∀ (p e : ℕ × ℕ), Sim i j e p →
    chainO (NearS i j) (some p) t →
    Sim i j (lastOf e (rows (some p.2) t)) (lastOf p t) := fun p e he h =>
  rows_last_rel (sim_refl i j) sim_trans t p e he ((chainO_iff _ _ _).2 fun se hse hc =>
    ⟨hc.symm, ((chainO_iff _ _ _).1 h se hse).2 hc.symm⟩)

theorem rows_last_row (t : List (ℕ × ℕ)) : ∀ (p e : ℕ × ℕ), e.2 = p.2 →
    (lastOf e (rows (some p.2) t)).2 = (lastOf p t).2 := fun p e he =>
  rows_last_rel (S := fun x y => x.2 = y.2) (fun _ => rfl) Eq.trans t p e he
    ((chainO_iff _ _ _).2 fun _ _ hc => hc.symm)

/-- the trace has the same `RA` parity as the cells -/
theorem rows_raPar (i j : ℕ) (t : List (ℕ × ℕ)) : ∀ (p e : ℕ × ℕ), Sim i j e p →
    chainO (NearS i j) (some p) t →
    raParO i j (some e) (rows (some p.2) t) = raParO i j (some p) t := by
  induction t with
  | nil => intro p e _ _; rfl
  | cons c t ih =>
    intro p e he h
    obtain ⟨hpc, hrest⟩ := h
    by_cases hc : c.2 = p.2
    · rw [rows_cons_same hc]
      simp only [raParO]
      rw [RA_same_row i j hc.symm, Bool.false_bne]
      exact ih c e (sim_trans he ⟨hc.symm, hpc.2 hc.symm⟩) hrest
    · rw [rows_cons_ne hc]
      simp only [raParO]
      rw [RA_congr_left he c, ih c c (sim_refl i j c) hrest]

/-- the ring trace handed to the filter: `line` drops the last entry when the path ends in the row in
    which it started -/
def finalRing : List (ℕ × ℕ) → List (ℕ × ℕ)
  | [] => []
  | c0 :: t => if (lastOf c0 t).2 = c0.2 then (rows none (c0 :: t)).dropLast else rows none (c0 :: t)

/-- parity of the cyclic number of `RA` transitions -/
def cycPar (i j : ℕ) : List (ℕ × ℕ) → Bool
  | [] => false
  | r0 :: t => raParO i j (some r0) t != RA (rightOf i) j (lastOf r0 t) r0

/-- cyclically, consecutive rows differ by exactly one (list form) -/
def CycStepL : List (ℕ × ℕ) → Prop
  | [] => True
  | r0 :: t => chainO Step1 (some r0) t ∧ Step1 (lastOf r0 t) r0

theorem cycPar_eq_par (i j : ℕ) (l : List (ℕ × ℕ)) : cycPar i j l = Contains.par (RAe i j) (Contains.cyc l) := by
  cases l with
  | nil => rfl
  | cons r0 t =>
    rw [cycPar, raParO_eq_par, Contains.cyc_cons, Contains.par_append, lastOf_eq]
    simp only [Contains.par_cons, Contains.par_nil, Bool.bne_false]; rfl

theorem cycStepL_iff (l : List (ℕ × ℕ)) : CycStepL l ↔ ∀ se ∈ Contains.cyc l, Step1 se.1 se.2 := by
  cases l with
  | nil => simp [CycStepL, Contains.cyc]
  | cons r0 t =>
    rw [CycStepL, chainO_iff, Contains.cyc_cons, lastOf_eq]
    simp only [List.forall_mem_append, List.mem_singleton, forall_eq]; rfl

theorem cyc_eq_cyY (R : List (ℕ × ℕ)) :
    Contains.cyc R = (List.range R.length).map fun m => (cyY R m, cyY R (m + 1)) := by
  rw [Contains.cyc_eq_range (0, 0)]
  exact List.map_congr_left fun m hm => by rw [cyY, cyY, Nat.mod_eq_of_lt (List.mem_range.1 hm)]

theorem cycStep_iff (R : List (ℕ × ℕ)) : CycStep R ↔ ∀ se ∈ Contains.cyc R, Step1 se.1 se.2 := by
  rw [cyc_eq_cyY]
  simp only [List.forall_mem_map, List.mem_range]; rfl

theorem nearS_cyc {i j : ℕ} {cells : List (ℕ × ℕ)} (h : ∀ se ∈ Contains.cyc cells, Near se.1 se.2)
    (hne : ∀ c ∈ cells, c ≠ (i, j)) : ∀ se ∈ Contains.cyc cells, NearS i j se.1 se.2 :=
  fun se hse => nearS_of_near (h se hse) (hne _ (Contains.mem_cyc hse).1) (hne _ (Contains.mem_cyc hse).2)

theorem rows_none_cons (c0 : ℕ × ℕ) (t : List (ℕ × ℕ)) :
    rows none (c0 :: t) = c0 :: rows (some c0.2) t := by
  simp [rows]

theorem lastOf_append_singleton {β : Type} (u : β) (l : List β) (x : β) : lastOf u (l ++ [x]) = x := by
  rw [lastOf_eq]; exact Contains.lastD'_concat u l x

theorem lastO_some_eq {β : Type} (u : β) (l : List β) : lastO (some u) l = some (lastOf u l) := by
  cases l with
  | nil => rfl
  | cons b t => rw [lastO_cons_eq, lastOf]

theorem rows_snoc (c : ℕ × ℕ) (t : List (ℕ × ℕ)) : ∀ p : ℕ × ℕ,
    rows (some p.2) (t ++ [c]) = rows (some p.2) t ++ if (lastOf p t).2 = c.2 then [] else [c] := by
  induction t with
  | nil => intro p; simp only [rows, lastOf, List.nil_append, List.append_nil, Option.some.injEq]; congr
  | cons d t ih => intro p; rw [List.cons_append, rows, ih d, rows, lastOf, List.append_assoc]

/-- The trace of a closed ring is the trace of the closed chain `t ++ [c0]` after `c0`, whose last entry — `c0`
    itself, or the head of a last run that continues the first — makes way for `c0`: so the facts about `rows`
    along an open chain, applied to the closed one, cover the wrap-around as well. -/
theorem finalRing_eq (c0 : ℕ × ℕ) (t : List (ℕ × ℕ)) :
    finalRing (c0 :: t) =
      if rows (some c0.2) (t ++ [c0]) = [] then [] else c0 :: (rows (some c0.2) (t ++ [c0])).dropLast := by
  rw [finalRing, rows_none_cons, rows_snoc]
  by_cases hd : (lastOf c0 t).2 = c0.2
  · simp only [hd, if_true, List.append_nil]
    cases h : rows (some c0.2) t with
    | nil => rfl
    | cons a r => simp
  · simp [hd]

theorem finalRing_cycStepL (cells : List (ℕ × ℕ)) (h : ∀ se ∈ Contains.cyc cells, Near se.1 se.2) :
    CycStepL (finalRing cells) := by
  cases cells with
  | nil => trivial
  | cons c0 t =>
    have hch : chainO Near (some c0) (t ++ [c0]) := (chainO_iff _ _ _).2 h
    have R1 := rows_step1 _ c0 c0 rfl hch
    have R2 := rows_last_row (t ++ [c0]) c0 c0 rfl
    rw [finalRing_eq]
    rcases List.eq_nil_or_concat (rows (some c0.2) (t ++ [c0])) with hnil | ⟨rr, rl, hrr⟩
    · rw [hnil]; trivial
    · rw [List.concat_eq_append] at hrr
      rw [hrr, lastOf_append_singleton, lastOf_append_singleton] at R2
      rw [hrr, chainO_append, lastO_some_eq] at R1
      rw [hrr, if_neg (by simp), List.dropLast_concat]
      exact ⟨R1.1, by have := R1.2.1; unfold Step1 at this ⊢; omega⟩

theorem finalRing_cycPar (i j : ℕ) (cells : List (ℕ × ℕ)) (h : ∀ se ∈ Contains.cyc cells, NearS i j se.1 se.2) :
    cycPar i j (finalRing cells) = cycPar i j cells := by
  cases cells with
  | nil => rfl
  | cons c0 t =>
    -- the cells as a closed chain: `cycPar` is `raParO` along it, and `rows` keeps that parity
    have hch : chainO (NearS i j) (some c0) (t ++ [c0]) := (chainO_iff _ _ _).2 h
    have R2 := rows_last i j _ c0 c0 (sim_refl i j c0) hch
    have R3 := rows_raPar i j _ c0 c0 (sim_refl i j c0) hch
    have hc : cycPar i j (c0 :: t) = raParO i j (some c0) (t ++ [c0]) := by
      rw [cycPar, raParO_append, lastO_some_eq]; simp only [raParO, Bool.bne_false]
    rw [hc, ← R3, finalRing_eq]
    rcases List.eq_nil_or_concat (rows (some c0.2) (t ++ [c0])) with hnil | ⟨rr, rl, hrr⟩
    · rw [hnil]; rfl
    · rw [List.concat_eq_append] at hrr
      rw [hrr, lastOf_append_singleton, lastOf_append_singleton] at R2
      rw [hrr, if_neg (by simp), List.dropLast_concat, cycPar, raParO_append, lastO_some_eq]
      simp only [raParO, Bool.bne_false]
      rw [RA_congr_right R2]

/-- core's `List.getD_cons_succ` at `ℕ × ℕ` -/
theorem getD_cons_succ' (p : ℕ × ℕ) (t : List (ℕ × ℕ)) (m : ℕ) (d : ℕ × ℕ) :
    (p :: t).getD (m + 1) d = t.getD m d := by simp

/-- `raParO_eq_count`, `chainO_getD`, `lastOf_eq_getD`: an open chain read by index with a default `d`.  Nothing
    cites them; a closed ring is read by index through `cyc_eq_cyY`, `cycPar_eq_count`. -/
theorem raParO_eq_count (i j : ℕ) (d : ℕ × ℕ) (t : List (ℕ × ℕ)) : ∀ p : ℕ × ℕ,
    raParO i j (some p) t =
      ((List.range t.length).countP
        (fun m => RA (rightOf i) j ((p :: t).getD m d) ((p :: t).getD (m + 1) d)) % 2 == 1) := by
  intro p
  rw [raParO_eq_par, Option.toList_some, List.singleton_append, Contains.chain_eq_range d, Contains.par_map]; rfl

theorem chainO_getD {R : ℕ × ℕ → ℕ × ℕ → Prop} (d : ℕ × ℕ) (t : List (ℕ × ℕ)) : ∀ p : ℕ × ℕ,
    chainO R (some p) t → ∀ m, m < t.length → R ((p :: t).getD m d) ((p :: t).getD (m + 1) d) := by
  intro p h m hm
  rw [chainO_iff, Option.toList_some, List.singleton_append, Contains.chain_eq_range d] at h
  exact h _ (List.mem_map.2 ⟨m, List.mem_range.2 hm, rfl⟩)

theorem lastOf_eq_getD (d : ℕ × ℕ) (t : List (ℕ × ℕ)) : ∀ p : ℕ × ℕ,
    lastOf p t = (p :: t).getD t.length d :=
  fun p => (lastOf_eq p t).trans (Contains.lastD'_eq_getD d p t)

theorem cyY_lt (R : List (ℕ × ℕ)) (m : ℕ) (hm : m < R.length) : cyY R m = R.getD m (0, 0) :=
  (ringc_cyY_of_lt R m hm).symm

theorem cyY_length (R : List (ℕ × ℕ)) : cyY R R.length = R.getD 0 (0, 0) := by
  unfold cyY; rw [Nat.mod_self]

theorem cycStep_of_L (R : List (ℕ × ℕ)) (h : CycStepL R) : CycStep R :=
  (cycStep_iff R).2 ((cycStepL_iff R).1 h)

theorem cycPar_eq_count (i j : ℕ) (R : List (ℕ × ℕ)) :
    cycPar i j R = ((List.range R.length).countP
      (fun m => RA (rightOf i) j (cyY R m) (cyY R (m + 1))) % 2 == 1) := by
  rw [cycPar_eq_par, cyc_eq_cyY, Contains.par_map]; rfl

end Orb.TileCover
