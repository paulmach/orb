/-
  clip on the heap (`Orb.HeapOps.geometryH`), level by level — trace, `ringEffect`, `ringH`, the hole loop, polygon,
  multi-polygon, collection, the kinds — each with ONE theorem: a successful run is a `Run`, i.e. it wrote only inside
  the capacity windows of the rings it was given, returned fresh arrays or slices of those windows, and, when the slices
  it read were legal with pairwise disjoint windows, returned what the value-level model `Orb.Clip` returns.
  Core Lean only.
-/
import OrbProofs.C08HeapLemmas
import OrbProofs.ClipMembers
import OrbProofs.ListLemmas

set_option linter.unusedSectionVars false

namespace Orb.HeapOps
open Orb Orb.Heap Orb.Core

variable {α : Type}

section ring
variable [Add α] [Sub α] [Mul α] [Div α] [LT α] [LE α] [DecidableLT α] [DecidableLE α] [BEq α]
  [Min α] [Max α]

theorem closeOut_eq (closed : Bool) (a : Pt α) (p : List (Pt α)) :
    (if closed = true then
        match a :: p, (a :: p).getLast? with
        | f' :: _, some l' => if Clip.ptEqB f' l' = true then some (a :: p) else some (a :: p ++ [f'])
        | _, _ => some (a :: p)
      else some (a :: p)) = some (closeOut closed (a :: p)) := by
  unfold closeOut
  cases closed
  · simp
  · simp only [if_true]
    cases hl : (a :: p).getLast? with
    | none => rfl
    | some l' =>
      simp only []
      by_cases hq : Clip.ptEqB a l' = true <;> simp [hq]

theorem closeOut_prefix (closed : Bool) (p4 : List (Pt α)) : ∃ t, closeOut closed p4 = p4 ++ t := by
  unfold closeOut
  cases closed
  · exact ⟨[], by simp⟩
  · simp only [if_true]
    split
    · split
      · exact ⟨[], by simp⟩
      · exact ⟨_, rfl⟩
    · exact ⟨[], by simp⟩

/-- the traces `ringTrace` produces re-close by appending -/
def Trace.Consistent : Trace α → Prop
  | .done _ p4 out => p4 ≠ [] ∧ ∃ t, out = p4 ++ t
  | _ => True

/-- Pass by pass on `Clip.ring` itself (these files are core Lean only; `C08.ring_eq` of C08Pass is not). -/
theorem ringTrace_spec (box : Bound α) (inp : List (Pt α)) :
    Clip.ring box inp = (ringTrace box inp).map Trace.value ∧ ∀ t, ringTrace box inp = some t → t.Consistent := by
  have triv : ∀ {t t' : Trace α}, t'.Consistent → some t' = some t → t.Consistent := fun h e => by cases e; exact h
  cases inp with
  | nil => exact ⟨rfl, fun t => triv trivial⟩
  | cons f tl =>
    simp only [Clip.ring, ringTrace]
    generalize Clip.ptEqB f ((f :: tl).getLast?.getD f) = closed
    cases Clip.ringPass box 1 closed (f :: tl) with
    | none => exact ⟨rfl, nofun⟩
    | some p1 =>
    cases p1 with
    | nil => exact ⟨rfl, fun t => triv trivial⟩
    | cons a1 p1 =>
    simp only [List.isEmpty_cons, Bool.false_eq_true, if_false]
    cases Clip.ringPass box 2 closed (a1 :: p1) with
    | none => exact ⟨rfl, nofun⟩
    | some p2 =>
    cases p2 with
    | nil => exact ⟨rfl, fun t => triv trivial⟩
    | cons a2 p2 =>
    simp only [List.isEmpty_cons, Bool.false_eq_true, if_false]
    cases Clip.ringPass box 4 closed (a2 :: p2) with
    | none => exact ⟨rfl, nofun⟩
    | some p3 =>
    cases p3 with
    | nil => exact ⟨rfl, fun t => triv trivial⟩
    | cons a3 p3 =>
    simp only [List.isEmpty_cons, Bool.false_eq_true, if_false]
    cases Clip.ringPass box 8 closed (a3 :: p3) with
    | none => exact ⟨rfl, nofun⟩
    | some p4 =>
    cases p4 with
    | nil => exact ⟨rfl, fun t => triv trivial⟩
    | cons a4 p4 =>
    simp only [List.isEmpty_cons, Bool.false_eq_true, if_false, Option.map_some, Trace.value]
    exact ⟨closeOut_eq closed a4 p4, fun t => triv ⟨nofun, closeOut_prefix _ _⟩⟩

end ring

theorem ringEffect_run (σ : Store α) (h : Hdr) (t : Trace α) (hc : t.Consistent) :
    Run [h] [h] (optHdrs (fun x => [x]) (ringEffect σ h t).2) σ (ringEffect σ h t).1
      ((ringEffect σ h t).2.map (readH (ringEffect σ h t).1) = if t.value.isEmpty then none else some t.value) := by
  have w2 : ∀ (p : List (Pt α)) (τ : Store α), Ext [h] τ (writeAt h.arr h.off (p.take h.cap) τ) := fun p τ =>
    ext_writeAt h h.off _ τ (Nat.le_refl _) (by simp only [List.length_take]; omega)
  -- the result is appended in fresh memory, after writes through `h` only
  have fresh : ∀ (τ : Store α) (out : List (Pt α)), Ext [h] σ τ →
      Run [h] [h] [(allocH τ out).2] σ (allocH τ out).1 (some (readH (allocH τ out).1 (allocH τ out).2) = some out) :=
    fun τ out e => ⟨Good.seq (xs1 := []) ⟨e, nofun⟩ (good_alloc [] τ out), fun _ _ => by rw [readH_alloc]⟩
  cases t with
  | nil0 => exact ⟨Good.refl _ _, fun _ _ => rfl⟩
  | nil2 p2 => exact ⟨⟨w2 p2 σ, nofun⟩, fun _ _ => rfl⟩
  | done p2 p4 out =>
    obtain ⟨hne, t, rfl⟩ := hc
    have hout : (p4 ++ t).isEmpty = false := by cases p4 <;> simp_all
    simp only [ringEffect, Trace.value, hout, Bool.false_eq_true, if_false]
    split
    · split
      · split
        · rename_i h1 h2 h3
          refine ⟨⟨((w2 p2 σ).trans_same (w2 p4 _)).trans_same (ext_writeAt h _ _ _ (by omega) ?_), fun x hx => ?_⟩,
            fun hw _ => by
              -- the two appends of the in-place exit are one append of `p4 ++ t`
              rw [Option.map_some, List.drop_left, List.take_of_length_le h2, ← writeAt_append]
              exact congrArg some (readH_writeAt _ h _ (by
                rw [read_length_writeAt]; have := (hw h (by simp)).2; omega))⟩
          · simp only [List.length_drop]; omega
          · rw [optHdrs, List.mem_singleton] at hx
            subst hx
            exact Or.inr ⟨h, by simp, rfl, rfl, rfl, h3⟩
        · exact fresh _ _ ((w2 p2 σ).trans_same (w2 p4 _))
      · exact fresh _ _ ((w2 p2 σ).trans_same (w2 p4 _))
    · exact fresh _ _ (w2 p2 σ)

section clip
variable [Add α] [Sub α] [Mul α] [Div α] [LT α] [LE α] [DecidableLT α] [DecidableLE α] [BEq α]
  [Min α] [Max α]

/-- nil on the heap side is the empty list on the value side: a result that is the empty list counts as dropped -/
def dropSpec {V γ : Type} (f : V → Option (List γ)) (v : V) : Option (Option (List γ)) :=
  (f v).map fun r => if r.isEmpty then none else some r

theorem foldl_none {V γ : Type} (F : Option (List γ) → V → Option (List γ))
    (hF : ∀ v, F none v = none) (vs : List V) : vs.foldl F none = none := by
  induction vs with
  | nil => rfl
  | cons v vs ih => rw [List.foldl_cons, hF, ih]

theorem mapM_dropSpec {V γ : Type} (f : V → Option (List γ)) (vs : List V) :
    (vs.mapM (dropSpec f)).map (·.filterMap id) = (vs.mapM f).map (·.filter (· ≠ [])) := by
  induction vs with
  | nil => simp
  | cons v vs ih =>
    rw [mapM_filterMap_cons, ih, List.mapM_cons, dropSpec]
    cases f v with
    | none => rfl
    | some y => cases vs.mapM f <;> cases y <;> simp

theorem dropSpec_eq_some {V γ : Type} {f : V → Option (List γ)} {v : V} {o : Option (List γ)}
    (h : dropSpec f v = some o) : f v = some (o.getD []) ∧ o ≠ some [] := by
  unfold dropSpec at h
  cases hv : f v with
  | none => rw [hv] at h; cases h
  | some l =>
    rw [hv, Option.map_some, Option.some.injEq] at h
    subst h
    cases l <;> exact ⟨rfl, nofun⟩

/-- a polygon whose outer ring survives is the hole loop run on all its rings, the outer one included -/
theorem polygon_as_holeLoop (box : Bound α) (o : List (Pt α)) (hs : List (List (Pt α))) :
    Clip.polygon box (o :: hs) =
      match dropSpec (Clip.ring box) o with
      | none => none
      | some none => some []
      | some (some _) => ((o :: hs).mapM (dropSpec (Clip.ring box))).map (·.filterMap id) := by
  rw [Clip.polygon_cons_eq, mapM_filterMap_cons, mapM_dropSpec, dropSpec]
  cases Clip.ring box o with
  | none => rfl
  | some r =>
    cases r with
    | nil => rfl
    | cons a l => cases hs.mapM (Clip.ring box) <;> simp

/-- the ring level: writes through the window of `h` only; the header that comes back is that window or fresh, and
    reads the clipped ring; nil comes back exactly when the clipped ring is empty -/
theorem ringH_run (box : Bound α) (σ σ' : Store α) (h : Hdr) (r : Option Hdr)
    (hr : ringH box σ h = some (σ', r)) :
    Run [h] [h] (optHdrs (fun x => [x]) r) σ σ' (dropSpec (Clip.ring box) (readH σ h) = some (r.map (readH σ'))) := by
  unfold ringH at hr
  cases ht : ringTrace box (readH σ h) with
  | none => simp [ht] at hr
  | some t =>
    simp only [ht, Option.map_some, Option.some.injEq] at hr
    have s := ringEffect_run σ h t ((ringTrace_spec box _).2 t ht)
    rw [hr] at s
    exact ⟨s.good, fun hw hp => by
      rw [dropSpec, (ringTrace_spec box _).1, ht, Option.map_some, Option.map_some, s.den hw hp]⟩

theorem holesH_eq_thread (box : Bound α) (hs : List Hdr) (σ : Store α) :
    holesH box σ hs = thread (ringH box) σ hs := by
  induction hs generalizing σ with
  | nil => rfl
  | cons h hs ih =>
    simp only [holesH, thread]
    cases ringH box σ h with
    | none => rfl
    | some p =>
      obtain ⟨σ1, r⟩ := p
      simp only [ih, Option.bind_some]
      cases thread (ringH box) σ1 hs with
      | none => rfl
      | some q => cases r <;> rfl

theorem holesH_run (box : Bound α) (hs : List Hdr) (σ σ' : Store α) (rs : List Hdr)
    (hr : holesH box σ hs = some (σ', rs)) :
    Run hs hs rs σ σ'
      (((hs.map (readH σ)).mapM (dropSpec (Clip.ring box))).map (·.filterMap id) = some (rs.map (readH σ'))) := by
  rw [holesH_eq_thread] at hr
  have := thread_run (ringH box) (fun h => [h]) (fun h => [h]) (fun h => [h])
    (fun σ h => readH σ h) (fun σ h => readH σ h) (dropSpec (Clip.ring box)) hs
    (fun _ _ h hh => hh) (fun i _ σ σ' r h1 => ringH_run box σ σ' i r h1)
    (fun i _ σ σ' h => h i (by simp)) (fun x σ σ' h => h x (by simp)) σ σ' rs hr
  rwa [flatten_map_singleton, flatten_map_singleton] at this

/-- what a successful `clip.Polygon` did: nothing at all; or the outer ring vanished and only it was run;
    or the outer ring survived and ALL rings, the outer one included, were run by the hole loop -/
theorem polygonH_inv (box : Bound α) (σ σ' : Store α) (hs : List Hdr) (r : Option (List Hdr))
    (hr : polygonH box σ hs = some (σ', r)) :
    (hs = [] ∧ σ' = σ ∧ r = none) ∨
    (∃ o holes, hs = o :: holes ∧ ringH box σ o = some (σ', none) ∧ r = none) ∨
    (∃ o holes σ1 x rs, hs = o :: holes ∧ ringH box σ o = some (σ1, some x) ∧
      r = some (x :: rs) ∧ holesH box σ hs = some (σ', x :: rs)) := by
  cases hs with
  | nil => cases hr; exact Or.inl ⟨rfl, rfl, rfl⟩
  | cons o holes =>
    simp only [polygonH] at hr
    cases h1 : ringH box σ o with
    | none => simp [h1] at hr
    | some p1 =>
      obtain ⟨σ1, _ | x⟩ := p1
      · rw [h1] at hr; cases hr
        exact Or.inr (Or.inl ⟨o, holes, rfl, h1, rfl⟩)
      · simp only [h1] at hr
        cases h2 : holesH box σ1 holes with
        | none => simp [h2] at hr
        | some p2 =>
          rw [h2] at hr; cases hr
          exact Or.inr (Or.inr ⟨o, holes, σ1, x, p2.2, rfl, h1, rfl, by simp only [holesH, h1, h2]⟩)

theorem polygonH_run (box : Bound α) (hs : List Hdr) (σ σ' : Store α) (r : Option (List Hdr))
    (hr : polygonH box σ hs = some (σ', r)) :
    Run hs hs (optHdrs id r) σ σ'
      (dropSpec (Clip.polygon box) (hs.map (readH σ)) = some (r.map fun l => l.map (readH σ'))) := by
  rcases polygonH_inv box σ σ' hs r hr with ⟨rfl, rfl, rfl⟩ | ⟨o, holes, rfl, h1, rfl⟩ |
    ⟨o, holes, σ1, x, rs, rfl, h1, rfl, h2⟩
  · exact Run.refl _ _ _ rfl
  · have s := ringH_run box σ σ' o none h1
    refine ⟨s.good.mono (by simp), fun hwf _ => ?_⟩
    rw [dropSpec, List.map_cons, polygon_as_holeLoop, s.den (fun h hh => by rw [List.mem_singleton.1 hh]; exact hwf o (by simp)) (by simp)]
    rfl
  · have s := holesH_run box _ σ σ' _ h2
    refine ⟨s.good, fun hwf hpw => ?_⟩
    have hd := s.den hwf hpw
    rw [List.map_cons] at hd
    rw [dropSpec, List.map_cons, polygon_as_holeLoop,
      (ringH_run box σ σ1 o (some x) h1).den (fun h hh => by rw [List.mem_singleton.1 hh]; exact hwf o (by simp)) (by simp)]
    simp only [Option.map_some]
    rw [hd]
    rfl

theorem multiPolygonH_eq_thread (box : Bound α) (hss : List (List Hdr)) (σ : Store α) :
    multiPolygonH box σ hss = thread (polygonH box) σ hss := by
  induction hss generalizing σ with
  | nil => rfl
  | cons h hs ih =>
    simp only [multiPolygonH, thread]
    cases polygonH box σ h with
    | none => rfl
    | some p =>
      obtain ⟨σ1, r⟩ := p
      simp only [ih, Option.bind_some]
      cases thread (polygonH box) σ1 hs with
      | none => rfl
      | some q => cases r <;> rfl

theorem multiPolygonH_run (box : Bound α) (hss : List (List Hdr)) (σ σ' : Store α)
    (rs : List (List Hdr)) (hr : multiPolygonH box σ hss = some (σ', rs)) :
    Run hss.flatten hss.flatten rs.flatten σ σ'
      (((hss.map fun hs => hs.map (readH σ)).mapM (dropSpec (Clip.polygon box))).map (·.filterMap id) =
        some (rs.map fun l => l.map (readH σ'))) := by
  rw [multiPolygonH_eq_thread] at hr
  have := thread_run (polygonH box) (fun hs => hs) (fun hs => hs) (fun hs => hs)
    (fun σ hs => hs.map (readH σ)) (fun σ hs => hs.map (readH σ)) (dropSpec (Clip.polygon box)) hss
    (fun _ _ h hh => hh) (fun i _ σ σ' r h1 => polygonH_run box i σ σ' r h1)
    (fun i _ σ σ' h => List.map_congr_left h) (fun x σ σ' h => List.map_congr_left h) σ σ' rs hr
  rwa [List.map_id', List.map_id'] at this

/-- the headers of an optional result -/
def resHdrs (r : Option (SGeom α)) : List Hdr := match r with | none => [] | some r => hdrs r

/-- what one run of `clip.Geometry` on `g` promises: it reads through all slices of `g`, writes through the rings of its
    2-d members only, and returns the slices of `r` -/
abbrev GeomRun (eb box : Bound α) (g : SGeom α) (σ σ' : Store α) (r : Option (SGeom α)) : Prop :=
  Run (hdrs g) (ringHdrs g) (resHdrs r) σ σ' (Clip.geometry eb box (denoteS σ g) = some (r.map (denoteS σ')))

theorem collectH_eq_thread (eb box : Bound α) (gs : List (SGeom α)) (σ : Store α) :
    collectH eb box σ gs = thread (geometryH eb box) σ gs := by
  induction gs generalizing σ with
  | nil => rfl
  | cons h hs ih =>
    simp only [collectH, thread]
    cases geometryH eb box σ h with
    | none => rfl
    | some p =>
      obtain ⟨σ1, r⟩ := p
      simp only [ih, Option.bind_some]
      cases thread (geometryH eb box) σ1 hs with
      | none => rfl
      | some q => cases r <;> rfl

theorem collectH_run (eb box : Bound α) (gs : List (SGeom α))
    (ih : ∀ g ∈ gs, ∀ (σ σ' : Store α) (r : Option (SGeom α)),
      geometryH eb box σ g = some (σ', r) → GeomRun eb box g σ σ' r)
    (σ σ' : Store α) (rs : List (SGeom α)) (hr : collectH eb box σ gs = some (σ', rs)) :
    Run (hdrsList gs) (ringHdrsList gs) (hdrsList rs) σ σ'
      (Clip.geometry.collect eb box (denoteSList σ gs) = some (rs.map (denoteS σ'))) := by
  rw [collectH_eq_thread] at hr
  rw [hdrsList_eq, ringHdrsList_eq, hdrsList_eq, Clip.collect_eq, denoteSList_eq_map]
  exact thread_run (geometryH eb box) hdrs ringHdrs hdrs denoteS denoteS (Clip.geometry eb box) gs
    (fun g _ => ringHdrs_sub_hdrs g)
    (fun g hg σ σ' r h1 => by have := ih g hg σ σ' r h1; cases r <;> exact this)
    (fun g _ σ σ' h => denoteS_congr σ σ' g h) (fun x σ σ' h => denoteS_congr σ σ' x h) σ σ' rs hr

/-- the bound pre-test of `clip.Geometry`, shared by every kind and by both models: when it fails both return
    nil and the store is as it was -/
theorem run_pretest {R W : List Hdr} {c : Bool} {X : Option (Store α × Option (SGeom α))}
    {Y : Option (Option (Geom α))} {σ σ' : Store α} {r : Option (SGeom α)}
    (hr : (if c = true then some (σ, none) else X) = some (σ', r))
    (h : X = some (σ', r) → Run R W (resHdrs r) σ σ' (Y = some (r.map (denoteS σ')))) :
    Run R W (resHdrs r) σ σ' ((if c = true then some none else Y) = some (r.map (denoteS σ'))) := by
  cases c with
  | true =>
    simp only [if_true, Option.some.injEq, Prod.mk.injEq] at hr
    rw [← hr.1, ← hr.2]; exact Run.refl _ _ _ rfl
  | false => exact h hr

/-- every kind, at any nesting; the memory clauses of OrbProofs/C08Heap.lean are the fields of this -/
theorem geometryH_run (eb box : Bound α) (g : SGeom α) (σ σ' : Store α) (r : Option (SGeom α))
    (hr : geometryH eb box σ g = some (σ', r)) : GeomRun eb box g σ σ' r := by
  unfold GeomRun
  induction g using SGeom.ind generalizing σ σ' r with
    (simp only [geometryH] at hr; simp only [denoteS, Clip.geometry]; refine run_pretest hr fun hr => ?_)
  | h1 p => cases hr; exact Run.refl _ _ _ rfl
  | h8 a b =>
    split at hr <;> rename_i hg
    · cases hr; exact Run.refl _ _ _ (by simp only [hg, if_true]; rfl)
    · split at hr <;> rename_i he <;> cases hr <;> exact Run.refl _ _ _ (by simp only [hg, he, ↓reduceIte]; rfl)
  | h2 h =>
    split at hr <;> rename_i hm <;> cases hr
    · exact Run.refl _ _ _ (by rw [hm]; rfl)
    · exact Run.refl _ _ _ (by rw [hm]; rfl)
    · refine ⟨good_alloc _ _ _, fun _ _ => ?_⟩
      split <;> simp_all [denoteS, readH_alloc]
  | h3 h | h4 h =>
    split at hr <;> rename_i hm
    · cases hr
    · cases hr; exact Run.refl _ _ _ (by rw [hm]; rfl)
    · cases hr; exact ⟨good_alloc _ _ _, fun _ _ => by rw [hm]; simp [denoteS, readH_alloc]⟩
    · cases hr; rename_i ls _ _
      exact ⟨good_allocs _ _, fun _ _ => by rw [hm]; simp [denoteS, allocsH_read]⟩
  | h5 h =>
    cases h1 : ringH box σ h with
    | none => simp [h1] at hr
    | some p1 =>
      obtain ⟨σ1, r1⟩ := p1
      have s := ringH_run box σ σ1 h r1 h1
      rw [h1] at hr
      refine ⟨by cases r1 <;> cases hr <;> exact s.good, fun hwf hsep => ?_⟩
      obtain ⟨hv, hne⟩ := dropSpec_eq_some (s.den hwf hsep)
      rw [hv]
      cases r1 <;> cases hr
      · rfl
      · simp only [Option.map_some, Option.getD_some, denoteS] at hne ⊢
        split <;> rename_i he
        · cases he
        · exact absurd he hne
        · cases he; rfl
  | h6 hs =>
    cases h1 : polygonH box σ hs with
    | none => simp [h1] at hr
    | some p1 =>
      obtain ⟨σ1, r1⟩ := p1
      have s := polygonH_run box hs σ σ1 r1 h1
      rw [h1] at hr
      refine ⟨by cases r1 <;> cases hr <;> exact s.good, fun hwf hsep => ?_⟩
      obtain ⟨hv, hne⟩ := dropSpec_eq_some (s.den hwf hsep)
      rw [hv]
      cases r1 <;> cases hr
      · rfl
      · simp only [Option.map_some, Option.getD_some, denoteS] at hne ⊢
        split <;> rename_i he
        · cases he
        · exact absurd he hne
        · cases he; rfl
  | h7 hss =>
    cases h1 : multiPolygonH box σ hss with
    | none => simp [h1] at hr
    | some p1 =>
      obtain ⟨σ1, rs⟩ := p1
      have s := multiPolygonH_run box hss σ σ1 rs h1
      rw [h1] at hr
      have hv := fun hwf hsep => (Clip.multiPolygon_eq box _).trans ((mapM_dropSpec _ _).symm.trans (s.den hwf hsep))
      match rs, hr with
      | [], hr => cases hr; exact ⟨s.good, fun hwf hsep => by rw [hv hwf hsep]; rfl⟩
      | [p], hr => cases hr; exact ⟨by simpa [resHdrs, hdrs, ringHdrs] using s.good, fun hwf hsep => by rw [hv hwf hsep]; rfl⟩
      | a :: b :: l, hr => cases hr; exact ⟨s.good, fun hwf hsep => by rw [hv hwf hsep]; rfl⟩
  | hc gs ih =>
    cases h1 : collectH eb box σ gs with
    | none => simp [h1] at hr
    | some p1 =>
      obtain ⟨σ1, rs⟩ := p1
      have s := collectH_run eb box gs ih σ σ1 rs h1
      rw [h1] at hr
      match rs, hr with
      | [], hr => cases hr; exact ⟨s.good, fun hwf hsep => by rw [s.den hwf hsep]; rfl⟩
      | [y], hr => cases hr; exact ⟨by simpa [resHdrs, hdrsList, ringHdrs] using s.good, fun hwf hsep => by rw [s.den hwf hsep]; rfl⟩
      | a :: b :: l, hr =>
        cases hr
        exact ⟨s.good, fun hwf hsep => by rw [s.den hwf hsep]; simp [denoteS, denoteSList_eq_map]⟩

end clip

end Orb.HeapOps
