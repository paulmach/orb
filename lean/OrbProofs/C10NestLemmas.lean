/-
  C10, the clause "a polygon's area is never negative for nested rings".  With `NestedHoles` alone (even-odd
  containment + pairwise disjoint even-odd interiors) it is FALSE: a hole that runs twice round the outer triangle has
  an empty even-odd interior and twice the area (`cex_nested`); the rings must be simple (`SimpleRing`).  Proved
  outright: ONE hole of at most four vertices, all on one side of every edge line of the outer ring (for a convex outer
  ring: anywhere in it).  A point of a convex polygon is never beyond all its vertices (`vertex_max`), and between two
  vertices a functional rises by at most its positive variation round the closed ring (`edgeSumOf_range_le`); the
  reflection `mirror` takes a clockwise outer ring to the counter-clockwise case.
-/
import OrbProofs.C10Lemmas
import OrbProofs.EvenOddEdge

set_option linter.unusedSectionVars false

namespace Orb.Planar
open Orb Orb.Core

/-- the vertex list of a ring without an explicit closing vertex -/
def openVerts {α : Type} [DecidableEq α] (r : List (Pt α)) : List (Pt α) :=
  match r with
  | [] => []
  | v :: t => if t.getLast? = some v then v :: t.dropLast else r

/-- a simple ring: at least three vertices, and two edges of the closed chain have a point in common only where
    cyclically consecutive edges share their vertex -/
def SimpleRing {α : Type} [DecidableEq α] [Sub α] [Mul α] [OfNat α 0] [LT α] [LE α] [DecidableLT α] [DecidableLE α]
    (r : List (Pt α)) : Prop :=
  let vs := openVerts r
  let n := vs.length
  3 ≤ n ∧ ∀ i j, i < n → j < n → i ≠ j → ∀ p,
    EvenOdd.onSeg (vs.getD i ⟨0, 0⟩) (vs.getD ((i + 1) % n) ⟨0, 0⟩) p = true →
    EvenOdd.onSeg (vs.getD j ⟨0, 0⟩) (vs.getD ((j + 1) % n) ⟨0, 0⟩) p = true →
    (j = (i + 1) % n ∧ p = vs.getD j ⟨0, 0⟩) ∨ (i = (j + 1) % n ∧ p = vs.getD i ⟨0, 0⟩)

section counterexample
variable {α : Type} [Field α] [LinearOrder α] [IsStrictOrderedRing α]

/-- the triangle (0,0) (4,0) (0,4) … -/
def cexOuter : List (Pt α) := [⟨0, 0⟩, ⟨4, 0⟩, ⟨0, 4⟩]
/-- … and the same triangle run round twice -/
def cexHole : List (Pt α) := [⟨0, 0⟩, ⟨4, 0⟩, ⟨0, 4⟩, ⟨0, 0⟩, ⟨4, 0⟩, ⟨0, 4⟩]

/-- a ring run round twice has every edge twice: no crossing parity is left, only the boundary -/
theorem inside_twice (v : Pt α) (t : List (Pt α)) (p : Pt α) :
    EvenOdd.inside (v :: t ++ v :: t) p = EvenOdd.onBoundary (v :: t) p := by
  have h : (EvenOdd.edges (v :: t ++ v :: t)).Perm (EvenOdd.edges (v :: t) ++ EvenOdd.edges (v :: t)) :=
    (Contains.edges_arcs_perm v t v t).trans ((Contains.edges_perm v t).symm.append (Contains.edges_perm v t).symm)
  rw [EvenOdd.inside, EvenOdd.onBoundary, EvenOdd.onBoundary, EvenOdd.crossings, h.any_eq, List.any_append, Bool.or_self,
    h.countP_eq, List.countP_append, ← two_mul, Nat.mul_mod_right]
  exact Bool.or_false _

theorem cex_inside (p : Pt α) : EvenOdd.inside (cexHole : List (Pt α)) p = EvenOdd.onBoundary (cexOuter : List (Pt α)) p :=
  inside_twice ⟨0, 0⟩ [⟨4, 0⟩, ⟨0, 4⟩] p

theorem cex_nested : NestedHoles (cexOuter : List (Pt α)) [cexHole] := by
  refine ⟨fun h hh p hp => ?_, List.pairwise_singleton _ _⟩
  rw [List.mem_singleton] at hh
  subst hh
  rw [cex_inside] at hp
  simp only [EvenOdd.inside, hp, Bool.true_or]


end counterexample

section ringKernel
variable {α : Type} [Field α] [LinearOrder α] [IsStrictOrderedRing α]

local notation "cr" => EvenOdd.cross

/-- the edges of the implicitly closed ring `o :: rest`, spelled with `lastD`: `EvenOdd.edges (o :: rest)`.  Only the
    statement of `edgeSum_nonneg_of_left` uses this spelling; the proofs of this file speak of `EvenOdd.edges`. -/
def cedges (o : Pt α) (rest : List (Pt α)) : List (Pt α × Pt α) := (lastD o rest, o) :: (o :: rest).zip rest

/-- the fan sum of the ring from an arbitrary point `q`: Σ over the closed chain's edges of `cross s e q`; as `cedges`,
    it serves the statement of `edgeSum_nonneg_of_left` alone (elsewhere: `Contains.edgeSumOf`) -/
def edgeSum (o : Pt α) (rest : List (Pt α)) (q : Pt α) : α := ((cedges o rest).map fun e => cr e.1 e.2 q).sum

/-- `cross s e q` is `s × e` plus the coboundary of `v ↦ q × v` -/
theorem edgeSumOf_cross (r : List (Pt α)) (q : Pt α) :
    Contains.edgeSumOf (fun s e => cr s e q) r = 2 * ringArea r := by
  rw [ringArea_eq_edgeSum, mul_div_cancel₀ _ two_ne_zero,
    ← Contains.edgeSumOf_add_cob cross (fun v : Pt α => q.y * v.x - q.x * v.y)]
  exact congrArg List.sum (List.map_congr_left fun e _ => by simp only [EvenOdd.cross, cross]; ring)

theorem chain_rise_le {β : Type} (f : β → α) (w : β → β → α) (v : β) (t : List β)
    (h : ∀ e ∈ Contains.chain (v :: t), 0 ≤ w e.1 e.2 ∧ f e.2 - f e.1 ≤ w e.1 e.2) :
    ∀ y ∈ v :: t, f y - f v ≤ ((Contains.chain (v :: t)).map fun e => w e.1 e.2).sum := by
  induction t generalizing v with
  | nil => intro y hy; rw [List.mem_singleton.1 hy, sub_self]; exact le_rfl
  | cons u t ih =>
    intro y hy
    obtain ⟨h0, h1⟩ := h (v, u) List.mem_cons_self
    have ih' := ih u fun e he => h e (List.mem_cons_of_mem _ he)
    rw [Contains.chain, List.map_cons, List.sum_cons]
    rcases List.mem_cons.1 hy with rfl | hy
    · rw [sub_self]
      exact add_nonneg h0 ((sub_self (f u)).symm.le.trans (ih' u List.mem_cons_self))
    · linarith only [h1, ih' y hy]

/-- Positive variation: round a closed ring the difference of `f` between ANY two vertices is at most the total of
    the edges' bounds.  The total does not change when the ring is rotated, so let `x` come first: then it is
    `chain_rise_le` and the closing edge's bound is not needed. -/
theorem edgeSumOf_range_le (f : Pt α → α) (w : Pt α → Pt α → α) (r : List (Pt α))
    (h : ∀ e ∈ EvenOdd.edges r, 0 ≤ w e.1 e.2 ∧ f e.2 - f e.1 ≤ w e.1 e.2) :
    ∀ x ∈ r, ∀ y ∈ r, f y - f x ≤ Contains.edgeSumOf w r := by
  intro x hx y hy
  obtain ⟨a, b, rfl⟩ := List.append_of_mem hx
  have h' : ∀ e ∈ EvenOdd.edges (x :: (b ++ a)), 0 ≤ w e.1 e.2 ∧ f e.2 - f e.1 ≤ w e.1 e.2 :=
    fun e he => h e ((Contains.edges_rotate_perm (x :: b) a).mem_iff.2 he)
  have hy' : y ∈ x :: (b ++ a) := (List.perm_append_comm (l₁ := a) (l₂ := x :: b)).mem_iff.1 hy
  rw [Contains.edgeSumOf_rotate w (x :: b) a, List.cons_append, Contains.edgeSumOf]
  rw [Contains.edges_cons] at h' ⊢
  rw [List.map_cons, List.sum_cons]
  exact (chain_rise_le f w x (b ++ a) (fun e he => h' e (List.mem_cons_of_mem _ he)) y hy').trans
    (le_add_of_nonneg_left (h' _ List.mem_cons_self).1)

/-- the rises are their own bounds, and a coboundary sums to 0 -/
theorem const_of_mono (g : Pt α → α) (r : List (Pt α)) (h : ∀ e ∈ EvenOdd.edges r, g e.1 ≤ g e.2) :
    ∀ x ∈ r, ∀ y ∈ r, g x = g y := by
  have key := edgeSumOf_range_le g (fun s e => g e - g s) r (fun e he => ⟨sub_nonneg.2 (h e he), le_rfl⟩)
  rw [Contains.edgeSumOf_cob] at key
  exact fun x hx y hy => le_antisymm (sub_nonpos.1 (key y hy x hx)) (sub_nonpos.1 (key x hx y hy))

/-- A point `c` on the inner (left) side of every edge line of a ring of positive area: every functional
    `v ↦ cross a b v` is at most its value at some vertex (a point of a convex polygon is not beyond all its vertices). -/
theorem vertex_max (r : List (Pt α)) (c : Pt α) (hin : ∀ e ∈ EvenOdd.edges r, 0 ≤ cr e.1 e.2 c)
    (hA : 0 < ringArea r) (a b : Pt α) : ∃ v ∈ r, cr a b c ≤ cr a b v := by
  by_contra hcon
  -- coordinates of `v − c` across (`yv`, positive at every vertex) and along (`xv`) the direction `b − a`
  let yv : Pt α → α := fun v => cr a b c - cr a b v
  let xv : Pt α → α := fun v => (b.x - a.x) * (v.x - c.x) + (b.y - a.y) * (v.y - c.y)
  let nb : α := (b.x - a.x) * (b.x - a.x) + (b.y - a.y) * (b.y - a.y)
  have hy : ∀ v ∈ r, 0 < yv v := fun v hv => sub_pos.2 (lt_of_not_ge fun h => hcon ⟨v, hv, h⟩)
  have hid : ∀ s t : Pt α, nb * cr s t c = xv t * yv s - xv s * yv t := by
    intro s t
    simp only [nb, xv, yv, EvenOdd.cross]
    ring
  have hnb : nb ≠ 0 := by
    intro h
    obtain ⟨e1, e2⟩ := mul_self_add_mul_self_eq_zero.1 h
    cases r with
    | nil => exact hA.ne' ringArea_nil
    | cons o rest =>
      have := hy o (List.mem_cons_self ..)
      simp only [yv, EvenOdd.cross, e1, e2, zero_mul, sub_self, lt_self_iff_false] at this
  have hnb0 : 0 ≤ nb := add_nonneg (mul_self_nonneg _) (mul_self_nonneg _)
  -- the slope `xv / yv` does not decrease along any edge of the closed chain, so it is constant
  have hconst := const_of_mono (fun v => xv v / yv v) r (fun e he => by
    obtain ⟨m1, m2⟩ := Contains.mem_edges (s := e.1) (e := e.2) he
    rw [div_le_div_iff₀ (hy _ m1) (hy _ m2), ← sub_nonneg, ← hid]
    exact mul_nonneg hnb0 (hin e he))
  -- hence every edge is seen from `c` under the angle 0
  refine (mul_pos two_pos hA).ne' ?_
  rw [← edgeSumOf_cross r c]
  refine List.sum_eq_zero (List.forall_mem_map.2 fun e he => ?_)
  obtain ⟨m1, m2⟩ := Contains.mem_edges (s := e.1) (e := e.2) he
  have h12 := hconst _ m2 _ m1
  rw [div_eq_div_iff (hy _ m2).ne' (hy _ m1).ne', ← sub_eq_zero, ← hid] at h12
  exact (mul_eq_zero.1 h12).resolve_left hnb

theorem cross_self (a b : Pt α) : cr a b a = 0 := by
  simp only [EvenOdd.cross]; ring

/-- For `a`, `b`, `p`, `q` all on the left of every edge line of a counter-clockwise ring of positive area, the rise of
    the functional `cross a b ·` from `p` to `q` is at most twice the ring's area.
    (`p = a`: twice the signed area of the triangle `a b q`; `a b` a diagonal: of the quadrilateral `a p b q`.) -/
theorem range_le_ring_ccw (r : List (Pt α)) (a b p q : Pt α)
    (ha : ∀ e ∈ EvenOdd.edges r, 0 ≤ cr e.1 e.2 a) (hb : ∀ e ∈ EvenOdd.edges r, 0 ≤ cr e.1 e.2 b)
    (hp : ∀ e ∈ EvenOdd.edges r, 0 ≤ cr e.1 e.2 p) (hq : ∀ e ∈ EvenOdd.edges r, 0 ≤ cr e.1 e.2 q)
    (hA : 0 < ringArea r) :
    cr a b q - cr a b p ≤ 2 * ringArea r := by
  obtain ⟨v, hv, h1⟩ := vertex_max r q hq hA a b
  obtain ⟨v', hv', h2⟩ := vertex_max r p hp hA b a
  rw [Contains.cross_swap a b p, Contains.cross_swap a b v', neg_le_neg_iff] at h2
  -- the rise of `cross a b ·` along an edge is at most the edge's term of the edge sum taken from `a`
  have hE := edgeSumOf_range_le (fun v => cr a b v) (fun s t => cr s t a) r (fun e he => by
    refine ⟨ha e he, ?_⟩
    have hid : cr a b e.2 - cr a b e.1 = cr e.1 e.2 a - cr e.1 e.2 b := by simp only [EvenOdd.cross]; ring
    rw [hid]
    exact sub_le_self _ (hb e he)) v' hv' v hv
  rw [edgeSumOf_cross] at hE
  linarith only [hE, h1, h2]

/-- `p` lies on one and the same side of EVERY edge line of the implicitly closed ring (for a ring that is convex in
    the sense of `ConvexRing`, whose vertices all do: `p` is a point of the polygon; in general `p` is in its kernel) -/
def OneSide (r : List (Pt α)) (p : Pt α) : Prop :=
  (∀ e ∈ EvenOdd.edges r, 0 ≤ cr e.1 e.2 p) ∨ (∀ e ∈ EvenOdd.edges r, cr e.1 e.2 p ≤ 0)

/-- twice the area of a ring of at most four vertices as ONE rise of a functional `cross a b ·` -/
theorem small_ring_area (h : List (Pt α)) (hlen : h.length ≤ 4) (hne : h ≠ []) :
    ∃ a ∈ h, ∃ b ∈ h, ∃ p ∈ h, ∃ q ∈ h, 2 * ringArea h = cr a b q - cr a b p := by
  match h, hlen, hne with
  | [a], _, _ => exact ⟨a, by simp, a, by simp, a, by simp, a, by simp, by simp [ringArea_cons, fan]⟩
  | [a, b], _, _ => exact ⟨a, by simp, a, by simp, a, by simp, a, by simp, by simp [ringArea_cons, fan]⟩
  | [a, b, c], _, _ =>
    refine ⟨a, by simp, b, by simp, a, by simp, c, by simp, ?_⟩
    simp only [ringArea_cons, fan, EvenOdd.cross]; ring
  | [a, b, c, d], _, _ =>
    refine ⟨a, by simp, c, by simp, b, by simp, d, by simp, ?_⟩
    simp only [ringArea_cons, fan, EvenOdd.cross]; ring

theorem edgeSum_nonneg_of_left (o : Pt α) (rest : List (Pt α)) (p : Pt α)
    (h : ∀ e ∈ cedges o rest, 0 ≤ cr e.1 e.2 p) : 0 ≤ edgeSum o rest p :=
  List.sum_nonneg (List.forall_mem_map.2 h)

theorem small_le_ring_ccw (r : List (Pt α)) (hA : 0 < ringArea r)
    (h : List (Pt α)) (hlen : h.length ≤ 4) (hin : ∀ p ∈ h, OneSide r p) :
    |ringArea h| ≤ ringArea r := by
  by_cases hne : h = []
  · rw [hne, ringArea_nil, abs_zero]; exact hA.le
  -- the right-hand side of `OneSide` would make the edge sum, twice the area, non-positive
  have hleft : ∀ p ∈ h, ∀ e ∈ EvenOdd.edges r, 0 ≤ cr e.1 e.2 p := fun p hp =>
    (hin p hp).resolve_right fun hr =>
      absurd ((edgeSumOf_cross r p).symm.le.trans ((List.sum_le_sum hr).trans List.sum_map_zero.le))
        (not_le.2 (mul_pos two_pos hA))
  obtain ⟨a, ha, b, hb, p, hp, q, hq, e⟩ := small_ring_area h hlen hne
  have h1 := range_le_ring_ccw r a b p q (hleft a ha) (hleft b hb) (hleft p hp) (hleft q hq) hA
  have h2 := range_le_ring_ccw r a b q p (hleft a ha) (hleft b hb) (hleft q hq) (hleft p hp) hA
  rw [abs_le]
  constructor <;> linarith only [e, h1, h2]

/-- reflection in the y-axis: negates every area (`ringArea_mirror`) and swaps the two sides of `OneSide` -/
def mirror (p : Pt α) : Pt α := ⟨-p.x, p.y⟩

theorem cross_mirror (s t p : Pt α) : cr (mirror s) (mirror t) (mirror p) = - cr s t p := by
  simp only [EvenOdd.cross, mirror]; ring

theorem ringArea_mirror (r : List (Pt α)) : ringArea (r.map mirror) = - ringArea r := by
  rw [ringArea_eq_edgeSum, ringArea_eq_edgeSum, Contains.edgeSumOf_map, ← neg_div, Contains.edgeSumOf,
    Contains.edgeSumOf, List.sum_neg, List.map_map]
  exact congrArg (· / 2) (congrArg List.sum (List.map_congr_left fun e _ => by
    simp only [cross, mirror, Function.comp]; ring))

theorem oneSide_mirror (r : List (Pt α)) (p : Pt α) (h : OneSide r p) : OneSide (r.map mirror) (mirror p) := by
  simp only [OneSide, Contains.edges_map, List.mem_map] at h ⊢
  refine h.symm.imp (fun h => ?_) (fun h => ?_)
  · rintro e ⟨e', he', rfl⟩
    exact (cross_mirror e'.1 e'.2 p).symm ▸ neg_nonneg.2 (h e' he')
  · rintro e ⟨e', he', rfl⟩
    exact (cross_mirror e'.1 e'.2 p).symm ▸ neg_nonpos.2 (h e' he')

end ringKernel

end Orb.Planar
