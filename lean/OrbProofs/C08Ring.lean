/-
  Sutherland–Hodgman for C08 over an ordered field.  The pass for an edge `k` of the box is taken against the
  half-plane `exc box k · ≤ 0` (`Edge`, `exc`, `cross` of C07Seg / C07SegLoop), and the four edges are told apart only
  where a code word or a coordinate has to be read.  What `ring` returns lies in the box and keeps every convex
  property of the input (`Surv`, `ring_spec`).  The region clause is stated here (`ClosedRing`, `sh_region_full`), below
  the files that prove it and the file of property theorems.  Last part, namespace `C08R`: the test of the pass as a
  plain comparison and the clamp of edge `k` (`insK`, `flatK`, `projK`, `clamp_K`), on which the chain, region and area
  clauses stand.
-/
import OrbProofs.C07SegLoop
import OrbProofs.C08Pass
import Mathlib.Algebra.Order.Field.Basic

namespace Orb.Clip.C08
open Orb Orb.Core Generated.Params

set_option linter.unusedSectionVars false

variable {α : Type} [Field α] [LinearOrder α] [IsStrictOrderedRing α]

theorem bool_ne_cases {p q : Bool} (h : p ≠ q) : (p = true ∧ ¬ q = true) ∨ (¬ p = true ∧ q = true) := by
  cases p <;> cases q <;> simp_all

theorem intersect_cross (box : Bound α) {k : Nat} (hk : Edge k) (a b : Pt α) :
    intersect box k a b = some (cross box k a b) :=
  intersect_eq_cross box (by rcases hk with rfl | rfl | rfl | rfl <;> simp [FirstBit]) a b

/-- which bits `bitCode` sets: it reports "left" before "right" and "bottom" before "top" -/
theorem bitCode_and (box : Bound α) (p : Pt α) :
    (bitCode box p &&& 1 = 0 ↔ box.lo.x ≤ p.x) ∧ (bitCode box p &&& 2 = 0 ↔ (p.x < box.lo.x ∨ p.x ≤ box.hi.x)) ∧
    (bitCode box p &&& 4 = 0 ↔ box.lo.y ≤ p.y) ∧ (bitCode box p &&& 8 = 0 ↔ (p.y < box.lo.y ∨ p.y ≤ box.hi.y)) := by
  obtain ⟨h1, h2, h4, h8⟩ := code4_bits (decide (p.x < box.lo.x)) (decide (p.x > box.hi.x))
    (decide (p.y < box.lo.y)) (decide (p.y > box.hi.y))
  rw [bitCode_eq_code4]
  refine ⟨not_iff_not.1 (h1.trans ?_), not_iff_not.1 (h2.trans ?_), not_iff_not.1 (h4.trans ?_),
    not_iff_not.1 (h8.trans ?_)⟩ <;> simp

/-- `p` is not beyond any edge that is clipped before edge `k`: the passes run in the order 1, 2, 4, 8 -/
def Surv (box : Bound α) (k : Nat) (p : Pt α) : Prop := ∀ j, Edge j → j < k → exc box j p ≤ 0

theorem surv_one (box : Bound α) (p : Pt α) : Surv box 1 p := by
  rintro j (rfl | rfl | rfl | rfl) h <;> exact absurd h (by decide)

theorem Surv.next {box : Bound α} {k : Nat} {p : Pt α} (h : Surv box k p) (hk : Edge k)
    (hp : exc box k p ≤ 0) : Surv box (2 * k) p := by
  intro j hj hlt
  rcases Nat.lt_or_ge j k with hl | hg
  · exact h j hj hl
  · -- the edge codes are powers of two
    have : j = k :=
      (by decide : ∀ j ∈ [8, 4, 2, 1], ∀ k ∈ [8, 4, 2, 1], k ≤ j → j < 2 * k → j = k) j hj.mem k hk.mem hg hlt
    rw [this]; exact hp

theorem surv_all {box : Bound α} {p : Pt α} : Surv box 16 p ↔ InBox box p := by
  rw [inBox_iff]
  refine ⟨fun h k hk => h k hk ?_, fun h j hj _ => h j hj⟩
  rcases hk with rfl | rfl | rfl | rfl <;> decide

/-- on the survivors of the earlier passes the test `ring` makes for edge `k` is the plain comparison (for the
    right and the top edge the code word alone would also pass a point beyond the opposite edge).  No hypothesis on
    the box, as the vertex clauses have none; for a box of positive size the test is the comparison at every point
    (`C08R.insK_eq_bit`), which is what the chain, region and area clauses use. -/
theorem bit_kept (box : Bound α) {k : Nat} (hk : Edge k) (p : Pt α) (hp : Surv box k p) :
    insB box k p = true ↔ exc box k p ≤ 0 := by
  obtain ⟨b1, b2, b4, b8⟩ := bitCode_and box p
  rw [insB, beq_iff_eq]
  rcases hk with rfl | rfl | rfl | rfl
  · have := hp 4 Edge.bottom (by decide)
    rw [exc_4, sub_nonpos] at this
    rw [b8, exc_8, sub_nonpos]
    exact ⟨fun h => h.resolve_left (not_lt.2 this), Or.inr⟩
  · rw [b4, exc_4]; exact sub_nonpos.symm
  · have := hp 1 Edge.left (by decide)
    rw [exc_1, sub_nonpos] at this
    rw [b2, exc_2, sub_nonpos]
    exact ⟨fun h => h.resolve_left (not_lt.2 this), Or.inr⟩
  · rw [b1, exc_1]; exact sub_nonpos.symm

theorem sides_of_ne {ins : Pt α → Bool} {f : Pt α → α} {a b : Pt α} (ha : ins a = true ↔ f a ≤ 0)
    (hb : ins b = true ↔ f b ≤ 0) (hne : ins a ≠ ins b) : (f a ≤ 0 ∧ 0 < f b) ∨ (0 < f a ∧ f b ≤ 0) := by
  rcases bool_ne_cases hne with ⟨h1, h2⟩ | ⟨h1, h2⟩
  · exact Or.inl ⟨ha.1 h1, not_le.1 (mt hb.2 h2)⟩
  · exact Or.inr ⟨not_le.1 (mt ha.2 h1), hb.1 h2⟩

theorem cross_onSeg (box : Bound α) {k : Nat} (hk : Edge k) (a b : Pt α)
    (h : (exc box k a ≤ 0 ∧ 0 < exc box k b) ∨ (0 < exc box k a ∧ exc box k b ≤ 0)) :
    OnSeg a b (cross box k a b) ∧ exc box k (cross box k a b) = 0 := by
  rcases h with ⟨h1, h2⟩ | ⟨h1, h2⟩
  · obtain ⟨T, t0, t1, e, z, -⟩ := cross_farEnd box hk a b h1 h2.le
    exact ⟨⟨T, t0, t1, e⟩, by rw [e]; exact z⟩
  · obtain ⟨T, t0, t1, e, z, -⟩ := cross_startEnd box hk a b h1.le h2
    exact ⟨⟨T, t0, t1, e⟩, by rw [e]; exact z⟩

/-- `C` is closed under taking points of segments -/
def Conv (C : Pt α → Prop) : Prop := ∀ a b v, C a → C b → OnSeg a b v → C v

theorem conv_true : Conv (fun _ : Pt α => True) := fun _ _ _ _ _ _ => trivial

theorem Conv.and {C D : Pt α → Prop} (hC : Conv C) (hD : Conv D) : Conv (fun v => C v ∧ D v) :=
  fun a b v ha hb hs => ⟨hC a b v ha.1 hb.1 hs, hD a b v ha.2 hb.2 hs⟩

theorem conv_le_x (c : α) : Conv (fun v : Pt α => c ≤ v.x) := fun _ _ _ ha hb hs => (le_min ha hb).trans hs.bounds.1

theorem conv_lt_x (c : α) : Conv (fun v : Pt α => c < v.x) := fun _ _ _ ha hb hs => (lt_min ha hb).trans_le hs.bounds.1

theorem conv_x_le (c : α) : Conv (fun v : Pt α => v.x ≤ c) := fun _ _ _ ha hb hs => hs.bounds.2.1.trans (max_le ha hb)

theorem conv_x_lt (c : α) : Conv (fun v : Pt α => v.x < c) := fun _ _ _ ha hb hs => hs.bounds.2.1.trans_lt (max_lt ha hb)

theorem conv_le_y (c : α) : Conv (fun v : Pt α => c ≤ v.y) := fun _ _ _ ha hb hs => (le_min ha hb).trans hs.bounds.2.2.1

theorem conv_lt_y (c : α) : Conv (fun v : Pt α => c < v.y) :=
  fun _ _ _ ha hb hs => (lt_min ha hb).trans_le hs.bounds.2.2.1

theorem conv_y_le (c : α) : Conv (fun v : Pt α => v.y ≤ c) := fun _ _ _ ha hb hs => hs.bounds.2.2.2.trans (max_le ha hb)

theorem conv_y_lt (c : α) : Conv (fun v : Pt α => v.y < c) :=
  fun _ _ _ ha hb hs => hs.bounds.2.2.2.trans_lt (max_lt ha hb)

theorem conv_x_eq (c : α) : Conv (fun v : Pt α => v.x = c) :=
  fun a b v ha hb hs => le_antisymm (conv_x_le c a b v ha.le hb.le hs) (conv_le_x c a b v ha.ge hb.ge hs)

theorem conv_y_eq (c : α) : Conv (fun v : Pt α => v.y = c) :=
  fun a b v ha hb hs => le_antisymm (conv_y_le c a b v ha.le hb.le hs) (conv_le_y c a b v ha.ge hb.ge hs)

theorem exc_convex_in (box : Bound α) (k : Nat) {a b i : Pt α} (ha : exc box k a ≤ 0) (hb : exc box k b ≤ 0)
    (hi : OnSeg a b i) : exc box k i ≤ 0 := by
  obtain ⟨t, t0, t1, rfl⟩ := hi
  rw [exc_lerp]
  exact convex_nonpos t0 t1 ha hb

/-- the closed outer side, as `exc_convex_in` is the closed inner side -/
theorem exc_convex_out_closed (box : Bound α) (k : Nat) {a b i : Pt α} (ha : 0 ≤ exc box k a) (hb : 0 ≤ exc box k b)
    (hi : OnSeg a b i) : 0 ≤ exc box k i := by
  obtain ⟨t, t0, t1, rfl⟩ := hi
  rw [exc_lerp]
  exact convex_nonneg t0 t1 ha hb

theorem conv_surv (box : Bound α) (k : Nat) : Conv (Surv box k) :=
  fun _ _ _ ha hb hs j hj hlt => exc_convex_in box j (ha j hj hlt) (hb j hj hlt) hs

/-- the local `pass` of `ring` -/
def rpass (box : Bound α) (ic : Bool) (edge : Nat) (cur : Option (List (Pt α))) : Option (List (Pt α)) :=
  match cur with
  | none => none
  | some [] => some []
  | some c => ringPass box edge ic c

/-- the re-closing tail of `ring` -/
def rclose (ic : Bool) (r : Option (List (Pt α))) : Option (List (Pt α)) :=
  match r with
  | none => none
  | some [] => some []
  | some out =>
    if ic then
      match out, out.getLast? with
      | f' :: _, some l' => if ptEqB f' l' then some out else some (out ++ [f'])
      | _, _ => some out
    else some out

theorem ptEqB_iff (p q : Pt α) : ptEqB p q = true ↔ p = q := by
  cases p; cases q; simp [ptEqB]

theorem ixB_eq_cross (box : Bound α) {k : Nat} (hk : Edge k) : ixB box k = cross box k := by
  funext a b; rw [ixB, intersect_cross box hk]; rfl

theorem rpass_eq (box : Bound α) (ic : Bool) {k : Nat} (hk : Edge k) (l : List (Pt α)) :
    rpass box ic k (some l) = some (passC (insB box k) (cross box k) ic l) :=
  ixB_eq_cross box hk ▸ passG_some box ic hk l

theorem rpass_some (box : Bound α) (ic : Bool) (k : Nat) (l : List (Pt α)) :
    rpass box ic k (some l) = ringPass box k ic l := by
  cases l with
  | nil => simp [rpass, ringPass]
  | cons f t => rfl

theorem rclose_eq (ic : Bool) (l : List (Pt α)) : rclose ic (some l) = some (closeL ic l) := recloseG_some ic l

theorem closedB_of_closed {inp : List (Pt α)} (hn : inp ≠ []) (hhl : inp.head? = inp.getLast?) :
    closedB inp = true := by
  cases inp with
  | nil => exact absurd rfl hn
  | cons f t =>
    rw [Contains.getLast?_cons_eq] at hhl
    exact (ptEqB_iff _ _).2 (Option.some.inj hhl)

theorem passC_surv (box : Bound α) {k : Nat} (hk : Edge k) {C : Pt α → Prop} (hC : Conv C) (ic : Bool)
    (l : List (Pt α)) (hl : ∀ v ∈ l, Surv box k v ∧ C v) :
    ∀ v ∈ passC (insB box k) (ixB box k) ic l, Surv box (2 * k) v ∧ C v := by
  rw [ixB_eq_cross box hk]
  refine passC_forall _ _ (fun v => Surv box k v ∧ C v) _ ?_ ?_ ic l hl
  · intro p hp hi
    exact ⟨hp.1.next hk ((bit_kept box hk p hp.1).1 hi), hp.2⟩
  · intro a b ha hb hne
    obtain ⟨hs, hz⟩ := cross_onSeg box hk a b
      (sides_of_ne (ins := insB box k) (bit_kept box hk a ha.1) (bit_kept box hk b hb.1) hne)
    exact ⟨(conv_surv box k a b _ ha.1 hb.1 hs).next hk hz.le, hC a b _ ha.2 hb.2 hs⟩

theorem ring_spec (box : Bound α) (inp : List (Pt α)) {C : Pt α → Prop} (hC : Conv C) (hin : ∀ v ∈ inp, C v) :
    ∃ out, ring box inp = some out ∧ ∀ v ∈ out, InBox box v ∧ C v := by
  refine ⟨_, ring_eq box inp, fun v hv => ?_⟩
  have := passes_ind box _ inp (fun k l => ∀ v ∈ l, Surv box k v ∧ C v) (fun v hv => ⟨surv_one box v, hin v hv⟩)
    (fun k hk l hl => passC_surv box hk hC _ l hl) v (mem_closeL hv)
  exact ⟨surv_all.1 this.1, this.2⟩

end Orb.Clip.C08

namespace Orb.Clip
open Orb Orb.Core

variable {α : Type} [Field α] [LinearOrder α] [IsStrictOrderedRing α]

/-- the ring is explicitly closed -/
def ClosedRing (r : List (Pt α)) : Prop := r ≠ [] ∧ r.head? = r.getLast?

/-- REGION EQUALITY (the headline clause), stated in full.  PROVED in OrbProofs/C08Region.lean, which
    imports this file: `C08R.sh_region` (this statement for the closed even-odd region of `Orb.EvenOdd`),
    `C08R.sh_region_crossings` (for the pure crossing parity) and the stronger `C08R.sh_region_strong`
    (crossing parity, boundary flag and `inside` agree at EVERY point of the open box, no hypothesis on
    `q` relative to the ring: the hypothesis "q is on no segment of the input" below is not used by any of them).
    `inside r q` is the region predicate for a closed chain. -/
def sh_region_full (inside : List (Pt α) → Pt α → Prop) : Prop :=
  ∀ (box : Bound α) (inp out : List (Pt α)) (q : Pt α), BoxOK box → ClosedRing inp → ring box inp = some out →
    InOpenBox box q → (∀ a b, (a, b) ∈ segsOf inp → ¬ OnSeg a b q) → (inside out q ↔ inside inp q)

end Orb.Clip

namespace Orb.Clip.C08R
open Orb Orb.Contains Orb.Clip.C08 Generated.Params
open Orb.Core

set_option linter.unusedSectionVars false

variable {α : Type} [Field α] [LinearOrder α] [IsStrictOrderedRing α]

/-- the inside test of the pass for edge `k` as a plain comparison (`insK_eq_bit`: it is the `bitCode` test of `ring`
    for a box of positive width and height) -/
def insK (box : Bound α) (k : Nat) (p : Pt α) : Bool := decide (exc box k p ≤ 0)

/-- orthogonal projection onto the line of edge `k` -/
def flatK (box : Bound α) (k : Nat) (p : Pt α) : Pt α :=
  if k = 8 then ⟨p.x, box.hi.y⟩ else if k = 4 then ⟨p.x, box.lo.y⟩
  else if k = 2 then ⟨box.hi.x, p.y⟩ else ⟨box.lo.x, p.y⟩

/-- the clamp of edge `k`: kept points stay, dropped points go to the line -/
def projK (box : Bound α) (k : Nat) (p : Pt α) : Pt α := if exc box k p ≤ 0 then p else flatK box k p

theorem insK_true {box : Bound α} {k : Nat} {p : Pt α} : insK box k p = true ↔ exc box k p ≤ 0 := by
  simp [insK]

theorem insK_false {box : Bound α} {k : Nat} {p : Pt α} : insK box k p = false ↔ 0 < exc box k p := by
  simp [insK]

theorem insK_ne {box : Bound α} {k : Nat} {a b : Pt α} (h : insK box k a ≠ insK box k b) :
    (exc box k a ≤ 0 ∧ 0 < exc box k b) ∨ (0 < exc box k a ∧ exc box k b ≤ 0) :=
  sides_of_ne (ins := insK box k) insK_true insK_true h

theorem exc_flatK (box : Bound α) {k : Nat} (hk : Edge k) (p : Pt α) : exc box k (flatK box k p) = 0 := by
  rcases hk with rfl | rfl | rfl | rfl <;> simp [flatK]

theorem clamp_K (box : Bound α) {k : Nat} (hk : Edge k) :
    Clamp (insK box k) (Orb.Clip.cross box k) (projK box k) (fun u => exc box k u = 0) where
  pin := fun p hp => by unfold projK; rw [if_pos (insK_true.1 hp)]
  pout := fun p hp => by
    unfold projK; rw [if_neg (not_le.2 (insK_false.1 hp))]; exact exc_flatK box hk p
  ixL := fun a b h => (cross_onSeg box hk a b (insK_ne h)).2

theorem insK_eq_bit (box : Bound α) (hb : BoxOK box) {k : Nat} (hk : Edge k) : insB box k = insK box k := by
  funext p
  rw [Bool.eq_iff_iff, insK_true, insB, beq_iff_eq, ← not_lt, ← bitCode_bit hb p hk, not_not]

end Orb.Clip.C08R
