/-
  C04 — the six non-collection parsers of `wkt.Unmarshal` are one frame (`framed`: cut the keyword off, strip the
  brackets; `framedE`: the EMPTY form first) around two combinators: `br f` (strip the brackets of a member, then `f`)
  and `listOf split f` (cut with a tokeniser, parse every piece with `f`, append).  Everything the proofs need of a
  parser is a rule per combinator: what it reads on a bracketed / joined text, and that it does not panic.
  The grammar of the texts has the same combinators: `Br Q`, `Joined r xs`, `KwBr kw Q`.
-/
import OrbProofs.C04Regex

namespace Orb.WKT

def br {α : Type} (f : Str → R α) (s : Str) : R α := (trimSpaceBrackets s).bind f

/-- the yield callback "parse the piece with `f`, append" -/
def collect {α : Type} (f : Str → R α) (acc : List α) (p : Str) : R (List α) := (f p).bind fun a => .ok (acc ++ [a])

def listOf {α : Type} (split : Splitter) (f : Str → R α) (s : Str) : R (List α) := split s (collect f) []

/-- `s[n:]` (`n` = length of the keyword), brackets off, `body` -/
def framed {α : Type} (n : Nat) (body : Str → R α) (s : Str) : R α := (sliceFrom s n).bind (br body)

def framedE {α : Type} (kw : Str) (n : Nat) (body : Str → R (List α)) (s : Str) : R (List α) :=
  if equalFold s (kw ++ sEmpty) then .ok [] else framed n body s

section equations
variable (parseF : Str → Option UInt64)

def pPoints : Str → R (List P) := listOf splitOnComma (parsePoint parseF)

def pRings : Str → R (List (List P)) := listOf (splitRe matchSingle) (br (pPoints parseF))

/-! The model writes every step as a `match` of its own (`| .panic w => .panic w | .err e => .err e | .ok t => …`);
    two such matches on a scrutinee that does not reduce are not unfolded against each other, so none of the
    equations below is `rfl`: each takes the scrutinees apart, stage by stage. -/

theorem parsePoints_eq : parsePoints parseF = pPoints parseF := by
  funext s
  refine congrArg (splitOnComma s · []) (funext fun acc => funext fun p => ?_)
  unfold collect; cases parsePoint parseF p <;> rfl

theorem parseBracketedPoints_eq : parseBracketedPoints parseF = collect (br (pPoints parseF)) := by
  funext acc r
  rw [parseBracketedPoints, parsePoints_eq, collect, br]
  rcases trimSpaceBrackets r with t | e | w <;> [dsimp only [Res.bind]; rfl; rfl]
  cases pPoints parseF t <;> rfl

theorem unmarshalPoint_eq : unmarshalPoint parseF = framed 5 (parsePoint parseF) := by
  funext s
  unfold unmarshalPoint framed br
  rcases sliceFrom s 5 with t | e | w <;> [dsimp only [Res.bind]; rfl; rfl]
  cases trimSpaceBrackets t <;> rfl

theorem unmarshalLineString_eq : unmarshalLineString parseF = framedE kwLineString 10 (pPoints parseF) := by
  funext s
  unfold unmarshalLineString framedE framed br
  rw [parsePoints_eq]
  rcases sliceFrom s 10 with t | e | w <;> [dsimp only [Res.bind]; rfl; rfl]
  cases trimSpaceBrackets t <;> rfl

theorem unmarshalMultiLineString_eq : unmarshalMultiLineString parseF = framedE kwMultiLineString 15 (pRings parseF) := by
  funext s
  unfold unmarshalMultiLineString framedE framed br
  rw [parseBracketedPoints_eq]
  rcases sliceFrom s 15 with t | e | w <;> [dsimp only [Res.bind]; rfl; rfl]
  cases trimSpaceBrackets t <;> rfl

theorem unmarshalPolygon_eq : unmarshalPolygon parseF = framedE kwPolygon 7 (pRings parseF) := by
  funext s
  unfold unmarshalPolygon framedE framed br
  rw [parseBracketedPoints_eq]
  rcases sliceFrom s 7 with t | e | w <;> [dsimp only [Res.bind]; rfl; rfl]
  cases trimSpaceBrackets t <;> rfl

theorem unmarshalMultiPoint_eq :
    unmarshalMultiPoint parseF = framedE kwMultiPoint 10 (listOf splitOnComma (br (parsePoint parseF))) := by
  funext s
  unfold unmarshalMultiPoint framedE framed
  refine congrArg (fun e => if equalFold s (kwMultiPoint ++ sEmpty) then Res.ok [] else e) ?_
  rcases sliceFrom s 10 with t | e | w <;> [dsimp only [Res.bind]; rfl; rfl]
  conv => rhs; rw [br]
  rcases trimSpaceBrackets t with u | e | w <;> [dsimp only [Res.bind]; rfl; rfl]
  refine congrArg (splitOnComma u · []) (funext fun acc => funext fun p => ?_)
  unfold collect br
  rcases trimSpaceBrackets p with q | e | w <;> [dsimp only [Res.bind]; rfl; rfl]
  cases parsePoint parseF q <;> rfl

theorem unmarshalMultiPolygon_eq :
    unmarshalMultiPolygon parseF = framedE kwMultiPolygon 12 (listOf (splitRe matchDouble) (br (pRings parseF))) := by
  funext s
  unfold unmarshalMultiPolygon framedE framed
  rw [parseBracketedPoints_eq]
  refine congrArg (fun e => if equalFold s (kwMultiPolygon ++ sEmpty) then Res.ok [] else e) ?_
  rcases sliceFrom s 12 with t | e | w <;> [dsimp only [Res.bind]; rfl; rfl]
  conv => rhs; rw [br]
  rcases trimSpaceBrackets t with u | e | w <;> [dsimp only [Res.bind]; rfl; rfl]
  refine congrArg (splitByRegexp u matchDouble · []) (funext fun acc => funext fun p => ?_)
  rw [collect, br]
  rcases trimSpaceBrackets p with q | e | w <;> [dsimp only [Res.bind]; rfl; rfl]
  change (match pRings parseF q with | .ok tpoly => _ | .err e => _ | .panic w => _) = _
  cases pRings parseF q <;> rfl

/-- the members of a collection: cut at the commas outside every member's parentheses, every non-empty piece
    through `rec` -/
def pMembers (rec : Str → R G) (t : Str) : R (List G) := (sgcLoop t t 0 0 0 []).bind (collectMembers rec · [])

/-- `unmarshalCollection` has the frame too, behind its own length test (`splitGeometryCollection` strips the brackets) -/
theorem unmarshalCollection_eq (rec : Str → R G) (s : Str) : unmarshalCollection rec s =
    if equalFold s (kwCollection ++ sEmpty) then .ok [] else if s.length = 18 then .err .notWKT
    else framed 18 (pMembers rec) s := by
  unfold unmarshalCollection
  by_cases h1 : equalFold s (kwCollection ++ sEmpty) = true
  · rw [if_pos h1, if_pos h1]
  by_cases h2 : s.length = 18
  · rw [if_neg h1, if_neg h1, if_pos h2, if_pos h2]
  rw [if_neg h1, if_neg h1, if_neg h2, if_neg h2]
  unfold framed br splitGeometryCollection pMembers
  rcases sliceFrom s 18 with t | e | w <;> [dsimp only [Res.bind]; rfl; rfl]
  rcases trimSpaceBrackets t with u | e | w <;> [dsimp only [Res.bind]; rfl; rfl]
  cases sgcLoop u u 0 0 0 [] <;> rfl

end equations

/-- `( b body c )` with `body` in `Q` -/
def Br (Q : Str → Prop) (t : Str) : Prop :=
  ∃ b c body, AllBlank b ∧ AllBlank c ∧ Q body ∧ t = bracketed [] b c body

/-- keyword (any case), then `a ( b body c )` with `body` in `Q` -/
def KwBr (kw : Str) (Q : Str → Prop) (t : Str) : Prop := ∃ body, Q body ∧ KwBracketed kw body t

/-- pieces related to `xs` element by element, joined by re-spelled commas -/
def Joined {α : Type} (r : α → Str → Prop) (xs : List α) (body : Str) : Prop :=
  ∃ pieces, Forall2 r xs pieces ∧ SepJoin pieces body

theorem Forall2.mem_right {α β : Type} {r : α → β → Prop} {as : List α} {bs : List β} (h : Forall2 r as bs) :
    ∀ b ∈ bs, ∃ a ∈ as, r a b := by
  induction h with
  | nil => intro b hb; cases hb
  | cons hab _ ih =>
    intro b hb
    rcases List.mem_cons.1 hb with rfl | hb
    · exact ⟨_, by simp, hab⟩
    · obtain ⟨a, ha, h⟩ := ih b hb
      exact ⟨a, by simp [ha], h⟩

theorem forall2_map {α : Type} {r : α → Str → Prop} (g : α → Str) (xs : List α) (h : ∀ x ∈ xs, r x (g x)) :
    Forall2 r xs (xs.map g) := by
  induction xs with
  | nil => exact .nil
  | cons x xs ih =>
    exact .cons (h x (by simp)) (ih (fun y hy => h y (by simp [hy])))

theorem forall2_eq_map {α : Type} (f : α → Str) : ∀ (xs : List α) (pieces : List Str),
    Forall2 (fun a t => t = f a) xs pieces → pieces = xs.map f
  | [], _, h => by cases h; rfl
  | a :: xs, _, h => by
    cases h with
    | cons h1 h2 => rw [h1, forall2_eq_map f xs _ h2]; rfl

theorem joined_map_iff {α : Type} (f : α → Str) (xs : List α) (body : Str) :
    SepJoin (xs.map f) body ↔ Joined (fun a t => t = f a) xs body :=
  ⟨fun h => ⟨xs.map f, forall2_map f xs (fun _ _ => rfl), h⟩,
    fun ⟨pieces, hf, hj⟩ => forall2_eq_map f xs pieces hf ▸ hj⟩

/-! The members of the multi-geometries are written in `Orb.WKT` with their blanks spelled out; they are these
    compositions.  A member without points / rings has only the plain spelling `()`, which is no `Br`: hence `≠ []`. -/

theorem isBrPoint_iff (fmtF : UInt64 → Str) (p : P) (t : Str) :
    IsBrPoint fmtF p t ↔ Br (fun t => t = wCoord fmtF p) t :=
  ⟨fun ⟨b, c, hb, hc, e⟩ => ⟨b, c, _, hb, hc, rfl, e⟩, fun ⟨b, c, _, hb, hc, e', e⟩ => ⟨b, c, hb, hc, e' ▸ e⟩⟩

theorem isBrPoints_iff (fmtF : UInt64 → Str) {ps : List P} (hne : ps ≠ []) (t : Str) :
    IsBrPoints fmtF ps t ↔ Br (Joined (fun p t => t = wCoord fmtF p) ps) t := by
  constructor
  · rintro (⟨rfl, _⟩ | ⟨b, c, body, hb, hc, hq, rfl⟩)
    · exact absurd rfl hne
    · exact ⟨b, c, body, hb, hc, (joined_map_iff _ _ _).1 hq, rfl⟩
  · rintro ⟨b, c, body, hb, hc, hq, rfl⟩
    exact Or.inr ⟨b, c, body, hb, hc, (joined_map_iff _ _ _).2 hq, rfl⟩

theorem isBrPoly_iff (fmtF : UInt64 → Str) {rs : List (List P)} (hne : rs ≠ []) (t : Str) :
    IsBrPoly fmtF rs t ↔ Br (Joined (IsBrPoints fmtF) rs) t := by
  constructor
  · rintro (⟨rfl, _⟩ | ⟨pieces, b, c, body, hb, hc, hf, hj, rfl⟩)
    · exact absurd rfl hne
    · exact ⟨b, c, body, hb, hc, ⟨pieces, hf, hj⟩, rfl⟩
  · rintro ⟨b, c, body, hb, hc, ⟨pieces, hf, hj⟩, rfl⟩
    exact Or.inr ⟨pieces, b, c, body, hb, hc, hf, hj, rfl⟩

theorem foldlR_forall2 {α : Type} {r : α → Str → Prop} {f : List α → Str → R (List α)} {xs : List α}
    {pieces : List Str} (h : Forall2 r xs pieces)
    (hf : ∀ acc x p, x ∈ xs → r x p → f acc p = .ok (acc ++ [x])) (init : List α) :
    foldlR f init pieces = .ok (init ++ xs) := by
  induction h generalizing init with
  | nil => simp [foldlR]
  | @cons a b as bs hr _ ih =>
    simp only [foldlR, hf init a b (by simp) hr]
    rw [ih (fun acc x p hx => hf acc x p (by simp [hx]))]
    simp

/-- Parsing a list is parsing every member: the members of `xs` are spelled member by member (`r`) and joined by
    commas, every member text has the shape `P` that `split` needs, and `f` reads it back. -/
theorem listOf_joined {α : Type} {split : Splitter} {P : Str → Prop} (hs : Splits split P) {r : α → Str → Prop}
    {f : Str → R α} {xs : List α} {body : Str} (h : Joined r xs body)
    (hx : ∀ x ∈ xs, ∀ p, r x p → P p ∧ f p = .ok x) : listOf split f body = .ok xs := by
  obtain ⟨pieces, hf, hj⟩ := h
  refine (hs hj (fun p hp => let ⟨x, hx', hr⟩ := hf.mem_right p hp; (hx x hx' p hr).1) (collect f) []).trans ?_
  refine (foldlR_forall2 hf (fun acc x p hx' hr => ?_) []).trans (congrArg Res.ok (List.nil_append xs))
  rw [collect, (hx x hx' p hr).2]; rfl

theorem br_bracketed {α : Type} (f : Str → R α) {a b c body : Str} (ha : AllBlank a) (hb : AllBlank b) (hc : AllBlank c)
    (hg : GoodEnds body) : br f (bracketed a b c body) = f body :=
  congrArg (·.bind f) (trimSpaceBrackets_bracketed ha hb hc hg)

theorem br_reads {α : Type} {f : Str → R α} {Q : Str → Prop} {a : α}
    (h : ∀ body, Q body → GoodEnds body ∧ f body = .ok a) {t : Str} (ht : Br Q t) : br f t = .ok a := by
  obtain ⟨b, c, body, hb, hc, hq, rfl⟩ := ht
  rw [br_bracketed f allBlank_nil hb hc (h body hq).1, (h body hq).2]

theorem sliceFrom_caseVariant {kw k rest : Str} (hv : CaseVariant kw k) : sliceFrom (k ++ rest) kw.length = .ok rest := by
  rw [← caseVariant_length hv]; exact sliceFrom_append k rest

/-- `n` is the literal the parser's own `s[n:]` shows -/
theorem framed_kwBracketed {α : Type} (f : Str → R α) {kw body t : Str} (n : Nat) (hn : kw.length = n)
    (h : KwBracketed kw body t) (hg : GoodEnds body) : framed n f t = f body := by
  obtain ⟨k, a, b, c, hv, ha, hb, hc, rfl⟩ := h
  have hu : sliceFrom (k ++ bracketed a b c body) n = .ok (bracketed a b c body) := hn ▸ sliceFrom_caseVariant hv
  simp only [framed, br, hu, trimSpaceBrackets_bracketed ha hb hc hg, Res.bind]

theorem kwBracketed_length {kw body t : Str} (h : KwBracketed kw body t) : kw.length + body.length + 2 ≤ t.length := by
  obtain ⟨k, a, b, c, hv, -, -, -, rfl⟩ := h
  simp only [bracketed, List.length_append, List.length_cons, List.length_nil, caseVariant_length hv]
  omega

theorem equalFold_kwBracketed {kw body t : Str} (hK : cLP ∉ kw ++ sEmpty) (h : KwBracketed kw body t) :
    equalFold t (kw ++ sEmpty) = false := by
  obtain ⟨k, a, b, c, -, -, -, -, rfl⟩ := h
  exact equalFold_false_of_lp hK (by simp [bracketed])

theorem unmarshalCollection_kwBracketed (rec : Str → R G) {body t : Str} (h : KwBracketed kwCollection body t)
    (hg : GoodEnds body) : unmarshalCollection rec t = pMembers rec body := by
  have hl : t.length ≠ 18 := fun e => by
    have := kwBracketed_length h
    rw [e, show kwCollection.length = 18 from rfl] at this
    omega
  rw [unmarshalCollection_eq, equalFold_kwBracketed (by decide) h, if_neg Bool.false_ne_true, if_neg hl,
    framed_kwBracketed _ 18 rfl h hg]

/-- The frame of the five list parsers on a spelling of `xs`: the EMPTY form of the empty list, or the keyword and
    a bracketed body (of class `B`) that the body parser reads back. -/
theorem framedE_spelled {α : Type} (f : Str → R (List α)) {kw t : Str} (n : Nat) (hn : kw.length = n)
    (hK : cLP ∉ kw ++ sEmpty) {xs : List α} {B : Str → Prop}
    (h : if xs.isEmpty then CaseVariant (kw ++ sEmpty) t else KwBr kw B t)
    (hB : ∀ body, B body → xs ≠ [] → f body = .ok xs ∧ GoodEnds body) : framedE kw n f t = .ok xs := by
  unfold framedE
  cases xs with
  | nil => rw [if_pos (equalFold_caseVariant h)]
  | cons x xs =>
    obtain ⟨body, hb, hk⟩ := h
    obtain ⟨h1, h2⟩ := hB body hb (List.cons_ne_nil _ _)
    rw [equalFold_kwBracketed hK hk, if_neg Bool.false_ne_true, framed_kwBracketed f n hn hk h2, h1]

/-- what `parsePoint_not_panic` says of `parsePoint parseF`, and `SplitNP` of a tokeniser, as a predicate on parsers -/
def NoPanic {α : Type} (f : Str → R α) : Prop := ∀ s, (f s).isPanic = false

theorem br_np {α : Type} {f : Str → R α} (hf : NoPanic f) : NoPanic (br f) :=
  fun s => Res.np_bind (trimSpaceBrackets_post s).np fun t _ => hf t

theorem listOf_np {α : Type} {split : Splitter} {f : Str → R α} (hs : SplitNP split) (hf : NoPanic f) :
    NoPanic (listOf split f) := fun s => hs s _ [] fun _ p => Res.np_bind (hf p) fun _ _ => rfl

/-- the keyword test is the length guard of `s[n:]` -/
theorem framed_np {α : Type} {f : Str → R α} {kw s : Str} (n : Nat) (hn : kw.length = n) (hk : ∀ b ∈ kw, b ≠ 0)
    (hf : NoPanic f) (h : hasPrefix (upperPrefix s) kw = true) : (framed n f s).isPanic = false :=
  Res.np_bind (by rw [sliceFrom_ok (hn ▸ hasPrefix_upperPrefix_length hk h)]; rfl) fun t _ => br_np hf t

theorem framedE_np {α : Type} {f : Str → R (List α)} {kw s : Str} (n : Nat) (hn : kw.length = n) (hk : ∀ b ∈ kw, b ≠ 0)
    (hf : NoPanic f) (h : hasPrefix (upperPrefix s) kw = true) : (framedE kw n f s).isPanic = false :=
  Res.np_ite rfl (framed_np n hn hk hf h)

theorem pPoints_np (parseF : Str → Option UInt64) : NoPanic (pPoints parseF) :=
  listOf_np splitOnComma_np (parsePoint_not_panic parseF)

theorem pRings_np (parseF : Str → Option UInt64) : NoPanic (pRings parseF) :=
  listOf_np (splitRe_np matchSingle_ok) (br_np (pPoints_np parseF))

end Orb.WKT
