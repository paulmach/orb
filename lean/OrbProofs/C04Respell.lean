/-
  C04 — text-level re-spelling: every text obtained from a spelling by the property's own edits
  (insert a blank before / after a parenthesis or comma or at either end; flip the case of a keyword
  letter) is again a spelling (`Spelled`), hence parses to the same value.

  Architecture: `rs_Stable Q` = "one edit of a text of class `Q` gives a text of class `Q` with blanks
  at the ends".  Single bytes, keywords in any case and coordinate pairs are stable; stability is
  preserved by `rs_Cat` (two classes with a blank slot in between: the blanks produced at the ends of a
  part are absorbed by the slot), hence by brackets, keyword + brackets and comma-separated pieces
  (`Br`, `KwBr`, `Joined` of OrbProofs.C04Frame, each a chain of `rs_Cat`).
-/
import OrbProofs.C04Kinds
namespace Orb.WKT

/-- a parenthesis or comma is no letter: the third part of `byte_classes` under a name of its own (the proofs below take the
    part directly) -/
theorem rs_pc_nl {b : UInt8} (h : isParenComma b = true) : isLetter b = false := (byte_classes b).2.2.1 h

theorem upper_flipCase (b : UInt8) : upper (flipCase b) = upper b := by
  simp only [upper, flipCase, ← UInt8.toNat_inj, UInt8.le_iff_toNat_le, apply_ite UInt8.toNat, UInt8.toNat_add,
    UInt8.toNat_sub, UInt8.toNat_ofNat]
  split_ifs <;> omega

theorem cons_window {α : Type} {u v A B : List α} {d : α} (h : A ++ B = u ++ d :: v) :
    (∃ a', A = u ++ d :: a' ∧ v = a' ++ B) ∨ (∃ b', u = A ++ b' ∧ B = b' ++ d :: v) := by
  rcases List.append_eq_append_iff.1 h with ⟨b', rfl, rfl⟩ | ⟨c', rfl, hc⟩
  · exact Or.inr ⟨b', rfl, rfl⟩
  · rcases List.cons_eq_append_iff.1 hc with ⟨rfl, rfl⟩ | ⟨a', rfl, rfl⟩
    · exact Or.inr ⟨[], by simp, rfl⟩
    · exact Or.inl ⟨a', rfl, rfl⟩

theorem pair_window {α : Type} {u v A B : List α} {x y : α} (h : A ++ B = u ++ x :: y :: v) :
    (∃ a', A = u ++ x :: y :: a' ∧ v = a' ++ B) ∨ (∃ b', u = A ++ b' ∧ B = b' ++ x :: y :: v) ∨
    (A = u ++ [x] ∧ B = y :: v) := by
  rcases cons_window h with ⟨a', rfl, ha⟩ | ⟨b', rfl, rfl⟩
  · cases a' with
    | nil => exact Or.inr (Or.inr ⟨rfl, ha.symm⟩)
    | cons e a'' => cases ha; exact Or.inl ⟨a'', rfl, rfl⟩
  · exact Or.inr (Or.inl ⟨b', rfl, rfl⟩)

/-- An edit of `A ++ B` is an edit of `A`, or of `B`, or a case flip across the seam: the edits look at a window
    of one byte (a parenthesis or comma) or two (adjacent letters). -/
theorem respellStep_append {A B t' : Str} (h : RespellStep (A ++ B) t') :
    (∃ A', RespellStep A A' ∧ t' = A' ++ B) ∨ (∃ B', RespellStep B B' ∧ t' = A ++ B') ∨
    (∃ x y, A.getLast? = some x ∧ B.head? = some y ∧ isLetter x = true ∧ isLetter y = true) := by
  generalize hs : A ++ B = s at h
  cases h with
  | before u v d b hd hb =>
    rcases cons_window hs with ⟨a', rfl, rfl⟩ | ⟨b', rfl, rfl⟩
    · exact Or.inl ⟨_, .before u a' d b hd hb, by simp⟩
    · exact Or.inr (Or.inl ⟨_, .before b' v d b hd hb, by simp⟩)
  | after u v d b hd hb =>
    rcases cons_window hs with ⟨a', rfl, rfl⟩ | ⟨b', rfl, rfl⟩
    · exact Or.inl ⟨_, .after u a' d b hd hb, by simp⟩
    · exact Or.inr (Or.inl ⟨_, .after b' v d b hd hb, by simp⟩)
  | atStart _ b hb => subst hs; exact Or.inl ⟨_, .atStart A b hb, by simp⟩
  | atEnd _ b hb => subst hs; exact Or.inr (Or.inl ⟨_, .atEnd B b hb, by simp⟩)
  | caseL u v x y hx hy =>
    rcases pair_window hs with ⟨a', rfl, rfl⟩ | ⟨b', rfl, rfl⟩ | ⟨rfl, rfl⟩
    · exact Or.inl ⟨_, .caseL u a' x y hx hy, by simp⟩
    · exact Or.inr (Or.inl ⟨_, .caseL b' v x y hx hy, by simp⟩)
    · exact Or.inr (Or.inr ⟨x, y, by simp, by simp, hx, hy⟩)
  | caseR u v x y hx hy =>
    rcases pair_window hs with ⟨a', rfl, rfl⟩ | ⟨b', rfl, rfl⟩ | ⟨rfl, rfl⟩
    · exact Or.inl ⟨_, .caseR u a' x y hx hy, by simp⟩
    · exact Or.inr (Or.inl ⟨_, .caseR b' v x y hx hy, by simp⟩)
    · exact Or.inr (Or.inr ⟨x, y, by simp, by simp, hx, hy⟩)

/-- one edit of a text of class `Q` gives a text of class `Q` with blanks at the ends -/
def rs_Stable (Q : Str → Prop) : Prop := ∀ t t', Q t → RespellStep t t' → Padded Q t'

theorem Padded.mono {Q Q' : Str → Prop} (h : ∀ t, Q t → Q' t) {t : Str} (hp : Padded Q t) : Padded Q' t := by
  obtain ⟨pre, post, c, h1, h2, hc, rfl⟩ := hp
  exact ⟨pre, post, c, h1, h2, h c hc, rfl⟩

theorem Padded.self {Q : Str → Prop} {t : Str} (h : Q t) : Padded Q t :=
  ⟨[], [], t, allBlank_nil, allBlank_nil, h, by simp⟩

theorem rs_stable_congr {Q Q' : Str → Prop} (h : ∀ t, Q t ↔ Q' t) (hs : rs_Stable Q) : rs_Stable Q' := by
  intro t t' ht hstep
  exact Padded.mono (fun t => (h t).1) (hs t t' ((h t).2 ht) hstep)

theorem respellStep_plain {t t' : Str} (h : RespellStep t t') (hno : ∀ d ∈ t, isParenComma d = false) :
    (∃ b, isBlank b = true ∧ (t' = b :: t ∨ t' = t ++ [b])) ∨
    ∃ u v x y, t = u ++ x :: y :: v ∧ isLetter x = true ∧ isLetter y = true ∧ t'.map upper = t.map upper := by
  cases h with
  | before u v d b hd hb => have := hno d (by simp); rw [hd] at this; cases this
  | after u v d b hd hb => have := hno d (by simp); rw [hd] at this; cases this
  | atStart _ b hb => exact .inl ⟨b, hb, .inl rfl⟩
  | atEnd _ b hb => exact .inl ⟨b, hb, .inr rfl⟩
  | caseL u v x y hx hy => exact .inr ⟨u, v, x, y, rfl, hx, hy, by simp [upper_flipCase]⟩
  | caseR u v x y hx hy => exact .inr ⟨u, v, x, y, rfl, hx, hy, by simp [upper_flipCase]⟩

theorem Padded.blank {Q : Str → Prop} {t t' : Str} {b : UInt8} (h : Q t) (hb : isBlank b = true)
    (ht : t' = b :: t ∨ t' = t ++ [b]) : Padded Q t' := by
  rcases ht with rfl | rfl
  · exact ⟨[b], [], t, allBlank_singleton hb, allBlank_nil, h, by simp⟩
  · exact ⟨[], [b], t, allBlank_nil, allBlank_singleton hb, h, by simp⟩

theorem respellStep_allBlank {a a' : Str} (ha : AllBlank a) (h : RespellStep a a') : AllBlank a' := by
  rcases respellStep_plain h fun d hd => not_parenComma_of_isBlank (ha d hd) with
    ⟨b, hb, rfl | rfl⟩ | ⟨u, v, x, y, rfl, hx, -, -⟩
  · exact allBlank_cons hb ha
  · exact allBlank_append ha (allBlank_singleton hb)
  · have := not_letter_of_isBlank (ha x (by simp)); rw [hx] at this; cases this

theorem rs_stable_single (d : UInt8) : rs_Stable (fun t => t = [d]) := by
  intro t t' ht h
  subst ht
  generalize hs : [d] = s at h
  have one : ∀ {u v : Str} {e : UInt8}, [d] = u ++ e :: v → u = [] ∧ e = d ∧ v = [] := fun h => by
    rcases List.singleton_eq_append_iff.1 h with ⟨rfl, h⟩ | ⟨-, h⟩ <;> cases h
    exact ⟨rfl, rfl, rfl⟩
  cases h with
  | before u v d' b hd hb => obtain ⟨rfl, rfl, rfl⟩ := one hs; exact Padded.blank rfl hb (.inl rfl)
  | after u v d' b hd hb => obtain ⟨rfl, rfl, rfl⟩ := one hs; exact Padded.blank rfl hb (.inr rfl)
  | atStart _ b hb => subst hs; exact Padded.blank rfl hb (.inl rfl)
  | atEnd _ b hb => subst hs; exact Padded.blank rfl hb (.inr rfl)
  | caseL u v x y hx hy => cases (one hs).2.2
  | caseR u v x y hx hy => cases (one hs).2.2

theorem rs_stable_caseVariant {kw : Str} (hkw : ∀ b ∈ kw, isParenComma b = false) : rs_Stable (CaseVariant kw) := by
  intro k k' hv h
  have hno : ∀ d ∈ k, isParenComma d = false := fun d hd =>
    not_parenComma_of_upper (hkw _ (by rw [← hv]; exact List.mem_map_of_mem hd))
  rcases respellStep_plain h hno with ⟨b, hb, ht⟩ | ⟨-, -, -, -, -, -, -, hu⟩
  · exact Padded.blank hv hb ht
  · exact Padded.self (hu.trans hv)

theorem noAdjacentLetters_tail {a : UInt8} {s : Str} (h : NoAdjacentLetters (a :: s)) : NoAdjacentLetters s := by
  cases s with
  | nil => simp [NoAdjacentLetters]
  | cons b s => exact h.2

theorem noAdjacentLetters_mid : ∀ (u : Str) {v : Str} {x y : UInt8}, NoAdjacentLetters (u ++ x :: y :: v) →
    ¬(isLetter x = true ∧ isLetter y = true)
  | [], _, _, _, h => h.1
  | _ :: u, _, _, _, h => noAdjacentLetters_mid u (noAdjacentLetters_tail h)

theorem noAdjacentLetters_sep {c : UInt8} (hc : isLetter c = false) : ∀ (A B : Str), NoAdjacentLetters A → NoAdjacentLetters B →
    NoAdjacentLetters (A ++ c :: B)
  | [], [], _, _ => by simp [NoAdjacentLetters]
  | [], y :: B, _, hB => ⟨by simp [hc], hB⟩
  | [x], B, _, hB => ⟨by simp [hc], noAdjacentLetters_sep hc [] B (by simp [NoAdjacentLetters]) hB⟩
  | x :: x' :: A, B, hA, hB => ⟨hA.1, noAdjacentLetters_sep hc (x' :: A) B hA.2 hB⟩

/-- a text without parenthesis / comma and without two adjacent letters: nothing applies inside -/
theorem rs_stable_clean {s : Str} (h1 : ∀ b ∈ s, isParenComma b = false) (h2 : NoAdjacentLetters s) :
    rs_Stable (fun t => t = s) := by
  intro t t' ht h
  subst ht
  rcases respellStep_plain h h1 with ⟨b, hb, ht⟩ | ⟨u, v, x, y, rfl, hx, hy, -⟩
  · exact Padded.blank rfl hb ht
  · exact absurd ⟨hx, hy⟩ (noAdjacentLetters_mid u h2)

/-- `A m B` with `A ∈ QA`, blank `m`, `B ∈ QB` -/
def rs_Cat (QA QB : Str → Prop) (t : Str) : Prop := ∃ A m B, QA A ∧ AllBlank m ∧ QB B ∧ t = A ++ (m ++ B)

/-- the seam conditions of `rs_stable_cat`: every text of the class ends / starts with a non-letter -/
def rs_EndsNonLetter (Q : Str → Prop) : Prop := ∀ A x, Q A → A.getLast? = some x → isLetter x = false
def rs_StartsNonLetter (Q : Str → Prop) : Prop := ∀ B y, Q B → B.head? = some y → isLetter y = false

theorem not_letter_of_allBlank_getLast {m : Str} (hm : AllBlank m) {x : UInt8} (h : m.getLast? = some x) : isLetter x = false :=
  not_letter_of_isBlank (hm x (List.mem_of_getLast? h))

theorem not_letter_of_allBlank_head {m : Str} (hm : AllBlank m) {x : UInt8} (h : m.head? = some x) : isLetter x = false :=
  not_letter_of_isBlank (hm x (List.mem_of_head? h))

/-- `hAB`: when the blank slot is empty a case flip could straddle the seam (a letter on each side);
    one of the two classes must have a non-letter at the seam -/
theorem rs_stable_cat {QA QB : Str → Prop} (hA : rs_Stable QA) (hB : rs_Stable QB)
    (hAB : rs_EndsNonLetter QA ∨ rs_StartsNonLetter QB) : rs_Stable (rs_Cat QA QB) := by
  intro t t' ht h
  obtain ⟨A, m, B, ha, hm, hb, rfl⟩ := ht
  rcases respellStep_append h with ⟨A', hs, rfl⟩ | ⟨R', hs, rfl⟩ | ⟨x, y, hx, hy, lx, ly⟩
  · obtain ⟨pre, post, A'', h1, h2, ha', rfl⟩ := hA A A' ha hs
    exact ⟨pre, [], A'' ++ ((post ++ m) ++ B), h1, allBlank_nil,
      ⟨A'', post ++ m, B, ha', allBlank_append h2 hm, hb, rfl⟩, by simp⟩
  · rcases respellStep_append hs with ⟨m', hs2, rfl⟩ | ⟨B', hs2, rfl⟩ | ⟨x, y, hx, hy, lx, ly⟩
    · exact Padded.self ⟨A, m', B, ha, respellStep_allBlank hm hs2, hb, rfl⟩
    · obtain ⟨pre, post, B'', h1, h2, hb', rfl⟩ := hB B B' hb hs2
      exact ⟨[], post, A ++ ((m ++ pre) ++ B''), allBlank_nil, h2,
        ⟨A, m ++ pre, B'', ha, allBlank_append hm h1, hb', rfl⟩, by simp⟩
    · rw [not_letter_of_allBlank_getLast hm hx] at lx; cases lx
  · cases m with
    | nil =>
      simp only [List.nil_append] at hy
      rcases hAB with hE | hS
      · rw [hE A x ha hx] at lx; cases lx
      · rw [hS B y hb hy] at ly; cases ly
    | cons bl m' =>
      simp only [List.cons_append, List.head?_cons, Option.some.injEq] at hy
      subst hy
      rw [not_letter_of_isBlank (hm bl (by simp))] at ly; cases ly

theorem rs_endsNonLetter_single {d : UInt8} (hd : isLetter d = false) : rs_EndsNonLetter (fun t => t = [d]) := by
  intro A x hA hx; subst hA; simp at hx; subst hx; exact hd

theorem rs_startsNonLetter_single {d : UInt8} (hd : isLetter d = false) : rs_StartsNonLetter (fun t => t = [d]) := by
  intro A x hA hx; subst hA; simp at hx; subst hx; exact hd

theorem rs_startsNonLetter_cat_single {d : UInt8} (hd : isLetter d = false) (Q : Str → Prop) :
    rs_StartsNonLetter (rs_Cat (fun t => t = [d]) Q) := by
  intro B y hB hy
  obtain ⟨A, m, B', rfl, _, _, rfl⟩ := hB
  simp at hy; subst hy; exact hd

theorem rs_br_iff (Q : Str → Prop) (t : Str) :
    Br Q t ↔ rs_Cat (fun t => t = [cLP]) (rs_Cat Q (fun t => t = [cRP])) t := by
  constructor
  · rintro ⟨b, c, body, hb, hc, hq, rfl⟩
    exact ⟨[cLP], b, body ++ (c ++ [cRP]), rfl, hb, ⟨body, c, [cRP], hq, hc, rfl, rfl⟩, by simp [bracketed]⟩
  · rintro ⟨_, b, _, rfl, hb, ⟨body, c, _, hq, hc, rfl, rfl⟩, rfl⟩
    exact ⟨b, c, body, hb, hc, hq, by simp [bracketed]⟩

theorem rs_stable_br {Q : Str → Prop} (hQ : rs_Stable Q) : rs_Stable (Br Q) := by
  refine rs_stable_congr (fun t => (rs_br_iff Q t).symm) ?_
  refine rs_stable_cat (rs_stable_single _) (rs_stable_cat hQ (rs_stable_single _) ?_) ?_
  · exact Or.inr (rs_startsNonLetter_single (by decide))
  · exact Or.inl (rs_endsNonLetter_single (by decide))

theorem rs_startsNonLetter_br (Q : Str → Prop) : rs_StartsNonLetter (Br Q) := by
  intro B y hB hy
  obtain ⟨b, c, body, _, _, _, rfl⟩ := hB
  simp [bracketed] at hy; subst hy; decide

theorem rs_kwbr_iff (kw : Str) (Q : Str → Prop) (t : Str) :
    KwBr kw Q t ↔ rs_Cat (CaseVariant kw) (Br Q) t := by
  constructor
  · rintro ⟨body, hq, k, a, b, c, hk, ha, hb, hc, rfl⟩
    exact ⟨k, a, bracketed [] b c body, hk, ha, ⟨b, c, body, hb, hc, hq, rfl⟩, by simp [bracketed]⟩
  · rintro ⟨k, a, _, hk, ha, ⟨b, c, body, hb, hc, hq, rfl⟩, rfl⟩
    exact ⟨body, hq, k, a, b, c, hk, ha, hb, hc, by simp [bracketed]⟩

theorem rs_stable_kwbr {kw : Str} (hkw : ∀ b ∈ kw, isParenComma b = false) {Q : Str → Prop} (hQ : rs_Stable Q) :
    rs_Stable (KwBr kw Q) := by
  refine rs_stable_congr (fun t => (rs_kwbr_iff kw Q t).symm) ?_
  exact rs_stable_cat (rs_stable_caseVariant hkw) (rs_stable_br hQ) (Or.inr (rs_startsNonLetter_br Q))

theorem rs_stable_joined {α : Type} {r : α → Str → Prop} : ∀ xs : List α, (∀ a ∈ xs, rs_Stable (r a)) →
    rs_Stable (Joined r xs)
  | [], _ => by
    intro t t' ht _
    obtain ⟨pieces, hf, hj⟩ := ht
    cases hf
    cases hj
  | a :: xs, h => by
    have ih := rs_stable_joined xs (fun a' ha' => h a' (List.mem_cons_of_mem _ ha'))
    intro t t' ht hstep
    obtain ⟨pieces, hf, hj⟩ := ht
    cases hf with
    | cons hra hf' =>
      cases hj with
      | one p =>
        cases hf'
        refine Padded.mono ?_ (h a (by simp) _ _ hra hstep)
        intro c hc
        exact ⟨[c], .cons hc .nil, .one c⟩
      | cons p sa sb ps t0 hsa hsb hj' =>
        have hst : rs_Stable (rs_Cat (r a) (rs_Cat (fun t => t = [cComma]) (Joined r xs))) :=
          rs_stable_cat (h a (by simp))
            (rs_stable_cat (rs_stable_single _) ih (Or.inl (rs_endsNonLetter_single (by decide))))
            (Or.inr (rs_startsNonLetter_cat_single (by decide) _))
        refine Padded.mono ?_ (hst _ _
          ⟨_, sa, cComma :: (sb ++ t0), hra, hsa, ⟨[cComma], sb, t0, rfl, hsb, ⟨_, hf', hj'⟩, rfl⟩, by simp⟩ hstep)
        rintro c ⟨p', sa', _, hra', hsa', ⟨_, sb', t0', rfl, hsb', ⟨ps', hf'', hj''⟩, rfl⟩, rfl⟩
        refine ⟨p' :: ps', .cons hra' hf'', ?_⟩
        have := SepJoin.cons p' sa' sb' ps' t0' hsa' hsb' hj''
        simpa using this

/-- what the text-level argument needs of `%g` at one coordinate: non-empty, no delimiter byte,
    no two adjacent letters (`FloatText` without `parses`, with `NoAdjacentLetters`) -/
def CleanText (s : Str) : Prop := s ≠ [] ∧ (∀ b ∈ s, isDelim b = false) ∧ NoAdjacentLetters s

section
variable (fmtF : UInt64 → Str)

theorem rs_stable_wCoord {p : P} (h : CleanText (fmtF p.x) ∧ CleanText (fmtF p.y)) :
    rs_Stable (fun t => t = wCoord fmtF p) := by
  apply rs_stable_clean
  · intro b hb
    simp only [wCoord, List.mem_append, List.mem_cons] at hb
    rcases hb with hb | rfl | hb
    · exact not_parenComma_of_not_delim (h.1.2.1 b hb)
    · decide
    · exact not_parenComma_of_not_delim (h.2.2.1 b hb)
  · exact noAdjacentLetters_sep (by decide) _ _ h.1.2.2 h.2.2.2

theorem rs_stable_of_body (g : G) (hb : rs_Stable (SpelledBody fmtF g)) : rs_Stable (SpelledCore fmtF g) := by
  have hk := kwOf_no_parenComma g
  refine rs_stable_congr (fun t => (spelledCore_iff fmtF).symm) ?_
  cases isEmptyValue g
  · exact rs_stable_kwbr (fun b hb => hk b (List.mem_append_left _ hb)) hb
  · exact rs_stable_caseVariant hk

theorem rs_rules : SpellRules fmtF rs_Stable (fun x => CleanText (fmtF x)) where
  congr := rs_stable_congr
  pt _ := rs_stable_wCoord fmtF
  br := rs_stable_br
  joined := rs_stable_joined
  core := rs_stable_of_body fmtF

theorem rs_stable_spelledCore (g : G) (hc : ∀ x ∈ coords g, CleanText (fmtF x)) (he : noEmptyMemberDeep g = true) :
    rs_Stable (SpelledCore fmtF g) :=
  (rs_rules fmtF).core g ((rs_rules fmtF).body g hc he)

theorem rs_stable_padded {Q : Str → Prop} (hQ : rs_Stable Q) : rs_Stable (Padded Q) := by
  intro t t' ht h
  obtain ⟨pre, post, c, hpre, hpost, hc, rfl⟩ := ht
  refine Padded.self ?_
  rw [List.append_assoc] at h
  rcases respellStep_append h with ⟨pre', hs, rfl⟩ | ⟨R', hs, rfl⟩ | ⟨x, y, hx, hy, lx, ly⟩
  · exact ⟨pre', post, c, respellStep_allBlank hpre hs, hpost, hc, by simp⟩
  · rcases respellStep_append hs with ⟨c', hs2, rfl⟩ | ⟨post', hs2, rfl⟩ | ⟨x, y, hx, hy, lx, ly⟩
    · obtain ⟨x, y, c'', h1, h2, hc', rfl⟩ := hQ c c' hc hs2
      exact ⟨pre ++ x, y ++ post, c'', allBlank_append hpre h1, allBlank_append h2 hpost, hc', by simp⟩
    · exact ⟨pre, post', c, hpre, respellStep_allBlank hpost hs2, hc, by simp⟩
    · rw [not_letter_of_allBlank_head hpost hy] at ly; cases ly
  · rw [not_letter_of_allBlank_getLast hpre hx] at lx; cases lx

theorem spelled_star (g : G) (t t' : Str) (hc : ∀ x ∈ coords g, CleanText (fmtF x))
    (he : noEmptyMemberDeep g = true) (hs : Spelled fmtF g t) (h : RespellStar t t') : Spelled fmtF g t' := by
  induction h with
  | refl => exact hs
  | step _ hstep ih =>
    obtain ⟨pre, post, c, hpre, hpost, hcore, rfl⟩ :=
      rs_stable_padded (rs_stable_spelledCore fmtF g hc he) _ _ ih hstep
    obtain ⟨x, y, c', hx, hy, hc', rfl⟩ := hcore
    exact ⟨pre ++ x, y ++ post, c', allBlank_append hpre hx, allBlank_append hy hpost, hc', by simp⟩

end

end Orb.WKT
