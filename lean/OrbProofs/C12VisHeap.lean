/-
  The hand-rolled min-heap of visvalingam.go (`up`, `down`, `Push`, `Pop`, `Update`; namespace `VH`, the Visvalingam
  heap).  For ARBITRARY
  arithmetic (no order laws): the index invariant `HeapIdx`, the heap contents as a permutation, and the
  frame (links, point indices and — except for `Update` — areas untouched).  Over a linear order: the
  ordering invariant `HeapOrd` and pop-min, as an instance of `Orb.Sift` (keys `keyAt st`, the areas by
  slot; a step of either sift loop is a swap of keys, `sw_keyAt`).
-/
import OrbProofs.C12Basic
import OrbProofs.Sift
import Mathlib.Data.List.Perm.Basic

set_option linter.unusedSectionVars false

namespace Orb.Simplify
open Orb

-- the lemmas of this file are stated with `Array.getD`; as a simp lemma this one would rewrite it away
attribute [-simp] Array.getD_eq_getD_getElem?

/-- heap operations leave the item count, the links and the point indices alone -/
def Frame {α : Type} (st st' : VS α) : Prop :=
  st'.items.size = st.items.size ∧
  ∀ j, (st'.get j).next = (st.get j).next ∧ (st'.get j).prev = (st.get j).prev ∧
    (st'.get j).pointIndex = (st.get j).pointIndex

namespace VH
section api
variable {α : Type}

theorem get_modify (st : VS α) (id k : Nat) (f : VItem α → VItem α) :
    (st.modify id f).get k = if k = id ∧ id < st.items.size then f (st.get k) else st.get k := by
  unfold VS.get VS.modify
  simp only [Array.getD_eq_getD_getElem?, Array.getElem?_modify]
  by_cases h : id = k
  · subst h
    by_cases h2 : id < st.items.size
    · simp [h2]
    · simp [h2]
  · have : ¬ k = id := fun e => h e.symm
    simp [h, this]

@[simp] theorem modify_heap (st : VS α) (id : Nat) (f : VItem α → VItem α) : (st.modify id f).heap = st.heap := rfl
@[simp] theorem setIndex_heap (st : VS α) (id i : Nat) : (st.setIndex id i).heap = st.heap := rfl
@[simp] theorem setHeap_items (st : VS α) (id i : Nat) : (st.setHeap i id).items = st.items := rfl
@[simp] theorem setHeap_get (st : VS α) (id i k : Nat) : (st.setHeap i id).get k = st.get k := rfl
@[simp] theorem setHeap_area (st : VS α) (id i k : Nat) : (st.setHeap i id).area k = st.area k := rfl
@[simp] theorem modify_items_size (st : VS α) (id : Nat) (f : VItem α → VItem α) :
    (st.modify id f).items.size = st.items.size := by simp [VS.modify]
@[simp] theorem setIndex_items_size (st : VS α) (id i : Nat) : (st.setIndex id i).items.size = st.items.size := by
  simp [VS.setIndex]
@[simp] theorem setHeap_heap_size (st : VS α) (id i : Nat) : (st.setHeap i id).heap.size = st.heap.size := by
  simp [VS.setHeap]
theorem setHeap_heap_getD (st : VS α) (id i k : Nat) :
    (st.setHeap i id).heap.getD k 0 = if k = i ∧ i < st.heap.size then id else st.heap.getD k 0 := by
  simp only [VS.setHeap, Array.getD_eq_getD_getElem?, Array.getElem?_setIfInBounds]
  by_cases h : i = k
  · subst h
    by_cases h2 : i < st.heap.size <;> simp [h2]
  · have : ¬ k = i := fun e => h e.symm
    simp [h, this]

theorem get_setIndex (st : VS α) (id i k : Nat) :
    (st.setIndex id i).get k = if k = id ∧ id < st.items.size then { st.get k with index := i } else st.get k := by
  simp [VS.setIndex, get_modify]

theorem mem_heap_iff (st : VS α) (x : Nat) : x ∈ st.heap.toList ↔ ∃ k, k < st.heap.size ∧ st.heap.getD k 0 = x := by
  rw [Array.mem_toList_iff, Array.mem_iff_getElem]
  constructor
  · rintro ⟨i, h, e⟩; exact ⟨i, h, by simp [Array.getD, h, e]⟩
  · rintro ⟨i, h, e⟩; exact ⟨i, h, by simpa [Array.getD, h] using e⟩

theorem heapIdx_inj {st : VS α} (h : HeapIdx st) {i j : Nat} (hi : i < st.heap.size) (hj : j < st.heap.size)
    (e : st.heap.getD i 0 = st.heap.getD j 0) : i = j := by
  have := (h i hi).2; rw [e, (h j hj).2] at this; exact this.symm

/-- `up`/`down`'s four writes: item `b` (from slot `j`) goes to slot `i`, item `a` (from slot `i`) to slot `j` -/
def sw (st : VS α) (i j a b : Nat) : VS α := (((st.setIndex b i).setHeap i b).setIndex a j).setHeap j a

theorem sw_heap_size (st : VS α) (i j a b : Nat) : (sw st i j a b).heap.size = st.heap.size := by
  simp [sw]

theorem sw_items_size (st : VS α) (i j a b : Nat) : (sw st i j a b).items.size = st.items.size := by
  simp [sw]

theorem sw_heap_getD (st : VS α) (i j a b k : Nat) (hi : i < st.heap.size) (hj : j < st.heap.size) :
    (sw st i j a b).heap.getD k 0 = if k = j then a else if k = i then b else st.heap.getD k 0 := by
  simp [sw, setHeap_heap_getD, hi, hj]

theorem sw_get (st : VS α) (i j a b k : Nat) :
    ((sw st i j a b).get k).area = (st.get k).area ∧ ((sw st i j a b).get k).next = (st.get k).next ∧
    ((sw st i j a b).get k).prev = (st.get k).prev ∧ ((sw st i j a b).get k).pointIndex = (st.get k).pointIndex := by
  simp only [sw, setHeap_get, get_setIndex, setHeap_items, setIndex_items_size]
  split_ifs <;> simp

theorem sw_get_index (st : VS α) (i j a b k : Nat) (ha : a < st.items.size) (hb : b < st.items.size) :
    ((sw st i j a b).get k).index = if k = a then j else if k = b then i else (st.get k).index := by
  simp only [sw, setHeap_get, get_setIndex, setHeap_items, setIndex_items_size, ha, hb, and_true]
  split_ifs <;> rfl

/-- `st'` is `st` with its heap slots reordered -/
structure Reorders (st st' : VS α) : Prop where
  idx : HeapIdx st'
  perm : st'.heap.toList.Perm st.heap.toList
  frame : Frame st st'
  area : ∀ j, st'.area j = st.area j

theorem frame_refl (st : VS α) : Frame st st := ⟨rfl, fun _ => ⟨rfl, rfl, rfl⟩⟩
theorem frame_trans {a b c : VS α} (h1 : Frame a b) (h2 : Frame b c) : Frame a c := by
  refine ⟨h2.1.trans h1.1, fun j => ?_⟩
  obtain ⟨x1, x2, x3⟩ := h1.2 j
  obtain ⟨y1, y2, y3⟩ := h2.2 j
  exact ⟨y1.trans x1, y2.trans x2, y3.trans x3⟩

theorem Reorders.refl {st : VS α} (h : HeapIdx st) : Reorders st st := ⟨h, List.Perm.refl _, frame_refl _, fun _ => rfl⟩
theorem Reorders.trans {a b c : VS α} (h1 : Reorders a b) (h2 : Reorders b c) : Reorders a c :=
  ⟨h2.idx, h2.perm.trans h1.perm, frame_trans h1.frame h2.frame, fun j => (h2.area j).trans (h1.area j)⟩

theorem sw_reorders {st : VS α} {i j a b : Nat} (h : HeapIdx st) (hi : i < st.heap.size) (hj : j < st.heap.size)
    (hij : i ≠ j) (ha : st.heap.getD i 0 = a) (hb : st.heap.getD j 0 = b) : Reorders st (sw st i j a b) := by
  have hab : a ≠ b := by
    intro e; apply hij; apply heapIdx_inj h hi hj; rw [ha, hb, e]
  have ha' : a < st.items.size := ha ▸ (h i hi).1
  have hb' : b < st.items.size := hb ▸ (h j hj).1
  refine ⟨fun k hk => ?_, ?_, ⟨sw_items_size .., fun k => ?_⟩, fun k => ?_⟩
  · rw [sw_heap_size] at hk
    rw [sw_heap_getD _ _ _ _ _ _ hi hj, sw_items_size]
    by_cases h1 : k = j
    · subst h1; simp [ha', sw_get_index, hb']
    · by_cases h2 : k = i
      · subst h2; simp [h1, hb', sw_get_index, ha', hab.symm]
      · simp only [h1, h2, if_false]
        refine ⟨(h k hk).1, ?_⟩
        rw [sw_get_index _ _ _ _ _ _ ha' hb']
        have n1 : st.heap.getD k 0 ≠ a := fun e => h2 (heapIdx_inj h hk hi (e.trans ha.symm))
        have n2 : st.heap.getD k 0 ≠ b := fun e => h1 (heapIdx_inj h hk hj (e.trans hb.symm))
        simp [n1, n2, (h k hk).2]
  · -- the two slot writes exchange the contents of slots `i` and `j`
    have e : (sw st i j a b).heap.toList = (st.heap.toList.set i st.heap[j]).set j st.heap[i] := by
      simp [sw, VS.setHeap, ← ha, ← hb, Array.getD, hi, hj]
    rw [e]
    exact List.set_set_perm (by simpa using hi) (by simpa using hj)
  · have := sw_get st i j a b k; exact ⟨this.2.1, this.2.2.1, this.2.2.2⟩
  · exact (sw_get st i j a b k).1

theorem getD_push (a : Array Nat) (x k : Nat) : (a.push x).getD k 0 = if k = a.size then x else a.getD k 0 := by
  simp only [Array.getD_eq_getD_getElem?, Array.getElem?_push]; split_ifs <;> simp

theorem getD_pop (a : Array Nat) (k : Nat) (hk : k < a.size - 1) : a.pop.getD k 0 = a.getD k 0 := by
  simp only [Array.getD_eq_getD_getElem?, Array.getElem?_pop, hk, if_true]

theorem area_setIndex (st : VS α) (id i k : Nat) : (st.setIndex id i).area k = st.area k := by
  simp only [VS.area, get_setIndex]; split_ifs <;> rfl

section loops
variable [LT α] [LE α] [DecidableLT α] [DecidableLE α]

theorem upLoop_succ (obj fuel i : Nat) (st : VS α) :
    upLoop obj (fuel + 1) i st =
      if i = 0 then st else
      if aLe (st.area (st.heap.getD (((i + 1) >>> 1) - 1) 0)) (st.area obj) then st
      else upLoop obj fuel (((i + 1) >>> 1) - 1)
        (sw st i (((i + 1) >>> 1) - 1) obj (st.heap.getD (((i + 1) >>> 1) - 1) 0)) := rfl

/-- one comparison of `minHeap.down`: stay at the candidate `cur = (slot, item)` or move to slot `j` -/
def pickC (st : VS α) (cur : Nat × Nat) (j : Nat) : Nat × Nat :=
  if j < st.heap.size && aLt (st.area (st.heap.getD j 0)) (st.area cur.2) then (j, st.heap.getD j 0) else cur

/-- the child selection of `minHeap.down`: the left child against the item, then the right child
    against the winner -/
def dcOf (st : VS α) (i : Nat) : Nat × Nat :=
  pickC st (pickC st (i, st.heap.getD i 0) ((i + 1) <<< 1 - 1)) ((i + 1) <<< 1)

theorem downLoop_succ (obj fuel i : Nat) (st : VS α) :
    downLoop obj (fuel + 1) i st =
      if (dcOf st i).1 = i then st
      else downLoop obj fuel (dcOf st i).1 (sw st i (dcOf st i).1 obj (dcOf st i).2) := rfl

theorem pickC_cases (st : VS α) (cur : Nat × Nat) (j : Nat) :
    pickC st cur j = cur ∨ (j < st.heap.size ∧ pickC st cur j = (j, st.heap.getD j 0)) := by
  unfold pickC
  split_ifs with h
  · exact Or.inr ⟨of_decide_eq_true (Bool.and_eq_true _ _ ▸ h).1, rfl⟩
  · exact Or.inl rfl

theorem dcOf_idx (st : VS α) (i : Nat) :
    (dcOf st i).2 = st.heap.getD (dcOf st i).1 0 ∧
    ((dcOf st i).1 = i ∨ ((dcOf st i).1 < st.heap.size ∧ ((dcOf st i).1 = 2 * i + 1 ∨ (dcOf st i).1 = 2 * i + 2))) := by
  unfold dcOf
  rw [Sift.right_shift, show 2 * i + 2 - 1 = 2 * i + 1 from rfl]
  rcases pickC_cases st (pickC st (i, st.heap.getD i 0) (2 * i + 1)) (2 * i + 2) with e | ⟨h, e⟩
  · rw [e]
    rcases pickC_cases st (i, st.heap.getD i 0) (2 * i + 1) with e | ⟨h, e⟩ <;> rw [e]
    · exact ⟨rfl, Or.inl rfl⟩
    · exact ⟨rfl, Or.inr ⟨h, Or.inl rfl⟩⟩
  · rw [e]
    exact ⟨rfl, Or.inr ⟨h, Or.inr rfl⟩⟩

theorem upLoop_reorders (obj fuel : Nat) : ∀ (i : Nat) (st : VS α), HeapIdx st → i < st.heap.size →
    st.heap.getD i 0 = obj → Reorders st (upLoop obj fuel i st) := by
  induction fuel with
  | zero => intro i st h _ _; exact Reorders.refl h
  | succ n ih =>
    intro i st h hi ho
    rw [upLoop_succ]
    split_ifs with h0 h1
    · exact Reorders.refl h
    · exact Reorders.refl h
    · have hup : ((i + 1) >>> 1) - 1 < st.heap.size := by rw [Sift.parent_shift]; unfold Sift.parent; omega
      have hne : i ≠ ((i + 1) >>> 1) - 1 := by rw [Sift.parent_shift]; unfold Sift.parent; omega
      have r := sw_reorders h hi hup hne ho rfl
      refine r.trans (ih _ _ r.idx (by rw [sw_heap_size]; exact hup) ?_)
      rw [sw_heap_getD _ _ _ _ _ _ hi hup]; simp

theorem downLoop_reorders (obj fuel : Nat) : ∀ (i : Nat) (st : VS α), HeapIdx st → i < st.heap.size →
    st.heap.getD i 0 = obj → Reorders st (downLoop obj fuel i st) := by
  induction fuel with
  | zero => intro i st h _ _; exact Reorders.refl h
  | succ n ih =>
    intro i st h hi ho
    rw [downLoop_succ]
    split_ifs with h0
    · exact Reorders.refl h
    · have hd : (dcOf st i).1 < st.heap.size := by
        rcases (dcOf_idx st i).2 with e | e
        · exact absurd e h0
        · exact e.1
      have r := sw_reorders h hi hd (Ne.symm h0) ho (dcOf_idx st i).1.symm
      refine r.trans (ih _ _ r.idx (by rw [sw_heap_size]; exact hd) ?_)
      rw [sw_heap_getD _ _ _ _ _ _ hi hd]; simp

theorem up_reorders (st : VS α) (i : Nat) (h : HeapIdx st) (hi : i < st.heap.size) : Reorders st (up st i) :=
  upLoop_reorders _ _ i st h hi rfl

theorem down_reorders (st : VS α) (i : Nat) (h : HeapIdx st) (hi : i < st.heap.size) : Reorders st (down st i) :=
  downLoop_reorders _ _ i st h hi rfl

/-- the state `Push` hands to `up` -/
def pushSt (st : VS α) (id : Nat) : VS α := { st.setIndex id st.heap.size with heap := st.heap.push id }

theorem push_eq (st : VS α) (id : Nat) : push st id = up (pushSt st id) ((pushSt st id).get id).index := rfl

theorem pushSt_get (st : VS α) (id k : Nat) (hid : id < st.items.size) :
    (pushSt st id).get k = if k = id then { st.get k with index := st.heap.size } else st.get k := by
  show (st.setIndex id st.heap.size).get k = _
  rw [get_setIndex]; simp [hid]

theorem pushSt_index (st : VS α) (id : Nat) (hid : id < st.items.size) :
    ((pushSt st id).get id).index = st.heap.size := by
  rw [pushSt_get st id id hid, if_pos rfl]

/-- The `_idx` half of an operation's specification, for any arithmetic: position table, contents, frame and areas;
    the `_ord` half (order, pop-min) needs a linear order and is below. -/
theorem push_idx (st : VS α) (id : Nat) (h : HeapIdx st) (hid : id < st.items.size) (hnew : id ∉ st.heap.toList) :
    HeapIdx (push st id) ∧ (push st id).heap.toList.Perm (id :: st.heap.toList) ∧ Frame st (push st id) ∧
      ∀ j, (push st id).area j = st.area j := by
  have hget := fun k => pushSt_get st id k hid
  have hheap : (pushSt st id).heap = st.heap.push id := rfl
  have hisz : (pushSt st id).items.size = st.items.size := setIndex_items_size ..
  have hsize : (pushSt st id).heap.size = st.heap.size + 1 := by rw [hheap]; simp
  have hidx1 : HeapIdx (pushSt st id) := by
    intro k hk
    rw [hheap, getD_push, hisz]
    by_cases hks : k = st.heap.size
    · simp [hks, hget, hid]
    · have hk' : k < st.heap.size := by omega
      have : st.heap.getD k 0 ≠ id := fun e => hnew ((mem_heap_iff _ _).2 ⟨k, hk', e⟩)
      simp [hks, hget, this, h k hk']
  have r := up_reorders (pushSt st id) ((pushSt st id).get id).index hidx1 (by rw [pushSt_index st id hid, hsize]; omega)
  rw [push_eq]
  refine ⟨r.idx, r.perm.trans ?_, frame_trans ⟨hisz, fun k => ?_⟩ r.frame, fun k => (r.area k).trans ?_⟩
  · rw [hheap]; simp [List.perm_append_singleton]
  · rw [hget]; split_ifs <;> simp
  · exact area_setIndex ..

/-- the state `Pop` hands to `down` -/
def popSt (st : VS α) : VS α :=
  ((({ st with heap := st.heap.pop } : VS α).setIndex (st.heap.getD (st.heap.size - 1) 0) 0).setHeap 0
    (st.heap.getD (st.heap.size - 1) 0))

theorem pop_eq_of_one (st : VS α) (h1 : st.heap.size = 1) :
    pop st = (st.heap.getD 0 0, { st with heap := st.heap.pop }) := by
  unfold pop; simp [h1]

theorem pop_eq_of_gt (st : VS α) (h1 : 1 < st.heap.size) :
    pop st = (st.heap.getD 0 0, down (popSt st) 0) := by
  unfold pop popSt
  have : 0 < st.heap.size - 1 := by omega
  simp [this]

theorem popSt_heap_size (st : VS α) : (popSt st).heap.size = st.heap.size - 1 := by simp [popSt]
theorem popSt_items_size (st : VS α) : (popSt st).items.size = st.items.size := by simp [popSt]
theorem popSt_heap_getD (st : VS α) (k : Nat) (hk : k < st.heap.size - 1) :
    (popSt st).heap.getD k 0 = if k = 0 then st.heap.getD (st.heap.size - 1) 0 else st.heap.getD k 0 := by
  have h0 : 0 < st.heap.size - 1 := by omega
  simp only [popSt, setHeap_heap_getD, setIndex_heap, Array.size_pop, h0, and_true]
  split_ifs
  · rfl
  · exact getD_pop _ _ hk
theorem popSt_get (st : VS α) (k : Nat) :
    (popSt st).get k = if k = st.heap.getD (st.heap.size - 1) 0 ∧ st.heap.getD (st.heap.size - 1) 0 < st.items.size
      then { st.get k with index := 0 } else st.get k := by
  simp only [popSt, setHeap_get, get_setIndex]; rfl

theorem popSt_idx (st : VS α) (h : HeapIdx st) (h1 : 1 < st.heap.size) : HeapIdx (popSt st) := by
  have hl := h (st.heap.size - 1) (by omega)
  intro k hk
  rw [popSt_heap_size] at hk
  rw [popSt_heap_getD _ _ hk, popSt_items_size, popSt_get]
  by_cases h0 : k = 0
  · simp [h0, hl.1]
  · have hk' : k < st.heap.size := by omega
    have : st.heap.getD k 0 ≠ st.heap.getD (st.heap.size - 1) 0 := fun e => by
      have := heapIdx_inj h hk' (by omega) e; omega
    simp [h0, this, h k hk']

theorem popSt_area (st : VS α) (k : Nat) : (popSt st).area k = st.area k := by
  simp only [VS.area, popSt_get]; split_ifs <;> rfl

theorem popSt_perm (st : VS α) (h1 : 1 < st.heap.size) :
    st.heap.toList.Perm (st.heap.getD 0 0 :: (popSt st).heap.toList) := by
  have e0 : st.heap.getD 0 0 = st.heap[0] := by simp [Array.getD, show 0 < st.heap.size by omega]
  have e1 : st.heap.getD (st.heap.size - 1) 0 = st.heap[st.heap.size - 1] := by
    simp [Array.getD, show st.heap.size - 1 < st.heap.size by omega]
  rw [e0]
  show List.Perm _ (_ :: (st.heap.pop.setIfInBounds 0 (st.heap.getD (st.heap.size - 1) 0)).toList)
  rw [e1]; exact Sift.perm_pop_root st.heap h1

theorem pop_idx (st : VS α) (h : HeapIdx st) (hne : 0 < st.heap.size) :
    HeapIdx (pop st).2 ∧ st.heap.toList.Perm ((pop st).1 :: (pop st).2.heap.toList) ∧ Frame st (pop st).2 ∧
      ∀ j, (pop st).2.area j = st.area j := by
  by_cases h1 : st.heap.size = 1
  · rw [pop_eq_of_one st h1]
    dsimp only
    refine ⟨fun k hk => by simp [h1] at hk, ?_, frame_refl _, fun _ => rfl⟩
    obtain ⟨x, hx⟩ := Array.size_eq_one_iff.1 h1
    simp [hx, Array.getD]
  · have h1 : 1 < st.heap.size := by omega
    rw [pop_eq_of_gt st h1]
    dsimp only
    have r := down_reorders (popSt st) 0 (popSt_idx st h h1) (by rw [popSt_heap_size]; omega)
    have hfr : Frame st (popSt st) := by
      refine ⟨popSt_items_size st, fun k => ?_⟩
      rw [popSt_get]; split_ifs <;> simp
    exact ⟨r.idx, (popSt_perm st h1).trans (List.Perm.cons _ r.perm.symm), frame_trans hfr r.frame,
      fun k => (r.area k).trans (popSt_area st k)⟩

/-- the state `Update` hands to `up`/`down` -/
def updSt (st : VS α) (id : Nat) (a : Option α) : VS α := st.modify id fun it => { it with area := a }

theorem update_eq (st : VS α) (id : Nat) (a : Option α) :
    update st id a = if aLt a (st.area id) then up (updSt st id a) ((updSt st id a).get id).index
      else down (updSt st id a) ((updSt st id a).get id).index := rfl

theorem updSt_get (st : VS α) (id : Nat) (a : Option α) (k : Nat) :
    (updSt st id a).get k = if k = id ∧ id < st.items.size then { st.get k with area := a } else st.get k :=
  get_modify ..

theorem updSt_index (st : VS α) (id : Nat) (a : Option α) (k : Nat) :
    ((updSt st id a).get k).index = (st.get k).index := by
  rw [updSt_get]; split_ifs <;> rfl

theorem updSt_heap (st : VS α) (id : Nat) (a : Option α) : (updSt st id a).heap = st.heap := rfl

theorem updSt_idx (st : VS α) (id : Nat) (a : Option α) (h : HeapIdx st) : HeapIdx (updSt st id a) := by
  intro k hk
  rw [updSt_heap] at hk ⊢
  rw [updSt_index]
  exact ⟨by simpa [updSt] using (h k hk).1, (h k hk).2⟩

theorem updSt_frame (st : VS α) (id : Nat) (a : Option α) : Frame st (updSt st id a) := by
  refine ⟨by simp [updSt], fun k => ?_⟩
  rw [updSt_get]; split_ifs <;> simp

theorem updSt_area (st : VS α) (id : Nat) (a : Option α) (k : Nat) (hid : id < st.items.size) :
    (updSt st id a).area k = if k = id then a else st.area k := by
  simp only [VS.area, updSt_get, hid, and_true]; split_ifs <;> rfl

theorem update_idx (st : VS α) (id : Nat) (a : Option α) (h : HeapIdx st) (hin : id ∈ st.heap.toList) :
    HeapIdx (update st id a) ∧ (update st id a).heap.toList.Perm st.heap.toList ∧ Frame st (update st id a) ∧
      (update st id a).area id = a ∧ ∀ j, j ≠ id → (update st id a).area j = st.area j := by
  obtain ⟨k, hk, e⟩ := (mem_heap_iff _ _).1 hin
  have hid : id < st.items.size := e ▸ (h k hk).1
  have hpos : ((updSt st id a).get id).index = k := by rw [updSt_index, ← e]; exact (h k hk).2
  have hidx := updSt_idx st id a h
  have key : ∀ st', Reorders (updSt st id a) st' → HeapIdx st' ∧ st'.heap.toList.Perm st.heap.toList ∧ Frame st st' ∧
      st'.area id = a ∧ ∀ j, j ≠ id → st'.area j = st.area j := by
    intro st' r
    refine ⟨r.idx, r.perm, frame_trans (updSt_frame st id a) r.frame, ?_, fun j hj => ?_⟩
    · rw [r.area, updSt_area _ _ _ _ hid, if_pos rfl]
    · rw [r.area, updSt_area _ _ _ _ hid, if_neg hj]
  rw [update_eq, hpos]
  split_ifs
  · exact key _ (up_reorders _ _ hidx hk)
  · exact key _ (down_reorders _ _ hidx hk)

end loops

end api

section ord
variable {α : Type} [LinearOrder α]

theorem aLe_refl (a : Option α) : aLe a a = true := by
  cases a <;> simp [aLe]

theorem aLe_total (a b : Option α) : aLe a b = true ∨ aLe b a = true := by
  cases a <;> cases b <;> simp [aLe, le_total]

theorem aLe_trans {a b c : Option α} (h1 : aLe a b = true) (h2 : aLe b c = true) : aLe a c = true := by
  cases a <;> cases b <;> cases c <;> simp_all [aLe]
  exact le_trans h1 h2

theorem aLt_eq (a b : Option α) : aLt a b = !aLe b a := by
  cases a <;> cases b <;> simp [aLe, aLt]
  rename_i x y
  by_cases h : y ≤ x
  · simp [h, not_lt.2 h]
  · simp [h, not_le.1 h]

theorem aLt_iff (a b : Option α) : aLt a b = true ↔ ¬ aLe b a = true := by
  rw [aLt_eq]; simp

theorem aLe_of_not {a b : Option α} (h : ¬ aLe a b = true) : aLe b a = true :=
  (aLe_total a b).resolve_left h

/-- min-heap on areas (`none = +Inf`): an area may stand above a not smaller one -/
abbrev areaLe : Option α → Option α → Prop := fun a b => aLe a b = true

theorem areaLe_trans (a b c : Option α) (h1 : areaLe a b) (h2 : areaLe b c) : areaLe a c := aLe_trans h1 h2

def keyAt (st : VS α) (k : Nat) : Option α := st.area (st.heap.getD k 0)

theorem heapOrd_iff (st : VS α) : HeapOrd st ↔ Sift.Ord areaLe (keyAt st) st.heap.size := by
  simp only [HeapOrd, Sift.Ord, keyAt, Sift.parent_shift]

theorem sw_area (st : VS α) (i j a b k : Nat) : (sw st i j a b).area k = st.area k := (sw_get st i j a b k).1

theorem sw_keyAt (st : VS α) (i j k : Nat) (hi : i < st.heap.size) (hj : j < st.heap.size) :
    keyAt (sw st i j (st.heap.getD i 0) (st.heap.getD j 0)) k =
      if k = j then keyAt st i else if k = i then keyAt st j else keyAt st k := by
  simp only [keyAt, sw_area, sw_heap_getD _ _ _ _ _ _ hi hj]
  split_ifs <;> rfl

theorem upLoop_ord (obj fuel : Nat) : ∀ (i : Nat) (st : VS α), i < fuel → i < st.heap.size →
    st.heap.getD i 0 = obj → Sift.UpInv areaLe (keyAt st) st.heap.size i → HeapOrd (upLoop obj fuel i st) := by
  induction fuel with
  | zero => intro i st h; omega
  | succ n ih =>
    intro i st hf hi ho hinv
    subst ho
    rw [upLoop_succ]
    by_cases h0 : i = 0
    · rw [if_pos h0]
      exact (heapOrd_iff st).2 (hinv.ord (Or.inl h0))
    · rw [if_neg h0, Sift.parent_shift]
      by_cases h1 : aLe (st.area (st.heap.getD (Sift.parent i) 0)) (st.area (st.heap.getD i 0)) = true
      · rw [if_pos h1]
        exact (heapOrd_iff st).2 (hinv.ord (Or.inr h1))
      · rw [if_neg h1]
        have hpi : Sift.parent i < i := by unfold Sift.parent; omega
        have hup : Sift.parent i < st.heap.size := by omega
        apply ih
        · omega
        · rw [sw_heap_size]; exact hup
        · rw [sw_heap_getD _ _ _ _ _ _ hi hup, if_pos rfl]
        · rw [sw_heap_size]
          exact hinv.step areaLe_trans (by omega) hi (fun k => sw_keyAt st i (Sift.parent i) k hi hup) (aLe_of_not h1)

theorem pickC_le (st : VS α) (cur : Nat × Nat) (j : Nat) :
    aLe (st.area (pickC st cur j).2) (st.area cur.2) = true ∧
    (j < st.heap.size → aLe (st.area (pickC st cur j).2) (keyAt st j) = true) := by
  unfold pickC
  by_cases h : (decide (j < st.heap.size) && aLt (st.area (st.heap.getD j 0)) (st.area cur.2)) = true
  · rw [if_pos h]
    rw [Bool.and_eq_true, aLt_iff] at h
    exact ⟨aLe_of_not h.2, fun _ => aLe_refl _⟩
  · rw [if_neg h]
    refine ⟨aLe_refl _, fun hj => ?_⟩
    by_contra hc
    exact h (by rw [Bool.and_eq_true, aLt_iff]; exact ⟨by simpa using hj, hc⟩)

theorem dcOf_min (st : VS α) (i : Nat) :
    aLe (keyAt st (dcOf st i).1) (keyAt st i) = true ∧
    ∀ c, 0 < c → c < st.heap.size → Sift.parent c = i → aLe (keyAt st (dcOf st i).1) (keyAt st c) = true := by
  have hk : keyAt st (dcOf st i).1 = st.area (dcOf st i).2 := by rw [(dcOf_idx st i).1]; rfl
  rw [hk]
  unfold dcOf
  rw [Sift.right_shift, show 2 * i + 2 - 1 = 2 * i + 1 from rfl]
  obtain ⟨a1, l1⟩ := pickC_le st (i, st.heap.getD i 0) (2 * i + 1)
  obtain ⟨a2, l2⟩ := pickC_le st (pickC st (i, st.heap.getD i 0) (2 * i + 1)) (2 * i + 2)
  refine ⟨aLe_trans a2 a1, fun c h0 hcn hp => ?_⟩
  obtain rfl | rfl : c = 2 * i + 1 ∨ c = 2 * i + 2 := by unfold Sift.parent at hp; omega
  · exact aLe_trans a2 (l1 hcn)
  · exact l2 hcn

theorem downLoop_ord (obj fuel : Nat) : ∀ (i : Nat) (st : VS α), st.heap.size < fuel + i → i < st.heap.size →
    st.heap.getD i 0 = obj → Sift.DownInv areaLe (keyAt st) st.heap.size i → HeapOrd (downLoop obj fuel i st) := by
  induction fuel with
  | zero => intro i st h hi; omega
  | succ n ih =>
    intro i st hf hi ho hinv
    subst ho
    rw [downLoop_succ]
    obtain ⟨hmi, hms⟩ := dcOf_min st i
    rcases (dcOf_idx st i).2 with hm | ⟨hmn, hm⟩
    · rw [if_pos hm]
      rw [hm] at hms
      exact (heapOrd_iff st).2 (hinv.ord hms)
    · rw [if_neg (by omega), (dcOf_idx st i).1]
      apply ih
      · rw [sw_heap_size]; omega
      · rw [sw_heap_size]; exact hmn
      · rw [sw_heap_getD _ _ _ _ _ _ hi hmn, if_pos rfl]
      · rw [sw_heap_size]
        exact hinv.step (Sift.parent_child.2 hm) hmn (fun k => sw_keyAt st i _ k hi hmn) hmi hms

theorem up_ord (st : VS α) (i : Nat) (hi : i < st.heap.size) (hinv : Sift.UpInv areaLe (keyAt st) st.heap.size i) :
    HeapOrd (up st i) := upLoop_ord _ _ i st (by omega) hi rfl hinv

theorem down_ord (st : VS α) (i : Nat) (hi : i < st.heap.size) (hinv : Sift.DownInv areaLe (keyAt st) st.heap.size i) :
    HeapOrd (down st i) := downLoop_ord _ _ i st (by omega) hi rfl hinv

theorem push_ord (st : VS α) (id : Nat) (h : HeapOrd st) (hid : id < st.items.size) : HeapOrd (push st id) := by
  rw [push_eq]
  have hsz : (pushSt st id).heap.size = st.heap.size + 1 := by simp [pushSt]
  rw [pushSt_index st id hid]
  apply up_ord _ _ (by omega)
  rw [hsz]
  refine Sift.UpInv.of_push ((heapOrd_iff st).1 h) (fun j hj => ?_)
  have : (pushSt st id).heap.getD j 0 = st.heap.getD j 0 := by
    show (st.heap.push id).getD j 0 = _
    rw [getD_push, if_neg (by omega)]
  simp only [keyAt]
  rw [this]; exact area_setIndex ..

theorem pop_fst (st : VS α) (hne : 0 < st.heap.size) : (pop st).1 = st.heap.getD 0 0 := by
  by_cases h1 : st.heap.size = 1
  · rw [pop_eq_of_one st h1]
  · rw [pop_eq_of_gt st (by omega)]

theorem pop_ord (st : VS α) (h : HeapOrd st) (hne : 0 < st.heap.size) :
    HeapOrd (pop st).2 ∧ ∀ id ∈ st.heap.toList, aLe (st.area (pop st).1) (st.area id) = true := by
  constructor
  · by_cases h1 : st.heap.size = 1
    · rw [pop_eq_of_one st h1]
      intro i hi0 hi
      simp [h1] at hi
    · have h1 : 1 < st.heap.size := by omega
      rw [pop_eq_of_gt st h1]
      dsimp only
      apply down_ord _ _ (by rw [popSt_heap_size]; omega)
      rw [popSt_heap_size]
      refine Sift.DownInv.of_pop ((heapOrd_iff st).1 h) (fun j hj0 hj => ?_)
      simp only [keyAt]
      rw [popSt_heap_getD _ _ hj, if_neg (by omega)]; exact popSt_area ..
  · intro id hid
    rw [pop_fst st hne]
    obtain ⟨k, hk, e⟩ := (mem_heap_iff _ _).1 hid
    rw [← e]
    exact Sift.Ord.root areaLe_trans ((heapOrd_iff st).1 h) aLe_refl k hk

theorem update_ord (st : VS α) (id : Nat) (a : Option α) (h : HeapInv st) (hin : id ∈ st.heap.toList) :
    HeapOrd (update st id a) := by
  obtain ⟨hidx, hord⟩ := h
  obtain ⟨k, hk, e⟩ := (mem_heap_iff _ _).1 hin
  have hid : id < st.items.size := e ▸ (hidx k hk).1
  have hpos : ((updSt st id a).get id).index = k := by rw [updSt_index, ← e]; exact (hidx k hk).2
  have hky : ∀ j, j < st.heap.size → keyAt (updSt st id a) j = if j = k then a else keyAt st j := by
    intro j hj
    simp only [keyAt, updSt_heap, updSt_area _ _ _ _ hid]
    by_cases hjk : j = k
    · rw [if_pos hjk, hjk, e, if_pos rfl]
    · rw [if_neg hjk, if_neg]
      intro e2; exact hjk (heapIdx_inj hidx hj hk (e2.trans e.symm))
  have hkk : keyAt st k = st.area id := by simp only [keyAt, e]
  rw [update_eq, hpos]
  by_cases hlt : aLt a (st.area id) = true
  · rw [if_pos hlt]
    apply up_ord (updSt st id a) k hk
    refine Sift.UpInv.of_decrease areaLe_trans ((heapOrd_iff st).1 hord) hk (fun j hj hjk => by rw [hky j hj, if_neg hjk]) ?_
    rw [hky k hk, if_pos rfl]
    rw [hkk]; exact aLe_of_not ((aLt_iff _ _).1 hlt)
  · rw [if_neg hlt]
    apply down_ord (updSt st id a) k hk
    refine Sift.DownInv.of_increase areaLe_trans ((heapOrd_iff st).1 hord) hk (fun j hj hjk => by rw [hky j hj, if_neg hjk]) ?_
    rw [hky k hk, if_pos rfl]
    rw [hkk]
    by_contra hcon; exact hlt ((aLt_iff _ _).2 hcon)

end ord
end VH

end Orb.Simplify
