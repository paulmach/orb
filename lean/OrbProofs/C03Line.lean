/-
  C03, the geometry commands.  The encoder never fails, so the command words of a geometry are a
  function of it (`gwords`); and every reader of the decoder, run on the words written for a value
  from a state in step with the encoder's cursor, returns the value and stays in step.
-/
import Orb.MVT
import OrbProofs.C03Bits

namespace Orb.MVT
open Orb

theorem unzigzag_zigzag (x : BitVec 32) : unzigzag (zigzag x) = x := by
  unfold unzigzag zigzag
  rw [show 4294967295#32 = BitVec.allOnes 32 by decide, BitVec.and_allOnes]
  exact zigzag_core x (fun b => -b) (by decide) (by decide)

theorem unzigzagI_zigzag_sub (a b : Int) (ha : coordOK a = true) (hb : coordOK b = true) :
    unzigzagI (zigzag (i32 a - i32 b)) = a - b := by
  simp only [coordOK, decide_eq_true_eq] at ha hb
  unfold unzigzagI i32
  rw [unzigzag_zigzag, BitVec.sub_eq_add_neg, ← BitVec.ofInt_neg, ← BitVec.ofInt_add,
    BitVec.toInt_ofInt, Int.bmod_eq_of_le] <;> omega

@[simp] theorem bindD_ok {α β : Type} (a : α) (s : GD) (f : α → GD → DM β) :
    bindD (.ok a, s) f = f a s := rfl
@[simp] theorem bindD_err {α β : Type} (e : Err) (s : GD) (f : α → GD → DM β) :
    bindD (.err e, s) f = (.err e, s) := rfl
@[simp] theorem bindD_panic {α β : Type} (w : String) (s : GD) (f : α → GD → DM β) :
    bindD (.panic w, s) f = (.panic w, s) := rfl

theorem cmdWord_toNat (id n : Nat) (hid : id < 8) (hn : n < 2^29) :
    (cmdWord id n).toNat = n * 8 + id := by
  unfold cmdWord
  rw [BitVec.toNat_or, BitVec.toNat_shiftLeft, BitVec.toNat_ofNat, BitVec.toNat_ofNat]
  have h1 : n % 2^32 = n := Nat.mod_eq_of_lt (by omega)
  have h2 : id % 2^32 = id := Nat.mod_eq_of_lt (by omega)
  have h3 : (n <<< 3) % 2^32 = n <<< 3 := by
    rw [Nat.shiftLeft_eq]; exact Nat.mod_eq_of_lt (by omega)
  rw [h1, h2, h3, ← Nat.shiftLeft_add_eq_or_of_lt (by omega : id < 2^3), Nat.shiftLeft_eq]

theorem cmdWord_and7 (id n : Nat) (hid : id < 8) (hn : n < 2^29) :
    (cmdWord id n &&& 7#32).toNat = id := by
  rw [BitVec.toNat_and, cmdWord_toNat id n hid hn]
  have : (7#32).toNat = 2^3 - 1 := by decide
  rw [this, Nat.and_two_pow_sub_one_eq_mod]
  omega

theorem cmdWord_shr3 (id n : Nat) (hid : id < 8) (hn : n < 2^29) :
    (cmdWord id n >>> 3).toNat = n := by
  rw [BitVec.toNat_ushiftRight, cmdWord_toNat id n hid hn, Nat.shiftRight_eq_div_pow]
  omega

/-- `int(2*count)`: the product does not wrap in uint32 because `v >>> 3 < 2^29` for every 32-bit `v`. -/
theorem two_mul_shr3_toNat (v : W) : (2#32 * (v >>> 3)).toNat = 2 * (v >>> 3).toNat := by
  have h := v.isLt
  rw [BitVec.toNat_mul, BitVec.toNat_ushiftRight, Nat.shiftRight_eq_div_pow]
  simp only [BitVec.toNat_ofNat]
  omega

/-- Iterator accounting: words read + words unread = words of the field (`iter.Count()`). -/
def GD.Balanced (s : GD) : Prop := s.used + s.ws.length = s.count

/-- The decoder state `s` is in step with the encoder cursor `c`: same position (a point of the
    quantifier), iterator accounting intact. -/
def InStep (c : Cur) (s : GD) : Prop :=
  c.x = i32 s.prev.x ∧ c.y = i32 s.prev.y ∧ ptOK s.prev = true ∧ s.Balanced

theorem InStep.alloc {c : Cur} {s : GD} (h : InStep c s) (a : Nat) : InStep c { s with alloc := a } := h

/-! The readers.  The iterator accounting is looked at in the two primitives only (the "data cut short"
    guard of `cmdAndCount` reads it); a composite hands `InStep` and the rest of the words on. -/

/-- ClosePath (`id = 7`) is exempt from the guard; for the others the points announced must be there. -/
theorem cmdAndCount_cmdWord {c : Cur} {s : GD} (id n : Nat) (rest : List W) (hs : InStep c s)
    (hid : id < 8) (hn : n < 2^29) (hw : s.ws = cmdWord id n :: rest) (hr : id ≠ cClosePath → 2 * n ≤ rest.length) :
    ∃ s', cmdAndCount s = (.ok (id, n), s') ∧ InStep c s' ∧ s'.ws = rest := by
  obtain ⟨hx, hy, hp, hb⟩ := hs
  have hb' : s.used + (1 + rest.length) = s.count := by rw [← hb, hw, List.length_cons]; omega
  refine ⟨{ s with ws := rest, used := s.used + 1 }, ?_, ⟨hx, hy, hp, ?_⟩, rfl⟩
  · unfold cmdAndCount
    rw [hw]
    simp only [cmdWord_and7 id n hid hn, two_mul_shr3_toNat, cmdWord_shr3 id n hid hn]
    rw [if_neg]
    rintro ⟨h7, hlt⟩
    have := hr h7
    omega
  · show s.used + 1 + rest.length = s.count
    omega

theorem nextPoint_enc {c : Cur} {s : GD} (p : Pt Int) (rest : List W) (hs : InStep c s) (hq : ptOK p = true)
    (hw : s.ws = zigzag (i32 p.x - c.x) :: zigzag (i32 p.y - c.y) :: rest) :
    ∃ s', nextPoint s = (.ok p, s') ∧ InStep ⟨i32 p.x, i32 p.y⟩ s' ∧ s'.ws = rest := by
  obtain ⟨hx, hy, hp, hb⟩ := hs
  refine ⟨{ s with ws := rest, used := s.used + 2, prev := p }, ?_, ⟨rfl, rfl, hq, ?_⟩, rfl⟩
  · simp only [ptOK, Bool.and_eq_true] at hp hq
    have h1 : s.prev.x + unzigzagI (zigzag (i32 p.x - c.x)) = p.x := by
      rw [hx, unzigzagI_zigzag_sub _ _ hq.1 hp.1]; omega
    have h2 : s.prev.y + unzigzagI (zigzag (i32 p.y - c.y)) = p.y := by
      rw [hy, unzigzagI_zigzag_sub _ _ hq.2 hp.2]; omega
    unfold nextPoint
    simp only [hw, h1, h2]
  · show s.used + 2 + rest.length = s.count
    rw [← hb, hw, List.length_cons, List.length_cons]; omega

theorem addPoints_length (c : Cur) (ps : List (Pt Int)) : (addPoints c ps).2.length = 2 * ps.length := by
  induction ps generalizing c with
  | nil => rfl
  | cons p ps ih => simp [addPoints, ih]; omega

theorem nextPoints_enc (ps : List (Pt Int)) {c : Cur} {s : GD} (rest : List W) (hs : InStep c s)
    (hps : ∀ p ∈ ps, ptOK p = true) (hw : s.ws = (addPoints c ps).2 ++ rest) :
    ∃ s', nextPoints ps.length s = (.ok ps, s') ∧ InStep (addPoints c ps).1 s' ∧ s'.ws = rest := by
  induction ps generalizing c s with
  | nil => exact ⟨s, rfl, hs, by simpa [addPoints] using hw⟩
  | cons p ps ih =>
    simp only [addPoints, List.cons_append] at hw
    obtain ⟨s1, h1, i1, w1⟩ := nextPoint_enc p _ hs (hps p (by simp)) hw
    obtain ⟨s2, h2, i2, w2⟩ := ih i1 (fun q hq => hps q (by simp [hq])) w1
    exact ⟨s2, by simp only [List.length_cons, nextPoints, h1, bindD_ok, h2], i2, w2⟩

/-! Beside `encLine`, `encLines`, `encRing`, `encRings`, `encPolys` and `encodeGeometry` stand the
    functions they compute; the decoders are stated on those. -/

/-- Thread the cursor through the parts and concatenate their words: the scheme of `encLines`,
    `encRings` and `encPolys`. -/
def threadW {α : Type} (step : Cur → α → Cur × List W) : Cur → List α → Cur × List W
  | c, [] => (c, [])
  | c, x :: xs => ((threadW step (step c x).1 xs).1, (step c x).2 ++ (threadW step (step c x).1 xs).2)

theorem threadW_append {α : Type} (step : Cur → α → Cur × List W) (c : Cur) (xs ys : List α) :
    threadW step c (xs ++ ys) = ((threadW step (threadW step c xs).1 ys).1,
      (threadW step c xs).2 ++ (threadW step (threadW step c xs).1 ys).2) := by
  induction xs generalizing c with
  | nil => simp [threadW]
  | cons x xs ih => simp [threadW, ih]

theorem threadW_flatten {α : Type} (step : Cur → α → Cur × List W) (c : Cur) (xss : List (List α)) :
    threadW (threadW step) c xss = threadW step c xss.flatten := by
  induction xss generalizing c with
  | nil => rfl
  | cons xs xss ih => rw [List.flatten_cons, threadW_append, ← ih]; rfl

def lineW (c : Cur) : List (Pt Int) → Cur × List W
  | [] => (c, [])
  | p :: rest => ((lineTo (moveTo c [p]).1 rest).1, (moveTo c [p]).2 ++ (lineTo (moveTo c [p]).1 rest).2)

def ringW (c : Cur) : List (Pt Int) → Cur × List W
  | [] => (c, [])
  | p :: rest =>
    let n := lineTo (moveTo c [p]).1 (if closed (p :: rest) then rest.dropLast else rest)
    (n.1, (moveTo c [p]).2 ++ n.2 ++ [closePathW])

theorem encLine_eq (c : Cur) (l : List (Pt Int)) : encLine c l = .ok (lineW c l) := by cases l <;> rfl

theorem encRing_eq (c : Cur) (r : List (Pt Int)) : encRing c r = .ok (ringW c r) := by cases r <;> rfl

theorem encLines_eq (c : Cur) (ls : List (List (Pt Int))) : encLines c ls = .ok (threadW lineW c ls) := by
  induction ls generalizing c with
  | nil => rfl
  | cons l ls ih => simp only [encLines, encLine_eq, ih, threadW]

theorem encRings_eq (c : Cur) (rs : List (List (Pt Int))) : encRings c rs = .ok (threadW ringW c rs) := by
  induction rs generalizing c with
  | nil => rfl
  | cons r rs ih => simp only [encRings, encRing_eq, ih, threadW]

theorem encPolys_eq (c : Cur) (ps : List (List (List (Pt Int)))) :
    encPolys c ps = .ok (threadW ringW c ps.flatten) := by
  rw [← threadW_flatten]
  induction ps generalizing c with
  | nil => rfl
  | cons p ps ih => simp only [encPolys, encRings_eq, ih, threadW]

/-- Geometry type and command words of a geometry other than a collection. -/
def gwords : Geom Int → Int × List W
  | .point p => (tPoint, (moveTo cur0 [p]).2)
  | .multiPoint ps => (tPoint, (moveTo cur0 ps).2)
  | .lineString l => (tLineString, (lineW cur0 l).2)
  | .multiLineString ls => (tLineString, (threadW lineW cur0 ls).2)
  | .ring r => (tPolygon, (ringW cur0 r).2)
  | .polygon rs => (tPolygon, (threadW ringW cur0 rs).2)
  | .multiPolygon ps => (tPolygon, (threadW ringW cur0 ps.flatten).2)
  | .bound a b => (tPolygon, (threadW ringW cur0 [boundRing a b]).2)
  | .collection _ => (0, [])

theorem encodeGeometry_eq (g : Geom Int) (h : ∀ gs, g ≠ .collection gs) : encodeGeometry g = .ok (gwords g) := by
  cases g <;> first
    | exact absurd rfl (h _)
    | rfl
    | simp only [encodeGeometry, encLine_eq, encLines_eq, encRing_eq, encRings_eq, encPolys_eq, Res.map, gwords]

theorem encodeGeometry_wf {g : Geom Int} (h : geomWF g = true) : encodeGeometry g = .ok (gwords g) :=
  encodeGeometry_eq g (by rintro gs rfl; simp [geomWF] at h)

theorem lineW_length (c : Cur) {l : List (Pt Int)} (hl : l ≠ []) : (lineW c l).2.length = 2 * l.length + 2 := by
  cases l with
  | nil => exact absurd rfl hl
  | cons p tl => simp [lineW, moveTo, lineTo, addPoints, addPoints_length]; omega

theorem lineOK_cons (p : Pt Int) (tl : List (Pt Int)) (hl : lineOK (p :: tl) = true) :
    ptOK p = true ∧ (∀ q ∈ tl, ptOK q = true) ∧ tl.length < 2^29 := by
  simp only [lineOK, List.isEmpty_cons, Bool.not_false, List.all_cons, Bool.and_eq_true,
    Bool.true_and, List.all_eq_true, decide_eq_true_eq, List.length_cons] at hl
  exact ⟨hl.1.1, hl.1.2, by omega⟩

theorem lineOK_ne_nil {l : List (Pt Int)} (hl : lineOK l = true) : l ≠ [] := by
  rintro rfl; simp [lineOK] at hl

theorem decodeLine_encLine (c : Cur) (s : GD) (l : List (Pt Int)) (rest : List W)
    (hs : InStep c s) (hl : lineOK l = true) (hw : s.ws = (lineW c l).2 ++ rest) :
    ∃ s', decodeLine s = (.ok l, s') ∧ InStep (lineW c l).1 s' ∧ s'.ws = rest := by
  cases l with
  | nil => simp [lineOK] at hl
  | cons p tl =>
    obtain ⟨hq, htl, hlen⟩ := lineOK_cons p tl hl
    have hw' : s.ws = cmdWord cMoveTo 1 :: zigzag (i32 p.x - c.x) :: zigzag (i32 p.y - c.y) ::
        cmdWord cLineTo tl.length :: ((addPoints ⟨i32 p.x, i32 p.y⟩ tl).2 ++ rest) := by
      rw [hw]; simp [lineW, moveTo, lineTo, addPoints]
    obtain ⟨s1, h1, i1, w1⟩ := cmdAndCount_cmdWord cMoveTo 1 _ hs (by decide) (by decide) hw' (fun _ => by simp)
    obtain ⟨s2, h2, i2, w2⟩ := nextPoint_enc p _ i1 hq w1
    obtain ⟨s3, h3, i3, w3⟩ := cmdAndCount_cmdWord cLineTo tl.length _ i2 (by decide) hlen w2
      (fun _ => by simp [addPoints_length])
    obtain ⟨s4, h4, i4, w4⟩ := nextPoints_enc tl rest (i3.alloc (s3.alloc + (tl.length + 1))) htl w3
    exact ⟨s4, by simp only [decodeLine, h1, bindD_ok, ne_eq, not_true_eq_false, or_self, ↓reduceIte, h2, h3, h4],
      i4, w4⟩

/-- What the line loop returns after the lines `mls` when the lines `ls` are still to come: a lone
    line is a `LineString`. -/
def lsFin : List (List (Pt Int)) → List (List (Pt Int)) → Geom Int
  | [], [l] => .lineString l
  | mls, ls => .multiLineString (mls ++ ls)

/-- The recursion of `lsFin` is the round of `lsLoop`, with `ls.isEmpty` for `s.done`. -/
theorem lsFin_cons (mls : List (List (Pt Int))) (l : List (Pt Int)) (ls : List (List (Pt Int))) :
    lsFin mls (l :: ls) = if ls.isEmpty && mls.isEmpty then .lineString l else lsFin (mls ++ [l]) ls := by
  cases mls <;> cases ls <;> simp [lsFin]

theorem threadW_lineW_isEmpty (c : Cur) {ls : List (List (Pt Int))} (hl : ∀ l ∈ ls, lineOK l = true) :
    (threadW lineW c ls).2.isEmpty = ls.isEmpty := by
  cases ls with
  | nil => rfl
  | cons l ls =>
    have := lineW_length c (lineOK_ne_nil (hl l (by simp)))
    rw [List.isEmpty_cons, Bool.eq_false_iff, Ne, List.isEmpty_iff_length_eq_zero, threadW, List.length_append]
    omega

theorem lsLoop_lines (ls : List (List (Pt Int))) (c : Cur) (s : GD) (mls : List (List (Pt Int))) (f : Nat)
    (hs : InStep c s) (hl : ∀ l ∈ ls, lineOK l = true) (hw : s.ws = (threadW lineW c ls).2)
    (hf : s.ws.length ≤ f) : (lsLoop f mls s).1 = .ok (lsFin mls ls) := by
  have hd : s.done = ls.isEmpty := by rw [GD.done, hw]; exact threadW_lineW_isEmpty c hl
  induction ls generalizing c s mls f with
  | nil => cases f <;> cases mls <;> simp [lsLoop, hd, lsFin]
  | cons l ls ih =>
    have hls : ∀ x ∈ ls, lineOK x = true := fun x hx => hl x (by simp [hx])
    obtain ⟨s', d1, d2, d3⟩ := decodeLine_encLine c s l _ hs (hl l (by simp)) hw
    have hd' : s'.done = ls.isEmpty := by rw [GD.done, d3]; exact threadW_lineW_isEmpty _ hls
    rw [hw, threadW, List.length_append, lineW_length c (lineOK_ne_nil (hl l (by simp))), ← d3] at hf
    obtain ⟨f, rfl⟩ : ∃ g, f = g + 1 := ⟨f - 1, by omega⟩
    simp only [lsLoop, hd, List.isEmpty_cons, Bool.false_eq_true, ↓reduceIte, d1, bindD_ok, hd', lsFin_cons]
    split
    · rfl
    · exact ih _ s' _ f d2 hls d3 (by omega) hd'

theorem i32_zero : i32 0 = 0#32 := rfl

/-- The decoder's state at the start of a geometry field. -/
def GD.start (ws : List W) (a : Nat) : GD := { ws := ws, count := ws.length, used := 0, prev := ⟨0, 0⟩, alloc := a }

theorem inStep_start (ws : List W) (a : Nat) : InStep cur0 (GD.start ws a) :=
  ⟨rfl, rfl, (by decide : ptOK (⟨0, 0⟩ : Pt Int) = true), by simp [GD.Balanced, GD.start]⟩

theorem decodeGeometryIter_eq (ori : List (Pt Int) → Int) (gt : Int) {ws : List W} (a : Nat) (h : 2 ≤ ws.length) :
    decodeGeometryIter ori gt ws a =
      if gt = tPoint then decodePoint (GD.start ws a)
      else if gt = tLineString then decodeLineString (GD.start ws a)
      else if gt = tPolygon then decodePolygon ori (GD.start ws a)
      else (.err .unknownType, GD.start ws a) := by
  unfold decodeGeometryIter
  exact if_neg (by omega)

theorem decodeGeometryIter_ok_ne_nil {ori : List (Pt Int) → Int} {gt : Int} {ws : List W} {a : Nat} {g : Geom Int}
    (h : (decodeGeometryIter ori gt ws a).1 = .ok g) : ws ≠ [] := by
  rintro rfl
  simp [decodeGeometryIter] at h

theorem decodePoint_enc (ori : List (Pt Int) → Int) (ps : List (Pt Int)) (hne : ps ≠ []) (hps : ∀ p ∈ ps, ptOK p = true)
    (hlen : ps.length < 2^29) (a : Nat) :
    (decodeGeometryIter ori tPoint (moveTo cur0 ps).2 a).1 = .ok (normG (.multiPoint ps)) := by
  have hl := addPoints_length cur0 ps
  have hpos : 0 < ps.length := List.length_pos_iff.2 hne
  rw [decodeGeometryIter_eq ori _ a (by simp [moveTo, hl]; omega), if_pos rfl]
  obtain ⟨s1, h1, i1, w1⟩ := cmdAndCount_cmdWord cMoveTo ps.length (addPoints cur0 ps).2
    (inStep_start (moveTo cur0 ps).2 a) (by decide) hlen rfl (fun _ => by omega)
  simp only [decodePoint, h1, bindD_ok, ne_eq, not_true_eq_false, ↓reduceIte]
  match ps, hne, hps, hlen with
  | [p], _, hps, _ =>
    obtain ⟨s2, h2, _⟩ := nextPoint_enc p [] i1 (hps p (by simp)) w1
    simp only [List.length_cons, List.length_nil, Nat.zero_add, ↓reduceIte, h2, bindD_ok, normG]
  | p :: q :: t, _, hps, _ =>
    obtain ⟨s2, h2, _⟩ := nextPoints_enc (p :: q :: t) [] (i1.alloc (s1.alloc + (p :: q :: t).length)) hps
      (by simpa using w1)
    have hne1 : ¬ ((p :: q :: t).length = 1) := by simp
    simp only [hne1, ↓reduceIte, h2, bindD_ok, normG]

theorem decodeLines_enc (ori : List (Pt Int) → Int) (l : List (Pt Int)) (ls : List (List (Pt Int)))
    (hl : ∀ x ∈ l :: ls, lineOK x = true) (a : Nat) :
    (decodeGeometryIter ori tLineString (threadW lineW cur0 (l :: ls)).2 a).1 =
      .ok (normG (.multiLineString (l :: ls))) := by
  have hlen := lineW_length cur0 (lineOK_ne_nil (hl l (by simp)))
  rw [decodeGeometryIter_eq ori _ a (by rw [threadW, List.length_append, hlen]; omega), if_neg (by decide), if_pos rfl]
  refine (lsLoop_lines (l :: ls) cur0 _ [] _ (inStep_start _ a) hl rfl (Nat.le_refl _)).trans ?_
  cases ls <;> rfl

end Orb.MVT
