/-
  C10 — translation tie for planar/distance.go (`Distance`, `DistanceSquared`), planar/distance_from.go (the three
  point–segment functions), planar/area.go (`multiPointCentroid`, `ringCentroidArea`, `lineStringCentroidDist`, `multiLineStringCentroid`,
  `polygonCentroidArea`, `multiPolygonCentroidArea`) and internal/length/length.go (`lineStringLength`,
  `polygonLength`, the LineString / MultiLineString / Ring / Polygon / MultiPolygon / Bound cases of `Length`).
  The translation writes a loop over consecutive pairs as `Generated.BoundGo.foldPairs` and `math.Abs` as
  `Generated.BoundGo.fabs` (shared by all translated packages).
  `Generated/PlanarGo.lean` and `Generated/LengthGo.lean` are REGENERATED from /repo on every run
  by harness/cmd/factgen/translate_float.go; the theorems below prove each regenerated definition
  equal to the hand-written model definition of `Orb.Planar`, for every number type.
-/
import Orb.Planar
import Generated.PlanarGo
import Generated.LengthGo
import OrbProofs.FoldPairs

namespace Orb.C10Tie
open Orb Orb.Core

set_option linter.unusedSectionVars false

variable {α : Type} [Add α] [Sub α] [Mul α] [Div α] [Neg α] [LT α] [LE α] [DecidableLT α] [DecidableLE α]
  [BEq α] [Min α] [Max α] [OfNat α 0] [OfNat α 1] [OfNat α 2] [OfNat α 6] [NatCast α]

/-! ### distance.go, distance_from.go -/

theorem distance_tie (sqrt : α → α) (p q : Pt α) :
    Generated.PlanarGo.distance sqrt p q = Planar.distance sqrt p q := rfl
theorem distanceSquared_tie (p q : Pt α) :
    Generated.PlanarGo.distanceSquared p q = Planar.distanceSquared p q := rfl

/-- `DistanceFromSegmentSquared` and `segmentDistanceFromSquared` are the same code twice; the
    model has it once -/
theorem distanceFromSegmentSquared_tie (a b p : Pt α) :
    Generated.PlanarGo.distanceFromSegmentSquared a b p = Planar.segmentDistanceFromSquared a b p := rfl
theorem segmentDistanceFromSquared_tie (a b p : Pt α) :
    Generated.PlanarGo.segmentDistanceFromSquared a b p = Planar.segmentDistanceFromSquared a b p := rfl
theorem distanceFromSegment_tie (sqrt : α → α) (a b p : Pt α) :
    Generated.PlanarGo.distanceFromSegment sqrt a b p = Planar.distanceFromSegment sqrt a b p := rfl

/-! ### area.go: the two functions that do not use `math.Inf` -/

theorem multiPointCentroid_tie (mp : List (Pt α)) :
    Generated.PlanarGo.multiPointCentroid mp = Planar.multiPointCentroid mp := by
  cases mp with
  | nil => rfl
  | cons a t => rfl

/-- the loop `for i := 1; i < len(r)-1; i++` of `ringCentroidArea`: the Go code keeps the state in
    `area` and the point `centroid`, the model in a triple -/
theorem ringLoop_eq (o : Pt α) (l : List (Pt α)) (cx cy area : α) :
    Generated.BoundGo.foldPairs (fun ((area, centroid) : α × Pt α) (p q : Pt α) =>
        let a : α := ((p.x - o.x) * (q.y - o.y)) - ((q.x - o.x) * (p.y - o.y))
        let area : α := area + a
        let centroid : Pt α := ⟨centroid.x + (((p.x + q.x) - (2 * o.x)) * a), centroid.y⟩
        let centroid : Pt α := ⟨centroid.x, centroid.y + (((p.y + q.y) - (2 * o.y)) * a)⟩
        (area, centroid)) l (area, ⟨cx, cy⟩)
      = ((Planar.ringLoop o l (cx, cy, area)).2.2,
          ⟨(Planar.ringLoop o l (cx, cy, area)).1, (Planar.ringLoop o l (cx, cy, area)).2.1⟩) :=
  LoopForms.foldPairs_sim (fun t : α × α × α => (t.2.2, (⟨t.1, t.2.1⟩ : Pt α))) _ (Planar.ringLoop o)
    (fun t p q =>
      let a := (p.x - o.x) * (q.y - o.y) - (q.x - o.x) * (p.y - o.y)
      (t.1 + (p.x + q.x - 2 * o.x) * a, t.2.1 + (p.y + q.y - 2 * o.y) * a, t.2.2 + a))
    (fun _ => rfl) (fun _ _ => rfl) (fun _ _ _ _ => rfl) (fun _ _ _ => rfl) l (cx, cy, area)

theorem ringCentroidArea_tie (r : List (Pt α)) :
    Generated.PlanarGo.ringCentroidArea r = Planar.ringCentroidArea r := by
  cases r with
  | nil => simp [Generated.PlanarGo.ringCentroidArea, Planar.ringCentroidArea]
  | cons o rest =>
    simp only [Generated.PlanarGo.ringCentroidArea, Planar.ringCentroidArea, List.getD_cons_zero, List.drop_one,
      List.tail_cons, List.length_cons]
    rw [ringLoop_eq]
    simp

/-! ### internal/length/length.go -/

/-- the loop `for i := 1; i < len(ls); i++ { sum += df(ls[i], ls[i-1]) }` -/
theorem lineStringLength_loop (sqrt : α → α) (l : List (Pt α)) (acc : α) :
    Generated.BoundGo.foldPairs (fun (sum : α) (p q : Pt α) => sum + Planar.distance sqrt q p) l acc
      = Planar.lineStringLength sqrt l acc :=
  LoopForms.foldPairs_sim id _ (Planar.lineStringLength sqrt) _ (fun _ => rfl) (fun _ _ => rfl) (fun _ _ _ _ => rfl)
    (fun _ _ _ => rfl) l acc

/-- `lineStringLength(ls, planar.Distance)` -/
theorem lineStringLength_tie (sqrt : α → α) (ls : List (Pt α)) :
    Generated.LengthGo.lineStringLength ls (Planar.distance sqrt) = Planar.lineStringLength sqrt ls 0 :=
  lineStringLength_loop sqrt ls 0

/-- `polygonLength(p, planar.Distance)`: `for _, r := range p { sum += lineStringLength(r, df) }` -/
theorem polygonLength_tie (sqrt : α → α) (p : List (List (Pt α))) :
    Generated.LengthGo.polygonLength p (Planar.distance sqrt) = Planar.polygonLength sqrt p := by
  have hf : (fun (sum : α) (r : List (Pt α)) => sum + Generated.LengthGo.lineStringLength r (Planar.distance sqrt))
      = (fun sum r => sum + Planar.lineStringLength sqrt r 0) := by
    funext sum r; rw [lineStringLength_tie]
  show List.foldl _ 0 p = _
  rw [hf]; rfl

/-- the cases of the type switch of `length.Length(g, planar.Distance)` with a loop or a call of their own
    (`case orb.MultiLineString: for _, ls := range g { sum += lineStringLength(ls, df) }` …) -/
theorem length_cases_tie (sqrt : α → α) :
    (∀ g : List (Pt α),
      Generated.LengthGo.lengthLineString g (Planar.distance sqrt) = Planar.length sqrt (.lineString g)) ∧
    (∀ g : List (List (Pt α)),
      Generated.LengthGo.lengthMultiLineString g (Planar.distance sqrt) = Planar.length sqrt (.multiLineString g)) ∧
    (∀ g : List (Pt α),
      Generated.LengthGo.lengthRing g (Planar.distance sqrt) = Planar.length sqrt (.ring g)) ∧
    (∀ g : List (List (Pt α)),
      Generated.LengthGo.lengthPolygon g (Planar.distance sqrt) = Planar.length sqrt (.polygon g)) ∧
    (∀ g : List (List (List (Pt α))),
      Generated.LengthGo.lengthMultiPolygon g (Planar.distance sqrt) = Planar.length sqrt (.multiPolygon g)) := by
  -- `Planar.length sqrt (.ring g)` &c. are the right sides by `rfl`; under the two member loops the tie is rewritten as a function
  have hl : (fun ls => Generated.LengthGo.lineStringLength ls (Planar.distance sqrt))
      = fun ls => Planar.lineStringLength sqrt ls 0 := funext (lineStringLength_tie sqrt)
  have hp : (fun p => Generated.LengthGo.polygonLength p (Planar.distance sqrt)) = Planar.polygonLength sqrt :=
    funext (polygonLength_tie sqrt)
  exact ⟨congrFun hl, fun g => congrArg (fun (f : List (Pt α) → α) => g.foldl (fun sum ls => sum + f ls) 0) hl,
    congrFun hl, congrFun hp,
    fun g => congrArg (fun (f : List (List (Pt α)) → α) => g.foldl (fun sum p => sum + f p) 0) hp⟩

/-- `case orb.Bound: return Length(g.ToRing(), df)`: the call with a `Ring` runs the Ring case -/
theorem lengthBound_tie (sqrt : α → α) (lo hi : Pt α) :
    Generated.LengthGo.lengthBound ⟨lo, hi⟩ (Planar.distance sqrt) = Planar.length sqrt (.bound lo hi) := by
  rw [Planar.length]
  exact lineStringLength_tie sqrt (Planar.boundRing lo hi)

/-! ### area.go: the loops over lines, rings and polygons

`math.Inf(1)` is the explicit parameter `inf` of the translation; the models write it `none`. -/

/-- the loop `for i := 0; i < len(ls)-1; i++` of `lineStringCentroidDist` -/
theorem lineCentroidLoop_eq (sqrt : α → α) (o : Pt α) (l : List (Pt α)) (px py dist : α) :
    Generated.BoundGo.foldPairs (fun ((dist, point) : α × Pt α) (p q : Pt α) =>
        let p1 : Pt α := (⟨p.x - o.x, p.y - o.y⟩ : Pt α)
        let p2 : Pt α := (⟨q.x - o.x, q.y - o.y⟩ : Pt α)
        let d : α := Generated.PlanarGo.distance sqrt p1 p2
        let point : Pt α := ⟨point.x + (((p1.x + p2.x) / 2) * d), point.y⟩
        let point : Pt α := ⟨point.x, point.y + (((p1.y + p2.y) / 2) * d)⟩
        let dist : α := dist + d
        (dist, point)) l (dist, ⟨px, py⟩)
      = ((Planar.lineCentroidLoop sqrt o l (px, py, dist)).2.2,
          ⟨(Planar.lineCentroidLoop sqrt o l (px, py, dist)).1, (Planar.lineCentroidLoop sqrt o l (px, py, dist)).2.1⟩) :=
  LoopForms.foldPairs_sim (fun t : α × α × α => (t.2.2, (⟨t.1, t.2.1⟩ : Pt α))) _ (Planar.lineCentroidLoop sqrt o)
    (fun t a b =>
      let p1 : Pt α := ⟨a.x - o.x, a.y - o.y⟩
      let p2 : Pt α := ⟨b.x - o.x, b.y - o.y⟩
      let d := Planar.distance sqrt p1 p2
      (t.1 + (p1.x + p2.x) / 2 * d, t.2.1 + (p1.y + p2.y) / 2 * d, t.2.2 + d))
    (fun _ => rfl) (fun _ _ => rfl) (fun _ _ _ _ => rfl) (fun _ _ _ => rfl) l (px, py, dist)

/-- `lineStringCentroidDist` of an empty line: `(Point{}, +Inf)` (the model's `none`) -/
theorem lineStringCentroidDist_nil (sqrt : α → α) (inf : α) :
    Generated.PlanarGo.lineStringCentroidDist sqrt inf [] = (⟨0, 0⟩, inf) := rfl

/-- `lineStringCentroidDist` of a line with at least one point -/
theorem lineStringCentroidDist_tie (sqrt : α → α) (inf : α) (o : Pt α) (t : List (Pt α)) :
    Planar.lineStringCentroidDist sqrt (o :: t) = some (Generated.PlanarGo.lineStringCentroidDist sqrt inf (o :: t)) := by
  simp only [Generated.PlanarGo.lineStringCentroidDist, Planar.lineStringCentroidDist, List.getD_cons_zero,
    List.length_cons]
  rw [lineCentroidLoop_eq]
  simp only []
  split <;> rfl

/-- the fall-back `c, _ := lineStringCentroidDist(orb.LineString(p[0]))` -/
theorem lineFallback_tie (sqrt : α → α) (inf : α) (r : List (Pt α)) :
    (Generated.PlanarGo.lineStringCentroidDist sqrt inf r).1 = Planar.lineFallback sqrt r := by
  cases r with
  | nil => rfl
  | cons o t => rw [Planar.lineFallback, lineStringCentroidDist_tie sqrt inf]

/-- the hole loop `for i := 1; i < len(p); i++` of `polygonCentroidArea`: the Go code keeps the state in
    `holeArea` and the point `weightedHoleCentroid`, the model in a triple -/
theorem holesFold_eq (rca : List (Pt α) → Pt α × α) (holes : List (List (Pt α))) (ha wx wy : α) :
    List.foldl (fun ((holeArea, weightedHoleCentroid) : α × Pt α) (x : List (Pt α)) =>
        let (hc, ha) := rca x
        let ha : α := Generated.BoundGo.fabs ha
        let holeArea : α := holeArea + ha
        let weightedHoleCentroid : Pt α := ⟨weightedHoleCentroid.x + (hc.x * ha), weightedHoleCentroid.y⟩
        let weightedHoleCentroid : Pt α := ⟨weightedHoleCentroid.x, weightedHoleCentroid.y + (hc.y * ha)⟩
        (holeArea, weightedHoleCentroid)) (ha, ⟨wx, wy⟩) holes
      = ((holes.foldl (fun (s : α × α × α) hr =>
            let hca := rca hr
            let ha := Planar.fabs hca.2
            (s.1 + ha, s.2.1 + hca.1.x * ha, s.2.2 + hca.1.y * ha)) (ha, wx, wy)).1,
         ⟨(holes.foldl (fun (s : α × α × α) hr =>
            let hca := rca hr
            let ha := Planar.fabs hca.2
            (s.1 + ha, s.2.1 + hca.1.x * ha, s.2.2 + hca.1.y * ha)) (ha, wx, wy)).2.1,
          (holes.foldl (fun (s : α × α × α) hr =>
            let hca := rca hr
            let ha := Planar.fabs hca.2
            (s.1 + ha, s.2.1 + hca.1.x * ha, s.2.2 + hca.1.y * ha)) (ha, wx, wy)).2.2⟩) :=
  List.foldl_hom (fun s : α × α × α => (s.1, (⟨s.2.1, s.2.2⟩ : Pt α))) (init := (ha, wx, wy)) fun _ _ => rfl

/-- the tie as an equation of functions, to rewrite under the hole loop -/
theorem ringCentroidArea_fn : @Generated.PlanarGo.ringCentroidArea α _ _ _ _ _ _ _ _ = Planar.ringCentroidArea := by
  funext r; exact ringCentroidArea_tie r

/-- `polygonCentroidArea`, whatever `inf` is (the fall-back only looks at the point) -/
theorem polygonCentroidArea_tie (sqrt : α → α) (inf : α) (p : List (List (Pt α))) :
    Generated.PlanarGo.polygonCentroidArea sqrt inf p = Planar.polygonCentroidArea sqrt p := by
  cases p with
  | nil => rfl
  | cons outer holes =>
    unfold Generated.PlanarGo.polygonCentroidArea Planar.polygonCentroidArea
    rw [ringCentroidArea_fn]
    simp only [List.length_cons, List.getD_cons_zero, List.drop_one, List.tail_cons, Nat.succ_ne_zero, ↓reduceIte]
    rw [← lineFallback_tie sqrt inf]
    generalize Generated.PlanarGo.lineStringCentroidDist sqrt inf outer = cd
    generalize Planar.ringCentroidArea outer = ca
    obtain ⟨c, d⟩ := cd
    obtain ⟨centroid, area⟩ := ca
    cases holes with
    | nil => rfl
    | cons h t =>
      have hl : ¬ ((h :: t).length + 1 = 1) := by simp
      simp only [hl, ↓reduceIte]
      rw [holesFold_eq]
      rfl

/-- the loop `for _, p := range mp` of `multiPolygonCentroidArea`: the Go code keeps the state in `area`
    and the point `point`, the model in a triple -/
theorem weightedFold_eq (pca : List (List (Pt α)) → Pt α × α) (mp : List (List (List (Pt α)))) (px py area : α) :
    List.foldl (fun ((area, point) : α × Pt α) (p : List (List (Pt α))) =>
        let (c, a) := pca p
        let point : Pt α := ⟨point.x + (c.x * a), point.y⟩
        let point : Pt α := ⟨point.x, point.y + (c.y * a)⟩
        let area : α := area + a
        (area, point)) (area, ⟨px, py⟩) mp
      = ((mp.foldl (fun (s : α × α × α) p =>
            let ca := pca p
            (s.1 + ca.1.x * ca.2, s.2.1 + ca.1.y * ca.2, s.2.2 + ca.2)) (px, py, area)).2.2,
         ⟨(mp.foldl (fun (s : α × α × α) p =>
            let ca := pca p
            (s.1 + ca.1.x * ca.2, s.2.1 + ca.1.y * ca.2, s.2.2 + ca.2)) (px, py, area)).1,
          (mp.foldl (fun (s : α × α × α) p =>
            let ca := pca p
            (s.1 + ca.1.x * ca.2, s.2.1 + ca.1.y * ca.2, s.2.2 + ca.2)) (px, py, area)).2.1⟩) :=
  List.foldl_hom (fun s : α × α × α => (s.2.2, (⟨s.1, s.2.1⟩ : Pt α))) (init := (px, py, area)) fun _ _ => rfl

/-- likewise, to rewrite under the loop over polygons -/
theorem polygonCentroidArea_fn (sqrt : α → α) (inf : α) :
    Generated.PlanarGo.polygonCentroidArea sqrt inf = Planar.polygonCentroidArea sqrt := by
  funext p; exact polygonCentroidArea_tie sqrt inf p

theorem multiPolygonCentroidArea_tie (sqrt : α → α) (inf : α) (mp : List (List (List (Pt α)))) :
    Generated.PlanarGo.multiPolygonCentroidArea sqrt inf mp = Planar.multiPolygonCentroidArea sqrt mp := by
  unfold Generated.PlanarGo.multiPolygonCentroidArea Planar.multiPolygonCentroidArea Planar.finishWeighted
  rw [polygonCentroidArea_fn]
  simp only []
  rw [weightedFold_eq]

/-- the loop `for _, ls := range mls` of `multiLineStringCentroid`.  The Go code skips a line when
    `d == math.Inf(1)`, which is what `lineStringCentroidDist` answers for an EMPTY line; the model skips
    exactly the empty lines (`none`).  The two agree when `inf == inf` holds and no non-empty line has the
    length `inf` (an overflowing sum is outside the model, see the head of `Orb.Planar`). -/
theorem mlsFold_eq (sqrt : α → α) (inf : α) (hinf : (inf == inf) = true) (l : List (List (Pt α)))
    (hl : ∀ ls ∈ l, ls ≠ [] → ((Generated.PlanarGo.lineStringCentroidDist sqrt inf ls).2 == inf) = false)
    (dist fx fy px py : α) (vc : Nat) :
    List.foldl (fun ((dist, flat, point, validCount) : α × Pt α × Pt α × Nat) (ls : List (Pt α)) =>
        let (c, d) := Generated.PlanarGo.lineStringCentroidDist sqrt inf ls
        if d == inf then
          (dist, flat, point, validCount)
        else
          let dist : α := dist + d
          let validCount : Nat := validCount + 1
          let flat : Pt α := ⟨flat.x + c.x, flat.y⟩
          let flat : Pt α := ⟨flat.x, flat.y + c.y⟩
          let point : Pt α := ⟨point.x + (c.x * d), point.y⟩
          let point : Pt α := ⟨point.x, point.y + (c.y * d)⟩
          (dist, flat, point, validCount)) (dist, ⟨fx, fy⟩, ⟨px, py⟩, vc) l
      = ((l.foldl (Planar.mlsStep sqrt) ⟨px, py, fx, fy, dist, vc⟩).dist,
         ⟨(l.foldl (Planar.mlsStep sqrt) ⟨px, py, fx, fy, dist, vc⟩).fx, (l.foldl (Planar.mlsStep sqrt) ⟨px, py, fx, fy, dist, vc⟩).fy⟩,
         ⟨(l.foldl (Planar.mlsStep sqrt) ⟨px, py, fx, fy, dist, vc⟩).px, (l.foldl (Planar.mlsStep sqrt) ⟨px, py, fx, fy, dist, vc⟩).py⟩,
         (l.foldl (Planar.mlsStep sqrt) ⟨px, py, fx, fy, dist, vc⟩).valid) := by
  refine List.foldl_rel (r := fun (c : α × Pt α × Pt α × Nat) (s : Planar.MLSAcc α) =>
      c = (s.dist, (⟨s.fx, s.fy⟩ : Pt α), (⟨s.px, s.py⟩ : Pt α), s.valid)) rfl fun ls hls c s e => ?_
  subst e
  cases ls with
  | nil => simp only [lineStringCentroidDist_nil, hinf, ↓reduceIte, Planar.mlsStep, Planar.lineStringCentroidDist]
  | cons o r =>
    have h1 := hl (o :: r) hls (by simp)
    simp only [Planar.mlsStep, lineStringCentroidDist_tie sqrt inf]
    generalize Generated.PlanarGo.lineStringCentroidDist sqrt inf (o :: r) = cd at h1 ⊢
    obtain ⟨c, d⟩ := cd
    simp only [] at h1
    simp only [h1, Bool.false_eq_true, ↓reduceIte]

/-- `multiLineStringCentroid`, for `inf` an element with `inf == inf` that no line length and not the
    total length equals (`math.Inf(1)` when nothing overflows) -/
theorem multiLineStringCentroid_tie (sqrt : α → α) (inf : α) (hinf : (inf == inf) = true) (mls : List (List (Pt α)))
    (hl : ∀ ls ∈ mls, ls ≠ [] → ((Generated.PlanarGo.lineStringCentroidDist sqrt inf ls).2 == inf) = false)
    (ht : ((mls.foldl (Planar.mlsStep sqrt) ⟨0, 0, 0, 0, 0, 0⟩).dist == inf) = false) :
    Generated.PlanarGo.multiLineStringCentroid sqrt inf mls = Planar.multiLineStringCentroid sqrt mls := by
  cases mls with
  | nil => rfl
  | cons l t =>
    unfold Generated.PlanarGo.multiLineStringCentroid Planar.multiLineStringCentroid
    simp only [List.length_cons, Nat.succ_ne_zero, ↓reduceIte]
    rw [mlsFold_eq sqrt inf hinf (l :: t) hl]
    simp only [ht, Bool.false_or]
    generalize List.foldl (Planar.mlsStep sqrt) ⟨0, 0, 0, 0, 0, 0⟩ (l :: t) = s
    by_cases hv : s.valid = 0
    · simp [hv]
    · simp [hv]

/-- the translator's list for package planar is exactly this: a function added to or dropped from the translation
    shows up here (the containment functions are tied in C09Tie) -/
theorem all_translated_PlanarGo : Generated.PlanarGo.translated =
    ["distance", "distanceSquared", "distanceFromSegmentSquared", "distanceFromSegment",
     "segmentDistanceFromSquared", "multiPointCentroid", "ringCentroidArea", "rayIntersect", "ringContains",
     "polygonContains", "multiPolygonContains", "lineStringCentroidDist", "multiLineStringCentroid",
     "polygonCentroidArea", "multiPolygonCentroidArea"] := rfl

theorem all_translated_LengthGo : Generated.LengthGo.translated =
    ["lineStringLength", "polygonLength", "lengthLineString", "lengthMultiLineString", "lengthRing", "lengthPolygon",
     "lengthMultiPolygon", "lengthBound"] := rfl

end Orb.C10Tie
