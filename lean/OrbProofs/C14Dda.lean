/-
  The DDA of `line()` over an ordered field with floor (exact arithmetic), one axis at a time.  With
  `P(t) = a + t (b − a)`: at `tMax` the coordinate is the grid line between the current cell and the next; from
  the parameter at which the current cell was entered up to `tMax` the point stays in the closed cell.  Then one
  iteration of the loop and its termination.
-/
import Orb.TileCover
import OrbProofs.Segment
import Mathlib.Algebra.Order.Floor.Ring
import Mathlib.Algebra.Order.Field.Basic
import Mathlib.Tactic.Ring
import Mathlib.Tactic.NormNum

namespace Orb.TileCover
open Orb Orb.Tile

/-- The float operations over an ordered field with floor: exact `floor`, `abs`, and `uint32(·)` as the
    natural-number floor (no wrap: the theorems that use it assume non-negative coordinates); the west
    edge of a column is `westEdgeOf` at the cast `ℕ → K`. -/
def opsK (K : Type) [Field K] [LinearOrder K] [FloorRing K] : Ops K :=
  ⟨fun x => ((⌊x⌋ : ℤ) : K), fun x => |x|, fun x => ⌊x⌋.toNat, westEdgeOf (fun n => (n : K))⟩

section dda
set_option linter.unusedSectionVars false
variable {K : Type} [Field K] [LinearOrder K] [IsStrictOrderedRing K] [FloorRing K]

/-- The invariant of one axis: `a`, `b` are the start/stop coordinates, `z` the current cell, `tM` the
    current `tMax`, `sg` the step and `td` the `tMax` increment. -/
def AxInv (a b : K) (z : ℤ) (tM : Option K) (sg td : K) : Prop :=
  (a < b ∧ tM = some (((z:K) + 1 - a)/(b - a)) ∧ sg = 1 ∧ td = 1/(b-a) ∧ (z:K) < b ∧ a < (z:K) + 1) ∨
  (b < a ∧ tM = some ((a - (z:K))/(a - b)) ∧ sg = -1 ∧ td = 1/(a-b) ∧ b < (z:K) + 1 ∧ (z:K) ≤ a) ∨
  (a = b ∧ tM = none ∧ (z:K) ≤ b ∧ b < (z:K) + 1)

/-- what `line()` starts one axis with: `sx`, `tMaxX`, `tdx` (resp. `sy`, `tMaxY`, `tdy`) -/
def sg0 (a b : K) : K := if 0 < b - a then 1 else -1
def tM0 (a b : K) : Option K :=
  if !(b - a == 0) then some |(((if 0 < b - a then 1 else 0) + ((⌊a⌋ : ℤ) : K)) - a) / (b - a)| else none
def td0 (a b : K) : K := |sg0 a b / (b - a)|

theorem ax_init (a b : K) : AxInv a b ⌊a⌋ (tM0 a b) (sg0 a b) (td0 a b) := by
  have hfl : ((⌊a⌋ : ℤ) : K) ≤ a := Int.floor_le a
  have hfl' : a < ((⌊a⌋ : ℤ) : K) + 1 := Int.lt_floor_add_one a
  rcases lt_trichotomy a b with hlt | heq | hgt
  · left
    have hpos : 0 < b - a := sub_pos.mpr hlt
    have hne : b - a ≠ 0 := ne_of_gt hpos
    refine ⟨hlt, ?_, ?_, ?_, lt_of_le_of_lt hfl hlt, hfl'⟩
    · have : 0 ≤ ((1 : K) + ((⌊a⌋ : ℤ) : K) - a) / (b - a) :=
        div_nonneg (sub_nonneg.2 (hfl'.le.trans_eq (add_comm _ _))) hpos.le
      rw [tM0, if_pos (show (!(b - a == 0)) = true from bne_iff_ne.2 hne), if_pos hpos, abs_of_nonneg this, add_comm (1 : K)]
    · simp [sg0, hpos]
    · have : 0 ≤ (1 : K) / (b - a) := div_nonneg zero_le_one hpos.le
      simp only [td0, sg0, hpos, if_true, abs_of_nonneg this]
  · right; right
    subst heq
    refine ⟨rfl, ?_, hfl, hfl'⟩
    simp [tM0]
  · right; left
    have hneg : b - a < 0 := sub_neg.mpr hgt
    have hnpos : ¬ (0 < b - a) := not_lt.mpr hneg.le
    have hne : b - a ≠ 0 := ne_of_lt hneg
    have hpos : 0 < a - b := sub_pos.mpr hgt
    refine ⟨hgt, ?_, ?_, ?_, lt_trans hgt hfl', hfl⟩
    · have : ((0 : K) + ((⌊a⌋ : ℤ) : K) - a) / (b - a) = (a - ((⌊a⌋ : ℤ) : K)) / (a - b) := by
        rw [← neg_div_neg_eq]; congr 1 <;> ring
      have h2 : 0 ≤ (a - ((⌊a⌋ : ℤ) : K)) / (a - b) := div_nonneg (sub_nonneg.2 hfl) hpos.le
      rw [tM0, if_pos (show (!(b - a == 0)) = true from bne_iff_ne.2 hne), if_neg hnpos, this, abs_of_nonneg h2]
    · simp [sg0, hnpos]
    · have : (-1 : K) / (b - a) = 1 / (a - b) := by
        rw [← neg_div_neg_eq]; congr 1 <;> ring
      have h2 : 0 ≤ (1 : K) / (a - b) := div_nonneg zero_le_one hpos.le
      simp only [td0, sg0, hnpos, if_false, this, abs_of_nonneg h2]

theorem ax_step {a b : K} {z : ℤ} {tM : Option K} {sg td : K} (h : AxInv a b z tM sg td)
    (hlt : ltOne tM = true) :
    ∃ z' : ℤ, (z:K) + sg = (z':K) ∧ AxInv a b z' (tM.map (· + td)) sg td ∧
      (z' = z + 1 ∨ z' = z - 1) ∧ (⌊b⌋ - z').natAbs + 1 = (⌊b⌋ - z).natAbs := by
  rcases h with ⟨hab, rfl, rfl, rfl, h1, h2⟩ | ⟨hab, rfl, rfl, rfl, h1, h2⟩ | ⟨_, rfl, _, _⟩
  · have hpos : 0 < b - a := sub_pos.mpr hab
    simp only [ltOne, decide_eq_true_eq] at hlt
    rw [div_lt_one hpos] at hlt
    have hzb : (z:K) + 1 < b := (sub_lt_sub_iff_right a).1 hlt
    have hfloor : z + 1 ≤ ⌊b⌋ := Int.le_floor.mpr (by push_cast; exact hzb.le)
    refine ⟨z + 1, by push_cast; rfl, ?_, Or.inl rfl, by omega⟩
    left
    refine ⟨hab, ?_, rfl, rfl, by push_cast; exact hzb, by push_cast; exact h2.trans (lt_add_one _)⟩
    simp only [Option.map_some]
    congr 1
    push_cast
    ring
  · have hpos : 0 < a - b := sub_pos.mpr hab
    simp only [ltOne, decide_eq_true_eq] at hlt
    rw [div_lt_one hpos] at hlt
    have hzb : b < (z:K) := (sub_lt_sub_iff_left a).1 hlt
    have hfloor : ⌊b⌋ < z := Int.floor_lt.mpr hzb
    refine ⟨z - 1, by push_cast; ring, ?_, Or.inr rfl, by omega⟩
    right; left
    refine ⟨hab, ?_, rfl, rfl, by push_cast; rw [sub_add_cancel]; exact hzb,
      by push_cast; exact (sub_one_lt _).le.trans h2⟩
    simp only [Option.map_some]
    congr 1
    push_cast
    ring
  · simp [ltOne] at hlt

theorem ax_nonneg {a b : K} {z : ℤ} {tM : Option K} {sg td : K} (h : AxInv a b z tM sg td)
    (ha : 0 ≤ a) (hb : 0 ≤ b) : 0 ≤ z := by
  have key : (0:K) < (z:K) + 1 := by
    rcases h with ⟨_, _, _, _, _, h2⟩ | ⟨_, _, _, _, h1, _⟩ | ⟨_, _, _, h2⟩
    · exact lt_of_le_of_lt ha h2
    · exact lt_of_le_of_lt hb h1
    · exact lt_of_le_of_lt hb h2
  have : ((0:ℤ):K) < ((z + 1 : ℤ) : K) := by push_cast; exact key
  have := Int.cast_lt.mp this
  omega

theorem natCast_toNat {z : ℤ} (hz : 0 ≤ z) : ((z.toNat : ℕ) : K) = (z : K) := by
  rw [← Int.cast_natCast, Int.toNat_of_nonneg hz]

/-- `t ≤ tM` with `none = +Inf` -/
def LeOpt (t : K) : Option K → Prop
  | none => True
  | some m => t ≤ m

theorem leOpt_of_not_ltOne {tM : Option K} (h : ltOne tM = false) {t : K} (ht : t ≤ 1) :
    LeOpt t tM := by
  cases tM with
  | none => trivial
  | some m =>
    simp only [ltOne, decide_eq_false_iff_not, not_lt] at h
    exact le_trans ht h

/-- `P(t)` (one coordinate) lies in the closed cell `[z, z+1]` -/
def InCl (a b : K) (z : ℤ) (t : K) : Prop :=
  (z:K) ≤ a + t * (b - a) ∧ a + t * (b - a) ≤ (z:K) + 1

/-- At `tM = some m` the coordinate is a grid line: the far edge of the cell `[z, z+1]` in the direction of
    travel `sg` (`z + 1` going up, `z` going down). -/
theorem ax_hit {a b : K} {z : ℤ} {m sg td : K} (h : AxInv a b z (some m) sg td) :
    a + m * (b - a) = (z:K) + (1 + sg) / 2 ∧ (sg = 1 ∨ sg = -1) ∧ 0 ≤ td := by
  rcases h with ⟨hab, hm, rfl, rfl, -, -⟩ | ⟨hab, hm, rfl, rfl, -, -⟩ | ⟨-, hm, -, -⟩
  · have hd : b - a ≠ 0 := (sub_pos.mpr hab).ne'
    refine ⟨?_, .inl rfl, div_nonneg zero_le_one (sub_pos.mpr hab).le⟩
    rw [Option.some.inj hm, div_mul_cancel₀ _ hd]; ring
  · have hd : a - b ≠ 0 := (sub_pos.mpr hab).ne'
    refine ⟨?_, .inr rfl, div_nonneg zero_le_one (sub_pos.mpr hab).le⟩
    rw [Option.some.inj hm, ← neg_sub a b, mul_neg, div_mul_cancel₀ _ hd]; ring
  · cases hm

theorem ax_mid {a b : K} {z : ℤ} {tM : Option K} {sg td τ t : K} (h : AxInv a b z tM sg td)
    (hτ : InCl a b z τ) (hτt : τ ≤ t) (ht : LeOpt t tM) : InCl a b z t := by
  cases tM with
  | some m =>
    obtain ⟨hP, hs, -⟩ := ax_hit h
    have ⟨g1, g2⟩ : (z:K) ≤ (z:K) + (1 + sg) / 2 ∧ (z:K) + (1 + sg) / 2 ≤ (z:K) + 1 := by
      rcases hs with rfl | rfl <;> norm_num
    exact affine_between hτt ht hτ.1 hτ.2 (hP ▸ g1) (hP ▸ g2)
  | none =>
    obtain ⟨-, ⟨⟩, -⟩ | ⟨-, ⟨⟩, -⟩ | ⟨rfl, -⟩ := h
    simpa only [InCl, sub_self, mul_zero] using hτ

theorem ax_edge {a b : K} {z z' : ℤ} {m sg td : K} (h : AxInv a b z (some m) sg td)
    (hz' : (z:K) + sg = (z':K)) : InCl a b z' m ∧ 0 ≤ td := by
  obtain ⟨hP, hs, htd⟩ := ax_hit h
  refine ⟨?_, htd⟩
  rw [InCl, hP, ← hz']
  rcases hs with rfl | rfl <;> norm_num

theorem ax_tM_nonneg {a b : K} {z : ℤ} {tM : Option K} {sg td : K} (h : AxInv a b z tM sg td) :
    LeOpt 0 tM := by
  rcases h with ⟨hab, rfl, -, -, -, h2⟩ | ⟨hab, rfl, -, -, -, h2⟩ | ⟨-, rfl, -, -⟩
  · exact div_nonneg (sub_pos.2 h2).le (sub_pos.mpr hab).le
  · exact div_nonneg (sub_nonneg.2 h2) (sub_pos.mpr hab).le
  · trivial

theorem inCl_floor (a b : K) : InCl a b ⌊a⌋ 0 := by
  rw [InCl, zero_mul, add_zero]
  exact ⟨Int.floor_le a, (Int.lt_floor_add_one a).le⟩

theorem segment_eq (zoom fuel : Nat) (s : LState K) (a b : Pt K) :
    segment (opsK K) zoom fuel s a b =
      if (b.y - a.y == 0 && b.x - a.x == 0) then some s else
        walk (opsK K) zoom (sg0 a.x b.x) (sg0 a.y b.y) (td0 a.x b.x) (td0 a.y b.y) fuel
          (tM0 a.x b.x) (tM0 a.y b.y)
          (if !(((⌊a.x⌋ : ℤ) : K) == s.prevX) || !(((⌊a.y⌋ : ℤ) : K) == s.prevY) then
            LState.emit (opsK K) zoom { s with x := ((⌊a.x⌋ : ℤ) : K), y := ((⌊a.y⌋ : ℤ) : K) }
           else { s with x := ((⌊a.x⌋ : ℤ) : K), y := ((⌊a.y⌋ : ℤ) : K) }) := rfl

theorem degenerate_iff (a b : Pt K) : (b.y - a.y == 0 && b.x - a.x == 0) = true ↔ a = b := by
  simp only [Bool.and_eq_true, beq_iff_eq, sub_eq_zero]
  constructor
  · rintro ⟨h1, h2⟩; cases a; cases b; simp_all
  · rintro rfl; exact ⟨rfl, rfl⟩

theorem emit_x (zoom : Nat) (s : LState K) : (LState.emit (opsK K) zoom s).x = s.x := rfl
theorem emit_y (zoom : Nat) (s : LState K) : (LState.emit (opsK K) zoom s).y = s.y := rfl
theorem emit_set (zoom : Nat) (s : LState K) :
    (LState.emit (opsK K) zoom s).set = ⟨⌊s.x⌋.toNat, ⌊s.y⌋.toNat, zoom⟩ :: s.set := rfl

theorem emit_prevX (zoom : Nat) (s : LState K) : (LState.emit (opsK K) zoom s).prevX = s.x := rfl
theorem emit_prevY (zoom : Nat) (s : LState K) : (LState.emit (opsK K) zoom s).prevY = s.y := rfl

theorem emit_ring (zoom : Nat) (s : LState K) :
    (LState.emit (opsK K) zoom s).ring =
      s.ring.map (fun r => if s.y = s.prevY then r else r ++ [(⌊s.x⌋.toNat, ⌊s.y⌋.toNat)]) := by
  unfold LState.emit
  cases hr : s.ring with
  | none => simp
  | some r =>
    by_cases h : s.y = s.prevY
    · simp [h]
    · simp [h, opsK]

theorem step_axis {tX tY : Option K} (h : (ltOne tX || ltOne tY) = true) :
    (ltInf tX tY = true ∧ ∃ m, tX = some m ∧ m < 1 ∧ LeOpt m tY) ∨
      (ltInf tX tY = false ∧ ∃ m, tY = some m ∧ m < 1 ∧ LeOpt m tX) := by
  rcases tX with _ | x <;> rcases tY with _ | y <;>
    simp only [ltOne, Bool.or_eq_true, decide_eq_true_eq, Bool.or_false, Bool.false_or, reduceCtorEq] at h
  · exact .inr ⟨rfl, y, rfl, h, trivial⟩
  · exact .inl ⟨rfl, x, rfl, h, trivial⟩
  · by_cases hxy : x < y
    · exact .inl ⟨decide_eq_true hxy, x, rfl, h.elim id hxy.trans, hxy.le⟩
    · exact .inr ⟨decide_eq_false hxy, y, rfl, h.elim (not_lt.1 hxy).trans_lt id, not_lt.1 hxy⟩

/-- One iteration of the loop: it is over, or it moves to the neighbour cell along `x`, or along `y`; `m` is
    the parameter at which the segment leaves the current cell. -/
theorem walk_cases (zoom : Nat) {ax bx ay by_ sx sy tdx tdy : K} {tMX tMY : Option K} (s : LState K)
    {z w : ℤ} (hx : AxInv ax bx z tMX sx tdx) (hy : AxInv ay by_ w tMY sy tdy) :
    (ltOne tMX = false ∧ ltOne tMY = false ∧
      ∀ fuel, walk (opsK K) zoom sx sy tdx tdy fuel tMX tMY s = some s) ∨
    (∃ (m : K) (z' : ℤ), tMX = some m ∧ m < 1 ∧ LeOpt m tMY ∧ (z : K) + sx = z' ∧
      AxInv ax bx z' (some (m + tdx)) sx tdx ∧ (z' = z + 1 ∨ z' = z - 1) ∧
      (⌊bx⌋ - z').natAbs + 1 = (⌊bx⌋ - z).natAbs ∧
      walk (opsK K) zoom sx sy tdx tdy 0 tMX tMY s = none ∧
      ∀ n, walk (opsK K) zoom sx sy tdx tdy (n + 1) tMX tMY s =
        walk (opsK K) zoom sx sy tdx tdy n (some (m + tdx)) tMY
          (LState.emit (opsK K) zoom { s with x := s.x + sx })) ∨
    (∃ (m : K) (w' : ℤ), tMY = some m ∧ m < 1 ∧ LeOpt m tMX ∧ (w : K) + sy = w' ∧
      AxInv ay by_ w' (some (m + tdy)) sy tdy ∧ (w' = w + 1 ∨ w' = w - 1) ∧
      (⌊by_⌋ - w').natAbs + 1 = (⌊by_⌋ - w).natAbs ∧
      walk (opsK K) zoom sx sy tdx tdy 0 tMX tMY s = none ∧
      ∀ n, walk (opsK K) zoom sx sy tdx tdy (n + 1) tMX tMY s =
        walk (opsK K) zoom sx sy tdx tdy n tMX (some (m + tdy))
          (LState.emit (opsK K) zoom { s with y := s.y + sy })) := by
  by_cases hc : (ltOne tMX || ltOne tMY) = true
  · rcases step_axis hc with ⟨hl, m, rfl, hm1, hmY⟩ | ⟨hl, m, rfl, hm1, hmX⟩
    · obtain ⟨z', hz', hinv, hstep, hd⟩ := ax_step hx (decide_eq_true hm1)
      refine Or.inr (Or.inl ⟨m, z', rfl, hm1, hmY, hz', hinv, hstep, hd, ?_, fun n => ?_⟩)
      · rw [walk, if_pos hc]
      · rw [walk, if_pos hc, if_pos hl]; rfl
    · obtain ⟨w', hw', hinv, hstep, hd⟩ := ax_step hy (decide_eq_true hm1)
      refine Or.inr (Or.inr ⟨m, w', rfl, hm1, hmX, hw', hinv, hstep, hd, ?_, fun n => ?_⟩)
      · rw [walk, if_pos hc]
      · rw [walk, if_pos hc, if_neg (Bool.eq_false_iff.1 hl)]; rfl
  · refine Or.inl ⟨?_, ?_, fun fuel => ?_⟩
    · cases h : ltOne tMX <;> simp [h] at hc ⊢
    · cases h : ltOne tMY <;> simp [h] at hc ⊢
    · cases fuel <;> rw [walk, if_neg hc]

theorem walk_term (zoom : Nat) (ax bx ay by_ sx sy tdx tdy : K) :
    ∀ (fuel : Nat) (tMX tMY : Option K) (s : LState K) (z w : ℤ),
      AxInv ax bx z tMX sx tdx → AxInv ay by_ w tMY sy tdy →
      (⌊bx⌋ - z).natAbs + (⌊by_⌋ - w).natAbs ≤ fuel →
      (walk (opsK K) zoom sx sy tdx tdy fuel tMX tMY s).isSome = true := by
  intro fuel
  induction fuel with
  | zero =>
    intro tMX tMY s z w hx hy hm
    rcases walk_cases zoom s hx hy with
      ⟨-, -, hw⟩ | ⟨_, _, -, -, -, -, -, -, hd, -⟩ | ⟨_, _, -, -, -, -, -, -, hd, -⟩
    · rw [hw]; rfl
    · omega
    · omega
  | succ n ih =>
    intro tMX tMY s z w hx hy hm
    rcases walk_cases zoom s hx hy with
      ⟨-, -, hw⟩ | ⟨m, z', rfl, -, -, -, hinv, -, hd, -, hw⟩ | ⟨m, w', rfl, -, -, -, hinv, -, hd, -, hw⟩
    · rw [hw]; rfl
    · rw [hw]; exact ih _ _ _ z' w hinv hy (by omega)
    · rw [hw]; exact ih _ _ _ z w' hx hinv (by omega)

/-- the `+ 2` is slack: the loop needs the tile distance of the end points (`walk_term`) -/
theorem segment_terminates (zoom fuel : Nat) (a b : Pt K) (s : LState K)
    (hf : (⌊b.x⌋ - ⌊a.x⌋).natAbs + (⌊b.y⌋ - ⌊a.y⌋).natAbs + 2 ≤ fuel) :
    (segment (opsK K) zoom fuel s a b).isSome = true := by
  rw [segment_eq]
  split
  · rfl
  · exact walk_term zoom a.x b.x a.y b.y _ _ _ _ fuel _ _ _ ⌊a.x⌋ ⌊a.y⌋
      (ax_init a.x b.x) (ax_init a.y b.y) (by omega)

end dda
end Orb.TileCover
