/-
  C08 — region equality for Sutherland–Hodgman ring clipping (`Orb.Clip.ring`, clip/clip.go `ring`) against the exact
  even-odd specification `Orb.EvenOdd` (the spec C09 refines to), over a linearly ordered field.  One half-plane pass over
  an implicitly closed vertex cycle keeps, at EVERY point strictly on the kept side, the parity of the crossings of the
  spec's upward ray and the flag "on the boundary": no general-position hypothesis on the point, no change of ray
  direction.  The four passes and the re-closing give the same at every point of the open box.

  OUT OF SCOPE: an OPEN input (first ≠ last vertex) — `sh_region_full` asks for `ClosedRing`; Go's `ring` then runs
  its passes with `prev = first vertex` and does not clip the implicitly closed polygon.
-/
import OrbProofs.C08RegionPass
import OrbProofs.C08Ring

namespace Orb.Clip.C08R
open Orb Orb.EvenOdd Orb.Contains Orb.Clip Orb.Clip.C08
open Orb.Core

set_option linter.unusedSectionVars false

variable {α : Type} [Field α] [LinearOrder α] [IsStrictOrderedRing α]

/-- `q` is strictly on the kept side of the clip line of edge code `e` -/
def KeptSide (box : Bound α) (e : Nat) (q : Pt α) : Prop :=
  (e = 1 → box.lo.x < q.x) ∧ (e = 2 → q.x < box.hi.x) ∧ (e = 4 → box.lo.y < q.y) ∧ (e = 8 → q.y < box.hi.y)

/-- crossing parity and boundary flag of the two rings agree at `q` -/
def SameRegion (out inp : List (Pt α)) (q : Pt α) : Prop :=
  crossings out q % 2 = crossings inp q % 2 ∧ onBoundary out q = onBoundary inp q

theorem SameRegion.inside {out inp : List (Pt α)} {q : Pt α} (h : SameRegion out inp q) :
    EvenOdd.inside out q = EvenOdd.inside inp q := by
  unfold EvenOdd.inside; rw [h.1, h.2]

theorem SameRegion.refl (l : List (Pt α)) (q : Pt α) : SameRegion l l q := ⟨rfl, rfl⟩

theorem SameRegion.trans {a b c : List (Pt α)} {q : Pt α} (h1 : SameRegion a b q) (h2 : SameRegion b c q) :
    SameRegion a c q := ⟨h1.1.trans h2.1, h1.2.trans h2.2⟩

/-- the potential whose coboundary is the crossing indicator on the discarded side of edge `k`: only the
    discarded side of the top edge can be reached by the upward ray -/
def gK (k : Nat) (q w : Pt α) : Bool := if k = 8 then decide (w.x ≤ q.x) else false

theorem beyond_edge (box : Bound α) {k : Nat} (hk : Edge k) (q : Pt α) (hq : exc box k q < 0) (s e : Pt α)
    (hs : 0 ≤ exc box k s) (he : 0 ≤ exc box k e) :
    onSeg s e q = false ∧ crossesAbove s e q = (gK k q s != gK k q e) := by
  rcases hk with rfl | rfl | rfl | rfl
  · exact edge_below s e q ((sub_neg.1 hq).trans_le (sub_nonneg.1 hs)) ((sub_neg.1 hq).trans_le (sub_nonneg.1 he))
  · exact edge_above s e q ((sub_nonneg.1 hs).trans_lt (sub_neg.1 hq)) ((sub_nonneg.1 he).trans_lt (sub_neg.1 hq))
  · exact edge_left s e q ((sub_neg.1 hq).trans_le (sub_nonneg.1 hs)) ((sub_neg.1 hq).trans_le (sub_nonneg.1 he))
  · exact edge_right s e q ((sub_nonneg.1 hs).trans_lt (sub_neg.1 hq)) ((sub_nonneg.1 he).trans_lt (sub_neg.1 hq))

theorem regHyp_K (box : Bound α) {k : Nat} (hk : Edge k) (q : Pt α) (hq : exc box k q < 0) :
    RegHyp (insK box k) (Orb.Clip.cross box k) (fun v => 0 ≤ exc box k v) (gK k q) q where
  out := fun _ hp => (insK_false.1 hp).le
  ixR := fun a b hne => (cross_onSeg box hk a b (insK_ne hne)).2.ge
  ixseg := fun a b hne => (cross_onSeg box hk a b (insK_ne hne)).1
  cr := fun s e hs he => (beyond_edge box hk q hq s e hs he).2
  on := fun s e hs he => (beyond_edge box hk q hq s e hs he).1

/-- stated with `cross box k`, as `ringPass_eq` and `rpass_eq` deliver the pass; `passes` has `ixB box k`, which is
    `cross box k` for an edge (`ixB_eq_cross`) -/
theorem passC_sameRegion (box : Bound α) (hb : BoxOK box) {k : Nat} (hk : Edge k) (l : List (Pt α)) (q : Pt α)
    (hq : exc box k q < 0) : SameRegion (passC (insB box k) (Orb.Clip.cross box k) true l) l q := by
  rw [show insB box k = insK box k from insK_eq_bit box hb hk]
  obtain ⟨h1, h2⟩ := pass_cyc_region (regHyp_K box hk q hq) l
  exact ⟨parity_inj h1, h2⟩

/-- `pass_region`, `pass_region_inside`, `rpass_region` name the edge by its code (`e = 1 ∨ e = 2 ∨ e = 4 ∨ e = 8`: `Edge e`
    read backwards) and the side by `KeptSide`; the proofs use `Edge e` and `exc box e q < 0` -/
theorem keptSide_exc {box : Bound α} {e : Nat} (he : e = 1 ∨ e = 2 ∨ e = 4 ∨ e = 8) {q : Pt α}
    (hq : KeptSide box e q) : Edge e ∧ exc box e q < 0 := by
  rcases he with rfl | rfl | rfl | rfl
  · exact ⟨Edge.left, sub_neg.2 (hq.1 rfl)⟩
  · exact ⟨Edge.right, sub_neg.2 (hq.2.1 rfl)⟩
  · exact ⟨Edge.bottom, sub_neg.2 (hq.2.2.1 rfl)⟩
  · exact ⟨Edge.top, sub_neg.2 (hq.2.2.2 rfl)⟩

/-- C08, one pass: one of the four loops of clip.go `ring` (the pass for edge code `e`, started at the last vertex)
    changes neither the crossing parity nor the boundary membership at any point strictly on the kept side of that edge. -/
theorem pass_region (box : Bound α) (hb : BoxOK box) (e : Nat) (he : e = 1 ∨ e = 2 ∨ e = 4 ∨ e = 8)
    (inp out : List (Pt α)) (q : Pt α) (h : ringPass box e true inp = some out) (hq : KeptSide box e q) :
    crossings out q % 2 = crossings inp q % 2 ∧ onBoundary out q = onBoundary inp q := by
  obtain ⟨hk, hq⟩ := keptSide_exc he hq
  obtain rfl := Option.some.inj ((ringPass_eq box e _ (intersect_cross box hk) true inp).symm.trans h)
  exact passC_sameRegion box hb hk inp q hq

theorem pass_region_inside (box : Bound α) (hb : BoxOK box) (e : Nat) (he : e = 1 ∨ e = 2 ∨ e = 4 ∨ e = 8)
    (inp out : List (Pt α)) (q : Pt α) (h : ringPass box e true inp = some out) (hq : KeptSide box e q) :
    EvenOdd.inside out q = EvenOdd.inside inp q :=
  SameRegion.inside (pass_region box hb e he inp out q h hq)

/-- `pass_region` for `rpass`, the local `pass` of `ring` under a name (C08Ring) -/
theorem rpass_region (box : Bound α) (hb : BoxOK box) (e : Nat) (he : e = 1 ∨ e = 2 ∨ e = 4 ∨ e = 8)
    (l l' : List (Pt α)) (q : Pt α) (h : rpass box true e (some l) = some l') (hq : KeptSide box e q) :
    SameRegion l' l q := by
  obtain ⟨hk, hq⟩ := keptSide_exc he hq
  obtain rfl := Option.some.inj ((rpass_eq box true hk l).symm.trans h)
  exact passC_sameRegion box hb hk l q hq

/-- the same statement as `lastD'_concat` of `EdgeList` -/
theorem lastD'_snoc (w : Pt α) (l : List (Pt α)) (v : Pt α) : lastD' w (l ++ [v]) = v :=
  lastD'_concat w l v

/-- explicitly closing a cycle adds one zero-length edge: nothing changes -/
theorem close_region (v : Pt α) (t : List (Pt α)) (q : Pt α) : SameRegion (v :: t ++ [v]) (v :: t) q := by
  have hp := edges_close_perm v t
  constructor
  · unfold crossings
    rw [hp.countP_eq, List.countP_cons, crossesAbove_self]; rfl
  · unfold onBoundary
    rw [hp.any_eq, List.any_cons]
    cases ho : onSeg v v q with
    | false => rfl
    | true =>
      -- then `q = v`, which is the end of the closing edge of `v :: t`
      obtain rfl := onSeg_self v q ho
      rw [edges_cons, List.any_cons, onSeg_self_right]; rfl

theorem closeL_region (l : List (Pt α)) (q : Pt α) : SameRegion (closeL true l) l q := by
  rcases closeL_cases true l with ⟨e, -⟩ | ⟨f, t, -, rfl, e⟩ <;> rw [e]
  · exact SameRegion.refl _ _
  · exact close_region f t q

theorem rclose_region (l out : List (Pt α)) (q : Pt α) (h : rclose true (some l) = some out) :
    SameRegion out l q := by
  obtain rfl := Option.some.inj ((rclose_eq true l).symm.trans h)
  exact closeL_region l q

/-- SUTHERLAND–HODGMAN PRESERVES THE EVEN-ODD REGION INSIDE THE BOX, strong form: crossing parity,
    boundary flag and `inside` agree at EVERY point of the open box. -/
theorem sh_region_strong (box : Bound α) (inp out : List (Pt α)) (q : Pt α) (hb : BoxOK box)
    (hc : ClosedRing inp) (h : ring box inp = some out) (hq : InOpenBox box q) :
    crossings out q % 2 = crossings inp q % 2 ∧ onBoundary out q = onBoundary inp q ∧
      EvenOdd.inside out q = EvenOdd.inside inp q := by
  obtain rfl := Option.some.inj ((ring_eq box inp).symm.trans h)
  have R : SameRegion (ringL box inp) inp q := by
    rw [ringL, closedB_of_closed hc.1 hc.2]
    exact (closeL_region _ q).trans (passes_ind box true inp (fun _ l => SameRegion l inp q) (SameRegion.refl _ _)
      fun k hk l hl => (ixB_eq_cross box hk ▸ passC_sameRegion box hb hk l q (inOpenBox_iff.1 hq k hk)).trans hl)
  exact ⟨R.1, R.2, R.inside⟩

/-- the statement of OrbProofs/C08Ring.lean (`sh_region_full`) for the closed even-odd region of
    `Orb.EvenOdd` (boundary or odd crossing number); its hypothesis that `q` is on no segment of the input is not used. -/
theorem sh_region : sh_region_full (α := α) (fun r q => EvenOdd.inside r q = true) := by
  intro box inp out q hb hc h hq _
  show EvenOdd.inside out q = true ↔ EvenOdd.inside inp q = true
  rw [(sh_region_strong box inp out q hb hc h hq).2.2]

/-- `sh_region_full` for the pure crossing-parity predicate ("inside without boundary"). -/
theorem sh_region_crossings : sh_region_full (α := α) (fun r q => crossings r q % 2 = 1) := by
  intro box inp out q hb hc h hq _
  show crossings out q % 2 = 1 ↔ crossings inp q % 2 = 1
  rw [(sh_region_strong box inp out q hb hc h hq).1]

theorem onE_false_of_segs (E : List (Pt α × Pt α)) (q : Pt α) (h : ∀ s ∈ E, ¬ OnSeg s.1 s.2 q) : onE E q = false := by
  unfold onE
  rw [List.any_eq_false]
  intro s hs ho
  exact h s hs (OnSeg_of_onSeg ho)

/-- `chain_eq_segsOf` of C07Seg read from right to left -/
theorem segsOf_eq_chain (l : List (Pt α)) : segsOf l = chain l :=
  (chain_eq_segsOf l).symm

/-- a point on no segment of an explicitly closed ring is not on the spec's boundary of that ring
    (the only ring with no segment at all is a single vertex `[v]`; the hypothesis then says nothing,
    and `q = v` is on the boundary: hence the side condition `2 ≤ length`) -/
theorem offchain_onBoundary (inp : List (Pt α)) (q : Pt α) (hc : ClosedRing inp) (h2 : 2 ≤ inp.length)
    (h : ∀ a b, (a, b) ∈ segsOf inp → ¬ OnSeg a b q) : onBoundary inp q = false := by
  obtain ⟨hn, hhl⟩ := hc
  match inp, h2 with
  | f :: b :: t, _ =>
    have hz : lastD' f (b :: t) = f := by
      rw [← getLast?_getD_eq, ← hhl]; rfl
    rw [onBoundary_eq, edges_cons, hz, onE_cons]
    have h0 : onE (chain (f :: b :: t)) q = false := by
      apply onE_false_of_segs
      rintro ⟨a, c⟩ hs
      exact h a c (by rw [segsOf_eq_chain]; exact hs)
    rw [h0, Bool.or_false, ← Bool.not_eq_true]
    intro ho
    have := onSeg_self f q ho
    subst this
    exact h q b (by simp [segsOf]) (onSeg_left q b)

/-- under exactly the hypotheses of `sh_region_full`, with at least one segment in the input: `q` is
    on neither boundary and the crossing parities agree — `inside` is the crossing parity on both sides. -/
theorem sh_region_offchain (box : Bound α) (inp out : List (Pt α)) (q : Pt α) (hb : BoxOK box)
    (hc : ClosedRing inp) (h2 : 2 ≤ inp.length) (h : ring box inp = some out) (hq : InOpenBox box q)
    (hoff : ∀ a b, (a, b) ∈ segsOf inp → ¬ OnSeg a b q) :
    onBoundary inp q = false ∧ onBoundary out q = false ∧ crossings out q % 2 = crossings inp q % 2 ∧
      EvenOdd.inside inp q = (crossings inp q % 2 == 1) ∧ EvenOdd.inside out q = (crossings out q % 2 == 1) := by
  obtain ⟨h1, h2', -⟩ := sh_region_strong box inp out q hb hc h hq
  have hi := offchain_onBoundary inp q hc h2 hoff
  have ho : onBoundary out q = false := h2'.trans hi
  refine ⟨hi, ho, h1, ?_, ?_⟩
  · unfold EvenOdd.inside; rw [hi, Bool.false_or]
  · unfold EvenOdd.inside; rw [ho, Bool.false_or]

/-- no segment of the clipped ring passes through a point of the open box that is off the input ring
    (in the parametric `OnSeg` of the clipping proofs) -/
theorem sh_out_offchain (box : Bound α) (inp out : List (Pt α)) (q : Pt α) (hb : BoxOK box)
    (hc : ClosedRing inp) (h2 : 2 ≤ inp.length) (h : ring box inp = some out) (hq : InOpenBox box q)
    (hoff : ∀ a b, (a, b) ∈ segsOf inp → ¬ OnSeg a b q) :
    ∀ a b, (a, b) ∈ segsOf out → ¬ OnSeg a b q := by
  intro a b hab hs
  have ho := (sh_region_offchain box inp out q hb hc h2 h hq hoff).2.1
  rw [onBoundary_eq] at ho
  unfold onE at ho
  rw [List.any_eq_false] at ho
  cases out with
  | nil => simp [segsOf] at hab
  | cons v t =>
    refine ho (a, b) ?_ (onSeg_of_OnSeg hs)
    rw [edges_cons]
    exact List.mem_cons_of_mem _ (by rw [← segsOf_eq_chain]; exact hab)

end Orb.Clip.C08R
