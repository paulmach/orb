/-
  C19 — Concurrent quadtree queries are race-free and see a consistent tree.

  (1) Facts regenerated from the Go source on every run (`Generated/Writes.lean`: factgen type-checks
      package quadtree and runs a whole-package, field-based points-to analysis).  `no_shared_writes`
      is the obligation "every write root on a query path is per-call allocated";
      `write_roots_initialised_per_call` re-derives it inside Lean from the initialisation tables
      instead of from factgen's class column.
      NOT established: that factgen's extraction (call reachability, the points-to rules, code outside
      the package taken as opaque) is right — that is trusted; the kernel checks the tables, not the
      extractor.

  (2) The interleaving model `Orb.Conc`.
      * `schedule_independent`, `concurrent_answers_eq_sequential` are about `Conc.step`, whose TYPE
        forbids writing the tree: "a read-only step commutes with everybody else's".  No change of the
        Go code can make them fail; by themselves they say nothing about orb.
      * `schedule_independent_W`, `same_as_alone` are about `Conc.stepW`, where a step may write the
        shared structure; the frame condition `FrameOn` is a hypothesis, and
        `frame_condition_is_needed` shows the conclusion is false without it.
      * `queries_frame_from_facts`, `queries_schedule_independent` discharge that hypothesis from the
        regenerated table for the abstract query machine of `Orb.Conc`: a query is any sequence of
        write instructions each of which is a row of the table, landing in private or shared memory
        according to the row's classes; steps interleave per instruction.  If a row stops being
        harmless, `no_shared_writes` fails and with it these.
      NOT established: that the real program IS such a machine — that a goroutine's private memory is
      unreachable for other goroutines is what the classes of (1) claim, syntactically; the Go memory
      model is not formalised.  Data-race freedom on the real code is observed with the race detector
      (harness/c19.go), not proved.
-/
import OrbProofs.C19Lemmas
import Generated.Writes

namespace Orb.C19
open Generated.Writes Orb.Conc

/-- memory another goroutine cannot reach: a local, memory allocated during the call, or the
    caller-supplied RESULT BUFFER (class `caller-buf`, per goroutine by the documented contract).
    Every other reference a caller hands in (class `caller-arg`: the limits slice behind
    `maxDistance...`, the filter, a pointer) is NOT in this list: concurrent callers may share it. -/
def harmlessRoot (r : String) : Bool := r == "local" || r == "percall" || r == "caller-buf"

def rootsOK (rs : List String) : Bool := rs.all harmlessRoot

theorem rootsOK_no_callerArg {rs : List String} (h : rootsOK rs = true) : rs.contains "caller-arg" = false := by
  rw [Bool.eq_false_iff]
  intro hc
  have := List.all_eq_true.mp h _ (List.contains_iff_mem.mp hc)
  revert this; decide

/-- a write is harmless for other goroutines: it is not a channel send or a `go` statement, the
    analysis found what it may designate (a non-empty class list), and every class is harmless -/
def harmless (w : W) : Bool :=
  w.kind != "send" && w.kind != "go" && !w.roots.isEmpty && rootsOK w.roots

/-- EVERY WRITE ROOT ON A QUERY PATH IS PER-CALL ALLOCATED: no function reachable from the
    read-only query methods writes to (or hands out as a copy/append/sort/… destination) memory of
    the tree, package-level state, or memory of unknown origin. -/
theorem no_shared_writes : writes.all harmless = true := by decide +kernel

/-- No write on the query path can land in an argument of the caller other than the result buffer:
    the distance limit, the filter and the pointers handed in are read, never written — the limit
    is a value (`Orb.Quadtree.kNearestCall_limits_unchanged` is the model's side of this).  Follows from
    `no_shared_writes` for any table, `caller-arg` not being a harmless class. -/
theorem caller_arguments_read_only : writes.all (fun w => !w.roots.contains "caller-arg") = true := by
  refine List.all_eq_true.mpr fun w hw => ?_
  have h := List.all_eq_true.mp no_shared_writes w hw
  simp only [harmless, Bool.and_eq_true] at h
  rw [rootsOK_no_callerArg h.2]; rfl

/-- The parameters factgen classified as result buffers are exactly the documented ones. -/
theorem result_buffers_documented :
    resultBuffers = [("Quadtree.InBound", "buf"), ("Quadtree.InBoundMatching", "buf"),
      ("Quadtree.KNearest", "buf"), ("Quadtree.KNearestMatching", "buf")] := rfl

/-- every store to field `f` anywhere in the package puts per-call memory / the result buffer there -/
def fieldOK (f : String) : Bool := fieldInits.all fun fi => fi.field != f || rootsOK fi.roots

/-- every binding of variable `v` of function `fn` (definition, assignment, call site, entry point)
    gives it per-call / caller memory (or no reference at all) -/
def varOK (fn v : String) : Bool := bindings.all fun b => !(b.fn == fn && b.var == v) || rootsOK b.roots

/-- does the write dereference the variable its path starts from?  (a plain `x = …`, `x++` does not) -/
def throughRootVar (w : W) : Bool :=
  !((w.kind == "assign" || w.kind == "incdec" || w.kind == "range") && w.lhs == w.rootVar)

/-- The same obligation, derived in Lean from the INITIALISATION tables: whatever a write path
    dereferences — the reference fields on the way and the variable it starts from — was initialised
    per call (make / composite literal / address of a local / caller's buffer), at every place the
    package stores to that field or binds that variable. -/
theorem write_roots_initialised_per_call :
    writes.all (fun w => w.via.all fieldOK && (!throughRootVar w || varOK w.fn w.rootVar)) = true := by decide +kernel

/-- the struct types whose instances are the per-call search state -/
def perCallTypes : List String := ["findVisitor", "nearestVisitor", "inBoundVisitor", "visit", "heapItem"]

/-- fields of per-call objects that hold READ-ONLY references to tree-owned memory: the node found so
    far, and the stored pointers collected in the heap -/
def treeRefFields : List String := ["findVisitor.closest", "heapItem.point"]

/-- what a field of a per-call object may HOLD: harmless memory, or an argument of the caller (the
    filter function is kept in the visitor and called; holding a reference is not writing — that no
    write goes through such a field is `write_roots_initialised_per_call`, whose `fieldOK` is strict) -/
def heldOK (rs : List String) : Bool := rs.all fun r => harmlessRoot r || r == "caller-arg"

/-- Every slice / pointer / function field of a per-call visitor, visit or heap item is initialised
    from per-call or caller memory wherever the package stores to it — except the two read-only
    references into the tree. -/
theorem per_call_fields_initialised_per_call :
    fieldInits.all (fun fi => !perCallTypes.contains fi.owner || treeRefFields.contains fi.field || heldOK fi.roots) = true := by
  decide +kernel

/-- … and a field that may hold an argument of the caller is never dereferenced by a write: by
    `write_roots_initialised_per_call` every field a write goes through is `fieldOK`, which is strict. -/
theorem caller_arg_fields_never_written_through :
    writes.all (fun w => w.via.all fun f => fieldInits.all fun fi => fi.field != f || !fi.roots.contains "caller-arg") = true := by
  refine List.all_eq_true.mpr fun w hw => List.all_eq_true.mpr fun f hf => List.all_eq_true.mpr fun fi hfi => ?_
  have h := List.all_eq_true.mp write_roots_initialised_per_call w hw
  simp only [Bool.and_eq_true] at h
  rcases Bool.or_eq_true _ _ |>.mp (List.all_eq_true.mp (List.all_eq_true.mp h.1 f hf) fi hfi) with h3 | h3
  · rw [h3]; rfl
  · rw [rootsOK_no_callerArg h3]; simp

/-- … and no write on the query path goes through one of those two references. -/
theorem tree_refs_never_written_through :
    writes.all (fun w => w.via.all fun f => !treeRefFields.contains f) = true := by decide +kernel

/-- Every `closestBound` / `bound` pointer is the address of a per-call local
    (`b := q.bound; closestBound: &b`), never of the tree's own bound. -/
theorem bound_pointers_local :
    boundInits.all (fun b => b.kind == "local-copy-of-q.bound" || b.kind == "local") = true := by decide +kernel

/-- The query path touches no package-level variable (no shared free lists, caches or counters). -/
theorem no_package_state : globalsUsed = [] := rfl

/-- The only code outside the package that the query path hands tree memory to is the caller's own:
    the filter function and `Pointer.Point` of the stored values. -/
theorem only_documented_callbacks :
    callbacks.all (fun c => c.2.1 == "v.filter" || c.2.1 == "n.Value.Point") = true := by decide +kernel

/-- The three visitor constructions are still there, every query function was found, and package
    quadtree type-checked without error (the analysis saw every expression typed).  The lower bounds here
    and in the example at the end (`≥ 15` reachable functions, `≥ 30` writes) guard against a regenerated
    table that is empty or truncated. -/
theorem query_path_resolved :
    boundInits.length = 3 ∧ missingFuncs = [] ∧ reachable.length ≥ 15 ∧ typeErrors = [] := by decide

theorem step_tree {T S : Type} (f : T → S → S) (s : Sys T S) (i : Nat) : (step f s i).tree = s.tree := rfl

/-- FOR EVERY SCHEDULE of steps that (by their type) cannot write the tree: the tree is unchanged
    and thread `i` is in the state it reaches by taking its own steps alone.  This holds for any
    Go code whatsoever; it is the commutation argument, not a fact about orb. -/
theorem schedule_independent {T S : Type} (f : T → S → S) (s : Sys T S) (σ : List Nat) :
    (run f s σ).tree = s.tree ∧ ∀ i, (run f s σ).st i = iter (f s.tree) (σ.count i) (s.st i) := by
  rw [run_eq_runW]
  exact ⟨(runW_of_frame _ _ (asW_frame f) s (fun _ => trivial) σ).1,
    (runW_of_frame _ _ (asW_frame f) s (fun _ => trivial) σ).2.1⟩

/-- For the same kind of step, with whole-query atomic steps: once a thread has been scheduled at
    least as often as it has queries, its answers are the sequential answers, in order. -/
theorem concurrent_answers_eq_sequential {T Q A : Type} (answer : T → Q → A) (t : T) (qs : Nat → List Q)
    (σ : List Nat) (i : Nat) (h : (qs i).length ≤ σ.count i) :
    ((run (answerStep answer) ⟨t, fun j => ⟨qs j, []⟩⟩ σ).st i).done = (qs i).map (answer t) ∧
    (run (answerStep answer) ⟨t, fun j => ⟨qs j, []⟩⟩ σ).tree = t := by
  obtain ⟨ht, hs⟩ := schedule_independent (answerStep answer) ⟨t, fun j => ⟨qs j, []⟩⟩ σ
  refine ⟨?_, ht⟩
  rw [hs i]
  simp only
  rw [iter_answer answer t (qs i) [] _ h]
  simp

/-- FOR EVERY SCHEDULE of steps that MAY write the shared structure: if every step taken from a
    state satisfying the invariant `P` leaves the shared structure alone (frame condition), the
    shared structure is unchanged at the end and thread `i` is in the state it reaches by taking its
    own steps against the ORIGINAL structure. -/
theorem schedule_independent_W {T S : Type} (P : S → Prop) (f : T → S → T × S) (hf : FrameOn P f)
    (s : Sys T S) (hP : ∀ i, P (s.st i)) (σ : List Nat) :
    (runW f s σ).tree = s.tree ∧
    ∀ i, (runW f s σ).st i = iter (fun x => (f s.tree x).2) (σ.count i) (s.st i) :=
  ⟨(runW_of_frame P f hf s hP σ).1, (runW_of_frame P f hf s hP σ).2.1⟩

/-- "every concurrent query returns exactly what the same query returns when run alone": under the
    frame condition thread `i` ends any schedule in the state in which it ends the schedule that
    consists of its own steps only. -/
theorem same_as_alone {T S : Type} (P : S → Prop) (f : T → S → T × S) (hf : FrameOn P f)
    (s : Sys T S) (hP : ∀ i, P (s.st i)) (σ : List Nat) (i : Nat) :
    (runW f s σ).st i = (runW f s (List.replicate (σ.count i) i)).st i := by
  obtain ⟨_, h1⟩ := schedule_independent_W P f hf s hP σ
  obtain ⟨_, h2⟩ := schedule_independent_W P f hf s hP (List.replicate (σ.count i) i)
  rw [h1 i, h2 i, List.count_replicate_self]

/-- a query that keeps a counter in the shared structure: it stores what it read and bumps it -/
def cachingQuery (t : Nat) (_ : Nat) : Nat × Nat := (t + 1, t)

/-- THE FRAME CONDITION IS NEEDED: for a step that writes the shared structure, two schedules with
    the same steps per thread leave thread 0 with different results, and the structure changed. -/
theorem frame_condition_is_needed :
    (runW cachingQuery ⟨0, fun _ => 0⟩ [0, 1]).st 0 ≠ (runW cachingQuery ⟨0, fun _ => 0⟩ [1, 0]).st 0 ∧
    (runW cachingQuery ⟨0, fun _ => 0⟩ [0, 1]).tree ≠ 0 := by decide

/-- where the table says a write lands -/
def targetOfWrite (w : W) : Target := if harmless w then .priv else .shared

/-- an instruction of the abstract query machine is one of the writes of the regenerated table -/
def Licensed {Sh Pr : Type} (ins : Instr Sh Pr) : Prop := ∃ w ∈ writes, ins.target = targetOfWrite w

/-- a query thread: every instruction it will ever execute is in the table -/
def QueryThread {Sh Pr : Type} (th : Thread Sh Pr) : Prop := ∀ ins ∈ th.prog, Licensed ins

/-- FROM THE GENERATED FACTS: an instruction licensed by the table lands in private memory. -/
theorem licensed_private {Sh Pr : Type} (ins : Instr Sh Pr) (h : Licensed ins) : ins.target = .priv := by
  obtain ⟨w, hw, ht⟩ := h
  have := List.all_eq_true.mp no_shared_writes w hw
  simp [ht, targetOfWrite, this]

/-- The frame condition of the query machine, discharged from `no_shared_writes`. -/
theorem queries_frame_from_facts {Sh Pr : Type} :
    FrameOn (QueryThread (Sh := Sh) (Pr := Pr)) instrStep :=
  instr_frame_of Licensed licensed_private

/-- Hence, for every number of query threads, every program made of writes of the table, and EVERY
    interleaving of their individual write instructions: the shared memory (tree, package state) is
    unchanged, and each thread ends exactly where it ends when it runs alone. -/
theorem queries_schedule_independent {Sh Pr : Type} (sh : Sh) (ths : Nat → Thread Sh Pr)
    (h : ∀ i, QueryThread (ths i)) (σ : List Nat) :
    (runW instrStep ⟨sh, ths⟩ σ).tree = sh ∧
    ∀ i, (runW instrStep ⟨sh, ths⟩ σ).st i = (runW instrStep ⟨sh, ths⟩ (List.replicate (σ.count i) i)).st i :=
  ⟨(schedule_independent_W QueryThread instrStep queries_frame_from_facts ⟨sh, ths⟩ h σ).1,
   fun i => same_as_alone QueryThread instrStep queries_frame_from_facts ⟨sh, ths⟩ h σ i⟩

/-- the regenerated tables are not empty: writes through visitor state, through the per-call heap and
    into the caller's buffer are there, as are the field initialisations `write_roots_initialised_per_call` joins on -/
example : writes.length ≥ 30 ∧ (writes.any fun w => w.roots == ["percall"] && w.via == ["nearestVisitor.closestBound"]) = true ∧
    (writes.any fun w => w.kind == "append" && w.roots == ["caller-buf", "percall"]) = true ∧
    (bindings.any fun b => b.fn == "Quadtree.KNearestMatching" && b.var == "maxDistance" && b.roots == ["caller-arg"]) = true ∧
    (fieldInits.any fun fi => fi.field == "nearestVisitor.maxHeap" && fi.how == "make") = true ∧
    (bindings.any fun b => b.fn == "maxHeap.Push" && b.var == "h" && b.roots == ["percall"]) = true := by decide +kernel

/-- `harmless` does reject: a heap that lives in the tree, a `copy` into the tree, a send
    (fields of `W` in order: fn, lhs, kind, roots, rootVar, via, objs) -/
example : harmless ⟨"maxHeap.Push", "(*h)[i].point", "assign", ["tree"], "h", [], ["TREE"]⟩ = false ∧
    harmless ⟨"Quadtree.KNearestMatching", "q.scratch", "copy", ["tree"], "q", ["Quadtree.scratch"], ["TREE"]⟩ = false ∧
    harmless ⟨"Quadtree.KNearestMatching", "maxDistance[0]", "assign", ["caller-arg"], "maxDistance", [], ["CALLER-ARG"]⟩ = false ∧
    harmless ⟨"f", "ch <-", "send", ["percall"], "ch", [], []⟩ = false ∧
    harmless ⟨"f", "p.x", "assign", [], "p", [], []⟩ = false := by decide

/-- the query machine has licensed instructions and query threads: the hypotheses of
    `queries_schedule_independent` are satisfiable -/
example : ∃ th : Thread Nat Nat, QueryThread th ∧ th.prog.length = 2 := by
  refine ⟨⟨[⟨.priv, fun sh pr => sh + pr, fun sh _ => sh⟩, ⟨.priv, fun _ pr => pr + 1, fun sh _ => sh⟩], 0⟩, ?_, rfl⟩
  intro ins hins
  have hw : (⟨"childIndex", "i", "assign", ["local"], "i", [], ["V:childIndex.i"]⟩ : W) ∈ writes := by decide
  refine ⟨_, hw, ?_⟩
  have : ins.target = .priv := by
    simp only [List.mem_cons, List.not_mem_nil, or_false] at hins
    rcases hins with h | h <;> simp [h]
  rw [this]
  decide

end Orb.C19
