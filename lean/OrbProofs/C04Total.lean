/-
  C05 (WKT share) — `wkt.Unmarshal` and the seven typed functions never panic: every slice and index
  of the parser is in bounds and the recursion budget of `unmarshal` is never exhausted (nor does the
  result depend on it).  With that, the 7 × 7 table of the typed functions on any text with a keyword.
-/
import OrbProofs.C04Frame

namespace Orb.WKT

section
variable (parseF : Str → Option UInt64)

/-! Behind its keyword test (the length guard of `s[n:]`) a parser panics only if one of its stages does, and the
    stages are the frame, `br` and `listOf` over tokenisers whose slices are in bounds. -/

theorem unmarshalPoint_not_panic (s : Str) (h : hasPrefix (upperPrefix s) kwPoint = true) :
    (unmarshalPoint parseF s).isPanic = false := by
  rw [unmarshalPoint_eq]
  exact framed_np 5 rfl (by decide) (parsePoint_not_panic parseF) h

theorem unmarshalMultiPoint_not_panic (s : Str) (h : hasPrefix (upperPrefix s) kwMultiPoint = true) :
    (unmarshalMultiPoint parseF s).isPanic = false := by
  rw [unmarshalMultiPoint_eq]
  exact framedE_np 10 rfl (by decide) (listOf_np splitOnComma_np (br_np (parsePoint_not_panic parseF))) h

theorem unmarshalLineString_not_panic (s : Str) (h : hasPrefix (upperPrefix s) kwLineString = true) :
    (unmarshalLineString parseF s).isPanic = false := by
  rw [unmarshalLineString_eq]
  exact framedE_np 10 rfl (by decide) (pPoints_np parseF) h

theorem unmarshalMultiLineString_not_panic (s : Str) (h : hasPrefix (upperPrefix s) kwMultiLineString = true) :
    (unmarshalMultiLineString parseF s).isPanic = false := by
  rw [unmarshalMultiLineString_eq]
  exact framedE_np 15 rfl (by decide) (pRings_np parseF) h

theorem unmarshalPolygon_not_panic (s : Str) (h : hasPrefix (upperPrefix s) kwPolygon = true) :
    (unmarshalPolygon parseF s).isPanic = false := by
  rw [unmarshalPolygon_eq]
  exact framedE_np 7 rfl (by decide) (pRings_np parseF) h

theorem unmarshalMultiPolygon_not_panic (s : Str) (h : hasPrefix (upperPrefix s) kwMultiPolygon = true) :
    (unmarshalMultiPolygon parseF s).isPanic = false := by
  rw [unmarshalMultiPolygon_eq]
  exact framedE_np 12 rfl (by decide) (listOf_np (splitRe_np matchDouble_ok) (br_np (pRings_np parseF))) h

end

/-- The loop of the collection splitter never fails once its indices are inside the text: it appends
    sub-slices of the text, at most one per remaining byte and one for the tail. -/
theorem sgcLoop_spec (s : Str) : ∀ (rest : Str) (i : Nat) (depth : Int) (start : Nat) (r : List Str),
    i + rest.length = s.length → start ≤ i →
    ∃ ms, sgcLoop s rest i depth start r = .ok (r ++ ms) ∧ (∀ m ∈ ms, m.length ≤ s.length) ∧
      ms.length ≤ rest.length + 1 := by
  intro rest
  induction rest with
  | nil =>
    intro i depth start r hi hs
    rw [List.length_nil, Nat.add_zero] at hi
    refine ⟨[s.drop start], ?_, ?_, Nat.le_refl _⟩
    · rw [sgcLoop, sliceFrom_ok (by omega)]
    · intro m hm
      rw [List.mem_singleton.1 hm, List.length_drop]
      omega
  | cons b rest ih =>
    intro i depth start r hi hs
    have hi' : i + 1 + rest.length = s.length := (Nat.succ_add_eq_add_succ i _).trans hi
    have step : ∀ d, ∃ ms, sgcLoop s rest (i + 1) d start r = .ok (r ++ ms) ∧ (∀ m ∈ ms, m.length ≤ s.length) ∧
        ms.length ≤ (b :: rest).length + 1 := fun d =>
      let ⟨ms, h1, h2, h3⟩ := ih (i + 1) d start r hi' (Nat.le_succ_of_le hs)
      ⟨ms, h1, h2, Nat.le_succ_of_le h3⟩
    rw [sgcLoop]
    by_cases h1 : (b == cLP) = true
    · rw [if_pos h1]; exact step _
    rw [if_neg h1]
    by_cases h2 : (b == cRP) = true
    · rw [if_pos h2]; exact step _
    rw [if_neg h2]
    by_cases h3 : (b == cComma) = true
    · rw [if_pos h3]
      by_cases h4 : (depth == 0) = true
      · rw [if_pos h4, slice_ok hs (hi ▸ Nat.le_add_right i _)]
        obtain ⟨ms, h1, h2, h3⟩ :=
          ih (i + 1) depth (i + 1) (r ++ [(s.drop start).take (i - start)]) hi' (Nat.le_refl _)
        refine ⟨_ :: ms, h1.trans (by rw [List.append_assoc]; rfl), ?_, Nat.succ_le_succ h3⟩
        intro m hm
        rcases List.mem_cons.1 hm with rfl | hm
        · exact (List.length_take_le' _ _).trans (by rw [List.length_drop]; exact Nat.sub_le _ _)
        · exact h2 m hm
      · rw [if_neg h4]; exact step _
    · rw [if_neg h3]; exact step _

/-- `splitGeometryCollection` answers an error or members that are sub-slices of the text, at most
    one per byte plus one; its slices `s[start:i]` and `s[start:]` are always in bounds -/
theorem splitGeometryCollection_spec (s : Str) :
    (∃ e, splitGeometryCollection s = .err e) ∨
    ∃ ms, splitGeometryCollection s = .ok ms ∧ (∀ m ∈ ms, m.length ≤ s.length) ∧ ms.length ≤ s.length + 1 := by
  unfold splitGeometryCollection
  have hp := trimSpaceBrackets_post s
  cases ht : trimSpaceBrackets s with
  | ok t =>
    have hl := hp.ok ht
    obtain ⟨ms, h1, h2, h3⟩ := sgcLoop_spec t t 0 0 0 [] (Nat.zero_add _) (Nat.le_refl _)
    exact .inr ⟨ms, h1, fun m hm => Nat.le_trans (h2 m hm) hl, by omega⟩
  | err e => exact .inl ⟨e, rfl⟩
  | panic w => exact (Res.np_absurd ht hp.np).elim

theorem collectMembers_not_panic (rec : Str → R G) : ∀ (ms : List Str) (acc : List G),
    (∀ m ∈ ms, (rec m).isPanic = false) → (collectMembers rec ms acc).isPanic = false := by
  intro ms
  induction ms with
  | nil => intro acc _; rfl
  | cons g more ih =>
    intro acc h
    have hmore : ∀ m ∈ more, (rec m).isPanic = false := fun m hm => h m (List.mem_cons_of_mem _ hm)
    rw [collectMembers]
    split
    · exact ih _ hmore
    · have hg := h g List.mem_cons_self
      cases hr : rec g with
      | ok tg => exact ih _ hmore
      | err e => rfl
      | panic w => rw [hr] at hg; cases hg

theorem collectMembers_congr (rec1 rec2 : Str → R G) : ∀ (ms : List Str) (acc : List G),
    (∀ m ∈ ms, rec1 m = rec2 m) → collectMembers rec1 ms acc = collectMembers rec2 ms acc := by
  intro ms
  induction ms with
  | nil => intro acc _; simp [collectMembers]
  | cons g more ih =>
    intro acc h
    have hg := h g (by simp)
    have hmore : ∀ m ∈ more, rec1 m = rec2 m := fun m hm => h m (by simp [hm])
    unfold collectMembers
    rw [hg]
    split_ifs
    · exact ih _ hmore
    · split
      · exact ih _ hmore
      · rfl
      · rfl

theorem collection_guard {s : Str} (h : hasPrefix (upperPrefix s) kwCollection = true) : 18 ≤ s.length :=
  hasPrefix_upperPrefix_length (kw := kwCollection) (by decide) h

/-- `unmarshalCollection` answers without its recursion argument, or hands it members at least 18 bytes
    shorter than the text -/
theorem unmarshalCollection_cases {s : Str} (h18 : 18 ≤ s.length) :
    (∃ r : R (List G), r.isPanic = false ∧ ∀ rec, unmarshalCollection rec s = r) ∨
    ∃ ms, (∀ m ∈ ms, m.length + 18 ≤ s.length) ∧ ∀ rec, unmarshalCollection rec s = collectMembers rec ms [] := by
  unfold unmarshalCollection
  by_cases h1 : equalFold s (kwCollection ++ sEmpty) = true
  · exact .inl ⟨.ok [], rfl, fun _ => if_pos h1⟩
  by_cases h2 : s.length = 18
  · exact .inl ⟨.err .notWKT, rfl, fun _ => by rw [if_neg h1, if_pos h2]⟩
  rcases splitGeometryCollection_spec (s.drop 18) with ⟨e, he⟩ | ⟨ms, hms, hlen, -⟩
  · exact .inl ⟨.err e, rfl, fun _ => by rw [if_neg h1, if_neg h2, sliceFrom_ok h18]; dsimp only; rw [he]⟩
  · refine .inr ⟨ms, fun m hm => ?_, fun _ => by rw [if_neg h1, if_neg h2, sliceFrom_ok h18]; dsimp only; rw [hms]⟩
    have := hlen m hm
    rw [List.length_drop] at this
    omega

theorem unmarshalCollection_not_panic (rec : Str → R G) (s : Str) (h : hasPrefix (upperPrefix s) kwCollection = true)
    (hrec : ∀ m, m.length + 18 ≤ s.length → (rec m).isPanic = false) :
    (unmarshalCollection rec s).isPanic = false := by
  rcases unmarshalCollection_cases (collection_guard h) with ⟨r, hr, he⟩ | ⟨ms, hms, he⟩ <;> rw [he]
  · exact hr
  · exact collectMembers_not_panic rec ms [] fun m hm => hrec m (hms m hm)

theorem unmarshalCollection_congr (rec1 rec2 : Str → R G) (s : Str) (h18 : 18 ≤ s.length)
    (h : ∀ m, m.length + 18 ≤ s.length → rec1 m = rec2 m) :
    unmarshalCollection rec1 s = unmarshalCollection rec2 s := by
  rcases unmarshalCollection_cases h18 with ⟨r, -, he⟩ | ⟨ms, hms, he⟩ <;> rw [he, he]
  exact collectMembers_congr rec1 rec2 ms [] fun m hm => h m (hms m hm)

section
variable (parseF : Str → Option UInt64)

theorem branchAt_not_panic {rec : Str → R G} {i : Nat} {s : Str} (hi : i < 7)
    (h : hasPrefix (upperPrefix s) (kwAt i) = true)
    (hrec : ∀ m, m.length + 18 ≤ s.length → (rec m).isPanic = false) :
    (branchAt parseF rec i s).isPanic = false := by
  obtain rfl | rfl | rfl | rfl | rfl | rfl | rfl := lt_seven_cases hi <;> refine (Res.isPanic_map _ _).trans ?_
  · exact unmarshalPoint_not_panic parseF s h
  · exact unmarshalMultiPoint_not_panic parseF s h
  · exact unmarshalLineString_not_panic parseF s h
  · exact unmarshalMultiLineString_not_panic parseF s h
  · exact unmarshalPolygon_not_panic parseF s h
  · exact unmarshalMultiPolygon_not_panic parseF s h
  · exact unmarshalCollection_not_panic rec s h hrec

/-- only the collection branch looks at the recursive call, and only on members at least 18 bytes
    shorter than the text -/
theorem branchAt_congr {rec1 rec2 : Str → R G} {i : Nat} {s : Str} (hi : i < 7)
    (h : hasPrefix (upperPrefix s) (kwAt i) = true)
    (hrec : ∀ m, m.length + 18 ≤ s.length → rec1 m = rec2 m) :
    branchAt parseF rec1 i s = branchAt parseF rec2 i s :=
  match i, hi, h with
  | 0, _, _ | 1, _, _ | 2, _, _ | 3, _, _ | 4, _, _ | 5, _, _ => rfl
  | 6, _, h => congrArg (Res.map Geom.collection) (unmarshalCollection_congr rec1 rec2 s (collection_guard h) hrec)
  | _ + 7, hi, _ => absurd hi (by omega)

theorem unmarshalF_not_panic (fuel : Nat) (s : Str) (h : s.length < fuel) :
    (unmarshalF parseF fuel s).isPanic = false := by
  induction fuel generalizing s with
  | zero => omega
  | succ fuel ih =>
    have hl := trimSpace_length_le s
    by_cases hk : ∃ i, i < 7 ∧ hasPrefix (upperPrefix (trimSpace s)) (kwAt i) = true
    · obtain ⟨i, hi, hk⟩ := hk
      rw [unmarshalF_succ_of_kw parseF fuel hi hk]
      exact branchAt_not_panic parseF hi hk fun m hm => ih m (by omega)
    · rw [unmarshalF_succ_of_no_kw parseF fuel fun i hi => Bool.eq_false_iff.2 fun h' => hk ⟨i, hi, h'⟩]
      rfl

theorem unmarshalF_fuel_irrelevant (f1 f2 : Nat) (s : Str)
    (h1 : s.length < f1) (h2 : s.length < f2) : unmarshalF parseF f1 s = unmarshalF parseF f2 s := by
  induction f1 generalizing f2 s with
  | zero => omega
  | succ f1 ih =>
    obtain ⟨f2, rfl⟩ : ∃ f, f2 = f + 1 := ⟨f2 - 1, by omega⟩
    have hl := trimSpace_length_le s
    by_cases hk : ∃ i, i < 7 ∧ hasPrefix (upperPrefix (trimSpace s)) (kwAt i) = true
    · obtain ⟨i, hi, hk⟩ := hk
      rw [unmarshalF_succ_of_kw parseF f1 hi hk, unmarshalF_succ_of_kw parseF f2 hi hk]
      exact branchAt_congr parseF hi hk fun m hm => ih f2 m (by omega) (by omega)
    · have hn := fun i hi => Bool.eq_false_iff.2 fun h' => hk ⟨i, hi, h'⟩
      rw [unmarshalF_succ_of_no_kw parseF f1 hn, unmarshalF_succ_of_no_kw parseF f2 hn]

theorem expectedTyped_getElem? (k : Nat) (own : R G) (j : Nat) :
    (expectedTyped k own)[j]? = if j < 7 then some (if j = k then own else .err .incorrect) else none := by
  unfold expectedTyped
  by_cases hj : j < 7 <;> simp [hj]

/-- The 7 × 7 table of the typed functions on ANY text that starts (after trimming, in any letter
    case) with the keyword of position `i`: the function of that position answers what `Unmarshal`
    answers, the six others `ErrIncorrectGeometry`. -/
theorem typedAll_of_kw {s : Str} {i : Nat} (hi : i < 7) (h : hasPrefix (upperPrefix (trimSpace s)) (kwAt i) = true) :
    typedAll parseF s = expectedTyped i (unmarshal parseF s) := by
  rw [typedAll_eq, expectedTyped]
  refine List.map_congr_left fun j hj => ?_
  rw [typed_eq, hasPrefix_kwAt_eq hi (List.mem_range.1 hj) h]
  by_cases e : j = i
  · have hl := trimSpace_length_le s
    rw [if_pos (decide_eq_true e), if_pos e, e, unmarshal, unmarshalF_succ_of_kw parseF _ hi h]
    refine branchAt_congr parseF hi h fun m hm => ?_
    exact unmarshalF_fuel_irrelevant parseF _ _ m (Nat.lt_succ_self _) (by omega)
  · rw [if_neg (by simpa using e), if_neg e]

end

end Orb.WKT
