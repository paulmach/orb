/-
  Lemmas for C06: the vocabulary of the bound laws (`Mem`, `Equiv`, `IsTight`), the laws of `union` /
  `extend`, `Bound()` as `Extend` folded over the vertex list (`bound_eq_foldl`) and tightness of that fold,
  `==` on points and point lists, the swap loop of `Reverse`.  The shoelace sums of the last section (`cross`,
  `fan`, `Core.chain`, `cyc`; `cyc_eq`: the cyclic one is `edgeSumOf cross` of OrbProofs/EdgeList) are also C10's.
-/
import Orb.Core
import OrbProofs.GeomInd
import OrbProofs.EdgeList
import Mathlib.Order.Defs.LinearOrder
import Mathlib.Order.Lattice
import Mathlib.Order.MinMax
import Mathlib.Algebra.Order.Ring.Defs
import Mathlib.Tactic.Ring
import Mathlib.Tactic.SplitIfs

namespace Orb.Core

/-- `p` lies in the closed box `b`. -/
def Mem {α : Type} [LE α] (p : Pt α) (b : Bound α) : Prop :=
  b.lo.x ≤ p.x ∧ p.x ≤ b.hi.x ∧ b.lo.y ≤ p.y ∧ p.y ≤ b.hi.y

/-- Two bounds denote the same set of points: both empty, or identical. -/
def Equiv {α : Type} [LT α] [LE α] [DecidableLT α] [DecidableLE α] (a b : Bound α) : Prop :=
  (a.isEmpty = true ∧ b.isEmpty = true) ∨ a = b

/-- `b` is the smallest box containing every point of `vs`. -/
def IsTight {α : Type} [LE α] (vs : List (Pt α)) (b : Bound α) : Prop :=
  (∀ v ∈ vs, Mem v b) ∧ ∀ c : Bound α, (∀ v ∈ vs, Mem v c) → ∀ p, Mem p b → Mem p c

/-- every `Bound` value inside the geometry has min ≤ max (a member `.bound a b` with `a > b` has the
    vertices `[a, b]` but an EMPTY box, so tightness fails for it) -/
def BoundsWF {α : Type} [LE α] : Geom α → Prop
  | .bound a b => a.x ≤ b.x ∧ a.y ≤ b.y
  | .collection gs => ∀ g ∈ gs, BoundsWF g
  | _ => True


section collection
variable {α : Type} [LT α] [DecidableLT α] [Min α] [Max α]

theorem bound_collection_nil (eb : Bound α) : bound eb (.collection []) = eb := by rw [bound]

theorem bound_collection_cons (eb : Bound α) (g : Geom α) (rest : List (Geom α)) :
    bound eb (.collection (g :: rest)) = rest.foldl (fun b g => b.union (bound eb g)) (bound eb g) := by
  rw [bound]

end collection

section bounds
variable {α : Type} [LinearOrder α]

theorem contains_iff' (b : Bound α) (p : Pt α) : b.contains p = true ↔ Mem p b := by
  simp only [Bound.contains, Mem]
  split_ifs <;> grind

theorem isEmpty_iff' (b : Bound α) : b.isEmpty = true ↔ ¬ ∃ p, Mem p b := by
  simp only [Bound.isEmpty, Mem, decide_eq_true_eq]
  constructor
  · rintro h ⟨p, hp⟩; grind
  · intro h
    by_contra hc
    exact h ⟨b.lo, by grind⟩

theorem isEmpty_false_iff (b : Bound α) : b.isEmpty = false ↔ b.lo.x ≤ b.hi.x ∧ b.lo.y ≤ b.hi.y := by
  simp only [Bound.isEmpty, decide_eq_false_iff_not, gt_iff_lt, not_or, not_lt]

theorem isEmpty_true_iff (b : Bound α) : b.isEmpty = true ↔ b.hi.x < b.lo.x ∨ b.hi.y < b.lo.y := by
  simp only [Bound.isEmpty, decide_eq_true_eq, gt_iff_lt]


omit [LinearOrder α] in
theorem Bound.ext_coords {a b : Bound α} (h1 : a.lo.x = b.lo.x) (h2 : a.lo.y = b.lo.y)
    (h3 : a.hi.x = b.hi.x) (h4 : a.hi.y = b.hi.y) : a = b := by
  rcases a with ⟨⟨a1, a2⟩, ⟨a3, a4⟩⟩
  rcases b with ⟨⟨b1, b2⟩, ⟨b3, b4⟩⟩
  simp_all

theorem point_nonempty (p : Pt α) : (⟨p, p⟩ : Bound α).isEmpty = false := by
  rw [isEmpty_false_iff]; exact ⟨le_refl _, le_refl _⟩

theorem extend_empty (b : Bound α) (p : Pt α) (hb : b.isEmpty = true) : b.extend p = ⟨p, p⟩ := by
  simp [Bound.extend, hb]

theorem extend_nonempty (b : Bound α) (p : Pt α) (hb : b.isEmpty = false) :
    b.extend p = ⟨⟨min b.lo.x p.x, min b.lo.y p.y⟩, ⟨max b.hi.x p.x, max b.hi.y p.y⟩⟩ := by
  unfold Bound.extend
  rw [hb]
  simp only [Bool.false_eq_true, if_false]
  split_ifs with hc
  · rw [contains_iff'] at hc
    obtain ⟨h1, h2, h3, h4⟩ := hc
    apply Bound.ext_coords <;> simp [*]
  · rfl

theorem minmax_nonempty (a b : Bound α) (ha : a.isEmpty = false) :
    (⟨⟨min a.lo.x b.lo.x, min a.lo.y b.lo.y⟩, ⟨max a.hi.x b.hi.x, max a.hi.y b.hi.y⟩⟩ : Bound α).isEmpty = false := by
  rw [isEmpty_false_iff] at ha ⊢
  simp only [le_max_iff, min_le_iff]
  grind

theorem extend_isEmpty (b : Bound α) (p : Pt α) : (b.extend p).isEmpty = false := by
  rcases Bool.eq_false_or_eq_true b.isEmpty with hb | hb
  · rw [extend_empty _ _ hb]; exact point_nonempty p
  · rw [extend_nonempty _ _ hb]; exact minmax_nonempty b ⟨p, p⟩ hb

theorem union_nonempty' (a b : Bound α) (ha : a.isEmpty = false) (hb : b.isEmpty = false) :
    a.union b = ⟨⟨min a.lo.x b.lo.x, min a.lo.y b.lo.y⟩, ⟨max a.hi.x b.hi.x, max a.hi.y b.hi.y⟩⟩ := by
  unfold Bound.union
  rw [hb, ha]
  simp only [Bool.false_eq_true, if_false]
  -- `Extend` by the four corners of `b`, each time on a non-empty box; then `b.lo ≤ b.hi` collapses the corners
  rw [extend_nonempty _ b.rightBottom (extend_isEmpty _ _), extend_nonempty _ b.leftTop (extend_isEmpty _ _),
    extend_nonempty _ b.hi (extend_isEmpty _ _), extend_nonempty a b.lo ha]
  rw [isEmpty_false_iff] at hb
  obtain ⟨hx, hy⟩ := hb
  simp [Bound.leftTop, Bound.rightBottom, max_assoc, hx, hy]


theorem union_empty_right' (a e : Bound α) (he : e.isEmpty = true) : a.union e = a := by
  simp [Bound.union, he]

theorem union_empty_left' (a e : Bound α) (he : e.isEmpty = true) (ha : a.isEmpty = false) : e.union a = a := by
  simp [Bound.union, he, ha]

theorem union_isEmpty_false_left (a b : Bound α) (ha : a.isEmpty = false) : (a.union b).isEmpty = false := by
  rcases Bool.eq_false_or_eq_true b.isEmpty with hb | hb
  · rw [union_empty_right' _ _ hb]; exact ha
  · rw [union_nonempty' _ _ ha hb]; exact minmax_nonempty a b ha

theorem union_isEmpty_false_right (a b : Bound α) (hb : b.isEmpty = false) : (a.union b).isEmpty = false := by
  rcases Bool.eq_false_or_eq_true a.isEmpty with ha | ha
  · rw [union_empty_left' _ _ ha hb]; exact hb
  · exact union_isEmpty_false_left a b ha

theorem mem_nonempty {p : Pt α} {b : Bound α} (h : Mem p b) : b.isEmpty = false := by
  rw [isEmpty_false_iff]; unfold Mem at h; grind

/-- both sides are the same term once `Mem` is unfolded: a handle for `rw` -/
theorem mem_minmax_iff (a b : Bound α) (p : Pt α) :
    Mem p ⟨⟨min a.lo.x b.lo.x, min a.lo.y b.lo.y⟩, ⟨max a.hi.x b.hi.x, max a.hi.y b.hi.y⟩⟩ ↔
      (min a.lo.x b.lo.x ≤ p.x ∧ p.x ≤ max a.hi.x b.hi.x ∧ min a.lo.y b.lo.y ≤ p.y ∧ p.y ≤ max a.hi.y b.hi.y) := by
  rfl

theorem union_upper' (a b : Bound α) (p : Pt α) (h : Mem p a ∨ Mem p b) : Mem p (a.union b) := by
  rcases Bool.eq_false_or_eq_true a.isEmpty with ha | ha
  · rcases h with h | h
    · rw [mem_nonempty h] at ha; cases ha
    · rw [union_empty_left' _ _ ha (mem_nonempty h)]; exact h
  rcases Bool.eq_false_or_eq_true b.isEmpty with hb | hb
  · rcases h with h | h
    · rw [union_empty_right' _ _ hb]; exact h
    · rw [mem_nonempty h] at hb; cases hb
  rw [union_nonempty' _ _ ha hb, mem_minmax_iff]
  simp only [le_max_iff, min_le_iff]
  unfold Mem at h
  grind

theorem union_least' (a b c : Bound α) (ha : ∀ p, Mem p a → Mem p c) (hb : ∀ p, Mem p b → Mem p c) :
    ∀ p, Mem p (a.union b) → Mem p c := by
  rcases Bool.eq_false_or_eq_true b.isEmpty with hb' | hb'
  · rw [union_empty_right' _ _ hb']; exact ha
  rcases Bool.eq_false_or_eq_true a.isEmpty with ha' | ha'
  · rw [union_empty_left' _ _ ha' hb']; exact hb
  rw [union_nonempty' _ _ ha' hb']
  intro p hp
  rw [mem_minmax_iff] at hp
  rw [isEmpty_false_iff] at ha' hb'
  have h1 := ha a.lo (by unfold Mem; grind)
  have h2 := ha a.hi (by unfold Mem; grind)
  have h3 := hb b.lo (by unfold Mem; grind)
  have h4 := hb b.hi (by unfold Mem; grind)
  clear ha hb
  unfold Mem at *
  simp only [le_max_iff, min_le_iff] at hp
  grind


theorem foldl_union_lub {X : Type} (f : X → Bound α) (l : List X) (b0 : Bound α) :
    (∀ p, Mem p b0 → Mem p (l.foldl (fun b x => b.union (f x)) b0)) ∧
    (∀ x ∈ l, ∀ p, Mem p (f x) → Mem p (l.foldl (fun b x => b.union (f x)) b0)) ∧
    (∀ c : Bound α, (∀ p, Mem p b0 → Mem p c) → (∀ x ∈ l, ∀ p, Mem p (f x) → Mem p c) →
      ∀ p, Mem p (l.foldl (fun b x => b.union (f x)) b0) → Mem p c) := by
  induction l generalizing b0 with
  | nil =>
    refine ⟨fun p h => h, ?_, fun c h0 _ p h => h0 p h⟩
    intro x hx; cases hx
  | cons a l ih =>
    obtain ⟨i1, i2, i3⟩ := ih (b0.union (f a))
    refine ⟨fun p h => i1 p (union_upper' _ _ p (Or.inl h)), ?_, ?_⟩
    · intro x hx p hp
      rcases List.mem_cons.1 hx with rfl | hx
      · exact i1 p (union_upper' _ _ p (Or.inr hp))
      · exact i2 x hx p hp
    · intro c h0 hl p hp
      refine i3 c ?_ (fun x hx => hl x (List.mem_cons_of_mem _ hx)) p hp
      exact union_least' _ _ c h0 (hl a List.mem_cons_self)

theorem mem_point (p : Pt α) : Mem p (⟨p, p⟩ : Bound α) := ⟨le_refl _, le_refl _, le_refl _, le_refl _⟩

theorem mem_point_iff (p v : Pt α) : Mem p (⟨v, v⟩ : Bound α) ↔ p = v := by
  refine ⟨fun h => ?_, fun h => h ▸ mem_point p⟩
  cases p; cases v
  exact congrArg₂ _ (le_antisymm h.2.1 h.1) (le_antisymm h.2.2.2 h.2.2.1)

theorem extend_eq_union_point' (b : Bound α) (p : Pt α) : b.extend p = b.union ⟨p, p⟩ := by
  rcases Bool.eq_false_or_eq_true b.isEmpty with hb | hb
  · rw [extend_empty _ _ hb, union_empty_left' _ _ hb (point_nonempty p)]
  · rw [extend_nonempty _ _ hb, union_nonempty' _ _ hb (point_nonempty p)]

theorem extend_absorb' (b : Bound α) (p : Pt α) (h : Mem p b) : b.extend p = b := by
  have hb := mem_nonempty h
  rw [← contains_iff'] at h
  simp [Bound.extend, hb, h]

theorem intersects_iff_common_point' (a b : Bound α) (ha : a.isEmpty = false) (hb : b.isEmpty = false) :
    a.intersects b = true ↔ ∃ p, Mem p a ∧ Mem p b := by
  rw [isEmpty_false_iff] at ha hb
  simp only [Bound.intersects, Mem]
  constructor
  · intro h
    split_ifs at h with hc
    simp only [gt_iff_lt, not_or, not_lt] at hc
    refine ⟨⟨max a.lo.x b.lo.x, max a.lo.y b.lo.y⟩, ?_⟩
    simp only [le_max_iff, max_le_iff]
    grind
  · rintro ⟨p, hp⟩
    split_ifs with hc
    · grind
    · rfl


theorem union_assoc_eq (a b c : Bound α) : (a.union b).union c = a.union (b.union c) := by
  rcases Bool.eq_false_or_eq_true c.isEmpty with hc | hc
  · rw [union_empty_right' _ _ hc, union_empty_right' _ _ hc]
  rcases Bool.eq_false_or_eq_true b.isEmpty with hb | hb
  · rw [union_empty_right' _ _ hb, union_empty_left' _ _ hb hc]
  rcases Bool.eq_false_or_eq_true a.isEmpty with ha | ha
  · rw [union_empty_left' _ _ ha hb, union_empty_left' _ _ ha (union_isEmpty_false_left b c hb)]
  · have hab := union_isEmpty_false_left a b ha
    have hbc := union_isEmpty_false_left b c hb
    rw [union_nonempty' _ _ hab hc, union_nonempty' _ _ ha hbc]
    rw [union_nonempty' _ _ ha hb, union_nonempty' _ _ hb hc]
    apply Bound.ext_coords <;> simp only [min_assoc, max_assoc]

/-! ### `Bound()` is `Extend` folded over the vertex list

`union` is associative with every empty box as right identity, and `extend` is the union with a point's box: so a
fold of `extend` splits over `++` into a `union` (`foldl_extend`), which is what the member loops of the `Bound()`
methods compute (`foldl_union_hull`).  Tightness and emptiness are then facts about `List.foldl Bound.extend`. -/

theorem foldl_extend (eb : Bound α) (he : eb.isEmpty = true) (vs : List (Pt α)) (b : Bound α) :
    vs.foldl Bound.extend b = b.union (vs.foldl Bound.extend eb) := by
  induction vs generalizing b with
  | nil => exact (union_empty_right' b eb he).symm
  | cons v vs ih =>
    rw [List.foldl_cons, List.foldl_cons, ih (b.extend v), ih (eb.extend v), extend_empty _ _ he,
      extend_eq_union_point', union_assoc_eq]

theorem foldl_union_hull {X : Type} (eb : Bound α) (he : eb.isEmpty = true) (f : X → Bound α)
    (v : X → List (Pt α)) (l : List X) (h : ∀ x ∈ l, f x = (v x).foldl Bound.extend eb) (V0 : List (Pt α)) :
    l.foldl (fun b x => b.union (f x)) (V0.foldl Bound.extend eb) =
      (V0 ++ l.flatMap v).foldl Bound.extend eb := by
  induction l generalizing V0 with
  | nil => simp
  | cons x l ih =>
    rw [List.foldl_cons, h x List.mem_cons_self, ← foldl_extend eb he, ← List.foldl_append,
      ih (fun y hy => h y (List.mem_cons_of_mem _ hy)), List.flatMap_cons, List.append_assoc]

/-- the loop started from the first member, as `MultiLineString.Bound`, `MultiPolygon.Bound`, `Collection.Bound` do -/
theorem foldl_union_hull_cons {X : Type} (eb : Bound α) (he : eb.isEmpty = true) (f : X → Bound α)
    (v : X → List (Pt α)) (x : X) (l : List X) (h : ∀ y ∈ x :: l, f y = (v y).foldl Bound.extend eb) :
    l.foldl (fun b x => b.union (f x)) (f x) = ((x :: l).flatMap v).foldl Bound.extend eb := by
  rw [h x List.mem_cons_self, foldl_union_hull eb he f v l (fun y hy => h y (List.mem_cons_of_mem _ hy)),
    List.flatMap_cons]

theorem multiPointBound_eq (eb : Bound α) (he : eb.isEmpty = true) (ps : List (Pt α)) :
    multiPointBound eb ps = ps.foldl Bound.extend eb := by
  cases ps with
  | nil => rfl
  | cons p rest =>
    rw [multiPointBound, List.foldl_cons, List.foldl_cons, extend_empty _ _ he,
      extend_absorb' _ _ (mem_point p)]

theorem polygonBound_eq (eb : Bound α) (he : eb.isEmpty = true) (rs : List (List (Pt α))) :
    polygonBound eb rs = (rs.head?.getD []).foldl Bound.extend eb := by
  cases rs with
  | nil => rfl
  | cons r _ => exact multiPointBound_eq eb he r

theorem bound_eq_foldl (eb : Bound α) (he : eb.isEmpty = true) (g : Geom α) (hw : BoundsWF g) :
    bound eb g = (bverts g).foldl Bound.extend eb := by
  induction g using Geom.ind with
  | point p => simp only [bound, bverts]; exact (extend_empty _ _ he).symm
  | multiPoint ps => simp only [bound, bverts]; exact multiPointBound_eq eb he ps
  | lineString ps => simp only [bound, bverts]; exact multiPointBound_eq eb he ps
  | ring ps => simp only [bound, bverts]; exact multiPointBound_eq eb he ps
  | multiLineString ls =>
    simp only [bound, bverts]
    rw [← List.flatMap_id]
    cases ls with
    | nil => rfl
    | cons l rest =>
      exact foldl_union_hull_cons eb he (multiPointBound eb) id l rest (fun l _ => multiPointBound_eq eb he l)
  | polygon rs => simp only [bound, bverts]; exact polygonBound_eq eb he rs
  | multiPolygon ps =>
    simp only [bound, bverts]
    cases ps with
    | nil => rfl
    | cons l rest =>
      exact foldl_union_hull_cons eb he (polygonBound eb) _ l rest (fun rs _ => polygonBound_eq eb he rs)
  | bound a b =>
    -- the one place where `BoundsWF` is needed: `⟨a, b⟩` with `a > b` is empty, the box of `[a, b]` is not
    rw [BoundsWF] at hw
    rw [bverts, List.foldl_cons, List.foldl_cons, List.foldl_nil, extend_empty _ _ he,
      extend_nonempty _ _ (point_nonempty a), bound]
    apply Bound.ext_coords <;> simp [hw.1, hw.2]
  | collection gs ih =>
    rw [BoundsWF] at hw
    rw [bverts]
    cases gs with
    | nil => exact bound_collection_nil eb
    | cons g rest =>
      rw [bound_collection_cons]
      exact foldl_union_hull_cons eb he (bound eb) bverts g rest (fun g hg => ih g hg (hw g hg))

theorem tight_nil {b : Bound α} (hb : b.isEmpty = true) : IsTight [] b :=
  ⟨fun _ h => (nomatch h), fun _ _ p hp => absurd ⟨p, hp⟩ ((isEmpty_iff' b).1 hb)⟩

theorem tight_point (p : Pt α) : IsTight [p] (⟨p, p⟩ : Bound α) :=
  ⟨fun v hv => by rw [List.mem_singleton.1 hv]; exact mem_point p,
    fun c hc q hq => by rw [(mem_point_iff q p).1 hq]; exact hc p (List.mem_singleton.2 rfl)⟩

theorem tight_foldl_extend (l vs : List (Pt α)) (b : Bound α) (h : IsTight vs b) :
    IsTight (vs ++ l) (l.foldl Bound.extend b) := by
  -- `Extend` is the union with the point's box, and a point's box lies in `c` exactly when the point does
  obtain ⟨i1, i2, i3⟩ := foldl_union_lub (fun v => (⟨v, v⟩ : Bound α)) l b
  simp only [← extend_eq_union_point'] at i1 i2 i3
  refine ⟨fun v hv => ?_, fun c hc => i3 c (h.2 c fun v hv => hc v (List.mem_append_left _ hv)) fun x hx p hp => ?_⟩
  · rcases List.mem_append.1 hv with hv | hv
    · exact i1 v (h.1 v hv)
    · exact i2 v hv v (mem_point v)
  · rw [(mem_point_iff p x).1 hp]; exact hc x (List.mem_append_right _ hx)

theorem foldl_extend_tight (eb : Bound α) (he : eb.isEmpty = true) (vs : List (Pt α)) :
    IsTight vs (vs.foldl Bound.extend eb) :=
  tight_foldl_extend vs [] eb (tight_nil he)

theorem foldl_extend_isEmpty (eb : Bound α) (he : eb.isEmpty = true) (vs : List (Pt α)) :
    (vs.foldl Bound.extend eb).isEmpty = true ↔ vs = [] := by
  cases vs with
  | nil => simp [he]
  | cons v vs =>
    rw [mem_nonempty ((foldl_extend_tight eb he (v :: vs)).1 v List.mem_cons_self)]
    simp

theorem multiPointBound_tight' (eb : Bound α) (ps : List (Pt α)) (h : ps ≠ []) :
    IsTight ps (multiPointBound eb ps) := by
  cases ps with
  | nil => exact absurd rfl h
  | cons p rest =>
    rw [multiPointBound, List.foldl_cons, extend_absorb' _ _ (mem_point p)]
    exact tight_foldl_extend rest [p] _ (tight_point p)

end bounds

section equality
variable {α : Type} [BEq α] [LawfulBEq α]

theorem ptEq_iff (p q : Pt α) : ptEq p q = true ↔ p = q := by
  cases p; cases q
  simp [ptEq]

theorem ptsEq_iff (p q : List (Pt α)) : ptsEq p q = true ↔ p = q := by
  induction p generalizing q with
  | nil => cases q <;> simp [ptsEq]
  | cons a p ih => cases q <;> simp [ptsEq, ptEq_iff, ih]

end equality

/-- one iteration of the swap loop of `reverse`; it has to stay, letter for letter, the lambda inside
    `Core.reverse` (`Core.reverse_eq` passes from one to the other by `change`) -/
def revStep {β : Type} (l : Nat) (a : Array β) (i : Nat) : Array β :=
  if h : i < a.size ∧ l - i < a.size then a.swap i (l - i) h.1 h.2 else a

theorem rev_inv {β : Type} (a : Array β) (k : Nat) (hk : k ≤ a.size / 2) :
    ((List.range k).foldl (revStep (a.size - 1)) a).size = a.size ∧
    ∀ j, j < a.size → ((List.range k).foldl (revStep (a.size - 1)) a)[j]? =
      if j < k ∨ a.size - 1 - j < k then a[a.size - 1 - j]? else a[j]? := by
  induction k with
  | zero => simp
  | succ k ih =>
    obtain ⟨hs, hg⟩ := ih (by omega)
    rw [List.range_succ, List.foldl_append, List.foldl_cons, List.foldl_nil]
    generalize (List.range k).foldl (revStep (a.size - 1)) a = A at hs hg
    have hc : k < A.size ∧ a.size - 1 - k < A.size := by omega
    rw [revStep, dif_pos hc]
    refine ⟨by rw [Array.size_swap, hs], fun j hj => ?_⟩
    rw [Array.getElem?_swap, ← Array.getElem?_eq_getElem hc.1, ← Array.getElem?_eq_getElem hc.2]
    -- `j` is the right end of the swap, its left end, or untouched by it
    by_cases h2 : a.size - 1 - k = j
    · rw [if_pos h2, hg k (by omega), if_neg (by omega), if_pos (by omega), ← h2]
      congr 1; omega
    by_cases h1 : k = j
    · rw [if_neg h2, if_pos h1, hg _ (by omega), if_neg (by omega), if_pos (by omega), h1]
    rw [if_neg h2, if_neg h1, hg j hj]
    by_cases h3 : j < k ∨ a.size - 1 - j < k
    · rw [if_pos h3, if_pos (by omega)]
    · rw [if_neg h3, if_neg (by omega)]

section orient
variable {α : Type} [CommRing α]

def cross (p q : Pt α) : α := p.x * q.y - q.x * p.y

/-- fan sum from base point `o` over the open chain `l` -/
def fan (o : Pt α) : List (Pt α) → α
  | p :: q :: t => ((p.x - o.x) * (q.y - o.y) - (q.x - o.x) * (p.y - o.y)) + fan o (q :: t)
  | _ => 0

/-- open shoelace sum -/
def chain : List (Pt α) → α
  | p :: q :: t => cross p q + chain (q :: t)
  | _ => 0

def lastD : Pt α → List (Pt α) → Pt α
  | p, [] => p
  | _, q :: t => lastD q t

omit [CommRing α] in
theorem lastD_eq (v : Pt α) (t : List (Pt α)) : lastD v t = Contains.lastD' v t := by
  induction t generalizing v with
  | nil => rfl
  | cons b t ih => exact ih b

omit [CommRing α] in
theorem getLast?_cons_lastD (p : Pt α) (t : List (Pt α)) : (p :: t).getLast? = some (lastD p t) := by
  rw [lastD_eq]; exact Contains.getLast?_cons_eq p t

/-- cyclic shoelace sum -/
def cyc (l : List (Pt α)) : α :=
  chain l + (match l.getLast?, l.head? with
    | some z, some a => cross z a
    | _, _ => 0)

theorem go_eq_fan (o : Pt α) (l : List (Pt α)) (acc : α) :
    orientArea.go o l acc = acc + fan o l := by
  induction l generalizing acc with
  | nil => simp [orientArea.go, fan]
  | cons p t ih =>
    cases t with
    | nil => simp [orientArea.go, fan]
    | cons q t =>
      rw [orientArea.go, ih, fan]
      ring

theorem fan_eq (o p : Pt α) (t : List (Pt α)) :
    fan o (p :: t) = chain (p :: t) + cross o p - cross o (lastD p t) := by
  induction t generalizing p with
  | nil => simp [fan, chain, lastD]
  | cons q t ih =>
    rw [fan, ih, chain, lastD]
    simp only [cross]
    ring

theorem fan_eq_cyc (o : Pt α) (rest : List (Pt α)) : fan o rest = cyc (o :: rest) := by
  rw [cyc, getLast?_cons_lastD]
  cases rest with
  | nil => simp [fan, chain, lastD, cross]
  | cons p t =>
    rw [fan_eq, chain, lastD]
    simp only [List.head?_cons, cross]
    ring

theorem orientArea_eq_cyc (r : List (Pt α)) : orientArea r = cyc r := by
  cases r with
  | nil => simp [orientArea, cyc, chain]
  | cons o rest => exact (go_eq_fan o rest 0).trans ((zero_add _).trans (fan_eq_cyc o rest))

theorem orientation_eq [LinearOrder α] (r : List (Pt α)) :
    orientation r = if 0 < cyc r then 1 else if cyc r < 0 then -1 else 0 := by
  unfold orientation
  simp only []
  rw [orientArea_eq_cyc]

theorem chain_eq_sum (l : List (Pt α)) : chain l = ((Contains.chain l).map fun e => cross e.1 e.2).sum := by
  induction l with
  | nil => rfl
  | cons a l ih =>
    cases l with
    | nil => rfl
    | cons b t => rw [chain, ih, Contains.chain, List.map_cons, List.sum_cons]

/-- the cyclic shoelace sum is the sum of `cross` over the ring's edge list: rotating, closing, reversing and
    translating the ring are then facts about that list (OrbProofs/EdgeList) -/
theorem cyc_eq (r : List (Pt α)) : cyc r = Contains.edgeSumOf cross r := by
  cases r with
  | nil => simp [cyc, chain, Contains.edgeSumOf, EvenOdd.edges]
  | cons v t =>
    rw [cyc, getLast?_cons_lastD, Contains.edgeSumOf, Contains.edges_cons, List.map_cons, List.sum_cons, chain_eq_sum,
      lastD_eq, add_comm]
    rfl

theorem cross_antisymm (p q : Pt α) : cross q p = - cross p q := by
  simp only [cross]; ring

theorem cyc_reverse (l : List (Pt α)) : cyc l.reverse = - cyc l := by
  rw [cyc_eq, cyc_eq, Contains.edgeSumOf_reverse _ cross_antisymm]

theorem cyc_rotate (a b : List (Pt α)) : cyc (a ++ b) = cyc (b ++ a) := by
  rw [cyc_eq, cyc_eq, Contains.edgeSumOf_rotate]

end orient

end Orb.Core
