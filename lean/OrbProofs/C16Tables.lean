/-
  What the smartclip proofs share.  The vocabulary of the box (`BoxOK` … `PieceOK`, `LineSpec`); the `nexts` tables as
  finite facts, checked by evaluation (`walk_table`); the point tests of smart.go read as predicates; and `aroundBound`
  by one inversion (`aroundBound_inv`): the input, then the `pointFor` points of the codes passed, then the first point.
-/
import Orb.SmartClip
import OrbProofs.ClipCode
import OrbProofs.ResForall
import Mathlib.Algebra.Order.Field.Basic
import Mathlib.Tactic.SplitIfs

set_option linter.unusedSectionVars false

namespace Orb.SmartClip
open Orb Orb.Core

/-- the eight boundary codes in counter-clockwise order, starting on the left side:
    left, bottom-left, bottom, bottom-right, right, top-right, top, top-left -/
def ccwOrder : List Int := [1, 5, 4, 6, 2, 10, 8, 9]

section vocab
variable {α : Type} [Field α] [LinearOrder α] [IsStrictOrderedRing α]

-- `BoxOK`, `InBox`, `InOpenBox`, `ClosedRing` have the bodies of `Orb.Clip.BoxOK` / `InBox` / `InOpenBox` (Segment) and
-- `Orb.Clip.ClosedRing` (C08Ring); the region files pass one for the other by unfolding.

/-- the box has positive width and height (the property's quantifier) -/
def BoxOK (box : Bound α) : Prop := box.lo.x < box.hi.x ∧ box.lo.y < box.hi.y

def InBox (box : Bound α) (p : Pt α) : Prop :=
  box.lo.x ≤ p.x ∧ p.x ≤ box.hi.x ∧ box.lo.y ≤ p.y ∧ p.y ≤ box.hi.y

def InOpenBox (box : Bound α) (p : Pt α) : Prop :=
  box.lo.x < p.x ∧ p.x < box.hi.x ∧ box.lo.y < p.y ∧ p.y < box.hi.y

/-- on the line of one of the four edges (`LE` is the namespace of C16Line's line-clipper vocabulary: `LE.lerp`, `LE.OnSeg`) -/
def LE.OnEdge (box : Bound α) (p : Pt α) : Prop :=
  p.x = box.lo.x ∨ p.x = box.hi.x ∨ p.y = box.lo.y ∨ p.y = box.hi.y

def OnBoundary (box : Bound α) (p : Pt α) : Prop :=
  InBox box p ∧ (p.x = box.lo.x ∨ p.x = box.hi.x ∨ p.y = box.lo.y ∨ p.y = box.hi.y)

def ClosedRing (r : List (Pt α)) : Prop := r ≠ [] ∧ r.head? = r.getLast?

/-- a piece as `smartWrap` needs it: at least two points, both ends on the boundary of the box -/
def PieceOK (box : Bound α) (ls : List (Pt α)) : Prop :=
  2 ≤ ls.length ∧ (∀ p, ls.head? = some p → OnBoundary box p) ∧ (∀ p, ls.getLast? = some p → OnBoundary box p)

/-- the specification of `Clip.line box true` used by smartclip -/
def LineSpec (box : Bound α) : Prop :=
  ∀ inp : List (Pt α), ∃ out, Clip.line box true inp = some out ∧
    (∀ piece ∈ out, 2 ≤ piece.length) ∧
    (∀ piece ∈ out, ∀ v ∈ piece, InBox box v) ∧
    (∀ (k : Nat) (piece : List (Pt α)), out[k]? = some piece → ∀ p, piece.head? = some p →
      OnBoundary box p ∨ (k = 0 ∧ inp.head? = some p ∧ InOpenBox box p)) ∧
    (∀ (k : Nat) (piece : List (Pt α)), out[k]? = some piece → ∀ p, piece.getLast? = some p →
      OnBoundary box p ∨ (k + 1 = out.length ∧ inp.getLast? = some p ∧ InOpenBox box p)) ∧
    -- a first / last vertex strictly inside is kept as the start of the first / end of the last piece
    (2 ≤ inp.length → ∀ p, inp.head? = some p → InOpenBox box p →
      ∃ piece, out[0]? = some piece ∧ piece.head? = some p) ∧
    (2 ≤ inp.length → ∀ p, inp.getLast? = some p → InOpenBox box p →
      ∃ piece, out.getLast? = some piece ∧ piece.getLast? = some p)

end vocab

theorem res_ok_bind {ε β γ : Type} (a : β) (f : β → Res ε γ) : ((Res.ok a : Res ε β) >>= f) = f a := rfl
theorem resA_pure_eq {ε β : Type} (a : β) : (pure a : Res ε β) = .ok a := rfl
attribute [local simp] res_ok_bind resA_pure_eq

/-- the walk of `aroundLoop` on codes only: the codes passed before `target` is met -/
def codeLoop (tbl : List Int) (target : Int) : Nat → Int → Option (List Int)
  | 0, _ => none
  | fuel+1, c =>
    if target == c then some []
    else match nextAt tbl c with
      | .ok c' => (codeLoop tbl target fuel c').map (c :: ·)
      | _ => none

/-- what the finite check establishes about the walk of `aroundBound` from code `cur` to code `t`
    (`16` is the fuel `aroundBound` gives `aroundLoop` in the model; at most seven steps are taken) -/
def WalkOK (o t cur : Int) : Prop :=
  match nextAt (nexts o) cur with
  | .ok c =>
    match codeLoop (nexts o) t 16 c with
    | some cs => cs.length ≤ 7 ∧ t ∉ cs ∧ (∀ x ∈ cs, x ∈ ccwOrder) ∧
        List.IsChain (fun a b => nextAt (nexts o) a = .ok b) (cur :: (cs ++ [t]))
    | none => False
  | _ => False

instance (o t cur : Int) : Decidable (WalkOK o t cur) := by
  unfold WalkOK; split
  · split <;> infer_instance
  · infer_instance

theorem walk_table : ∀ o ∈ [CW, CCW], ∀ t ∈ ccwOrder, ∀ cur ∈ ccwOrder, WalkOK o t cur := by
  decide

theorem walkOK_elim {o t cur : Int} (h : WalkOK o t cur) :
    ∃ c cs, nextAt (nexts o) cur = .ok c ∧ codeLoop (nexts o) t 16 c = some cs ∧
      cs.length ≤ 7 ∧ t ∉ cs ∧ (∀ x ∈ cs, x ∈ ccwOrder) ∧
      List.IsChain (fun a b => nextAt (nexts o) a = .ok b) (cur :: (cs ++ [t])) := by
  unfold WalkOK at h
  split at h
  · rename_i c hc
    split at h
    · rename_i cs hcs
      exact ⟨c, cs, hc, hcs, h⟩
    · exact h.elim
  · exact h.elim

variable {α : Type} [Field α] [LinearOrder α] [IsStrictOrderedRing α]

theorem PieceOK.ne_nil {box : Bound α} {ls : List (Pt α)} (h : PieceOK box ls) : ls ≠ [] :=
  List.ne_nil_of_length_pos (Nat.lt_of_lt_of_le Nat.zero_lt_two h.1)

theorem mid_lt {a b : α} (h : a < b) : a < (b + a) / 2 ∧ (b + a) / 2 < b := by
  rw [add_comm]
  exact ⟨left_lt_add_div_two.2 h, add_div_two_lt_right.2 h⟩

theorem pointFor_on_side' (box : Bound α) (hb : BoxOK box) : ∀ c ∈ ccwOrder,
    ∃ p, pointFor box c = .ok p ∧ OnBoundary box p ∧ (bitCodeOpen box p : Int) = c := by
  intro c hc
  obtain ⟨hx, hy⟩ := hb
  obtain ⟨hx1, hx2⟩ := mid_lt hx
  obtain ⟨hy1, hy2⟩ := mid_lt hy
  simp only [ccwOrder, List.mem_cons, List.not_mem_nil, or_false] at hc
  rcases hc with rfl | rfl | rfl | rfl | rfl | rfl | rfl | rfl
  all_goals
    refine ⟨_, rfl, ?_, ?_⟩
    · simp [OnBoundary, InBox, le_of_lt, *]
    · simp [bitCodeOpen, not_le_of_gt, *]

theorem pointFor_invalid (box : Bound α) (c : Int) (hc : c ∉ ccwOrder) : pointFor box c = .panic "invalid code" := by
  simp only [ccwOrder, List.mem_cons, List.not_mem_nil, or_false, not_or] at hc
  simp [pointFor, hc]

theorem pointFor_ok (box : Bound α) (c : Int) (hc : c ∈ ccwOrder) : ∃ p, pointFor box c = .ok p := by
  simp only [ccwOrder, List.mem_cons, List.not_mem_nil, or_false] at hc
  rcases hc with rfl | rfl | rfl | rfl | rfl | rfl | rfl | rfl <;> exact ⟨_, rfl⟩

theorem pointFor_ok_mem (box : Bound α) (c : Int) (p : Pt α) (h : pointFor box c = .ok p) : c ∈ ccwOrder := by
  by_contra hc
  rw [pointFor_invalid box c hc] at h
  cases h

theorem bitCodeOpen_code4 (box : Bound α) (p : Pt α) :
    bitCodeOpen box p = Clip.code4 (decide (p.x ≤ box.lo.x)) (decide (p.x ≥ box.hi.x))
      (decide (p.y ≤ box.lo.y)) (decide (p.y ≥ box.hi.y)) := by
  simp only [bitCodeOpen, Clip.code4, decide_eq_true_eq]

theorem code4_mem : ∀ l r b t, (Clip.code4 l r b t : Int) = 0 ∨ (Clip.code4 l r b t : Int) ∈ ccwOrder := by
  decide

theorem bitCodeOpen_mem (box : Bound α) (p : Pt α) :
    (bitCodeOpen box p : Int) = 0 ∨ (bitCodeOpen box p : Int) ∈ ccwOrder :=
  bitCodeOpen_code4 box p ▸ code4_mem _ _ _ _

theorem ptEq_iff (p q : Pt α) : Core.ptEq p q = true ↔ p = q := by
  cases p; cases q; simp [Core.ptEq]

/-- The two boundary tests of the Go code are one predicate, "on the line of one of the four edges": `onBoundary`
    (`end[0] == box.Min[0] || …`, smart.go) and `pointSide(box, p) != notOnSide` (next lemma). -/
theorem onBoundary_iff (box : Bound α) (p : Pt α) : onBoundary box p = true ↔ LE.OnEdge box p := by
  simp only [onBoundary, Bool.or_eq_true, beq_iff_eq, LE.OnEdge, or_assoc, eq_comm (a := box.hi.x),
    eq_comm (a := box.hi.y)]

/-- `pointSide(box, p) != notOnSide` (smart.go) is the same predicate as `onBoundary` (`onBoundary_iff`) -/
theorem pointSide_eq_notOnSide_iff (box : Bound α) (p : Pt α) :
    pointSide box p = notOnSide ↔ ¬ LE.OnEdge box p := by
  simp only [pointSide, LE.OnEdge, beq_iff_eq]
  split_ifs with h1 h2 h3 h4
  · exact iff_of_false (by decide) fun h => h (.inr (.inr (.inr h1)))
  · exact iff_of_false (by decide) fun h => h (.inr (.inr (.inl h2)))
  · exact iff_of_false (by decide) fun h => h (.inr (.inl h3))
  · exact iff_of_false (by decide) fun h => h (.inl h4)
  · exact iff_of_true rfl (by rintro (h | h | h | h) <;> contradiction)

theorem not_onEdge_of_open {box : Bound α} {p : Pt α} (h : InOpenBox box p) : ¬ LE.OnEdge box p := by
  obtain ⟨h1, h2, h3, h4⟩ := h
  rintro (h | h | h | h) <;> simp [h] at h1 h2 h3 h4

theorem onBoundary_of_open (box : Bound α) (p : Pt α) (h : InOpenBox box p) : onBoundary box p = false :=
  Bool.eq_false_iff.2 fun e => not_onEdge_of_open h ((onBoundary_iff box p).1 e)

theorem onBoundary_of_on (box : Bound α) (p : Pt α) (h : OnBoundary box p) : onBoundary box p = true :=
  (onBoundary_iff box p).2 h.2

theorem pointSide_of_open (box : Bound α) (p : Pt α) (h : InOpenBox box p) : pointSide box p = notOnSide :=
  (pointSide_eq_notOnSide_iff box p).2 (not_onEdge_of_open h)

theorem not_open_of_on (box : Bound α) (p : Pt α) (h : OnBoundary box p) : ¬ InOpenBox box p :=
  fun ho => not_onEdge_of_open ho h.2

theorem aroundBound_invalid_orientation (box : Bound α) (inp : List (Pt α)) (o : Int) (ho : o ≠ CW ∧ o ≠ CCW) :
    aroundBound box inp o = .panic "invalid orientation" := by
  have h : (o != CCW && o != CW) = true := by simp [ho]
  unfold aroundBound
  rw [if_pos h]

theorem aroundBound_nil (box : Bound α) (o : Int) :
    aroundBound box [] o = if (o != CCW && o != CW) = true then .panic "invalid orientation" else .ok [] := rfl

theorem aroundLoop_sound (box : Bound α) (tbl : List Int) (target : Int) :
    ∀ (fuel : Nat) (c : Int) (acc out : List (Pt α)), aroundLoop box tbl target fuel c acc = .ok out →
      ∃ cs ps, codeLoop tbl target fuel c = some cs ∧
        List.Forall₂ (fun c p => pointFor box c = .ok p) cs ps ∧ out = acc ++ ps := by
  intro fuel
  induction fuel with
  | zero => intro c acc out h; simp [aroundLoop] at h
  | succ n ih =>
    intro c acc out h
    unfold aroundLoop at h
    unfold codeLoop
    split_ifs at h ⊢ with ht
    · refine ⟨[], [], rfl, List.Forall₂.nil, ?_⟩
      simpa using (Res.ok.inj h).symm
    · obtain ⟨p, hp, h⟩ := Res.bind_eq_ok h
      obtain ⟨c', hc', h⟩ := Res.bind_eq_ok h
      obtain ⟨cs, ps, hcs, hfa, hout⟩ := ih c' _ out h
      refine ⟨c :: cs, p :: ps, ?_, List.Forall₂.cons hp hfa, ?_⟩
      · simp [hc', hcs]
      · simp [hout]

theorem aroundLoop_complete (box : Bound α) (tbl : List Int) (target : Int) :
    ∀ (fuel : Nat) (c : Int) (acc : List (Pt α)) (cs : List Int), codeLoop tbl target fuel c = some cs →
      (∀ x ∈ cs, x ∈ ccwOrder) → ∃ out, aroundLoop box tbl target fuel c acc = .ok out := by
  intro fuel
  induction fuel with
  | zero => intro c acc cs h; simp [codeLoop] at h
  | succ n ih =>
    intro c acc cs h hm
    unfold codeLoop at h
    unfold aroundLoop
    split_ifs at h ⊢ with ht
    · exact ⟨_, rfl⟩
    · cases hc' : nextAt tbl c with
      | ok c' =>
        simp only [hc', Option.map_eq_some_iff] at h
        obtain ⟨cs', hcs', rfl⟩ := h
        obtain ⟨p, hp⟩ := pointFor_ok box c (hm c (by simp))
        obtain ⟨out, ho⟩ := ih c' (acc ++ [p]) cs' hcs' (fun x hx => hm x (by simp [hx]))
        exact ⟨out, by simp [hp, ho]⟩
      | err e => simp [hc'] at h
      | panic e => simp [hc'] at h

/-- the "early" decision of `aroundBound`: the ends share a code and the 2-element sort puts the end first -/
def aroundEarly (box : Bound α) (inp : List (Pt α)) (o : Int) (f l : Pt α) : Res String Bool :=
  if (bitCodeOpen box l : Int) == (bitCodeOpen box f : Int) then do
    let points : List (Endpoint α) :=
      [ { point := f, start := true, used := false, side := pointSide box f, index := 0, otherEnd := 0 },
        { point := l, start := false, used := false, side := pointSide box l, index := 0, otherEnd := 0 } ]
    let sorted ← sortE [inp] (o != CCW) points
    match sorted with
    | p0 :: _ => pure (!p0.start)
    | [] => pure false
  else pure false

theorem aroundBound_unfold (box : Bound α) (inp : List (Pt α)) (o : Int) (f l : Pt α)
    (hf : inp.head? = some f) (hl : inp.getLast? = some l) (ho : o = CW ∨ o = CCW) :
    aroundBound box inp o =
      if ((bitCodeOpen box f : Int) == 0 || (bitCodeOpen box l : Int) == 0) = true then
        .panic "endpoints must be outside bound"
      else
      (aroundEarly box inp o f l >>= fun early =>
        if early then (if f = l then .ok inp else .ok (inp ++ [f]))
        else nextAt (nexts o) (bitCodeOpen box l : Int) >>= fun c =>
          aroundLoop box (nexts o) (bitCodeOpen box f : Int) 16 c inp >>= fun out => .ok (out ++ [f])) := by
  cases inp with
  | nil => simp at hf
  | cons f' tl =>
    simp only [List.head?_cons, Option.some.injEq] at hf
    subst hf
    have hoo : (o != CCW && o != CW) = false := by
      rcases ho with rfl | rfl <;> decide
    unfold aroundBound
    simp only [hoo, hl]
    simp only [Bool.false_eq_true, if_false]
    congr 1
    unfold aroundEarly
    congr 1
    funext early
    by_cases hfl : f' = l
    · simp [hfl, (ptEq_iff l l).2 rfl]
    · have : ptEq f' l = false := by
        rw [← Bool.not_eq_true, ptEq_iff]; exact hfl
      simp [hfl, this]

theorem aroundEarly_true (box : Bound α) (inp : List (Pt α)) (o : Int) (f l : Pt α)
    (h : aroundEarly box inp o f l = .ok true) : (bitCodeOpen box l : Int) = bitCodeOpen box f := by
  unfold aroundEarly at h
  split_ifs at h with hc
  · simpa using hc
  · cases h

/-- What `aroundBound` returns for an input from `f` to `l`.  When the ends coincide it is the input.
    Otherwise it is the input, then the `pointFor` points of the codes `cs` passed on the way from the code
    of `l` to the code of `f` along `nexts o`, then `f`; no code is passed when both ends lie in one side or
    corner region and `f` is met first in the asked direction. -/
theorem aroundBound_inv (box : Bound α) (inp out : List (Pt α)) (o : Int) (f l : Pt α)
    (hf : inp.head? = some f) (hl : inp.getLast? = some l) (h : aroundBound box inp o = .ok out) :
    (o = CW ∨ o = CCW) ∧ (bitCodeOpen box f : Int) ≠ 0 ∧ (bitCodeOpen box l : Int) ≠ 0 ∧
    ((f = l ∧ out = inp) ∨
     ∃ cs ps, List.Forall₂ (fun c p => pointFor box c = .ok p) cs ps ∧ out = inp ++ ps ++ [f] ∧
       ((cs = [] ∧ (bitCodeOpen box l : Int) = bitCodeOpen box f) ∨
        ∃ c, nextAt (nexts o) (bitCodeOpen box l : Int) = .ok c ∧
          codeLoop (nexts o) (bitCodeOpen box f : Int) 16 c = some cs)) := by
  by_cases ho : o = CW ∨ o = CCW
  · rw [aroundBound_unfold box inp o f l hf hl ho] at h
    by_cases hz : ((bitCodeOpen box f : Int) == 0 || (bitCodeOpen box l : Int) == 0) = true
    · rw [if_pos hz] at h; cases h
    rw [if_neg hz] at h
    simp only [Bool.or_eq_true, beq_iff_eq, not_or] at hz
    refine ⟨ho, hz.1, hz.2, ?_⟩
    obtain ⟨early, he, h⟩ := Res.bind_eq_ok h
    cases early with
    | true =>
      simp only [if_true] at h
      split_ifs at h with hfl
      · exact Or.inl ⟨hfl, (Res.ok.inj h).symm⟩
      · exact Or.inr ⟨[], [], .nil, by rw [List.append_nil]; exact (Res.ok.inj h).symm,
          Or.inl ⟨rfl, aroundEarly_true box _ o f l he⟩⟩
    | false =>
      simp only [Bool.false_eq_true, if_false] at h
      obtain ⟨c, hc, h⟩ := Res.bind_eq_ok h
      obtain ⟨out', ho', h⟩ := Res.bind_eq_ok h
      obtain ⟨cs, ps, hcs, hfa, rfl⟩ := aroundLoop_sound box _ _ _ _ _ _ ho'
      exact Or.inr ⟨cs, ps, hfa, (Res.ok.inj h).symm, Or.inr ⟨c, hc, hcs⟩⟩
  · rw [aroundBound_invalid_orientation box inp o (not_or.1 ho)] at h
    cases h

theorem aroundBound_points (box : Bound α) (inp out : List (Pt α)) (o : Int)
    (h : aroundBound box inp o = .ok out) :
    ∀ v ∈ out, v ∈ inp ∨ ∃ c ∈ ccwOrder, pointFor box c = .ok v := by
  intro v hv
  cases inp with
  | nil =>
    rw [aroundBound_nil] at h
    split_ifs at h
    cases h; cases hv
  | cons f tl =>
    obtain ⟨_, _, _, ⟨_, rfl⟩ | ⟨cs, ps, hfa, rfl, _⟩⟩ :=
      aroundBound_inv box _ out o f _ rfl (List.getLast?_eq_some_getLast (List.cons_ne_nil f tl)) h
    · exact Or.inl hv
    · rcases List.mem_append.1 hv with hv | hv
      · rcases List.mem_append.1 hv with hv | hv
        · exact Or.inl hv
        · obtain ⟨c, hc⟩ := forall₂_right (P := fun v => ∃ c, pointFor box c = .ok v) hfa (fun c v h => ⟨c, h⟩) v hv
          exact Or.inr ⟨c, pointFor_ok_mem box c v hc, hc⟩
      · rw [List.mem_singleton] at hv; subst hv; exact Or.inl List.mem_cons_self

/-- The walk (chain of `nextAt` links, codes, points) is claimed only when `aroundBound` actually walks;
    the "early" return (ends in the same side / corner region, first point met directly) is a separate
    alternative.  With the `IsChain` conjunct on the early case too the statement would be false: box
    (0,0)-(4,4) over ℚ, inp = [(0,1),(0,3)], o = CCW gives `.ok [(0,1),(0,3),(0,1)]` with both codes 1, and
    `nextAt (nexts CCW) 1 = .ok 5 ≠ .ok 1`. -/
theorem aroundBound_direction' (box : Bound α) (hb : BoxOK box) (inp out : List (Pt α)) (o : Int) (f l : Pt α)
    (hf : inp.head? = some f) (hl : inp.getLast? = some l) (h : aroundBound box inp o = .ok out) :
    (out = inp ∧ f = l) ∨
    ((bitCodeOpen box l : Int) = bitCodeOpen box f ∧ out = inp ++ [f]) ∨
    ∃ cs ps, List.IsChain (fun a b => nextAt (nexts o) a = .ok b)
        ((bitCodeOpen box l : Int) :: (cs ++ [(bitCodeOpen box f : Int)])) ∧
      (bitCodeOpen box f : Int) ∉ cs ∧ cs.length ≤ 7 ∧
      List.Forall₂ (fun c p => pointFor box c = .ok p ∧ (bitCodeOpen box p : Int) = c) cs ps ∧
      out = inp ++ ps ++ [f] := by
  obtain ⟨ho, h0, h1, ⟨hfl, rfl⟩ | ⟨cs, ps, hfa, rfl, ⟨rfl, hc⟩ | ⟨c, hc, hcs⟩⟩⟩ := aroundBound_inv box inp out o f l hf hl h
  · exact Or.inl ⟨rfl, hfl⟩
  · cases hfa
    exact Or.inr (Or.inl ⟨hc, by rw [List.append_nil]⟩)
  · right; right
    have hfm : (bitCodeOpen box f : Int) ∈ ccwOrder := (bitCodeOpen_mem box f).resolve_left h0
    have hlm : (bitCodeOpen box l : Int) ∈ ccwOrder := (bitCodeOpen_mem box l).resolve_left h1
    have hom : o ∈ [CW, CCW] := by rcases ho with rfl | rfl <;> simp
    obtain ⟨c', cs', hc', hcs', hlen, hnm, hmem, hchain⟩ := walkOK_elim (walk_table o hom _ hfm _ hlm)
    rw [hc] at hc'; cases hc'
    rw [hcs] at hcs'; cases hcs'
    refine ⟨cs, ps, hchain, hnm, hlen, ?_, rfl⟩
    refine forall₂_imp_mem hfa ?_
    intro a ha p hp
    obtain ⟨p', hp', _, hcode⟩ := pointFor_on_side' box hb a (hmem a ha)
    rw [hp] at hp'; cases hp'
    exact ⟨hp, hcode⟩

end Orb.SmartClip
