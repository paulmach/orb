/-
  C03, the wire level — PROPERTY THEOREMS about `Orb.ProtoWire`, the byte-for-byte model of what
  `proto.Marshal` (gogo-generated `Tile.Marshal`) writes and what `unmarshalTile` reads through
  paulmach/protoscan.  With these the two byte-level clauses of C03 — "marshalling the same
  layers twice yields byte-identical output regardless of map iteration order" and
  "unmarshalling it returns the same layers" — are theorems about BYTES, not about the
  `VTTile` structure: `marshalBytes = encodeTile ∘ marshalVT`, `unmarshalBytes = unmarshalVT ∘
  decodeTile` (plus the gzip-magic test).

  `WFTile t`: every number of `t` fits its Go type (`tileFits`: uint32 version / extent, uint64
  id, int32 geometry type, int64 / uint64 values) and the encoding is shorter than 2^63 bytes
  (protoscan reads a length into an `int`).  `tileFits` is proved for every output of
  `marshalVT` on Go-typed input (`inputFits`, implied by `mvtWF`); the length bound is a
  hypothesis (no Go slice is longer).
-/
import OrbProofs.C03
import OrbProofs.C03WireCodec
import OrbProofs.C03WireTotal
import OrbProofs.C03WireFits

namespace Orb.ProtoWire
open Orb Orb.MVT

/-- A uint64 written as a base-128 varint is read back, with what follows it untouched. -/
theorem varint_roundtrip (n : Nat) (rest : Bytes) (h : n < 2^64) :
    varint64 (encodeVarint n ++ rest) = some (n, rest) := varint64_encodeVarint n rest h

/-- The uint32 reader (five bytes at most) reads back every value below 2^32. -/
theorem varint32_roundtrip (n : Nat) (rest : Bytes) (h : n < 2^32) :
    varint32 (encodeVarint n ++ rest) = some (n, rest) := varint32_encodeVarint n rest h

/-- A varint is 1 to 10 bytes long. -/
theorem varint_length_le_10 (n : Nat) : 1 ≤ (encodeVarint n).length ∧ (encodeVarint n).length ≤ 10 :=
  ⟨encodeVarint_length_pos n, encodeVarint_length_le n⟩

/-- `unZig64 ∘ zigzag = id` on all 2^64 values (`Value.sint_value`). -/
theorem zigzag64_roundtrip (x : BitVec 64) : unzigzag64 (zigzag64 x) = x := unzigzag64_zigzag64 x

/-- `(field << 3) | wiretype` gives back the field number and the wire type. -/
theorem tag_roundtrip (field wt : Nat) (h : wt < 8) :
    tag field wt >>> 3 = field ∧ tag field wt &&& 7 = wt := by
  unfold tag
  have hor : field <<< 3 ||| wt = field <<< 3 + wt :=
    (Nat.shiftLeft_add_eq_or_of_lt (i := 3) (by simpa using h) field).symm
  rw [hor, Nat.shiftLeft_eq, Nat.shiftRight_eq_div_pow]
  have h7 : (7 : Nat) = 2^3 - 1 := by decide
  rw [h7, Nat.and_two_pow_sub_one_eq_mod]
  constructor <;> omega

/-- The keys the encoder writes are the one-byte literals of the generated code: fields 1–4
    length-delimited, 5 and 15 varint (the keys of a layer; 0x0a, 0x12, 0x22, 0x28 recur in
    features and values, 0x1a is also the tile's only key), then the two further keys of a feature
    (id, type) and the five further keys of a value (float, double, int, sint, bool). -/
theorem keys_as_generated :
    [tag 1 wtLen, tag 2 wtLen, tag 3 wtLen, tag 4 wtLen, tag 5 wtVarint, tag 15 wtVarint] = [0x0a, 0x12, 0x1a, 0x22, 0x28, 0x78] ∧
    [tag 1 wtVarint, tag 3 wtVarint] = [0x08, 0x18] ∧
    [tag 2 wt32, tag 3 wt64, tag 4 wtVarint, tag 6 wtVarint, tag 7 wtVarint] = [0x15, 0x19, 0x20, 0x30, 0x38] ∧
    ∀ k, k < 128 → encodeVarint k = [UInt8.ofNat k] :=
  ⟨by decide, by decide, by decide, encodeVarint_small⟩

/-- Little-endian fixed-width values (`Value.float_value`, `Value.double_value`). -/
theorem fixed_roundtrip (a : UInt32) (b : UInt64) (rest : Bytes) :
    fixed32 (le32 a ++ rest) = some (a, rest) ∧ fixed64 (le64 b ++ rest) = some (b, rest) :=
  ⟨fixed32_le32 a rest, fixed64_le64 b rest⟩

/-- Decoding the bytes of a well-formed tile structure gives the structure back. -/
theorem decodeTile_encodeTile (t : VTTile) (h : WFTile t) : decodeTile (encodeTile t) = .ok t := by
  obtain ⟨hfit, hlen⟩ := h
  simp only [tileFits, List.all_eq_true] at hfit
  have := loop_records tileLoop (fun l => lenDelim 3 (encodeLayer l)) (fun acc l => .ok (acc ++ [l]))
    tileLoop_nil t (fun _ _ => lenDelim_ne_nil _ _)
    (fun l hm fuel rest acc => tileLoop_layer fuel l rest acc (hfit l hm)
      (Nat.lt_of_le_of_lt (flatMap_length_mem (fun l => lenDelim 3 (encodeLayer l)) t l hm) hlen)) []
  rw [foldlM_ok, foldl_snoc] at this
  exact this

/-- The MODEL's scan loops terminate on every byte string: `Orb.ProtoWire` has one panic source,
    running out of fuel (fuel = number of unread bytes), and it is never reached.  This is a
    termination fact about the model.  It is NOT a proof that protoscan's slice expressions
    (`m.Data[m.Index:m.Index+l]`, `binary.LittleEndian.Uint32(b.Data[b.Index:])`) stay in range:
    the model totalises them with `take` / `drop` / pattern matching after the same bounds tests
    the Go code makes (`packedLength`, the `len(m.Data) <= m.Index+8` test of `Skip`); that no Go
    index panic occurs in the scanner rests on the `wireh` correspondence (every hostile string is
    run through `mvt.Unmarshal` under `recover`, verdict `propfail panic unmarshal`). -/
theorem decodeTile_total (bs : Bytes) : (decodeTile bs).isPanic = false :=
  tileLoop_noPanic _ _ _ (Nat.le_refl _)

/-- The model of `Unmarshal` as a whole has no panic outcome, with any orientation
    function in the polygon decoder (Go: the float64 shoelace): no fuel exhaustion in the scanner,
    and none of the explicit index panics of the structure decoders of `Orb.MVT`
    (`unmarshal_total_ori`: there every Go index IS an explicit panic outcome of the model). -/
theorem unmarshalBytesWith_total (ori : List (Pt Int) → Int) (bs : Bytes) :
    (unmarshalBytesWith ori bs).isPanic = false := by
  unfold unmarshalBytesWith
  apply unmarshal_top_total
  cases h : decodeTile bs with
  | ok t => exact (unmarshal_total_ori ori t).1
  | err _ => rfl
  | panic w => exact (Res.np_absurd h (decodeTile_total bs)).elim

/-- The instance with the exact orientation. -/
theorem unmarshalBytes_total (bs : Bytes) : (unmarshalBytes bs).isPanic = false :=
  unmarshalBytesWith_total oriInt bs

/-- Every tile structure `Marshal` builds from Go-typed input holds numbers that fit the Go
    types of `vectortile.Tile`. -/
theorem marshalVT_tileFits (ls : List Layer) (t : VTTile) (hin : inputFits ls = true)
    (h : marshalVT ls = .ok t) : tileFits t = true := by
  simp only [inputFits, List.all_eq_true, Bool.and_eq_true, decide_eq_true_eq] at hin
  refine List.all_eq_true.2 fun v hv => ?_
  obtain ⟨l, hl, hlv⟩ := forall₂_mem_right (marshalVT_forall₂ h) hv
  exact marshalLayer_fits l v (hin l hl).1.1 (hin l hl).1.2 (hin l hl).2 hlv

/-- The same on the quantifier of C03, which is Go-typed input (`mvtWF_inputFits`). -/
theorem mvtWF_tileFits (ls : List Layer) (t : VTTile) (hwf : mvtWF ls = true)
    (h : marshalVT ls = .ok t) : tileFits t = true :=
  marshalVT_tileFits ls t (mvtWF_inputFits ls hwf) h

/-- `encodeTile` is a function of the structure, and the structure does not depend on the
    iteration order of the property maps: every schedule yields byte-identical output (or the
    same failure). -/
theorem encodeTile_deterministic (ls ls' : List Layer) (h : layersPermEq ls ls')
    (hn : ∀ l ∈ ls, ∀ f ∈ l.features, nodupKeys f.props = true) :
    marshalBytes ls = marshalBytes ls' := by
  unfold marshalBytes
  rw [marshalVT_deterministic ls ls' h hn]

/-- On the bytes of a well-formed tile structure `Unmarshal` is the structure decoder (with any
    orientation function), up to the gzip test. -/
theorem unmarshalBytesWith_encodeTile (ori : List (Pt Int) → Int) (t : VTTile) (h : WFTile t) :
    unmarshalBytesWith ori (encodeTile t) = unmarshalTop (encodeTile t) (unmarshalVTWith ori t).1 := by
  unfold unmarshalBytesWith; rw [decodeTile_encodeTile t h]

/-- The wire layer is transparent: unmarshalling the bytes `Marshal` wrote is unmarshalling the
    structure it built (so every structure-level statement of C03 — also the known findings —
    is a statement about bytes). -/
theorem wire_transparent (ls : List Layer) (t : VTTile) (hin : inputFits ls = true)
    (hm : marshalVT ls = .ok t) (hlen : (encodeTile t).length < 2^63) :
    marshalBytes ls = .ok (encodeTile t) ∧
    unmarshalBytes (encodeTile t) = unmarshalTop (encodeTile t) (unmarshalVT t) :=
  ⟨by simp [marshalBytes, hm, Res.map],
   unmarshalBytesWith_encodeTile oriInt t ⟨marshalVT_tileFits ls t hin hm, hlen⟩⟩

/-- The byte-level round trip at full strength (what Go runs): for layers of the quantifier
    without a +0 / −0 clash `Marshal` succeeds, and `unmarshalBytesWith ori` of the BYTES it wrote
    returns the expected layers, for any orientation function that is exact on the rings of the
    input. -/
theorem bytes_roundtrip_exact (ori : List (Pt Int) → Int) (ls : List Layer) (h : mvtWF ls = true)
    (hx : exactDomainZ ls = true) (ho : oriAgree ori ls) :
    ∃ bs, marshalBytes ls = .ok bs ∧
      (bs.length < 2^63 → unmarshalBytesWith ori bs = .ok (expectLayers ls)) := by
  obtain ⟨t, hm, hu⟩ := layer_roundtrip_exact ori ls h hx ho
  refine ⟨encodeTile t, by simp [marshalBytes, hm, Res.map], fun hlen => ?_⟩
  rw [unmarshalBytesWith_encodeTile ori t ⟨mvtWF_tileFits ls t h hm, hlen⟩, hu]; rfl

/-- The instance with the exact orientation, on `exactDomain` (the hypotheses of
    `layer_roundtrip_partial`). -/
theorem bytes_roundtrip (ls : List Layer) (h : mvtWF ls = true) (hx : exactDomain ls = true) :
    ∃ bs, marshalBytes ls = .ok bs ∧
      (bs.length < 2^63 → unmarshalBytes bs = .ok (expectLayers ls)) :=
  bytes_roundtrip_exact oriInt ls h (exactDomain_le_exactDomainZ ls hx) (oriAgree_oriInt ls)

/-- The gzip-magic test (`dataIsGZipped`, unmarshal.go:38-40, 475-477): an error of `unmarshalTile`
    is replaced by `ErrDataIsGZipped` exactly when the data starts with 1f 8b; a success is kept. -/
theorem unmarshalTop_spec {α : Type} (data : Bytes) (r : R α) :
    (∀ a, r = .ok a → unmarshalTop data r = .ok a) ∧
    (∀ e, r = .err e → dataIsGZipped data = true → unmarshalTop data r = .err .gzipped) ∧
    (∀ e, r = .err e → dataIsGZipped data = false → unmarshalTop data r = .err e) := by
  refine ⟨?_, ?_, ?_⟩
  · rintro a rfl; rfl
  · rintro e rfl hg; simp [unmarshalTop, hg]
  · rintro e rfl hg; simp [unmarshalTop, hg]

/-- Non-vacuity: a well-formed tile structure (strings, every number kind, packed fields); and the
    bytes `mvt.Marshal` wrote (recorded from the Go run) for one point feature with id 300 and the
    property k = int8(-3), reproduced by evaluation — and decoded back. -/
example : WFTile [⟨"ab", 2, 4096, ["k"], [.sint (-3), .uint 300, .double 0x4000000000000000, .bool true],
    [⟨some 7, [0, 0], 1, [9, 4, 6]⟩, ⟨none, [], 3, []⟩]⟩] ∧
    encodeTile [⟨"a", 2, 4096, ["k"], [.sint (-3)], [⟨some 300, [0, 0], 1, [9, 4, 6]⟩]⟩] =
      [0x1a, 0x1f, 0x0a, 0x01, 0x61, 0x12, 0x0e, 0x08, 0xac, 0x02, 0x12, 0x02, 0x00, 0x00, 0x18, 0x01,
       0x22, 0x03, 0x09, 0x04, 0x06, 0x1a, 0x01, 0x6b, 0x22, 0x02, 0x30, 0x05, 0x28, 0x80, 0x20, 0x78, 0x02] ∧
    decodeTile [0x1a, 0x1f, 0x0a, 0x01, 0x61, 0x12, 0x0e, 0x08, 0xac, 0x02, 0x12, 0x02, 0x00, 0x00, 0x18, 0x01,
       0x22, 0x03, 0x09, 0x04, 0x06, 0x1a, 0x01, 0x6b, 0x22, 0x02, 0x30, 0x05, 0x28, 0x80, 0x20, 0x78, 0x02] =
      .ok [⟨"a", 2, 4096, ["k"], [.sint (-3)], [⟨some 300, [0, 0], 1, [9, 4, 6]⟩]⟩] := by
  decide

end Orb.ProtoWire
