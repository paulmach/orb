/-
  C08: "every vertex of the clipped ring is an input vertex or lies on a segment between two input vertices"
  is FALSE of the model.  A kernel-checked counterexample over ℚ: a triangle that contains the box corner
  (0,0) in its interior.  Sutherland–Hodgman emits the corner, which is neither an input vertex nor on a
  segment between two input vertices.  (What is true: `ring_vertices_on_chain`, OrbProofs/C08Chain.lean.)
-/
import Orb.Clip
import OrbProofs.Segment
import Mathlib.Algebra.Order.Field.Rat
import Mathlib.Tactic.NormNum

namespace Orb.Clip.C08
open Orb Orb.Core Generated.Params

def cxBox : Bound ℚ := ⟨⟨0, 0⟩, ⟨2, 2⟩⟩
/-- a closed triangle with the corner `(0,0)` in its interior -/
def cxInp : List (Pt ℚ) := [⟨-3, 1⟩, ⟨1, -3⟩, ⟨1, 1⟩, ⟨-3, 1⟩]

theorem cx_ring : ring cxBox cxInp = some [⟨0, 0⟩, ⟨1, 0⟩, ⟨1, 1⟩, ⟨0, 1⟩, ⟨0, 0⟩] := by decide +kernel

theorem cx_not_on_input :
    ¬ ((⟨0, 0⟩ : Pt ℚ) ∈ cxInp ∨ ∃ a ∈ cxInp, ∃ b ∈ cxInp, OnSeg a b (⟨0, 0⟩ : Pt ℚ)) := by
  rintro (h | ⟨a, ha, b, hb, t, h0, h1, ht⟩)
  · simp [cxInp] at h
  · simp only [cxInp, List.mem_cons, List.not_mem_nil, or_false] at ha hb
    simp only [lerp, Pt.mk.injEq] at ht
    obtain ⟨hx, hy⟩ := ht
    rcases ha with rfl | rfl | rfl | rfl <;> rcases hb with rfl | rfl | rfl | rfl <;>
      simp only [] at hx hy <;> linarith

/-- the clause without the corner alternative does not hold -/
theorem ring_vertices_on_input_false :
    ¬ ∀ (box : Bound ℚ), BoxOK box → ∀ (inp out : List (Pt ℚ)), ring box inp = some out →
      ∀ v ∈ out, v ∈ inp ∨ ∃ a ∈ inp, ∃ b ∈ inp, OnSeg a b v := by
  intro h
  have hb : BoxOK cxBox := by simp [BoxOK, cxBox]
  exact cx_not_on_input (h cxBox hb cxInp _ cx_ring ⟨0, 0⟩ (by simp))

end Orb.Clip.C08
