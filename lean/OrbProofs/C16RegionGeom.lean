/-
  C16 (region), geometry: an edge that avoids the OPEN box (`OutE`) is seen alike from all points of the open box, up to a
  coboundary.  Where the upward ray from `p` crosses an edge, the signed crossing is the coboundary of `w ↦ [w.x ≤ p.x]`
  (`sgn_eq`).  An edge below the top line of the box that avoids the open box is not crossed from inside at all, because the
  ray up to the top line lies in the open box (`low_no_cross`); and such an edge passes the top line only BESIDE the box
  (`top_touch`), where `[w.x ≤ q.x]` is the same for every `q` of the open box.  So from ONE point `p` the signed crossing is
  a coboundary plus a term that does not depend on `p`, the edge's share of the winding round the box (the complement of the
  open box is an annulus: for one point there is no potential).  The difference of two points kills that term: `outE_sgn`,
  with the potential `potZ box q q'`; `outE_cr` is its reading mod 2.
-/
import OrbProofs.C08RegionGeom

namespace Orb.Clip.C16R
open Orb Orb.EvenOdd Orb.Contains Orb.Clip Orb.Clip.C08R
open Orb.Core

set_option linter.unusedSectionVars false

variable {α : Type} [Field α] [LinearOrder α] [IsStrictOrderedRing α]

/-- the closed segment `s e` has no point in the open box -/
def OutE (box : Bound α) (s e : Pt α) : Prop := ∀ t, 0 ≤ t → t ≤ 1 → ¬ InOpenBox box (lerp s e t)

/-- parity (odd = `true`) of the number of edges whose two ends are separated by `h` -/
def dE (h : Pt α → Bool) (E : List (Pt α × Pt α)) : Bool := (E.countP fun se => h se.1 != h se.2) % 2 == 1

/-- the potential of the edge lemma `outE_cr` -/
def pot (box : Bound α) (q q' w : Pt α) : Bool :=
  decide (box.hi.y ≤ w.y) && (decide (w.x ≤ q.x) != decide (w.x ≤ q'.x))

theorem dE_nil (h : Pt α → Bool) : dE h [] = false := rfl

theorem dE_cons (h : Pt α → Bool) (s e : Pt α) (E : List (Pt α × Pt α)) :
    dE h ((s, e) :: E) = ((h s != h e) != dE h E) := par_cons _ _ _

theorem dE_append (h : Pt α → Bool) (E F : List (Pt α × Pt α)) : dE h (E ++ F) = (dE h E != dE h F) :=
  par_append _ _ _

theorem crE_append (E F : List (Pt α × Pt α)) (q : Pt α) : crE (E ++ F) q = (crE E q != crE F q) :=
  par_append _ _ _

theorem onE_append (E F : List (Pt α × Pt α)) (q : Pt α) : onE (E ++ F) q = (onE E q || onE F q) := by
  unfold onE; rw [List.any_append]

theorem crE_perm {E F : List (Pt α × Pt α)} (h : E.Perm F) (q : Pt α) : crE E q = crE F q := par_perm _ h

theorem dE_perm {E F : List (Pt α × Pt α)} (hp : E.Perm F) (h : Pt α → Bool) : dE h E = dE h F := par_perm _ hp

theorem onE_perm {E F : List (Pt α × Pt α)} (h : E.Perm F) (q : Pt α) : onE E q = onE F q := h.any_eq

theorem dE_chain (h : Pt α → Bool) (a : Pt α) (l : List (Pt α)) : dE h (chain (a :: l)) = (h a != h (lastD' a l)) :=
  par_chain h a l

theorem dE_chain_closed (h : Pt α → Bool) (a : Pt α) (l : List (Pt α)) (hc : lastD' a l = a) :
    dE h (chain (a :: l)) = false := by
  rw [dE_chain, hc]; exact bne_self_eq_false _

theorem small_pos (c d : α) (hc : 0 < c) : ∃ δ, 0 < δ ∧ δ ≤ 1 ∧ ∀ t, 0 < t → t ≤ δ → 0 < c + d * t := by
  rcases le_or_gt 0 d with hd | hd
  · exact ⟨1, one_pos, le_refl _, fun t ht _ => add_pos_of_pos_of_nonneg hc (mul_nonneg hd ht.le)⟩
  · have hpos : 0 < -2 * d := by linarith
    refine ⟨min 1 (c / (-2 * d)), lt_min one_pos (div_pos hc hpos), min_le_left _ _, ?_⟩
    intro t ht htd
    have h2 : t * (-2 * d) ≤ c := (le_div_iff₀ hpos).1 (le_trans htd (min_le_right _ _))
    linarith

theorem top_touch {box : Bound α} (hb : BoxOK box) {a b : Pt α} (ha : a.y = box.hi.y)
    (hx1 : box.lo.x < a.x) (hx2 : a.x < box.hi.x) (hby : b.y < box.hi.y) : ¬ OutE box a b := by
  intro hO
  obtain ⟨d1, p1, l1, k1⟩ := small_pos (a.x - box.lo.x) (b.x - a.x) (sub_pos.2 hx1)
  obtain ⟨d2, p2, -, k2⟩ := small_pos (box.hi.x - a.x) (-(b.x - a.x)) (sub_pos.2 hx2)
  obtain ⟨d3, p3, -, k3⟩ := small_pos (box.hi.y - box.lo.y) (-(box.hi.y - b.y)) (sub_pos.2 hb.2)
  have ht : 0 < min d1 (min d2 d3) := lt_min p1 (lt_min p2 p3)
  have e1 : min d1 (min d2 d3) ≤ d1 := min_le_left _ _
  have q1 := k1 _ ht e1
  have q2 := k2 _ ht (le_trans (min_le_right _ _) (min_le_left _ _))
  have q3 := k3 _ ht (le_trans (min_le_right _ _) (min_le_right _ _))
  have q4 : 0 < min d1 (min d2 d3) * (box.hi.y - b.y) := mul_pos ht (sub_pos.2 hby)
  refine hO _ ht.le (le_trans e1 l1) ⟨?_, ?_, ?_, ?_⟩
  · simp only [lerp]; linarith
  · simp only [lerp]; linarith
  · simp only [lerp]; rw [ha]; linarith
  · simp only [lerp]; rw [ha]; linarith

theorem OutE.not_mem {box : Bound α} {s e p : Pt α} (h : OutE box s e) (hp : OnSeg s e p) : ¬ InOpenBox box p := by
  obtain ⟨t, t0, t1, rfl⟩ := hp
  exact h t t0 t1

theorem OutE.mono {box : Bound α} {s e a b : Pt α} (h : OutE box s e) (ha : OnSeg s e a) (hb : OnSeg s e b) :
    OutE box a b :=
  fun _ t0 t1 => h.not_mem (OnSeg.sub ha hb (onSeg_lerp a b t0 t1))

theorem OutE.symm {box : Bound α} {s e : Pt α} (h : OutE box s e) : OutE box e s :=
  h.mono (onSeg_right s e) (onSeg_left s e)

theorem OutE.sub {box : Bound α} {s e : Pt α} (h : OutE box s e) {t1 t2 : α} (h0 : 0 ≤ t1) (h12 : t1 ≤ t2)
    (h1 : t2 ≤ 1) : OutE box (lerp s e t1) (lerp s e t2) :=
  h.mono (onSeg_lerp s e h0 (h12.trans h1)) (onSeg_lerp s e (h0.trans h12) h1)

theorem OutE.left {box : Bound α} {s e : Pt α} (h : OutE box s e) : ¬ InOpenBox box s :=
  h.not_mem (onSeg_left s e)

theorem OutE.right {box : Bound α} {s e : Pt α} (h : OutE box s e) : ¬ InOpenBox box e :=
  h.not_mem (onSeg_right s e)

theorem outE_on {box : Bound α} {s e q : Pt α} (h : OutE box s e) (hq : InOpenBox box q) : onSeg s e q = false :=
  Bool.not_eq_true _ ▸ fun ho => h.not_mem (OnSeg_of_onSeg ho) hq

theorem outE_of_side {box : Bound α} {s e : Pt α} (h : SameSide box s e) : OutE box s e := by
  intro t t0 t1 ⟨h1, h2, h3, h4⟩
  have hs := onSeg_lerp s e t0 t1
  rcases h with ⟨a, b⟩ | ⟨a, b⟩ | ⟨a, b⟩ | ⟨a, b⟩
  · exact absurd (hs.bounds.2.1.trans (max_le a b)) (not_le.2 h1)
  · exact absurd ((le_min a b).trans hs.bounds.1) (not_le.2 h2)
  · exact absurd (hs.bounds.2.2.2.trans (max_le a b)) (not_le.2 h3)
  · exact absurd ((le_min a b).trans hs.bounds.2.2.1) (not_le.2 h4)

theorem outE_self {box : Bound α} {s : Pt α} (h : ¬ InOpenBox box s) : OutE box s s := by
  intro t _ _ hin
  exact h (by simpa [lerp] using hin)

theorem over_point {a b q : Pt α} (hc : crossesAbove a b q = true) :
    ∃ t, 0 ≤ t ∧ t ≤ 1 ∧ (lerp a b t).x = q.x ∧ q.y < (lerp a b t).y := by
  rcases (crossesAbove_iff a b q).1 hc with ⟨h1, h2, h3⟩ | ⟨h1, h2, h3⟩
  · obtain ⟨t0, t1, ex⟩ := param_mid (Or.inl ⟨h1, h2.le⟩)
    refine ⟨_, t0, t1, ex, ?_⟩
    simp only [lerp]
    rw [← sub_lt_iff_lt_add', div_mul_eq_mul_div, lt_line_iff (sub_pos.2 (h1.trans_lt h2))]
    exact sub_pos.2 (sub_neg.1 h3)
  · obtain ⟨t0, t1, ex⟩ := param_mid (Or.inr ⟨h1, h2.le⟩)
    refine ⟨_, t0, t1, ex, ?_⟩
    simp only [lerp]
    rw [← sub_lt_iff_lt_add', div_mul_eq_mul_div, lt_line_iff_of_neg (sub_neg.2 (h1.trans_lt h2))]
    exact sub_neg.2 (sub_pos.1 h3)

theorem low_no_cross {box : Bound α} (hb : BoxOK box) {a b q : Pt α} (ha : a.y ≤ box.hi.y) (hby : b.y < box.hi.y)
    (hO : OutE box a b) (hq : InOpenBox box q) : crossesAbove a b q = false := by
  rw [← Bool.not_eq_true]
  intro hc
  obtain ⟨q1, q2, q3, q4⟩ := hq
  -- the point of the edge straight above `q` is in the open box, unless it is `a` on the top line: then `top_touch`
  obtain ⟨t, t0, t1, hx, hy⟩ := over_point hc
  rcases eq_or_lt_of_le t0 with h0 | h0
  · rw [← h0, lerp_zero] at hx hy
    rcases eq_or_lt_of_le ha with hay | hay
    · exact top_touch hb hay (hx ▸ q1) (hx ▸ q2) hby hO
    · exact hO.left ⟨hx ▸ q1, hx ▸ q2, q3.trans hy, hay⟩
  · refine hO t t0 t1 ⟨hx ▸ q1, hx ▸ q2, q3.trans hy, ?_⟩
    have h3 : 0 < t * (box.hi.y - b.y) := mul_pos h0 (sub_pos.2 hby)
    have h4 : 0 ≤ (1 - t) * (box.hi.y - a.y) := mul_nonneg (sub_nonneg.2 t1) (sub_nonneg.2 ha)
    simp only [lerp]; linarith

def ind (b : Bool) : ℤ := if b then 1 else 0

/-- signed crossing of the upward ray from `p` by the edge `s → e`: `+1` when the edge passes above `p` from right to left
    (counter-clockwise round `p`), `-1` from left to right, `0` when the ray does not cross it (the half-open convention of
    `crossesAbove`).  Summed over the edges of a closed ring: the winding number of the ring round `p`. -/
def sgnAbove (s e p : Pt α) : ℤ :=
  if s.x ≤ p.x ∧ p.x < e.x ∧ EvenOdd.cross s e p < 0 then -1
  else if e.x ≤ p.x ∧ p.x < s.x ∧ 0 < EvenOdd.cross s e p then 1 else 0

/-- sum of the signed crossings of an edge list: for the edges of a closed ring, its winding number -/
def wE (E : List (Pt α × Pt α)) (q : Pt α) : ℤ := (E.map fun se => sgnAbove se.1 se.2 q).sum

/-- the (integer) coboundary of `P` summed over an edge list -/
def dZ (P : Pt α → ℤ) (E : List (Pt α × Pt α)) : ℤ := (E.map fun se => P se.2 - P se.1).sum

/-- the integer potential of the signed edge lemma `outE_sgn` -/
def potZ (box : Bound α) (q q' w : Pt α) : ℤ :=
  if box.hi.y ≤ w.y then ind (decide (w.x ≤ q.x)) - ind (decide (w.x ≤ q'.x)) else 0

theorem ind_true : ind true = 1 := rfl
theorem ind_false : ind false = 0 := rfl

/-- the normal form, free of the edge's direction -/
theorem sgn_eq (s e p : Pt α) :
    sgnAbove s e p = if crossesAbove s e p then ind (decide (e.x ≤ p.x)) - ind (decide (s.x ≤ p.x)) else 0 := by
  unfold sgnAbove
  by_cases c1 : s.x ≤ p.x ∧ p.x < e.x ∧ EvenOdd.cross s e p < 0
  · rw [if_pos c1, (crossesAbove_iff s e p).2 (Or.inl c1), decide_eq_true c1.1, decide_eq_false (not_le.2 c1.2.1)]; rfl
  · rw [if_neg c1]
    by_cases c2 : e.x ≤ p.x ∧ p.x < s.x ∧ 0 < EvenOdd.cross s e p
    · rw [if_pos c2, (crossesAbove_iff s e p).2 (Or.inr c2), decide_eq_true c2.1, decide_eq_false (not_le.2 c2.2.1)]; rfl
    · rw [if_neg c2, Bool.eq_false_iff.2 fun h => ((crossesAbove_iff s e p).1 h).elim c1 c2]; rfl

theorem sgn_swap (s e p : Pt α) : sgnAbove e s p = - sgnAbove s e p := by
  rw [sgn_eq, sgn_eq, crossesAbove_swap]
  split
  · rw [neg_sub]
  · rfl

theorem sgn_self (v p : Pt α) : sgnAbove v v p = 0 := by
  rw [sgn_eq, crossesAbove_self]; rfl

theorem sgn_zero_of_cr {s e p : Pt α} (h : crossesAbove s e p = false) : sgnAbove s e p = 0 := by
  rw [sgn_eq, h]; rfl

theorem sgn_cases (s e p : Pt α) :
    (crossesAbove s e p = false ∧ sgnAbove s e p = 0) ∨
    (crossesAbove s e p = true ∧ (sgnAbove s e p = 1 ∨ sgnAbove s e p = -1)) := by
  rw [sgn_eq]
  cases h : crossesAbove s e p
  · exact Or.inl ⟨rfl, rfl⟩
  · rw [if_pos rfl, cross_window h]
    cases decide (e.x ≤ p.x)
    · exact Or.inr ⟨rfl, Or.inr rfl⟩
    · exact Or.inr ⟨rfl, Or.inl rfl⟩

theorem onSeg_symm {a b i : Pt α} (h : OnSeg a b i) : OnSeg b a i :=
  h.symm

theorem side_mid {a b i : Pt α} (h : OnSeg a b i) (p : Pt α) (hab : decide (a.x ≤ p.x) = decide (b.x ≤ p.x)) :
    decide (i.x ≤ p.x) = decide (a.x ≤ p.x) := by
  by_cases ha : a.x ≤ p.x
  · rw [decide_eq_true ha] at hab ⊢
    exact decide_eq_true (h.bounds.2.1.trans (max_le ha (of_decide_eq_true hab.symm)))
  · rw [decide_eq_false ha] at hab ⊢
    exact decide_eq_false fun hi => (lt_min (not_le.1 ha) (not_le.1 (of_decide_eq_false hab.symm))).not_ge
      (h.bounds.1.trans hi)

theorem sgn_split {a b i : Pt α} (h : OnSeg a b i) (p : Pt α) :
    sgnAbove a b p = sgnAbove a i p + sgnAbove i b p := by
  have hab := crossesAbove_split h p
  rw [sgn_eq a b, sgn_eq a i, sgn_eq i b]
  cases h1 : crossesAbove a i p <;> cases h2 : crossesAbove i b p <;> rw [h1, h2] at hab <;> rw [hab]
  · rfl
  · -- only the second half is crossed: `a` is on the side of `i`
    rw [cross_window hab, cross_window h2]; exact (zero_add _).symm
  · -- only the first half is crossed: `b` is on the side of `i`
    rw [Bool.not_inj ((cross_window hab).symm.trans (cross_window h1))]; exact (add_zero _).symm
  · -- both halves cannot be crossed: `a` and `b` would be on one side and `i` on the other
    have w1 := cross_window h1
    have := side_mid h p (by rw [w1, cross_window h2, Bool.not_not])
    rw [w1] at this
    exact absurd this (by cases decide (i.x ≤ p.x) <;> decide)

set_option linter.unusedVariables false in
/-- `sgn_split`; `hab` is not used -/
theorem sgn_split_le {a b i : Pt α} (hab : a.x ≤ b.x) (h : OnSeg a b i) (p : Pt α) :
    sgnAbove a b p = sgnAbove a i p + sgnAbove i b p :=
  sgn_split h p

theorem sgn_below (s e p : Pt α) (hs : p.y < s.y) (he : p.y < e.y) :
    sgnAbove s e p = ind (decide (e.x ≤ p.x)) - ind (decide (s.x ≤ p.x)) := by
  rw [sgn_eq, (edge_below s e p hs he).2]
  cases decide (s.x ≤ p.x) <;> cases decide (e.x ≤ p.x) <;> rfl

theorem wE_nil (q : Pt α) : wE [] q = 0 := rfl
theorem dZ_nil (P : Pt α → ℤ) : dZ P [] = 0 := rfl

theorem wE_cons (s e : Pt α) (E : List (Pt α × Pt α)) (q : Pt α) : wE ((s, e) :: E) q = sgnAbove s e q + wE E q := by
  unfold wE; rw [List.map_cons, List.sum_cons]

theorem dZ_cons (P : Pt α → ℤ) (s e : Pt α) (E : List (Pt α × Pt α)) : dZ P ((s, e) :: E) = (P e - P s) + dZ P E := by
  unfold dZ; rw [List.map_cons, List.sum_cons]

theorem wE_append (E F : List (Pt α × Pt α)) (q : Pt α) : wE (E ++ F) q = wE E q + wE F q := by
  unfold wE; rw [List.map_append, List.sum_append]

theorem dZ_append (P : Pt α → ℤ) (E F : List (Pt α × Pt α)) : dZ P (E ++ F) = dZ P E + dZ P F := by
  unfold dZ; rw [List.map_append, List.sum_append]

theorem wE_perm {E F : List (Pt α × Pt α)} (h : E.Perm F) (q : Pt α) : wE E q = wE F q := by
  unfold wE; exact (h.map _).sum_eq

theorem dZ_perm {E F : List (Pt α × Pt α)} (h : E.Perm F) (P : Pt α → ℤ) : dZ P E = dZ P F := by
  unfold dZ; exact (h.map _).sum_eq

theorem dZ_chain (P : Pt α → ℤ) (a : Pt α) (l : List (Pt α)) : dZ P (chain (a :: l)) = P (lastD' a l) - P a :=
  sum_chain P a l

theorem dZ_chain_closed (P : Pt α → ℤ) (a : Pt α) (l : List (Pt α)) (hc : lastD' a l = a) :
    dZ P (chain (a :: l)) = 0 := by
  rw [dZ_chain, hc]; ring

theorem exists_onSeg_y {a b : Pt α} {h : α} (ha : h ≤ a.y) (hb : b.y ≤ h) : ∃ m, OnSeg a b m ∧ m.y = h :=
  have ⟨t0, t1, hm⟩ := param_mid (Or.inr ⟨hb, ha⟩)
  ⟨_, onSeg_lerp a b t0 t1, hm⟩

theorem outE_sgn_down {box : Bound α} (hb : BoxOK box) {s e q q' : Pt α} (hs : box.hi.y ≤ s.y) (he : e.y < box.hi.y)
    (hO : OutE box s e) (hq : InOpenBox box q) (hq' : InOpenBox box q') :
    sgnAbove s e q - sgnAbove s e q' = potZ box q q' e - potZ box q q' s := by
  -- `m`: where the edge passes the top line; it does so beside the box, and what follows is below the top line
  obtain ⟨m, hseg, hmy⟩ := exists_onSeg_y hs he.le
  have hO2 : OutE box m e := hO.mono hseg (onSeg_right s e)
  have hm : m.x ≤ box.lo.x ∨ box.hi.x ≤ m.x := by
    by_contra hcon
    rw [not_or, not_le, not_le] at hcon
    exact top_touch hb hmy hcon.1 hcon.2 he hO2
  -- seen from ONE point of the open box: a coboundary plus a term that does not depend on the point
  have key : ∀ p, InOpenBox box p → sgnAbove s e p =
      ind (decide (m.x ≤ box.lo.x)) - ind (decide (s.x ≤ p.x)) := fun p hp => by
    rw [sgn_split hseg p, sgn_zero_of_cr (low_no_cross hb hmy.le he hO2 hp), add_zero,
      sgn_below s m p (hp.2.2.2.trans_le hs) (hmy ▸ hp.2.2.2)]
    rcases hm with h | h
    · rw [decide_eq_true h, decide_eq_true (h.trans hp.1.le)]
    · rw [decide_eq_false (not_le.2 (hp.2.1.trans_le h)), decide_eq_false (not_le.2 (hb.1.trans_le h))]
  rw [key q hq, key q' hq', potZ, potZ, if_pos hs, if_neg (not_le.2 he)]
  ring

theorem outE_sgn {box : Bound α} (hb : BoxOK box) {s e q q' : Pt α} (hO : OutE box s e)
    (hq : InOpenBox box q) (hq' : InOpenBox box q') :
    sgnAbove s e q - sgnAbove s e q' = potZ box q q' e - potZ box q q' s := by
  rcases le_or_gt box.hi.y s.y with hs | hs <;> rcases le_or_gt box.hi.y e.y with he | he
  · rw [sgn_below s e q (lt_of_lt_of_le hq.2.2.2 hs) (lt_of_lt_of_le hq.2.2.2 he),
      sgn_below s e q' (lt_of_lt_of_le hq'.2.2.2 hs) (lt_of_lt_of_le hq'.2.2.2 he)]
    unfold potZ
    rw [if_pos hs, if_pos he]
    ring
  · exact outE_sgn_down hb hs he hO hq hq'
  · have := outE_sgn_down hb he hs hO.symm hq hq'
    rw [sgn_swap s e q, sgn_swap s e q'] at this
    linarith
  · rw [sgn_zero_of_cr (low_no_cross hb hs.le he hO hq), sgn_zero_of_cr (low_no_cross hb hs.le he hO hq')]
    unfold potZ
    rw [if_neg (not_le.2 hs), if_neg (not_le.2 he)]

theorem outE_list_sgn {box : Bound α} (hb : BoxOK box) {q q' : Pt α} (hq : InOpenBox box q) (hq' : InOpenBox box q')
    (E : List (Pt α × Pt α)) (hE : ∀ se ∈ E, OutE box se.1 se.2) :
    wE E q - wE E q' = dZ (potZ box q q') E :=
  (sum_map_sub _ _ E).symm.trans
    (congrArg _ (List.map_congr_left fun se hse => outE_sgn hb (hE se hse) hq hq'))

theorem ind_bne (a b : Bool) : ind (a != b) = (ind a + ind b) % 2 := by
  cases a <;> cases b <;> rfl

theorem ind_inj {a b : Bool} (h : ind a = ind b) : a = b := by
  cases a <;> cases b <;> first | rfl | cases h

theorem bne_of_emod {a b c : Bool} {x y z : ℤ} (hx : x % 2 = ind a) (hy : y % 2 = ind b) (hz : z % 2 = ind c)
    (h : x = y + z) : a = (b != c) := by
  apply ind_inj
  rw [ind_bne, ← hx, ← hy, ← hz, h, Int.add_emod]

theorem bne_of_emod4 {a b c d : Bool} {x y z w : ℤ} (hx : x % 2 = ind a) (hy : y % 2 = ind b) (hz : z % 2 = ind c)
    (hw : w % 2 = ind d) (h : x + z = y + w) : (a != b) = (c != d) := by
  apply ind_inj
  have e : x + y = z + w + (y - z) * 2 := by linarith
  rw [ind_bne, ind_bne, ← hx, ← hy, ← hz, ← hw, ← Int.add_emod, ← Int.add_emod, e, Int.add_mul_emod_self_right]

theorem sgn_emod (s e p : Pt α) : sgnAbove s e p % 2 = ind (crossesAbove s e p) := by
  rcases sgn_cases s e p with ⟨h1, h2⟩ | ⟨h1, h2 | h2⟩ <;> rw [h1, h2] <;> rfl

theorem potZ_emod (box : Bound α) (q q' w : Pt α) : potZ box q q' w % 2 = ind (pot box q q' w) := by
  unfold potZ pot
  by_cases h : box.hi.y ≤ w.y
  · rw [if_pos h, decide_eq_true h]
    cases decide (w.x ≤ q.x) <;> cases decide (w.x ≤ q'.x) <;> rfl
  · rw [if_neg h, decide_eq_false h]; rfl

theorem sum_emod {β : Type} {f : β → ℤ} {g : β → Bool} (h : ∀ x, f x % 2 = ind (g x)) (l : List β) :
    (l.map f).sum % 2 = ind (par g l) := by
  induction l with
  | nil => rfl
  | cons x l ih => rw [List.map_cons, List.sum_cons, par_cons, ind_bne, ← h, ← ih, Int.add_emod]

/-- even-odd is "odd winding number" -/
theorem wE_emod (E : List (Pt α × Pt α)) (q : Pt α) : wE E q % 2 = ind (crE E q) :=
  sum_emod (f := fun se : Pt α × Pt α => sgnAbove se.1 se.2 q) (g := fun se => crossesAbove se.1 se.2 q)
    (fun se => sgn_emod se.1 se.2 q) E

theorem dZ_emod_of {P : Pt α → ℤ} {g : Pt α → Bool} (h : ∀ w, P w % 2 = ind (g w)) (E : List (Pt α × Pt α)) :
    dZ P E % 2 = ind (dE g E) :=
  sum_emod (f := fun se : Pt α × Pt α => P se.2 - P se.1) (g := fun se => g se.1 != g se.2)
    (fun se => by rw [ind_bne, ← h, ← h]; omega) E

theorem dZ_emod (g : Pt α → Bool) (E : List (Pt α × Pt α)) : dZ (fun w => ind (g w)) E % 2 = ind (dE g E) :=
  dZ_emod_of (fun w => by cases g w <;> rfl) E

theorem outE_cr {box : Bound α} (hb : BoxOK box) {s e q q' : Pt α} (hO : OutE box s e)
    (hq : InOpenBox box q) (hq' : InOpenBox box q') :
    (crossesAbove s e q != crossesAbove s e q') = (pot box q q' s != pot box q q' e) :=
  bne_of_emod4 (sgn_emod s e q) (sgn_emod s e q') (potZ_emod box q q' s) (potZ_emod box q q' e)
    (by linarith [outE_sgn hb hO hq hq'])

set_option linter.unusedVariables false in
/-- `outE_cr`; `hs`, `he` are not used -/
theorem outE_cr_down {box : Bound α} (hb : BoxOK box) {s e q q' : Pt α} (hs : box.hi.y ≤ s.y) (he : e.y < box.hi.y)
    (hO : OutE box s e) (hq : InOpenBox box q) (hq' : InOpenBox box q') :
    (crossesAbove s e q != crossesAbove s e q') = (pot box q q' s != pot box q q' e) :=
  outE_cr hb hO hq hq'

theorem outE_list {box : Bound α} (hb : BoxOK box) {q q' : Pt α} (hq : InOpenBox box q) (hq' : InOpenBox box q')
    (E : List (Pt α × Pt α)) (hE : ∀ se ∈ E, OutE box se.1 se.2) :
    (crE E q != crE E q') = dE (pot box q q') E :=
  (par_bne _ _ E).symm.trans (par_congr fun se hse => outE_cr hb (hE se hse) hq hq')

theorem outE_list_on {box : Bound α} {q : Pt α} (hq : InOpenBox box q)
    (E : List (Pt α × Pt α)) (hE : ∀ se ∈ E, OutE box se.1 se.2) : onE E q = false := by
  unfold onE
  rw [List.any_eq_false]
  intro se hse
  rw [Bool.not_eq_true]
  exact outE_on (hE se hse) hq

end Orb.Clip.C16R
