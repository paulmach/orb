/-
  C16 — REGION CLAUSE of smart clipping (`Orb.SmartClip.ring`, clip/smartclip/smart.go `Ring`), against the exact even-odd
  specification `Orb.EvenOdd` and against winding numbers; exact arithmetic over a linearly ordered field.

  Setting: a box of positive area, `o ∈ {CW, CCW}`, a ring `r` closed in Go's sense (`ringClosed r`: at least four points, first =
  last) whose boundary crosses the box (`clipRings box [r] = (op, cl)`, `op ≠ []`).  NO simplicity, NO general position of `q`,
  NO hypothesis on vertices lying on the box boundary.  The statements also assume that the pieces start at pairwise distinct
  points (`hnd`); no proof uses it (the loop is closed by the INDEX of the first piece: `smartWrap_edges_any`).

  Proved: the edge lists of output and input are EXCHANGED by edges avoiding the open box (`Exch`: `A + O = B + W` as 1-chains up
  to subdivision, `O` what the clipper discards, `W` the `aroundBound` walks, with the same coboundary).  Read mod 2
  (`ring_cycle`): the discrepancy between "inside the output (even-odd over all returned rings)" and "inside `r`" is THE SAME AT
  ALL POINTS OF THE OPEN BOX (`ring_region_const`), and a point of the open box is on a returned ring iff it is on `r`
  (`ring_boundary`); so an output that is right at ONE point of the open box is right at EVERY point of it, and is then the region
  of plain `clip.Ring` (`ring_region_of_ref`, `ring_region_eq_clip`).  Read with signs: the winding numbers of output and input
  differ by the same integer everywhere in the open box (`ring_winding_const`).  The witnesses show that the remaining bit is real
  and is the orientation: requested with the other winding, a cut square comes back as its complement in the box.

  NOT proved: that this bit (the integer of `ring_winding_const`, the winding of the cycle `O + W` round the box) vanishes for a
  SIMPLE ring whose shoelace area has the sign of `o`.  It vanishes exactly when the walks go round the box on the side of the
  discarded parts, which is what "correctly wound" buys; deriving that is the polygonal Jordan curve theorem (interior on the
  left ⇔ positive area), not available here.  Likewise the sign of the area of each returned ring, and that distinct returned rings do
  not overlap.
-/
import OrbProofs.C16RegionLine
import OrbProofs.C16Ring
import OrbProofs.C08Region
import OrbProofs.C16RegionWrap

namespace Orb.SmartClip
open Orb Orb.Core
open Orb.Clip.C16R (OutE Decomp SameSide dE pot wE dZ potZ)
open Orb.Clip.C08R (crE onE)

set_option linter.unusedSectionVars false

variable {α : Type} [Field α] [LinearOrder α] [IsStrictOrderedRing α]

/-- number of ring edges of the multi-polygon crossed by the spec's upward ray from `q`
    (all rings of all polygons) -/
def multiCrossings (mp : List (List (List (Pt α)))) (q : Pt α) : Nat :=
  (mp.flatten.map fun rg => EvenOdd.crossings rg q).sum

/-- `q` is on a ring of the multi-polygon -/
def multiOnBoundary (mp : List (List (List (Pt α)))) (q : Pt α) : Bool :=
  mp.flatten.any fun rg => EvenOdd.onBoundary rg q

/-- the closed even-odd region of all the rings together: on a ring, or an odd number of crossings -/
def multiEvenOdd (mp : List (List (List (Pt α)))) (q : Pt α) : Bool :=
  multiOnBoundary mp q || multiCrossings mp q % 2 == 1

/-- the winding number of the (implicitly closed) ring round `q`: signed crossings of the upward ray,
    `+1` for an edge passing above `q` from right to left -/
def winding (r : List (Pt α)) (q : Pt α) : ℤ := Clip.C16R.wE (EvenOdd.edges r) q

/-- the sum of the winding numbers of all rings of the multi-polygon round `q` -/
def multiWinding (mp : List (List (List (Pt α)))) (q : Pt α) : ℤ := (mp.flatten.map fun rg => winding rg q).sum

theorem sum_winding (L : List (List (Pt α))) (q : Pt α) :
    (L.map fun rg => winding rg q).sum = Clip.C16R.wE (L.flatMap EvenOdd.edges) q := by
  unfold Clip.C16R.wE
  rw [List.map_flatMap, List.flatMap_def, List.sum_flatten, List.map_map]; rfl

theorem multiWinding_eq (mp : List (List (List (Pt α)))) (q : Pt α) :
    multiWinding mp q = Clip.C16R.wE (mp.flatten.flatMap EvenOdd.edges) q := sum_winding _ q

/-- even-odd is "odd winding number" -/
theorem winding_emod (r : List (Pt α)) (q : Pt α) : winding r q % 2 = ((EvenOdd.crossings r q % 2 : Nat) : ℤ) := by
  unfold winding
  rw [Clip.C16R.wE_emod, ← Clip.C08R.crossings_parity]
  rcases Nat.mod_two_eq_zero_or_one (EvenOdd.crossings r q) with h | h <;> rw [h] <;> rfl

theorem parity_add (a b : Nat) : ((a + b) % 2 == 1) = ((a % 2 == 1) != (b % 2 == 1)) :=
  Contains.parity_add a b

theorem sum_crossings_parity (L : List (List (Pt α))) (q : Pt α) :
    ((L.map fun rg => EvenOdd.crossings rg q).sum % 2 == 1) = crE (L.flatMap EvenOdd.edges) q := by
  unfold crE
  rw [List.countP_flatMap]; rfl

theorem multiCrossings_parity (mp : List (List (List (Pt α)))) (q : Pt α) :
    (multiCrossings mp q % 2 == 1) = crE (mp.flatten.flatMap EvenOdd.edges) q :=
  sum_crossings_parity _ q

theorem any_onBoundary (L : List (List (Pt α))) (q : Pt α) :
    (L.any fun rg => EvenOdd.onBoundary rg q) = onE (L.flatMap EvenOdd.edges) q :=
  List.any_flatMap.symm

theorem multiOnBoundary_eq (mp : List (List (List (Pt α)))) (q : Pt α) :
    multiOnBoundary mp q = onE (mp.flatten.flatMap EvenOdd.edges) q := any_onBoundary _ q

theorem closed_edges (rg : List (Pt α)) (hc : ClosedRing rg) :
    ∃ f t, rg = f :: t ∧ EvenOdd.edges rg = (f, f) :: Contains.chain rg ∧ Contains.lastD' f t = f := by
  obtain ⟨hne, hhl⟩ := hc
  cases rg with
  | nil => exact absurd rfl hne
  | cons f t =>
    have hz : Contains.lastD' f t = f := by
      rw [← Contains.getLast?_getD_eq, ← hhl]; rfl
    exact ⟨f, t, rfl, by rw [Contains.edges_cons, hz], hz⟩

theorem closed_crE (rg : List (Pt α)) (hc : ClosedRing rg) (q : Pt α) :
    crE (EvenOdd.edges rg) q = crE (Contains.chain rg) q := by
  obtain ⟨f, t, rfl, he, _⟩ := closed_edges rg hc
  rw [he, Clip.C08R.crE_cons, Contains.crossesAbove_self]
  cases crE (Contains.chain (f :: t)) q <;> rfl

theorem closed_dE (rg : List (Pt α)) (hc : ClosedRing rg) (g : Pt α → Bool) : dE g (Contains.chain rg) = false := by
  obtain ⟨f, t, rfl, _, hz⟩ := closed_edges rg hc
  exact Clip.C16R.dE_chain_closed g f t hz

theorem closed_onE (rg : List (Pt α)) (hc : ClosedRing rg) (h2 : 2 ≤ rg.length) (q : Pt α) :
    onE (EvenOdd.edges rg) q = onE (Contains.chain rg) q := by
  obtain ⟨f, t, rfl, he, _⟩ := closed_edges rg hc
  rw [he, Clip.C08R.onE_cons]
  cases hs : EvenOdd.onSeg f f q with
  | false => rfl
  | true =>
    have := Contains.onSeg_self f q hs
    subst this
    cases t with
    | nil => simp at h2
    | cons x t' =>
      rw [Contains.chain_cons_cons, Clip.C08R.onE_cons, Clip.C08R.onSeg_of_OnSeg (Clip.onSeg_left q x)]
      rfl

theorem closed_wE (rg : List (Pt α)) (hc : ClosedRing rg) (q : Pt α) :
    Clip.C16R.wE (EvenOdd.edges rg) q = Clip.C16R.wE (Contains.chain rg) q := by
  obtain ⟨f, t, rfl, he, _⟩ := closed_edges rg hc
  rw [he, Clip.C16R.wE_cons, Clip.C16R.sgn_self, zero_add]

theorem closed_dZ (rg : List (Pt α)) (hc : ClosedRing rg) (P : Pt α → ℤ) : Clip.C16R.dZ P (Contains.chain rg) = 0 := by
  obtain ⟨f, t, rfl, _, hz⟩ := closed_edges rg hc
  exact Clip.C16R.dZ_chain_closed P f t hz

theorem flatMap_congr_of_append {β γ M : Type} {op : M → M → M} {F : List γ → M}
    (hF : ∀ A B, F (A ++ B) = op (F A) (F B)) {f g : β → List γ} (L : List β) (h : ∀ x ∈ L, F (f x) = F (g x)) :
    F (L.flatMap f) = F (L.flatMap g) := by
  induction L with
  | nil => rfl
  | cons x L ih =>
    rw [List.flatMap_cons, List.flatMap_cons, hF, hF, h x List.mem_cons_self,
      ih fun y hy => h y (List.mem_cons_of_mem _ hy)]

theorem closedL_wE (L : List (List (Pt α))) (hc : ∀ rg ∈ L, ClosedRing rg) (q : Pt α) :
    Clip.C16R.wE (L.flatMap EvenOdd.edges) q = Clip.C16R.wE (L.flatMap Contains.chain) q :=
  flatMap_congr_of_append (op := (· + ·)) (F := fun E => wE E q) (fun A B => Clip.C16R.wE_append A B q) L
    fun rg h => closed_wE rg (hc rg h) q

theorem closedL_dZ (L : List (List (Pt α))) (hc : ∀ rg ∈ L, ClosedRing rg) (P : Pt α → ℤ) :
    Clip.C16R.dZ P (L.flatMap Contains.chain) = 0 := by
  induction L with
  | nil => rfl
  | cons rg L ih =>
    rw [List.flatMap_cons, Clip.C16R.dZ_append, closed_dZ rg (hc rg List.mem_cons_self),
      ih (fun x hx => hc x (List.mem_cons_of_mem _ hx)), add_zero]

theorem closedL_crE (L : List (List (Pt α))) (hc : ∀ rg ∈ L, ClosedRing rg) (q : Pt α) :
    crE (L.flatMap EvenOdd.edges) q = crE (L.flatMap Contains.chain) q :=
  flatMap_congr_of_append (op := (· != ·)) (F := fun E => crE E q) (fun A B => Clip.C16R.crE_append A B q) L
    fun rg h => closed_crE rg (hc rg h) q

theorem closedL_onE (L : List (List (Pt α))) (hc : ∀ rg ∈ L, ClosedRing rg) (h2 : ∀ rg ∈ L, 2 ≤ rg.length)
    (q : Pt α) : onE (L.flatMap EvenOdd.edges) q = onE (L.flatMap Contains.chain) q :=
  flatMap_congr_of_append (op := (· || ·)) (F := fun E => onE E q) (fun A B => Clip.C16R.onE_append A B q) L
    fun rg h => closed_onE rg (hc rg h) (h2 rg h) q

theorem closedL_dE (L : List (List (Pt α))) (hc : ∀ rg ∈ L, ClosedRing rg) (g : Pt α → Bool) :
    dE g (L.flatMap Contains.chain) = false := by
  induction L with
  | nil => rfl
  | cons rg L ih =>
    rw [List.flatMap_cons, Clip.C16R.dE_append, closed_dE rg (hc rg List.mem_cons_self),
      ih (fun x hx => hc x (List.mem_cons_of_mem _ hx))]
    rfl

theorem flatten_flatMap {β γ : Type} (f : β → List γ) (L : List (List β)) :
    L.flatten.flatMap f = L.flatMap fun l => l.flatMap f := by
  rw [List.flatten_eq_flatMap, List.flatMap_assoc]; rfl

/-- `smartWrap_len2` for the loop started in any state, by its own loop invariant -/
theorem wrapLoop_len2 (box : Bound α) (input : List (List (Pt α))) (o : Int) (n fuel : Nat)
    (hp : ∀ ls ∈ input, 2 ≤ ls.length) (st : WrapSt α) (i : Nat) (out : List (List (List (Pt α))))
    (h : wrapLoop box input o n fuel st i = .ok out)
    (hst : (∀ pg ∈ st.result, ∀ rg ∈ pg, 2 ≤ rg.length) ∧ (st.current = [] ∨ 2 ≤ st.current.length)) :
    ∀ pg ∈ out, ∀ rg ∈ pg, 2 ≤ rg.length := by
  have hstep : ∀ st i st' i',
      ((∀ pg ∈ st.result, ∀ rg ∈ pg, 2 ≤ rg.length) ∧ (st.current = [] ∨ 2 ≤ st.current.length)) →
      wrapStep box input o n st i = .ok (.inr (st', i')) →
      ((∀ pg ∈ st'.result, ∀ rg ∈ pg, 2 ≤ rg.length) ∧ (st'.current = [] ∨ 2 ≤ st'.current.length)) := by
    intro st i st' i' hP hx
    refine wrapStep_next (Q := fun st' _ => (∀ pg ∈ st'.result, ∀ rg ∈ pg, 2 ≤ rg.length) ∧
      (st'.current = [] ∨ 2 ≤ st'.current.length)) hx ?_ ?_ ?_ ?_
    · exact fun _ _ _ _ => hP
    · exact fun _ ep piece _ _ _ _ hpc => ⟨hP.1, Or.inr (hp piece (List.mem_of_getElem? hpc))⟩
    · intro _ ep cf cl rTail _ _ _ hcf _ _ _ _
      have hcur : 2 ≤ st.current.length := by
        rcases hP.2 with h0 | h0
        · rw [h0] at hcf; cases hcf
        · exact h0
      refine ⟨List.forall_mem_append.2 ⟨hP.1, ?_⟩, Or.inl rfl⟩
      intro pg hpg rg hrg
      rw [List.mem_singleton] at hpg
      subst hpg
      rw [List.mem_singleton] at hrg
      subst hrg
      rw [List.length_append]; omega
    · intro _ ep cf cl rTail piece _ _ _ _ _ _ _ hpc _
      refine ⟨hP.1, Or.inr ?_⟩
      have := hp piece (List.mem_of_getElem? hpc)
      simp only [List.length_append]; omega
  obtain ⟨stf, _, hP, _, rfl⟩ := wrapLoop_inv2 _ hstep fuel st i out h hst
  exact hP.1

theorem smartWrap_len2 (box : Bound α) (input : List (List (Pt α))) (o : Int)
    (hp : ∀ ls ∈ input, 2 ≤ ls.length) (out : List (List (List (Pt α)))) (h : smartWrap box input o = .ok out) :
    ∀ pg ∈ out, ∀ rg ∈ pg, 2 ≤ rg.length := by
  -- every returned ring is a path of pieces closed by a connection
  obtain ⟨mss, hm⟩ := smartWrap_shape h
  refine forall₂_right hm ?_
  rintro _ _ ⟨rg, rfl, cur, _, _, w, hP, _, _, _, rfl⟩ rg' hrg'
  cases List.mem_singleton.1 hrg'
  have := hP.len2 hp
  rw [List.length_append]; omega

theorem cycle_data (box : Bound α) (hb : BoxOK box) (o : Int) (ho : o = CW ∨ o = CCW)
    (op K : List (List (Pt α))) (hpok : ∀ ls ∈ op, PieceOK box ls) (hnd : (op.map List.head?).Nodup)
    (hK : ∀ rg ∈ K, ClosedRing rg ∧ 2 ≤ rg.length)
    (result : List (List (List (Pt α)))) (hw : smartWrap box op o = .ok result)
    (outR : List (List (Pt α))) (hout : outR.Perm (result.flatten ++ K)) :
    ∃ Wk : List (Pt α × Pt α), (∀ se ∈ Wk, OutE box se.1 se.2) ∧
      (outR.flatMap Contains.chain).Perm (op.flatMap Contains.chain ++ Wk ++ K.flatMap Contains.chain) ∧
      ∀ rg ∈ outR, ClosedRing rg ∧ 2 ≤ rg.length := by
  obtain ⟨Wk, hWk, hperm⟩ := smartWrap_edges box hb op o ho hpok hnd result hw
  have hclosed := smartWrap_rings_closed box op o result hw
  have hlen := smartWrap_len2 box op o (fun ls hls => (hpok ls hls).1) result hw
  have hres : ∀ rg ∈ result.flatten, ClosedRing rg ∧ 2 ≤ rg.length := by
    intro rg hrg
    obtain ⟨pg, hpg, hrg⟩ := List.mem_flatten.1 hrg
    refine ⟨?_, hlen pg hpg rg hrg⟩
    obtain ⟨rg', rfl, hc⟩ := hclosed pg hpg
    simp only [List.mem_singleton] at hrg
    subst hrg; exact hc
  refine ⟨Wk, fun se hse => Clip.C16R.outE_of_side (hWk se hse), ?_, ?_⟩
  · refine (List.Perm.flatMap_right _ hout).trans ?_
    rw [List.flatMap_append, flatten_flatMap]
    exact List.Perm.append_right _ hperm
  · intro rg hrg
    rcases List.mem_append.1 (hout.subset hrg) with h' | h'
    · exact hres rg h'
    · exact hK rg h'

/-- The edge lists `A` (of the output) and `B` (of the input) are EXCHANGED by edges avoiding the open box: as 1-chains
    up to subdivision `A + O = B + W`, where `O` (what the clipper discards) and `W` (the `aroundBound` walks) have no
    point in the open box and the same coboundary.  Everything the region clause says is read off this. -/
def Exch (box : Bound α) (A B : List (Pt α × Pt α)) : Prop :=
  ∃ O W : List (Pt α × Pt α), (∀ se ∈ O, OutE box se.1 se.2) ∧ (∀ se ∈ W, OutE box se.1 se.2) ∧
    (∀ q, wE A q + wE O q = wE B q + wE W q) ∧ (∀ P : Pt α → ℤ, dZ P O = dZ P W) ∧
    (∀ q, InOpenBox box q → onE A q = onE B q)

/-- THE CORE.  `R` are the input rings (closed), cut into kept edges `E ++ K` and discarded edges `O` avoiding the open
    box (`D`); `outR` are closed rings made of the edges `E`, of edges `Wk` avoiding the open box and of `K`. -/
theorem exch_of_decomp {box : Bound α} {R outR : List (List (Pt α))} {E K O Wk : List (Pt α × Pt α)}
    (hR : ∀ r ∈ R, ClosedRing r ∧ 2 ≤ r.length) (hall : ∀ rg ∈ outR, ClosedRing rg ∧ 2 ≤ rg.length)
    (hO : ∀ se ∈ O, OutE box se.1 se.2) (hWk : ∀ se ∈ Wk, OutE box se.1 se.2)
    (D : Decomp (R.flatMap Contains.chain) (E ++ K) O) (hperm : (outR.flatMap Contains.chain).Perm (E ++ Wk ++ K)) :
    Exch box (outR.flatMap EvenOdd.edges) (R.flatMap EvenOdd.edges) := by
  refine ⟨O, Wk, hO, hWk, fun q => ?_, fun P => ?_, fun q hq => ?_⟩
  · rw [closedL_wE _ (fun r hr => (hall r hr).1) q, closedL_wE _ (fun r hr => (hR r hr).1) q,
      Clip.C16R.wE_perm hperm q, D.w q]
    simp only [Clip.C16R.wE_append]; ring
  · -- both ring families are closed: no coboundary
    have e1 := closedL_dZ _ (fun r hr => (hR r hr).1) P
    have e2 := closedL_dZ _ (fun r hr => (hall r hr).1) P
    rw [D.dz P] at e1
    rw [Clip.C16R.dZ_perm hperm P] at e2
    simp only [Clip.C16R.dZ_append] at e1 e2
    linarith
  · rw [closedL_onE _ (fun r hr => (hall r hr).1) (fun r hr => (hall r hr).2) q,
      closedL_onE _ (fun r hr => (hR r hr).1) (fun r hr => (hR r hr).2) q, Clip.C16R.onE_perm hperm q,
      Clip.C16R.onE_append, Clip.C16R.onE_append, D.on q, Clip.C16R.onE_append,
      Clip.C16R.outE_list_on hq Wk hWk, Clip.C16R.outE_list_on hq O hO]
    cases onE E q <;> cases onE K q <;> rfl

/-- with signs: the signed edge lemma summed over `O` and `W`, whose coboundaries agree -/
theorem Exch.winding_const {box : Bound α} (hb : BoxOK box) {A B : List (Pt α × Pt α)} (h : Exch box A B)
    {q q₀ : Pt α} (hq : InOpenBox box q) (hq₀ : InOpenBox box q₀) : wE A q - wE B q = wE A q₀ - wE B q₀ := by
  obtain ⟨O, W, hO, hW, hw, hd, _⟩ := h
  have k1 := Clip.C16R.outE_list_sgn hb hq hq₀ O hO
  have k2 := Clip.C16R.outE_list_sgn hb hq hq₀ W hW
  have := hw q
  have := hw q₀
  have := hd (potZ box q q₀)
  linarith

/-- mod 2: the cycle is `O ++ W` -/
theorem Exch.cycle {box : Bound α} {A B : List (Pt α × Pt α)} (h : Exch box A B) :
    ∃ Z : List (Pt α × Pt α), (∀ se ∈ Z, OutE box se.1 se.2) ∧ (∀ g : Pt α → Bool, dE g Z = false) ∧
      (∀ q, (crE A q != crE B q) = crE Z q) ∧ (∀ q, InOpenBox box q → onE A q = onE B q) := by
  obtain ⟨O, W, hO, hW, hw, hd, hon⟩ := h
  refine ⟨O ++ W, List.forall_mem_append.2 ⟨hO, hW⟩, fun g => ?_, fun q => ?_, hon⟩
  · have h1 := Clip.C16R.dZ_emod g O
    rw [hd, Clip.C16R.dZ_emod] at h1
    rw [Clip.C16R.dE_append, Clip.C16R.ind_inj h1]; exact bne_self_eq_false _
  · rw [Clip.C16R.crE_append]
    exact Clip.C16R.bne_of_emod4 (Clip.C16R.wE_emod A q) (Clip.C16R.wE_emod B q) (Clip.C16R.wE_emod O q)
      (Clip.C16R.wE_emod W q) (hw q)

theorem Exch.on {box : Bound α} {A B : List (Pt α × Pt α)} (h : Exch box A B) {q : Pt α} (hq : InOpenBox box q) :
    onE A q = onE B q :=
  let ⟨_, _, _, _, _, _, hon⟩ := h
  hon q hq

theorem Exch.perm_right {box : Bound α} {A B B' : List (Pt α × Pt α)} (h : Exch box A B) (hp : B.Perm B') :
    Exch box A B' :=
  let ⟨O, W, hO, hW, hw, hd, hon⟩ := h
  ⟨O, W, hO, hW, fun q => Clip.C16R.wE_perm hp q ▸ hw q, hd, fun q hq => Clip.C16R.onE_perm hp q ▸ hon q hq⟩

/-- the core for what `smartWrap` makes of the pieces `op`, `outR` being its rings and the kept ones -/
theorem cycle_exch (box : Bound α) (hb : BoxOK box) (o : Int) (ho : o = CW ∨ o = CCW)
    (R : List (List (Pt α))) (hR : ∀ r ∈ R, ClosedRing r ∧ 2 ≤ r.length)
    (op K : List (List (Pt α))) (hpok : ∀ ls ∈ op, PieceOK box ls) (hnd : (op.map List.head?).Nodup)
    (hK : ∀ rg ∈ K, ClosedRing rg ∧ 2 ≤ rg.length)
    (O : List (Pt α × Pt α)) (hO : ∀ se ∈ O, OutE box se.1 se.2)
    (D : Decomp (R.flatMap Contains.chain) ((op ++ K).flatMap Contains.chain) O)
    (result : List (List (List (Pt α)))) (hw : smartWrap box op o = .ok result)
    (outR : List (List (Pt α))) (hout : outR.Perm (result.flatten ++ K)) :
    Exch box (outR.flatMap EvenOdd.edges) (R.flatMap EvenOdd.edges) := by
  obtain ⟨Wk, hWkO, hperm', hall⟩ := cycle_data box hb o ho op K hpok hnd hK result hw outR hout
  rw [List.flatMap_append] at D
  exact exch_of_decomp hR hall hO hWkO D hperm'

/-- Output and input differ by a mod-2 cycle `Z` of edges avoiding the open box. -/
theorem cycle_core (box : Bound α) (hb : BoxOK box) (o : Int) (ho : o = CW ∨ o = CCW)
    (R : List (List (Pt α))) (hR : ∀ r ∈ R, ClosedRing r ∧ 2 ≤ r.length)
    (op K : List (List (Pt α))) (hpok : ∀ ls ∈ op, PieceOK box ls) (hnd : (op.map List.head?).Nodup)
    (hK : ∀ rg ∈ K, ClosedRing rg ∧ 2 ≤ rg.length)
    (O : List (Pt α × Pt α)) (hO : ∀ se ∈ O, OutE box se.1 se.2)
    (D : Decomp (R.flatMap Contains.chain) ((op ++ K).flatMap Contains.chain) O)
    (result : List (List (List (Pt α)))) (hw : smartWrap box op o = .ok result)
    (outR : List (List (Pt α))) (hout : outR.Perm (result.flatten ++ K)) :
    ∃ Z : List (Pt α × Pt α), (∀ se ∈ Z, OutE box se.1 se.2) ∧ (∀ g : Pt α → Bool, dE g Z = false) ∧
      (∀ q, (crE (outR.flatMap EvenOdd.edges) q != crE (R.flatMap EvenOdd.edges) q) = crE Z q) ∧
      (∀ q, InOpenBox box q → onE (outR.flatMap EvenOdd.edges) q = onE (R.flatMap EvenOdd.edges) q) :=
  (cycle_exch box hb o ho R hR op K hpok hnd hK O hO D result hw outR hout).cycle

/-- With signs: the sum of the winding numbers of the returned rings differs from that of the input rings by the same
    integer at all points of the open box. -/
theorem cycle_core_w (box : Bound α) (hb : BoxOK box) (o : Int) (ho : o = CW ∨ o = CCW)
    (R : List (List (Pt α))) (hR : ∀ r ∈ R, ClosedRing r ∧ 2 ≤ r.length)
    (op K : List (List (Pt α))) (hpok : ∀ ls ∈ op, PieceOK box ls) (hnd : (op.map List.head?).Nodup)
    (hK : ∀ rg ∈ K, ClosedRing rg ∧ 2 ≤ rg.length)
    (O : List (Pt α × Pt α)) (hO : ∀ se ∈ O, OutE box se.1 se.2)
    (D : Decomp (R.flatMap Contains.chain) ((op ++ K).flatMap Contains.chain) O)
    (result : List (List (List (Pt α)))) (hw : smartWrap box op o = .ok result)
    (outR : List (List (Pt α))) (hout : outR.Perm (result.flatten ++ K))
    (q q₀ : Pt α) (hq : InOpenBox box q) (hq₀ : InOpenBox box q₀) :
    Clip.C16R.wE (outR.flatMap EvenOdd.edges) q - Clip.C16R.wE (R.flatMap EvenOdd.edges) q =
      Clip.C16R.wE (outR.flatMap EvenOdd.edges) q₀ - Clip.C16R.wE (R.flatMap EvenOdd.edges) q₀ :=
  (cycle_exch box hb o ho R hR op K hpok hnd hK O hO D result hw outR hout).winding_const hb hq hq₀

/-- what `Exch.cycle` gives at two points of the open box -/
theorem cycle_const (box : Bound α) (hb : BoxOK box) (A B : List (Pt α × Pt α))
    (hZ : ∃ Z : List (Pt α × Pt α), (∀ se ∈ Z, OutE box se.1 se.2) ∧ (∀ g : Pt α → Bool, dE g Z = false) ∧
      (∀ q, (crE A q != crE B q) = crE Z q) ∧ (∀ q, InOpenBox box q → onE A q = onE B q))
    (q q₀ : Pt α) (hq : InOpenBox box q) (hq₀ : InOpenBox box q₀) :
    (crE A q != crE B q) = (crE A q₀ != crE B q₀) := by
  obtain ⟨Z, hZ, hd, hcr', _⟩ := hZ
  have key := Clip.C16R.outE_list (box := box) hb hq hq₀ Z hZ
  rw [hd] at key
  rw [hcr' q, hcr' q₀]
  revert key
  cases crE Z q <;> cases crE Z q₀ <;> simp

theorem Exch.nil_const {box : Bound α} (hb : BoxOK box) {B : List (Pt α × Pt α)} (h : Exch box [] B)
    {q q₀ : Pt α} (hq : InOpenBox box q) (hq₀ : InOpenBox box q₀) : crE B q = crE B q₀ ∧ onE B q = false := by
  have hc := cycle_const box hb _ _ h.cycle q q₀ hq hq₀
  rw [Clip.C08R.crE_nil, Clip.C08R.crE_nil, Bool.false_bne, Bool.false_bne] at hc
  exact ⟨hc, (h.on hq).symm⟩

theorem ringClosed_closed (r : List (Pt α)) (hrc : ringClosed r = true) : ClosedRing r ∧ 2 ≤ r.length := by
  obtain ⟨h4, f, hf, hlast⟩ := ringClosed_spec r hrc
  exact ⟨⟨by intro e; rw [e] at h4; simp at h4, by rw [hf, hlast]⟩, by omega⟩

theorem insideRing_closed {box : Bound α} {K : List (List (Pt α))} (h : ∀ ls ∈ K, InsideRing box ls ∧ 2 ≤ ls.length) :
    ∀ rg ∈ K, ClosedRing rg ∧ 2 ≤ rg.length := fun rg hrg => ⟨(h rg hrg).1.1, (h rg hrg).2⟩

set_option linter.unusedVariables false in
/-- what `smartclip.Ring` returns when the boundary of the ring crosses the box (`hne` is not used) -/
theorem ring_eq_smartWrap (box : Bound α) (r : List (Pt α)) (o : Int) (hne : r ≠ [])
    (op cl : List (List (Pt α))) (hcr : clipRings box [r] = .ok (op, cl)) (hop : op ≠ []) :
    ring box r o = smartWrap box op o := by
  rw [ring_of_clip box r o hcr, if_neg hop]

theorem ring_exch (box : Bound α) (hb : BoxOK box) (r : List (Pt α)) (o : Int) (ho : o = CW ∨ o = CCW)
    (hrc : ringClosed r = true) (op cl : List (List (Pt α))) (hcr : clipRings box [r] = .ok (op, cl))
    (hop : op ≠ []) (hnd : (op.map List.head?).Nodup)
    (out : List (List (List (Pt α)))) (h : ring box r o = .ok out) :
    Exch box (out.flatten.flatMap EvenOdd.edges) (EvenOdd.edges r) := by
  obtain ⟨⟨O, hO, D⟩, hshape⟩ := clipRings_decomp box hb r hrc op cl hcr
  -- an open piece exists, so there is no interior ring, and the result is what `smartWrap` makes of the pieces
  obtain ⟨rfl, hpok⟩ := hshape.resolve_right fun h' => hop h'.1
  rw [ring_of_clip box r o hcr, if_neg hop] at h
  have := cycle_exch box hb o ho [r] (List.forall_mem_singleton.2 (ringClosed_closed r hrc)) op [] hpok hnd
    (fun _ h => nomatch h) O hO (by rwa [List.flatMap_singleton]) out h out.flatten (by rw [List.append_nil])
  rwa [List.flatMap_singleton] at this

/-- THE OUTPUT AND THE INPUT DIFFER BY A MOD-2 CYCLE OF EDGES AVOIDING THE OPEN BOX. -/
theorem ring_cycle (box : Bound α) (hb : BoxOK box) (r : List (Pt α)) (o : Int) (ho : o = CW ∨ o = CCW)
    (hrc : ringClosed r = true) (op cl : List (List (Pt α))) (hcr : clipRings box [r] = .ok (op, cl))
    (hop : op ≠ []) (hnd : (op.map List.head?).Nodup)
    (out : List (List (List (Pt α)))) (h : ring box r o = .ok out) :
    ∃ Z : List (Pt α × Pt α), (∀ se ∈ Z, OutE box se.1 se.2) ∧ (∀ g : Pt α → Bool, dE g Z = false) ∧
      (∀ q, (crE (out.flatten.flatMap EvenOdd.edges) q != crE (EvenOdd.edges r) q) = crE Z q) ∧
      (∀ q, InOpenBox box q → onE (out.flatten.flatMap EvenOdd.edges) q = onE (EvenOdd.edges r) q) :=
  (ring_exch box hb r o ho hrc op cl hcr hop hnd out h).cycle

/-- (one-bit form) For a ring closed in Go's sense whose boundary crosses the box: the discrepancy between the even-odd
    region of the returned rings and the even-odd region of the input ring is THE SAME AT ALL POINTS OF THE OPEN BOX.
    (`hnd`, here and in every theorem of the region files: carried, not used; see the head of this file.) -/
theorem ring_region_const (box : Bound α) (hb : BoxOK box) (r : List (Pt α)) (o : Int) (ho : o = CW ∨ o = CCW)
    (hrc : ringClosed r = true) (op cl : List (List (Pt α))) (hcr : clipRings box [r] = .ok (op, cl))
    (hop : op ≠ []) (hnd : (op.map List.head?).Nodup)
    (out : List (List (List (Pt α)))) (h : ring box r o = .ok out)
    (q q₀ : Pt α) (hq : InOpenBox box q) (hq₀ : InOpenBox box q₀) :
    ((multiCrossings out q % 2 == 1) != (EvenOdd.crossings r q % 2 == 1)) =
      ((multiCrossings out q₀ % 2 == 1) != (EvenOdd.crossings r q₀ % 2 == 1)) := by
  have hZ := ring_cycle box hb r o ho hrc op cl hcr hop hnd out h
  rw [multiCrossings_parity, multiCrossings_parity, Clip.C08R.crossings_parity, Clip.C08R.crossings_parity]
  exact cycle_const box hb _ _ hZ q q₀ hq hq₀

/-- a point of the open box is on a returned ring iff it is on the input ring -/
theorem ring_boundary (box : Bound α) (hb : BoxOK box) (r : List (Pt α)) (o : Int) (ho : o = CW ∨ o = CCW)
    (hrc : ringClosed r = true) (op cl : List (List (Pt α))) (hcr : clipRings box [r] = .ok (op, cl))
    (hop : op ≠ []) (hnd : (op.map List.head?).Nodup)
    (out : List (List (List (Pt α)))) (h : ring box r o = .ok out) (q : Pt α) (hq : InOpenBox box q) :
    multiOnBoundary out q = EvenOdd.onBoundary r q := by
  obtain ⟨Z, _, _, _, hon⟩ := ring_cycle box hb r o ho hrc op cl hcr hop hnd out h
  rw [multiOnBoundary_eq, Clip.C08R.onBoundary_eq]
  exact hon q hq

theorem parity_of_beq {n m : Nat} (h : (n % 2 == 1) = (m % 2 == 1)) : n % 2 = m % 2 :=
  Contains.parity_inj h

theorem parity_transfer {a b c d : Nat} (hc : ((a % 2 == 1) != (b % 2 == 1)) = ((c % 2 == 1) != (d % 2 == 1)))
    (href : c % 2 = d % 2) : a % 2 = b % 2 := by
  apply parity_of_beq
  rw [href] at hc
  revert hc
  cases (a % 2 == 1) <;> cases (b % 2 == 1) <;> cases (d % 2 == 1) <;> simp

theorem evenOdd_of_ref {out mp : List (List (List (Pt α)))} {q q₀ : Pt α}
    (hc : ((multiCrossings out q % 2 == 1) != (multiCrossings mp q % 2 == 1)) =
      ((multiCrossings out q₀ % 2 == 1) != (multiCrossings mp q₀ % 2 == 1)))
    (href : multiCrossings out q₀ % 2 = multiCrossings mp q₀ % 2)
    (hon : onE (out.flatten.flatMap EvenOdd.edges) q = onE (mp.flatten.flatMap EvenOdd.edges) q) :
    multiCrossings out q % 2 = multiCrossings mp q % 2 ∧ multiOnBoundary out q = multiOnBoundary mp q ∧
      multiEvenOdd out q = multiEvenOdd mp q := by
  have h1 : multiCrossings out q % 2 = multiCrossings mp q % 2 := parity_transfer hc href
  have h2 : multiOnBoundary out q = multiOnBoundary mp q := by
    rw [multiOnBoundary_eq, multiOnBoundary_eq]
    exact hon
  refine ⟨h1, h2, ?_⟩
  unfold multiEvenOdd
  rw [h2, h1]

/-- REGION EQUALITY FROM ONE REFERENCE POINT: if the returned rings enclose (even-odd) the right side at
    one point `q₀` of the open box, they enclose exactly the part of the input region inside the box:
    crossing parity, boundary flag and even-odd `inside` agree at EVERY point `q` of the open box. -/
theorem ring_region_of_ref (box : Bound α) (hb : BoxOK box) (r : List (Pt α)) (o : Int) (ho : o = CW ∨ o = CCW)
    (hrc : ringClosed r = true) (op cl : List (List (Pt α))) (hcr : clipRings box [r] = .ok (op, cl))
    (hop : op ≠ []) (hnd : (op.map List.head?).Nodup)
    (out : List (List (List (Pt α)))) (h : ring box r o = .ok out)
    (q₀ : Pt α) (hq₀ : InOpenBox box q₀) (href : multiCrossings out q₀ % 2 = EvenOdd.crossings r q₀ % 2)
    (q : Pt α) (hq : InOpenBox box q) :
    multiCrossings out q % 2 = EvenOdd.crossings r q % 2 ∧ multiOnBoundary out q = EvenOdd.onBoundary r q ∧
      multiEvenOdd out q = EvenOdd.inside r q := by
  have hc := ring_region_const box hb r o ho hrc op cl hcr hop hnd out h q q₀ hq hq₀
  have hb' := ring_boundary box hb r o ho hrc op cl hcr hop hnd out h q hq
  have h1 : multiCrossings out q % 2 = EvenOdd.crossings r q % 2 := parity_transfer hc href
  refine ⟨h1, hb', ?_⟩
  unfold multiEvenOdd EvenOdd.inside
  rw [hb', h1]

/-- … and then it is the region plain clipping gives (`clip.Ring`, Sutherland–Hodgman, `sh_region_strong`). -/
theorem ring_region_eq_clip (box : Bound α) (hb : BoxOK box) (r : List (Pt α)) (o : Int) (ho : o = CW ∨ o = CCW)
    (hrc : ringClosed r = true) (op cl : List (List (Pt α))) (hcr : clipRings box [r] = .ok (op, cl))
    (hop : op ≠ []) (hnd : (op.map List.head?).Nodup)
    (out : List (List (List (Pt α)))) (h : ring box r o = .ok out)
    (plain : List (Pt α)) (hplain : Clip.ring box r = some plain)
    (q₀ : Pt α) (hq₀ : InOpenBox box q₀) (href : multiCrossings out q₀ % 2 = EvenOdd.crossings r q₀ % 2)
    (q : Pt α) (hq : InOpenBox box q) :
    multiCrossings out q % 2 = EvenOdd.crossings plain q % 2 ∧
      multiOnBoundary out q = EvenOdd.onBoundary plain q ∧ multiEvenOdd out q = EvenOdd.inside plain q := by
  have hrcl : Clip.ClosedRing r := (ringClosed_closed r hrc).1
  obtain ⟨a1, a2, a3⟩ := ring_region_of_ref box hb r o ho hrc op cl hcr hop hnd out h q₀ hq₀ href q hq
  obtain ⟨b1, b2, b3⟩ := Clip.C08R.sh_region_strong box r plain q hb hrcl hplain hq
  exact ⟨a1.trans b1.symm, a2.trans b2.symm, a3.trans b3.symm⟩

set_option linter.unusedVariables false in
/-- no open piece but an interior ring: `smartclip.Ring` hands the input back (region trivially equal; `hne` is not used) -/
theorem ring_unclipped (box : Bound α) (r : List (Pt α)) (o : Int) (hne : r ≠ [])
    (cl : List (List (Pt α))) (hcr : clipRings box [r] = .ok ([], cl)) (hcl : cl ≠ []) :
    ring box r o = .ok [[r]] := by
  rw [ring_of_clip box r o hcr, if_pos rfl, if_neg hcl]

theorem rings_nil_exch (box : Bound α) (hb : BoxOK box) (rings : List (List (Pt α)))
    (hrc : ∀ r ∈ rings, ringClosed r = true) (hcr : clipRings box rings = .ok ([], [])) :
    Exch box [] (rings.flatMap EvenOdd.edges) := by
  obtain ⟨⟨O, hO, D⟩, _, _⟩ := clipRings_decomp_multi box hb rings hrc [] [] hcr
  exact exch_of_decomp (outR := []) (E := []) (K := []) (Wk := []) (fun r hr => ringClosed_closed r (hrc r hr))
    (fun _ h => nomatch h) hO (fun _ h => nomatch h) D (List.Perm.refl _)

/-- neither an open piece nor an interior ring: the ring does not meet the open box, `smartclip.Ring`
    returns nothing, and the whole open box is on ONE side of the ring (all inside or all outside — the
    former is the known case "box wholly inside the ring", outside the property's quantifier). -/
theorem ring_nil_const (box : Bound α) (hb : BoxOK box) (r : List (Pt α)) (o : Int)
    (hrc : ringClosed r = true) (hcr : clipRings box [r] = .ok ([], [])) :
    ring box r o = .ok [] ∧ ∀ q q₀, InOpenBox box q → InOpenBox box q₀ →
      EvenOdd.crossings r q % 2 = EvenOdd.crossings r q₀ % 2 ∧ EvenOdd.onBoundary r q = false := by
  refine ⟨by rw [ring_of_clip box r o hcr, if_pos rfl, if_pos rfl], fun q q₀ hq hq₀ => ?_⟩
  have := (rings_nil_exch box hb [r] (List.forall_mem_singleton.2 hrc) hcr).nil_const hb hq hq₀
  rw [List.flatMap_singleton] at this
  exact ⟨parity_of_beq this.1, this.2⟩

/-- (winding-number form) the sum of the winding numbers of the returned rings round `q` differs
    from the winding number of the input ring round `q` by THE SAME INTEGER at all points of the open box. -/
theorem ring_winding_const (box : Bound α) (hb : BoxOK box) (r : List (Pt α)) (o : Int) (ho : o = CW ∨ o = CCW)
    (hrc : ringClosed r = true) (op cl : List (List (Pt α))) (hcr : clipRings box [r] = .ok (op, cl))
    (hop : op ≠ []) (hnd : (op.map List.head?).Nodup)
    (out : List (List (List (Pt α)))) (h : ring box r o = .ok out)
    (q q₀ : Pt α) (hq : InOpenBox box q) (hq₀ : InOpenBox box q₀) :
    multiWinding out q - winding r q = multiWinding out q₀ - winding r q₀ := by
  rw [multiWinding_eq, multiWinding_eq]
  exact (ring_exch box hb r o ho hrc op cl hcr hop hnd out h).winding_const hb hq hq₀

/-- if the returned rings wind round ONE point of the open box as the input ring does, they do so round
    EVERY point of the open box: the output has the winding of the input, sign included -/
theorem ring_winding_of_ref (box : Bound α) (hb : BoxOK box) (r : List (Pt α)) (o : Int) (ho : o = CW ∨ o = CCW)
    (hrc : ringClosed r = true) (op cl : List (List (Pt α))) (hcr : clipRings box [r] = .ok (op, cl))
    (hop : op ≠ []) (hnd : (op.map List.head?).Nodup)
    (out : List (List (List (Pt α)))) (h : ring box r o = .ok out)
    (q₀ : Pt α) (hq₀ : InOpenBox box q₀) (href : multiWinding out q₀ = winding r q₀)
    (q : Pt α) (hq : InOpenBox box q) : multiWinding out q = winding r q := by
  have := ring_winding_const box hb r o ho hrc op cl hcr hop hnd out h q q₀ hq hq₀
  rw [href] at this
  linarith

/-- A criterion that does not mention a reference value: if the input ring winds `0` round some point of
    the open box and `1` round another (a positively wound ring whose boundary crosses the box does), and
    the returned rings wind neither negatively nor more than once round these two points, then the
    output winds exactly as the input round every point of the open box. -/
theorem ring_winding_of_range (box : Bound α) (hb : BoxOK box) (r : List (Pt α)) (o : Int) (ho : o = CW ∨ o = CCW)
    (hrc : ringClosed r = true) (op cl : List (List (Pt α))) (hcr : clipRings box [r] = .ok (op, cl))
    (hop : op ≠ []) (hnd : (op.map List.head?).Nodup)
    (out : List (List (List (Pt α)))) (h : ring box r o = .ok out)
    (qa qb : Pt α) (hqa : InOpenBox box qa) (hqb : InOpenBox box qb) (ha : winding r qa = 0) (hb1 : winding r qb = 1)
    (hoa : 0 ≤ multiWinding out qa) (hob : multiWinding out qb ≤ 1)
    (q : Pt α) (hq : InOpenBox box q) : multiWinding out q = winding r q := by
  have h1 := ring_winding_const box hb r o ho hrc op cl hcr hop hnd out h q qa hq hqa
  have h2 := ring_winding_const box hb r o ho hrc op cl hcr hop hnd out h qb qa hqb hqa
  rw [ha] at h1 h2
  rw [hb1] at h2
  have : multiWinding out qa = 0 := by omega
  rw [this] at h1
  linarith

section witness

def wBox : Bound ℚ := ⟨⟨0, 0⟩, ⟨4, 4⟩⟩
/-- the counter-clockwise square `[2,6]²`, cut by the top-right corner of the box -/
def wRing : List (Pt ℚ) := [⟨2, 2⟩, ⟨6, 2⟩, ⟨6, 6⟩, ⟨2, 6⟩, ⟨2, 2⟩]

theorem wBox_ok : BoxOK wBox := by constructor <;> simp [wBox]

theorem wRef : InOpenBox wBox ⟨3, 3⟩ := by simp [InOpenBox, wBox]; norm_num

theorem wClip : clipRings wBox [wRing] = .ok ([[⟨2, 4⟩, ⟨2, 2⟩, ⟨4, 2⟩]], []) := by with_unfolding_all rfl

theorem wCCW : ring wBox wRing CCW = .ok [[[⟨2, 4⟩, ⟨2, 2⟩, ⟨4, 2⟩, ⟨4, 4⟩, ⟨2, 4⟩]]] := by
  with_unfolding_all rfl

theorem wCW : ring wBox wRing CW =
    .ok [[[⟨2, 4⟩, ⟨2, 2⟩, ⟨4, 2⟩, ⟨4, 0⟩, ⟨2, 0⟩, ⟨0, 0⟩, ⟨0, 2⟩, ⟨0, 4⟩, ⟨2, 4⟩]]] := by
  with_unfolding_all rfl

/-- requested with its own winding (CCW) the cut square comes back as exactly its part inside the box:
    EVERY point of the open box is inside the returned polygon iff it is inside the square -/
theorem witness_ccw (q : Pt ℚ) (hq : InOpenBox wBox q) :
    multiEvenOdd [[[⟨2, 4⟩, ⟨2, 2⟩, ⟨4, 2⟩, ⟨4, 4⟩, ⟨2, 4⟩]]] q = EvenOdd.inside wRing q :=
  (ring_region_of_ref wBox wBox_ok wRing CCW (Or.inr rfl) (by decide) _ _ wClip (by simp) (by decide) _ wCCW
    ⟨3, 3⟩ wRef (by decide +kernel) q hq).2.2

/-- requested with the opposite winding (CW) it comes back as the COMPLEMENT inside the box: at every
    point of the open box the crossing parities of output and input differ -/
theorem witness_cw (q : Pt ℚ) (hq : InOpenBox wBox q) :
    ((multiCrossings [[[⟨2, 4⟩, ⟨2, 2⟩, ⟨4, 2⟩, ⟨4, 0⟩, ⟨2, 0⟩, ⟨0, 0⟩, ⟨0, 2⟩, ⟨0, 4⟩, ⟨2, 4⟩]]] q % 2 == 1) !=
      (EvenOdd.crossings wRing q % 2 == 1)) = true := by
  rw [ring_region_const wBox wBox_ok wRing CW (Or.inl rfl) (by decide) _ _ wClip (by simp) (by decide) _ wCW
    q ⟨3, 3⟩ hq wRef]
  decide +kernel

/-- … and with its winding: round every point of the open box the returned ring winds as the square does
    (`+1` inside, `0` outside) -/
theorem witness_ccw_winding (q : Pt ℚ) (hq : InOpenBox wBox q) :
    multiWinding [[[⟨2, 4⟩, ⟨2, 2⟩, ⟨4, 2⟩, ⟨4, 4⟩, ⟨2, 4⟩]]] q = winding wRing q :=
  ring_winding_of_ref wBox wBox_ok wRing CCW (Or.inr rfl) (by decide) _ _ wClip (by simp) (by decide) _ wCCW
    ⟨3, 3⟩ wRef (by decide +kernel) q hq

/-- requested clockwise, the returned ring winds `-1` round the complement: everywhere in the open box
    its winding number is that of the square minus one -/
theorem witness_cw_winding (q : Pt ℚ) (hq : InOpenBox wBox q) :
    multiWinding [[[⟨2, 4⟩, ⟨2, 2⟩, ⟨4, 2⟩, ⟨4, 0⟩, ⟨2, 0⟩, ⟨0, 0⟩, ⟨0, 2⟩, ⟨0, 4⟩, ⟨2, 4⟩]]] q - winding wRing q = -1 := by
  rw [ring_winding_const wBox wBox_ok wRing CW (Or.inl rfl) (by decide) _ _ wClip (by simp) (by decide) _ wCW
    q ⟨3, 3⟩ hq wRef]
  decide +kernel

end witness

end Orb.SmartClip
