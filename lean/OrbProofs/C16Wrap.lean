/-
  C16 lemmas: the stitching loop uses every piece exactly once and never panics.  The `used` flags of the
  endpoint slice are a function (`mark`) of the trace of `Shape`: which pieces have been consumed and which
  one the ring under construction began with.  `J` is the whole loop invariant, `smartWrap_spec` what
  `smartWrap` returns; the loop stays within its fuel because every step but a skip sets an unused flag.
-/
import OrbProofs.C16Stitch
import Mathlib.Tactic.Ring
import Mathlib.Data.List.Perm.Basic

set_option linter.unusedSectionVars false

namespace Orb.SmartClip
open Orb Orb.Core
open Orb.Res (ok_ite ok_bind)

variable {α : Type} [Field α] [LinearOrder α] [IsStrictOrderedRing α]

theorem smartWrap_nil' (box : Bound α) (o : Int) : smartWrap box ([] : List (List (Pt α))) o = .ok [] := by
  rfl

/-- the record of slot `j` after the slots in `M` have been marked as used -/
def mkU (M : List Nat) (j : Nat) (e : Endpoint α) : Endpoint α := { e with used := e.used || decide (j ∈ M) }

/-- the slice after the slots in `M` have been marked as used -/
def markL (M : List Nat) (pts : List (Endpoint α)) : List (Endpoint α) := pts.mapIdx (mkU M)

theorem markL_getElem? (M : List Nat) (pts : List (Endpoint α)) (j : Nat) :
    (markL M pts)[j]? = (pts[j]?).map (mkU M j) := by
  unfold markL; rw [List.getElem?_mapIdx]

theorem modify_eq_markL (pts : List (Endpoint α)) (a : Nat) : pts.modify a usedT = markL [a] pts := by
  apply List.ext_getElem?
  intro j
  rw [markL_getElem?, List.getElem?_modify]
  cases pts[j]? with
  | none => rfl
  | some e =>
    by_cases h : a = j
    · subst h; simp [mkU, usedT]
    · have : ¬ j = a := fun hh => h hh.symm
      simp [mkU, h, this]

theorem set_eq_markL {pts : List (Endpoint α)} {a : Nat} {ep : Endpoint α} (h : pts[a]? = some ep) :
    pts.set a (usedT ep) = markL [a] pts := by
  rw [← modify_eq_markL]
  apply List.ext_getElem?
  intro j
  rw [List.getElem?_set, List.getElem?_modify]
  by_cases hj : a = j
  · subst hj
    obtain ⟨hlt, hget⟩ := List.getElem?_eq_some_iff.1 h
    simp [hlt, hget]
  · simp [hj]

theorem set_modify_eq_markL {pts : List (Endpoint α)} {a b : Nat} {ep : Endpoint α} (h : pts[a]? = some ep) :
    (pts.set a (usedT ep)).modify b usedT = markL [a, b] pts := by
  rw [set_eq_markL h, modify_eq_markL]
  apply List.ext_getElem?
  intro j
  rw [markL_getElem?, markL_getElem?, markL_getElem?]
  cases pts[j]? with
  | none => rfl
  | some e =>
    simp only [Option.map_some, Option.some.injEq]
    simp only [mkU, List.mem_cons, List.not_mem_nil, or_false, Bool.decide_or, Bool.or_assoc]

/-- The `used` flag of a record when the pieces `U` have been consumed and `f` is the first piece of the
    ring under construction: an end is used iff its piece is consumed; so is a start, except that of `f`. -/
def flagOf (U : List Nat) (f : Option Nat) (e : Endpoint α) : Bool :=
  decide (e.index ∈ U) && !(e.start && f == some e.index)

/-- all flags recomputed from the trace (`flagOf`); `markL` above sets the flags of given slots -/
def mark (U : List Nat) (f : Option Nat) (pts : List (Endpoint α)) : List (Endpoint α) :=
  pts.map fun e => { e with used := flagOf U f e }

theorem mark_getElem? (U : List Nat) (f : Option Nat) (pts : List (Endpoint α)) (j : Nat) :
    (mark U f pts)[j]? = pts[j]?.map fun e => { e with used := flagOf U f e } := by
  unfold mark; rw [List.getElem?_map]

theorem mark_some {U : List Nat} {f : Option Nat} {pts : List (Endpoint α)} {k : Nat} {ep : Endpoint α}
    (h : (mark U f pts)[k]? = some ep) : ∃ e0, pts[k]? = some e0 ∧ ep = { e0 with used := flagOf U f e0 } := by
  rw [mark_getElem?] at h
  cases h0 : pts[k]? with
  | none => rw [h0] at h; cases h
  | some e0 => rw [h0] at h; exact ⟨e0, rfl, by cases h; rfl⟩

theorem mark_update {pts : List (Endpoint α)} {U U' : List Nat} {f f' : Option Nat} (K : List Nat)
    (hK : ∀ j e, pts[j]? = some e → flagOf U' f' e = (flagOf U f e || decide (j ∈ K))) :
    markL K (mark U f pts) = mark U' f' pts := by
  apply List.ext_getElem?
  intro j
  rw [markL_getElem?, mark_getElem?, mark_getElem?]
  cases h : pts[j]? with
  | none => rfl
  | some e => simp only [Option.map_some, mkU, hK j e h]

/-- the flags part of the invariant: `U` = pieces consumed (finished rings and the one under construction),
    `f` = first piece of the ring under construction -/
structure Flags (input : List (List (Pt α))) (sorted : List (Endpoint α)) (U : List Nat) (f : Option Nat)
    (st : WrapSt α) (i : Nat) : Prop where
  pts : st.points = mark U f sorted
  nd : U.Nodup
  lt : ∀ m ∈ U, m < input.length
  cur : st.current = [] ↔ f = none
  /-- while no ring is open, every end passed so far is consumed -/
  scanE : f = none → ∀ k, k < i → ∀ e, sorted[k % sorted.length]? = some e → e.start = false → e.index ∈ U
  /-- While a ring is open, the unused start of its first piece lies ahead, in slot `k0 % n`.  The loop index
      runs over `2n` positions, twice round the `n` slots, because after appending a piece it jumps to
      `otherEnd + 1`, possibly backwards: `i ≤ k0 < 2n` says that start is met again before the second lap ends. -/
  scanN : ∀ m0, f = some m0 → m0 ∈ U ∧ ∃ k0 e0, i ≤ k0 ∧ k0 < 2 * sorted.length ∧
    sorted[k0 % sorted.length]? = some e0 ∧ e0.index = m0 ∧ e0.start = true

section flags
variable {input : List (List (Pt α))} {sorted : List (Endpoint α)} {U : List Nat} {f : Option Nat}
  {st : WrapSt α} {i : Nat} {ep : Endpoint α}

theorem Flags.skip (hF : Flags input sorted U f st i) (hep : st.points[i % sorted.length]? = some ep)
    (hr : ep.used = true ∨ (ep.start = false ∧ st.current ≠ []) ∨ (ep.start = true ∧ st.current = [])) :
    Flags input sorted U f st (i+1) := by
  have hep' := hep; rw [hF.pts] at hep'
  obtain ⟨e0, h0, rfl⟩ := mark_some hep'
  refine ⟨hF.pts, hF.nd, hF.lt, hF.cur, ?_, ?_⟩
  · intro hf k hk e he hs
    rcases Nat.lt_succ_iff_lt_or_eq.1 hk with hk | rfl
    · exact hF.scanE hf k hk e he hs
    · rw [h0] at he; cases he
      rcases hr with h | ⟨_, h⟩ | ⟨h, _⟩
      · simpa [flagOf, hs] using h
      · exact absurd (hF.cur.2 hf) h
      · exact absurd (hs ▸ h) (by simp)
  · intro m0 hf
    obtain ⟨hm, k0, e1, hik, hk2, hk0, hidx, hst⟩ := hF.scanN m0 hf
    refine ⟨hm, k0, e1, ?_, hk2, hk0, hidx, hst⟩
    rcases Nat.lt_or_eq_of_le hik with h | rfl
    · exact h
    · exfalso
      rw [h0] at hk0; cases hk0
      rcases hr with h | ⟨h, _⟩ | ⟨_, h⟩
      · simp [flagOf, hf, hidx, hst] at h
      · exact absurd (hst ▸ h) (by simp)
      · have := hF.cur.1 h; rw [hf] at this; cases this

theorem Flags.consume (hF : Flags input sorted U f st i) {m : Nat} {piece : List (Pt α)} (hm : m ∉ U)
    (hpiece : input[m]? = some piece) : (U ++ [m]).Nodup ∧ ∀ x ∈ U ++ [m], x < input.length := by
  refine ⟨List.nodup_append_comm.1 (List.nodup_cons.2 ⟨hm, hF.nd⟩), fun x hx => ?_⟩
  rcases List.mem_append.1 hx with hx | hx
  · exact hF.lt x hx
  · rw [List.mem_singleton] at hx; subst hx
    exact (List.getElem?_eq_some_iff.1 hpiece).1

/-- slot `a` is met at a loop index in `[b, 2n)`: the index runs twice round the `n` slots -/
theorem lap {n a b : Nat} (ha : a < n) (hb : b ≤ n) : ∃ k0, b ≤ k0 ∧ k0 < 2 * n ∧ k0 % n = a := by
  by_cases h : b ≤ a
  · exact ⟨a, h, by omega, Nat.mod_eq_of_lt ha⟩
  · exact ⟨a + n, by omega, by omega, by rw [Nat.add_mod_right]; exact Nat.mod_eq_of_lt ha⟩

theorem Flags.take (hS : Static input sorted) (hF : Flags input sorted U f st i)
    (hep : st.points[i % sorted.length]? = some ep) (hu : ep.used = false) (hs : ep.start = false)
    (hcur : st.current = []) {piece : List (Pt α)} (hpiece : input[ep.index]? = some piece) (hne : piece ≠ []) :
    Flags input sorted (U ++ [ep.index]) (some ep.index)
      { st with current := piece, first := ep.index, points := st.points.set (i % sorted.length) (usedT ep) }
      (i+1) := by
  have hf := hF.cur.1 hcur
  subst hf
  have hep' := hep; rw [hF.pts] at hep'
  obtain ⟨e0, h0, rfl⟩ := mark_some hep'
  have hs0 : e0.start = false := hs
  have hmU : e0.index ∉ U := by simpa [flagOf, hs0] using hu
  obtain ⟨e', hq, _, hq_idx, hq_st, _, hq_lt⟩ := hS.partner h0
  have hin : i < sorted.length := by
    by_contra hge
    have h1 : (i - sorted.length) % sorted.length = i % sorted.length := by
      conv_rhs => rw [show i = (i - sorted.length) + sorted.length by omega, Nat.add_mod_right]
    exact hmU (hF.scanE rfl (i - sorted.length) (by omega) e0 (by rw [h1]; exact h0) hs0)
  refine ⟨?_, (hF.consume hmU hpiece).1, (hF.consume hmU hpiece).2, ⟨fun h => absurd h hne, (fun h => nomatch h)⟩,
    (fun h => nomatch h), ?_⟩
  · show st.points.set _ _ = _
    rw [set_eq_markL hep, hF.pts]
    refine mark_update _ fun j e hj => ?_
    simp only [List.mem_singleton, hS.slot_iff hj h0, hs0]
    by_cases hm : e.index = e0.index <;> cases hst : e.start <;> simp [flagOf, hm, hst, hmU, eq_comm (a := e0.index)]
  · intro m0 hm0
    cases hm0
    obtain ⟨k0, h1, h2, h3⟩ := lap (b := i + 1) hq_lt (by omega)
    exact ⟨by simp, k0, e', h1, h2, by rw [h3]; exact hq, hq_idx, by rw [hq_st, hs0]; rfl⟩

theorem Flags.complete (hS : Static input sorted) (hF : Flags input sorted U f st i)
    (hep : st.points[i % sorted.length]? = some ep) (hs : ep.start = true) (hf : f = some ep.index)
    {ring : List (Pt α)} :
    Flags input sorted U none
      { points := st.points.set (i % sorted.length) (usedT ep), current := [],
        result := st.result ++ [[ring]], first := st.first } 0 := by
  have hep' := hep; rw [hF.pts] at hep'
  obtain ⟨e0, h0, rfl⟩ := mark_some hep'
  have hf0 : f = some e0.index := hf
  subst hf0
  have hs0 : e0.start = true := hs
  have hmU : e0.index ∈ U := (hF.scanN _ rfl).1
  refine ⟨?_, hF.nd, hF.lt, ⟨fun _ => rfl, fun _ => rfl⟩, fun _ k hk => absurd hk (Nat.not_lt_zero _),
    (fun _ h => nomatch h)⟩
  show st.points.set _ _ = _
  rw [set_eq_markL hep, hF.pts]
  refine mark_update _ fun j e hj => ?_
  simp only [List.mem_singleton, hS.slot_iff hj h0, hs0]
  by_cases hm : e.index = e0.index <;> cases hst : e.start <;> simp [flagOf, hm, hst, hmU, eq_comm (a := e0.index)]

theorem Flags.append (hS : Static input sorted) (hF : Flags input sorted U f st i)
    (hep : st.points[i % sorted.length]? = some ep) (hu : ep.used = false) (hs : ep.start = true)
    {m0 : Nat} (hf : f = some m0) (hm0 : ep.index ≠ m0) {cur piece : List (Pt α)} (hne : cur ≠ [])
    (hpiece : input[ep.index]? = some piece) :
    Flags input sorted (U ++ [ep.index]) f
      { points := (st.points.set (i % sorted.length) (usedT ep)).modify ep.otherEnd usedT,
        current := cur, result := st.result, first := st.first } (ep.otherEnd + 1) := by
  subst hf
  have hep' := hep; rw [hF.pts] at hep'
  obtain ⟨e0, h0, rfl⟩ := mark_some hep'
  have hs0 : e0.start = true := hs
  have hm0' : e0.index ≠ m0 := hm0
  have hmU : e0.index ∉ U := by simpa [flagOf, hs0, Ne.symm hm0'] using hu
  obtain ⟨e', hq, _, hq_idx, hq_st, _, hq_lt⟩ := hS.partner h0
  have hq_st' : e'.start = false := by rw [hq_st, hs0]; rfl
  obtain ⟨hm0U, k0, e1, hik, hk2, hk0, hidx, hst⟩ := hF.scanN m0 rfl
  refine ⟨?_, (hF.consume hmU hpiece).1, (hF.consume hmU hpiece).2, ⟨fun h => absurd h hne, (fun h => nomatch h)⟩,
    (fun h => nomatch h), ?_⟩
  · show (st.points.set _ _).modify _ _ = _
    rw [set_modify_eq_markL hep, hF.pts]
    refine mark_update _ fun j e hj => ?_
    show _ = (_ || decide (j ∈ [i % sorted.length, e0.otherEnd]))
    simp only [List.mem_cons, List.not_mem_nil, or_false, hS.slot_iff hj h0, hS.slot_iff hj hq, hq_idx, hs0, hq_st']
    by_cases hm : e.index = e0.index <;> cases hst : e.start <;> simp [flagOf, hm, hst, hmU, Ne.symm hm0']
  · intro m1 hm1
    cases hm1
    have hn0 : 0 < sorted.length := by omega
    obtain ⟨k0', h1, h2, h3⟩ := lap (b := e0.otherEnd + 1) (Nat.mod_lt k0 hn0) (by omega)
    exact ⟨by simp [hm0U], k0', e1, h1, h2, by rw [h3]; exact hk0, hidx, hst⟩

end flags

/-- the invariant of the stitching loop: what has been built, and the flags as a function of it -/
def J (box : Bound α) (input : List (List (Pt α))) (o : Int) (sorted : List (Endpoint α)) (st : WrapSt α) (i : Nat) :
    Prop :=
  ∃ mss ms, Shape box input o mss ms st ∧ Flags input sorted (mss.flatten ++ ms) ms.head? st i

theorem J_step {box : Bound α} {input : List (List (Pt α))} (hp : ∀ ls ∈ input, PieceOK box ls) {o : Int}
    {sorted : List (Endpoint α)} (hS : Static input sorted) {st st' : WrapSt α} {i i' : Nat}
    (hJ : J box input o sorted st i) (hx : wrapStep box input o sorted.length st i = .ok (.inr (st', i'))) :
    J box input o sorted st' i' := by
  obtain ⟨mss, ms, hSh, hF⟩ := hJ
  have hpne : ∀ {m : Nat} {piece : List (Pt α)}, input[m]? = some piece → piece ≠ [] :=
    fun hm => (hp _ (List.mem_of_getElem? hm)).ne_nil
  refine wrapStep_next (Q := fun st' i' => J box input o sorted st' i') hx ?_ ?_ ?_ ?_
  · exact fun _ ep hep hr => ⟨mss, ms, hSh, hF.skip hep hr⟩
  · intro _ ep piece hep hu hs hcur hpiece
    obtain rfl : ms = [] := List.head?_eq_none_iff.1 (hF.cur.1 hcur)
    exact ⟨mss, [ep.index], hSh.take hep hpiece, by simpa using hF.take hS hep hu hs hcur hpiece (hpne hpiece)⟩
  · intro _ ep cf cl w hep _ hs hcf hcl hw hfirst hpf
    refine ⟨mss ++ [ms], [], hSh.complete hep hcf hcl hw hpf, ?_⟩
    simpa using hF.complete hS hep hs (by rw [(hSh.path hcf).2, hfirst]) (ring := st.current ++ w)
  · intro _ ep cf cl w piece hep hu hs hcf hcl hw hne hpiece _
    obtain ⟨hP, hfirst⟩ := hSh.path hcf
    -- the start of the first piece would have completed the ring
    have hm0 : ep.index ≠ st.first := by
      intro hh
      obtain ⟨m0, ls0, h1, h2, h3⟩ := hP.head hp
      rw [hfirst] at h1; cases h1
      obtain ⟨ls, hls, hif⟩ := hSh.pts ep (List.mem_of_getElem? hep)
      rw [hh, h2] at hls; cases hls
      rw [if_pos hs] at hif
      rcases hne with hne | hne
      · exact hne hh
      · rw [hcf, hif] at h3; cases h3; exact hne rfl
    refine ⟨mss, ms ++ [ep.index], hSh.append hep hs hcf hcl hw hpiece, ?_⟩
    have := hF.append hS hep hu hs hfirst hm0 (cur := st.current ++ (if w.isEmpty then [] else w.dropLast) ++ piece)
      (by simp [(hP.ne_nil hp).2]) hpiece
    rw [List.head?_append, hfirst, Option.some_or, ← List.append_assoc]
    rw [hfirst] at this
    exact this

theorem J_init {box : Bound α} {input : List (List (Pt α))} {o : Int} {sorted : List (Endpoint α)}
    (h : Slice box input sorted) : J box input o sorted { points := sorted, current := [], result := [] } 0 := by
  refine ⟨[], [], ⟨h.1.ptsOK, .nil, Or.inl ⟨rfl, rfl⟩⟩, ?_,
    List.nodup_nil, (fun _ h => nomatch h), ⟨fun _ => rfl, fun _ => rfl⟩, fun _ k hk => absurd hk (Nat.not_lt_zero _),
    (fun _ h => nomatch h)⟩
  show sorted = mark _ _ sorted
  apply List.ext_getElem?
  intro j
  rw [mark_getElem?]
  cases hj : sorted[j]? with
  | none => rfl
  | some e =>
    have := (h.2 e (List.mem_of_getElem? hj)).1
    cases e; simp_all [flagOf]

/-- The specification of `smartWrap`: the result is a list of single-ring polygons, each ring a closed path
    of pieces and boundary connections, and every piece is in exactly one of them -/
theorem smartWrap_spec (box : Bound α) (input : List (List (Pt α))) (o : Int)
    (hp : ∀ ls ∈ input, PieceOK box ls)
    (out : List (List (List (Pt α)))) (h : smartWrap box input o = .ok out) :
    ∃ mss : List (List Nat), mss.flatten.Perm (List.range input.length) ∧
      List.Forall₂ (fun ms pg => ∃ rg, pg = [rg] ∧ Ring box input o ms rg) mss out := by
  obtain ⟨pts, sorted, h1, h2, h⟩ := smartWrap_inv h
  have hsl := sorted_slice h1 h2
  have hstat := hsl.1
  obtain ⟨stf, jf, ⟨mss, ms, hSh, hF⟩, hjf, rfl⟩ :=
    wrapLoop_inv2 (J box input o sorted) (fun st i st' i' hJ hx => J_step hp hstat hJ hx) _ _ _ _ h (J_init hsl)
  have hms : ms = [] := by
    cases ms with
    | nil => rfl
    | cons m0 t =>
      obtain ⟨_, k0, _, h1, h2, _⟩ := hF.scanN m0 rfl
      omega
  subst hms
  rw [List.append_nil] at hF
  refine ⟨mss, ?_, hSh.res⟩
  rw [List.perm_ext_iff_of_nodup hF.nd List.nodup_range]
  intro m
  rw [List.mem_range]
  refine ⟨hF.lt m, fun hm => ?_⟩
  obtain ⟨j, e, hj, hi, hs⟩ := hstat.ex m hm
  have hjn : j < sorted.length := (List.getElem?_eq_some_iff.1 hj).1
  rw [← hi]
  exact hF.scanE rfl j (by omega) e (by rw [Nat.mod_eq_of_lt hjn]; exact hj) hs

def unusedCount (l : List (Endpoint α)) : Nat := l.countP (fun e => !e.used)

theorem unusedCount_set {l : List (Endpoint α)} {k : Nat} {ep : Endpoint α} (hk : l[k]? = some ep)
    (hu : ep.used = false) : unusedCount (l.set k (usedT ep)) + 1 = unusedCount l := by
  obtain ⟨hlt, rfl⟩ := List.getElem?_eq_some_iff.1 hk
  have hp : (fun e : Endpoint α => !e.used) l[k] = true := by simp only [hu]; rfl
  have := (List.countP_pos_iff (p := fun e : Endpoint α => !e.used)).2 ⟨l[k], List.getElem_mem hlt, hp⟩
  rw [unusedCount, unusedCount, List.countP_set hlt, if_pos hp, if_neg (by simp [usedT])]
  omega

theorem unusedCount_modify (l : List (Endpoint α)) (k : Nat) : unusedCount (l.modify k usedT) ≤ unusedCount l := by
  induction l generalizing k with
  | nil => simp [unusedCount]
  | cons a l ih =>
    cases k with
    | zero =>
      rw [List.modify_zero_cons]
      simp only [unusedCount, List.countP_cons, usedT]
      simp
    | succ k =>
      rw [List.modify_succ_cons]
      have := ih k
      simp only [unusedCount, List.countP_cons] at this ⊢
      omega

/-- what one iteration needs in order not to panic -/
def WInv (box : Bound α) (input : List (List (Pt α))) (n : Nat) (st : WrapSt α) : Prop :=
  st.points.length = n ∧
  (∀ e ∈ st.points, OnBoundary box e.point ∧ e.otherEnd < n ∧ ∃ piece, input[e.index]? = some piece) ∧
  (∀ cl, st.current.getLast? = some cl → OnBoundary box cl)

theorem wrapStep_ok {box : Bound α} {input : List (List (Pt α))} {o : Int}
    (ho : o = CW ∨ o = CCW) {n : Nat} {st : WrapSt α} (i : Nat)
    (hI : WInv box input n st) : ∃ x, wrapStep box input o n st i = .ok x := by
  obtain ⟨hlen, hpts, hcur⟩ := hI
  rw [wrapStep]
  refine ok_ite ⟨_, rfl⟩ fun h1 => ?_
  have hk : i % n < st.points.length := by rw [hlen]; exact Nat.mod_lt _ (by omega)
  obtain ⟨hob, hoe, piece, hpiece⟩ := hpts _ (List.getElem_mem hk)
  rw [List.getElem?_eq_getElem hk]
  refine ok_ite ⟨_, rfl⟩ fun _ => ok_ite (ok_ite (by rw [hpiece]; exact ⟨_, rfl⟩) fun _ => ⟨_, rfl⟩) fun _ =>
    ok_ite ⟨_, rfl⟩ fun h5 => ?_
  -- a start met while a ring is open: the connection round the box exists because both points lie on the boundary
  have hne : st.current ≠ [] := by simpa using h5
  have hcl := List.getLast?_eq_some_getLast hne
  rw [List.head?_eq_some_head hne, hcl]
  dsimp only
  refine ok_bind (ok_ite ⟨_, rfl⟩ fun _ => ok_bind
    (aroundBound_total' box _ o _ _ ho (by simp) rfl rfl hob (hcur _ hcl)) fun _ _ => ⟨_, rfl⟩) fun rTail _ => ?_
  refine ok_ite ⟨_, rfl⟩ fun _ => ?_
  rw [hpiece]
  dsimp only
  rw [if_neg (by rw [List.length_set, hlen]; omega)]
  exact ⟨_, rfl⟩

/-- the termination measure: (unused endpoints, remaining indices) lexicographically.  At the start it is
    at most `n (2n+1) + 2n`, below the fuel `(2n+2)²` that `smartWrap` gives the loop in the model. -/
def wrapMu (n : Nat) (st : WrapSt α) (i : Nat) : Nat := unusedCount st.points * (2 * n + 1) + (2 * n - i)

theorem wrapMu_lt_of_unused {n U U' i i' : Nat} (h : U' + 1 ≤ U) : U' * (2 * n + 1) + (2 * n - i') < U * (2 * n + 1) + (2 * n - i) := by
  have : (U' + 1) * (2 * n + 1) ≤ U * (2 * n + 1) := Nat.mul_le_mul_right _ h
  have h2 : (U' + 1) * (2 * n + 1) = U' * (2 * n + 1) + (2 * n + 1) := by ring
  omega

theorem wrapMu_step {box : Bound α} {input : List (List (Pt α))} {o : Int} {n : Nat} :
    ∀ st i st' i', wrapStep box input o n st i = .ok (.inr (st', i')) → wrapMu n st' i' < wrapMu n st i := by
  intro st i st' i' hx
  refine wrapStep_next (Q := fun st' i' => wrapMu n st' i' < wrapMu n st i) hx ?_ ?_ ?_ ?_
  · intro hi _ _ _; unfold wrapMu; omega
  · intro _ ep piece hep hu _ _ _
    exact wrapMu_lt_of_unused (le_of_eq (unusedCount_set hep hu))
  · intro _ ep cf cl rTail hep hu _ _ _ _ _ _
    exact wrapMu_lt_of_unused (le_of_eq (unusedCount_set hep hu))
  · intro _ ep cf cl rTail piece hep hu _ _ _ _ _ _ _
    refine wrapMu_lt_of_unused ?_
    have h1 := unusedCount_set hep hu
    have h2 := unusedCount_modify (st.points.set (i % n) (usedT ep)) ep.otherEnd
    show unusedCount ((st.points.set (i % n) (usedT ep)).modify ep.otherEnd usedT) + 1 ≤ unusedCount st.points
    omega

theorem J.winv {box : Bound α} {input : List (List (Pt α))} (hp : ∀ ls ∈ input, PieceOK box ls) {o : Int}
    {sorted : List (Endpoint α)} (hS : Static input sorted) {st : WrapSt α} {i : Nat}
    (hJ : J box input o sorted st i) : WInv box input sorted.length st := by
  obtain ⟨mss, ms, hSh, hF⟩ := hJ
  refine ⟨by rw [hF.pts]; simp [mark], ?_, ?_⟩
  · intro e he
    obtain ⟨k, hk⟩ := List.getElem?_of_mem he
    rw [hF.pts] at hk
    obtain ⟨e0, h0, rfl⟩ := mark_some hk
    obtain ⟨_, _, _, _, _, _, hlt⟩ := hS.partner h0
    obtain ⟨ls, hls, hif⟩ := hS.piece k e0 h0
    have hok := hp ls (List.mem_of_getElem? hls)
    refine ⟨?_, hlt, ls, hls⟩
    show OnBoundary box e0.point
    split_ifs at hif
    · exact hok.2.1 _ hif
    · exact hok.2.2 _ hif
  · intro cl hcl
    rcases hSh.cur with ⟨_, h0⟩ | ⟨hP, _⟩
    · rw [h0] at hcl; cases hcl
    · exact hP.last hp hcl

theorem wrapLoop_total {box : Bound α} {input : List (List (Pt α))}
    (hp : ∀ ls ∈ input, PieceOK box ls) {o : Int} (ho : o = CW ∨ o = CCW) {sorted : List (Endpoint α)}
    (hS : Static input sorted) :
    ∀ fuel st i, J box input o sorted st i → wrapMu sorted.length st i < fuel →
      ∃ out, wrapLoop box input o sorted.length fuel st i = .ok out := by
  intro fuel
  induction fuel with
  | zero => intro st i _ h; omega
  | succ fuel ih =>
    intro st i hJ hmu
    rw [wrapLoop_succ]
    obtain ⟨x, hx⟩ := wrapStep_ok ho i (hJ.winv hp hS)
    rw [hx, Res.bind]
    cases x with
    | inl r => exact ⟨r, rfl⟩
    | inr p =>
      obtain ⟨st', i'⟩ := p
      have := wrapMu_step st i st' i' hx
      exact ih st' i' (J_step hp hS hJ hx) (by omega)

theorem Slice.epOK {box : Bound α} {input : List (List (Pt α))} (hp : ∀ ls ∈ input, PieceOK box ls)
    {pts : List (Endpoint α)} (h : Slice box input pts) : ∀ e ∈ pts, EpOK input e := by
  intro e he
  obtain ⟨ls, hls, hif⟩ := h.1.ptsOK e he
  have hok := hp ls (List.mem_of_getElem? hls)
  refine ⟨?_, ls, hls, hok.1⟩
  rw [(h.2 e he).2]
  refine pointSide_onBoundary box e.point ?_
  split_ifs at hif
  · exact hok.2.1 _ hif
  · exact hok.2.2 _ hif

theorem smartWrap_sorted {box : Bound α} {input : List (List (Pt α))} (rev : Bool) (hp : ∀ ls ∈ input, PieceOK box ls) :
    ∃ sorted, mkEndpoints box 0 input = .ok (endsOf box 0 input) ∧
      sortE input rev (endsOf box 0 input) = .ok sorted ∧ Slice box input sorted := by
  have hne : ∀ ls ∈ input, ls ≠ [] := fun ls hls => (hp ls hls).ne_nil
  obtain ⟨sorted, hs, hS⟩ := sortE_tot (Slice box input) (fun _ _ _ hi hj h => h.swap hi hj)
    (fun _ h => h.epOK hp) _ (endsOf_slice hne)
  exact ⟨sorted, (mkEndpoints_iff input 0 _).2 ⟨hne, rfl⟩, hs, hS⟩

theorem smartWrap_total' (box : Bound α) (input : List (List (Pt α))) (o : Int)
    (ho : o = CW ∨ o = CCW) (hp : ∀ ls ∈ input, PieceOK box ls) : ∃ out, smartWrap box input o = .ok out := by
  obtain ⟨sorted, he, hs, hS⟩ := smartWrap_sorted (box := box) (o != CCW) hp
  have hfuel : wrapMu sorted.length ({ points := sorted, current := [], result := [] } : WrapSt α) 0 <
      (2 * sorted.length + 2) * (2 * sorted.length + 2) := by
    have h1 : unusedCount sorted ≤ sorted.length := List.countP_le_length
    have h2 : unusedCount sorted * (2 * sorted.length + 1) ≤ sorted.length * (2 * sorted.length + 1) :=
      Nat.mul_le_mul_right _ h1
    show unusedCount sorted * (2 * sorted.length + 1) + (2 * sorted.length - 0) < _
    have h3 : sorted.length * (2 * sorted.length + 1) = 2 * (sorted.length * sorted.length) + sorted.length := by ring
    have h4 : (2 * sorted.length + 2) * (2 * sorted.length + 2) =
        4 * (sorted.length * sorted.length) + 8 * sorted.length + 4 := by ring
    rw [h4, Nat.sub_zero]
    omega
  obtain ⟨out, hout⟩ := wrapLoop_total hp ho hS.1 _ _ 0 (J_init (o := o) hS) hfuel
  refine ⟨out, ?_⟩
  unfold smartWrap
  show Res.bind (mkEndpoints box 0 input) _ = _
  rw [he, Res.bind]
  show Res.bind (sortE input (o != CCW) (endsOf box 0 input)) _ = _
  rw [hs, Res.bind]
  exact hout


set_option linter.unusedVariables false in
/-- with well-formed pieces and a valid orientation the stitching never panics (`hb` is the property's precondition;
    the proof does not use it) -/
theorem smartWrap_no_panic' (box : Bound α) (hb : BoxOK box) (input : List (List (Pt α))) (o : Int)
    (ho : o = CW ∨ o = CCW) (hp : ∀ ls ∈ input, PieceOK box ls) : ∀ w, smartWrap box input o ≠ .panic w := by
  intro w h
  obtain ⟨out, hout⟩ := smartWrap_total' box input o ho hp
  rw [hout] at h
  cases h

end Orb.SmartClip
