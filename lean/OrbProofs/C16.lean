/-
  C16 — Smart clipping closes cut rings around the box with the asked winding.
  PROPERTY THEOREMS about the model `Orb.SmartClip` (clip/smartclip/smart.go, around_bound.go; the
  open-bound line clipper is `Orb.Clip.line box true`, clip/clip.go).  Exact arithmetic over an
  ordered field.  Orientations are `orb.CCW = 1`, `orb.CW = -1`; boundary codes are
  1 left, 2 right, 4 bottom, 8 top and their corner sums 5, 6, 9, 10.

  What is a theorem and what is not:
  * theorems: the `nexts` tables are the two cyclic orders of the eight codes and `pointFor` places
    each code on its side or corner; `aroundBound` closes its input, stays on the boundary and walks
    the box edge in the requested direction; a ring wholly inside comes back unchanged, one with no
    point in the open box yields nothing (`ring_wholly_outside_nil`); every ring `smartWrap` returns is
    closed and inside the box; the entry
    points never panic, for every geometry value (`geometry_total`; it rests on `line_spec`, the
    specification of the open-bound line clipper (C16Line `line_spec'`), and on C08's
    `Clip.geometry_total'` for the kinds that are clipped plainly).  EXACT ARITHMETIC: `line_spec` and every
    totality theorem below are statements over a linearly ordered FIELD.  (For float64 termination of the
    inner loop of clip.line is `Clip.line_total_any`, for ANY arithmetic; the loop counts its clips since
    /repo 2c23ded.  The other loops are bounded by list lengths and the eight-entry corner table.)
  * NOT a theorem (`*_full` definitions below, carried by the executable property on the
    implementation's outputs): the returned polygons enclose exactly the clipped region, with the
    requested winding, holes attached to their container, open input completed on its interior side.
    OrbProofs/C16Region*.lean prove the region clause up to one global bit (the joint even-odd
    discrepancy between output and input is the same at every point of the open box: `ring_region_const`
    and its polygon / multi-polygon forms).
-/
import OrbProofs.C16Lemmas
import OrbProofs.C16Outside
import Generated.Tables
import Mathlib.Algebra.Order.Field.Rat

namespace Orb.SmartClip
open Orb Orb.Core

/-- The model's `nexts` tables are the `[11]int` literals of around_bound.go (`Generated.Tables` is
    regenerated from the Go source on every run: a changed entry breaks this proof and the ones below). -/
theorem nexts_generated : nextsCW = Generated.Tables.nextsCW ∧ nextsCCW = Generated.Tables.nextsCCW := by
  decide

/-- the codes visited from `c` by following the table `n` times (including `c`) -/
def orbit (tbl : List Int) : Nat → Int → List Int
  | 0, _ => []
  | n+1, c => c :: (match nextAt tbl c with
    | .ok c' => orbit tbl n c'
    | _ => [])

/-- Following `nexts[CCW]` from the left side visits the eight codes in counter-clockwise order. -/
theorem nexts_ccw_order : orbit (nexts CCW) 8 1 = ccwOrder := by
  decide

/-- Following `nexts[CW]` visits them in the reverse (clockwise) order. -/
theorem nexts_cw_order : orbit (nexts CW) 8 1 = 1 :: (ccwOrder.drop 1).reverse := by
  decide

/-- From any boundary code, following `nexts[o]` visits all eight codes and returns after eight steps. -/
theorem nexts_cycle : ∀ o ∈ [CW, CCW], ∀ c ∈ ccwOrder,
    (orbit (nexts o) 9 c).getLast? = some c ∧ (orbit (nexts o) 8 c).isPerm ccwOrder = true := by
  decide

/-- The two tables are inverse permutations of the eight codes. -/
theorem nexts_inverse : ∀ c ∈ ccwOrder,
    (nextAt (nexts CCW) c).bind (nextAt (nexts CW)) = .ok c ∧
    (nextAt (nexts CW) c).bind (nextAt (nexts CCW)) = .ok c := by
  decide

/-- what the words of the extracted `pointFor` switch denote -/
def pfCoord {α : Type} [Add α] [Div α] [OfNat α 2] (lo hi : α) (s : String) : α :=
  if s == "min" then lo else if s == "max" then hi else (hi + lo) / 2

section field
variable {α : Type} [Field α] [LinearOrder α] [IsStrictOrderedRing α]

set_option linter.unusedSectionVars false in
/-- The model's `pointFor` is the `switch` of around_bound.go, case by case (min / max / mid of each
    coordinate as extracted from the Go source), and the switch has exactly the eight boundary codes. -/
theorem pointFor_generated (box : Bound α) : ∀ e ∈ Generated.Tables.pointFor,
    pointFor box (e.code : Int) = .ok ⟨pfCoord box.lo.x box.hi.x e.x, pfCoord box.lo.y box.hi.y e.y⟩ := by
  intro e he
  simp only [Generated.Tables.pointFor, List.mem_cons, List.not_mem_nil, or_false] at he
  rcases he with rfl | rfl | rfl | rfl | rfl | rfl | rfl | rfl <;> simp [pointFor, pfCoord]

theorem pointFor_generated_codes :
    Generated.Tables.pointFor.map (fun e => (e.code : Int)) = [1, 2, 4, 5, 6, 8, 9, 10] := by
  decide

/-- `pointFor` puts the representative of each code on the boundary, in the region of that code. -/
theorem pointFor_on_side (box : Bound α) (hb : BoxOK box) : ∀ c ∈ ccwOrder,
    ∃ p, pointFor box c = .ok p ∧ OnBoundary box p ∧ (bitCodeOpen box p : Int) = c := pointFor_on_side' box hb

/-- `ccwOrder` is geometrically counter-clockwise: down the left side, right along the bottom, up the
    right side, left along the top. -/
theorem pointFor_ccw_geometric (box : Bound α) (hb : BoxOK box) :
    ∃ l bl b br r tr t tl : Pt α,
      ccwOrder.map (pointFor box) = [.ok l, .ok bl, .ok b, .ok br, .ok r, .ok tr, .ok t, .ok tl] ∧
      (tl.x = box.lo.x ∧ l.x = box.lo.x ∧ bl.x = box.lo.x ∧ bl.y < l.y ∧ l.y < tl.y) ∧
      (bl.y = box.lo.y ∧ b.y = box.lo.y ∧ br.y = box.lo.y ∧ bl.x < b.x ∧ b.x < br.x) ∧
      (br.x = box.hi.x ∧ r.x = box.hi.x ∧ tr.x = box.hi.x ∧ br.y < r.y ∧ r.y < tr.y) ∧
      (tr.y = box.hi.y ∧ t.y = box.hi.y ∧ tl.y = box.hi.y ∧ tl.x < t.x ∧ t.x < tr.x) := by
  obtain ⟨hx, hy⟩ := hb
  obtain ⟨hx1, hx2⟩ := mid_lt hx
  obtain ⟨hy1, hy2⟩ := mid_lt hy
  refine ⟨_, _, _, _, _, _, _, _, rfl, ?_⟩
  simp [*]

/-- The result extends the input, starts where it started and ends with its first point. -/
theorem aroundBound_closed (box : Bound α) (inp out : List (Pt α)) (o : Int)
    (h : aroundBound box inp o = .ok out) (hne : inp ≠ []) :
    inp <+: out ∧ out.head? = inp.head? ∧ out.getLast? = inp.head? := by
  cases inp with
  | nil => exact absurd rfl hne
  | cons f tl =>
    obtain ⟨_, _, _, ⟨hfl, rfl⟩ | ⟨cs, ps, _, rfl, _⟩⟩ :=
      aroundBound_inv box _ out o f _ rfl (List.getLast?_eq_some_getLast hne) h
    · exact ⟨List.prefix_refl _, rfl, by rw [List.getLast?_eq_some_getLast hne, ← hfl]; rfl⟩
    · exact ⟨by rw [List.append_assoc]; exact List.prefix_append _ _, rfl, List.getLast?_concat ..⟩

/-- Every appended point lies on the boundary of the box. -/
theorem aroundBound_on_boundary (box : Bound α) (hb : BoxOK box) (inp out : List (Pt α)) (o : Int)
    (h : aroundBound box inp o = .ok out) (hin : ∀ v ∈ inp, OnBoundary box v) :
    ∀ v ∈ out, OnBoundary box v := by
  intro v hv
  rcases aroundBound_points box inp out o h v hv with hv | ⟨c, hc, hp⟩
  · exact hin v hv
  · obtain ⟨p, hp', hb', _⟩ := pointFor_on_side' box hb c hc
    rw [hp] at hp'
    cases hp'
    exact hb'

/-- Either the input is already closed and returned as it is; or both ends lie in the same region and
    the first point is appended directly;
    or the appended points are the representatives of the codes met when walking `nexts[o]` from the
    code of the last point to the code of the first — each in its own region, none skipped, at most
    seven — followed by the first point. -/
theorem aroundBound_direction (box : Bound α) (hb : BoxOK box) (inp out : List (Pt α)) (o : Int) (f l : Pt α)
    (hf : inp.head? = some f) (hl : inp.getLast? = some l) (h : aroundBound box inp o = .ok out) :
    (out = inp ∧ f = l) ∨
    ((bitCodeOpen box l : Int) = bitCodeOpen box f ∧ out = inp ++ [f]) ∨
    ∃ cs ps, List.IsChain (fun a b => nextAt (nexts o) a = .ok b)
        ((bitCodeOpen box l : Int) :: (cs ++ [(bitCodeOpen box f : Int)])) ∧
      (bitCodeOpen box f : Int) ∉ cs ∧ cs.length ≤ 7 ∧
      List.Forall₂ (fun c p => pointFor box c = .ok p ∧ (bitCodeOpen box p : Int) = c) cs ps ∧
      out = inp ++ ps ++ [f] :=
  aroundBound_direction' box hb inp out o f l hf hl h

set_option linter.unusedVariables false in
/-- With both ends on the boundary and a valid orientation `aroundBound` returns (no panic, the walk
    round the table terminates).  `hb` is the property's precondition; the proof does not use it. -/
theorem aroundBound_total (box : Bound α) (hb : BoxOK box) (inp : List (Pt α)) (o : Int) (f l : Pt α)
    (ho : o = CW ∨ o = CCW) (h2 : 2 ≤ inp.length)
    (hf : inp.head? = some f) (hl : inp.getLast? = some l) (hfb : OnBoundary box f) (hlb : OnBoundary box l) :
    ∃ out, aroundBound box inp o = .ok out := aroundBound_total' box inp o f l ho h2 hf hl hfb hlb

/-- A ring wholly (strictly) inside the box is returned unchanged. -/
theorem ring_inside_unchanged (box : Bound α) (r : List (Pt α)) (o : Int) (hne : r ≠ [])
    (hin : ∀ v ∈ r, InOpenBox box v) : ring box r o = .ok [[r]] := by
  obtain ⟨r', h1, _⟩ := clipRings_inside' box r hne hin
  rw [ring_of_clip box r o h1, if_pos rfl, if_neg (List.cons_ne_nil _ _)]

/-- A ring on the outer side of one box edge (touching it allowed) yields nothing. -/
theorem ring_outside_nil (box : Bound α) (hb : BoxOK box) (r : List (Pt α)) (o : Int)
    (h : (∀ v ∈ r, v.x ≤ box.lo.x) ∨ (∀ v ∈ r, box.hi.x ≤ v.x) ∨
         (∀ v ∈ r, v.y ≤ box.lo.y) ∨ (∀ v ∈ r, box.hi.y ≤ v.y)) : ring box r o = .ok [] :=
  ring_outside_nil_of_strong box hb r o h

/-- "ONE WHOLLY OUTSIDE YIELDS NOTHING", at full strength (OrbProofs/C16Outside.lean): if no point of the
    implicitly closed ring lies in the OPEN box — every edge `a b` of `r ++ [r[0]]` satisfies
    `∀ t ∈ [0,1], a + t(b-a) ∉ open box`; edges along a side, corner touches, L-shapes round a corner,
    diagonals through a corner are all allowed — then `clipRings` finds neither an open piece nor a
    closed ring and `smartclip.Ring` returns nil.  (`ring_outside_nil` above is the special case of one
    closed outer half-plane: `ringAvoids_of_halfplane`.) -/
theorem ring_wholly_outside_nil (box : Bound α) (hb : BoxOK box) (r : List (Pt α)) (o : Int)
    (h : RingAvoidsOpenBox box r) : clipRings box [r] = .ok ([], []) ∧ ring box r o = .ok [] :=
  ring_outside_nil_strong box hb r o h

/-- the same for `smartclip.Polygon` (every ring avoids the open box) … -/
theorem polygon_wholly_outside_nil (box : Bound α) (hb : BoxOK box) (p : List (List (Pt α))) (o : Int)
    (h : ∀ r ∈ p, RingAvoidsOpenBox box r) : polygon box p o = .ok [] :=
  polygon_outside_nil_strong box hb p o h

/-- … and for `smartclip.MultiPolygon`, which looks at the OUTER rings only before it returns nil. -/
theorem multiPolygon_wholly_outside_nil (box : Bound α) (hb : BoxOK box) (mp : List (List (List (Pt α))))
    (o : Int) (h : ∀ r ∈ outerRings mp, RingAvoidsOpenBox box r) : multiPolygon box mp o = .ok [] :=
  multiPolygon_outside_nil_strong box hb mp o h

/-- A polygon wholly inside the box is returned unchanged. -/
theorem polygon_inside_unchanged (box : Bound α) (p : List (List (Pt α))) (o : Int) (hne : p ≠ [])
    (hr : ∀ r ∈ p, r ≠ []) (hin : ∀ r ∈ p, ∀ v ∈ r, InOpenBox box v) : polygon box p o = .ok [p] := by
  obtain ⟨cl, hc, hf⟩ := clipRings_all_inside box p hr hin
  rw [polygon_of_clip box p o hc, if_pos rfl, if_neg fun e => hne (by subst e; cases hf; rfl)]

/-- Every polygon `smartWrap` returns is one explicitly closed ring. -/
theorem output_rings_closed (box : Bound α) (input : List (List (Pt α))) (o : Int)
    (out : List (List (List (Pt α)))) (h : smartWrap box input o = .ok out) : SingleClosed out :=
  smartWrap_rings_closed box input o out h

/-- Every vertex `smartWrap` returns lies in the box when the pieces do (it is a vertex of a piece or one of the
    eight `pointFor` points: `smartWrap_vertices`). -/
theorem output_in_box (box : Bound α) (hb : BoxOK box) (input : List (List (Pt α))) (o : Int)
    (out : List (List (List (Pt α)))) (h : smartWrap box input o = .ok out)
    (hin : ∀ ls ∈ input, ∀ v ∈ ls, InBox box v) : ∀ pg ∈ out, ∀ rg ∈ pg, ∀ v ∈ rg, InBox box v :=
  smartWrap_in_box box hb input o out h hin

/-- `smartclip.Ring`: the input handed back as it is, or closed rings only. -/
theorem ring_output_closed (box : Bound α) (r : List (Pt α)) (o : Int) (out : List (List (List (Pt α))))
    (h : ring box r o = .ok out) : out = [[r]] ∨ SingleClosed out := by
  rcases ring_cases h with rfl | rfl | ⟨op, cl, _, h2⟩
  · exact Or.inr fun pg hpg => by simp at hpg
  · exact Or.inl rfl
  · exact Or.inr (smartWrap_rings_closed box op o out h2)

/-- … and `smartclip.Polygon` / `MultiPolygon`: the input handed back, or polygons of closed rings. -/
theorem polygon_output_closed (box : Bound α) (p : List (List (Pt α))) (o : Int)
    (out : List (List (List (Pt α)))) (h : polygon box p o = .ok out) :
    out = [p] ∨ ∀ pg ∈ out, pg ≠ [] ∧ ∀ rg ∈ pg, ClosedRing rg :=
  polygon_output_of ClosedRing box p o out h (fun op cl h1 => clipRings_closed box p op cl h1)
    (fun op _ res _ h2 pg hpg => (singleClosed_ne res (smartWrap_rings_closed box op o res h2) pg hpg).2)

theorem multiPolygon_output_closed (box : Bound α) (mp : List (List (List (Pt α)))) (o : Int)
    (out : List (List (List (Pt α)))) (h : multiPolygon box mp o = .ok out) :
    out = mp ∨ ∀ pg ∈ out, pg ≠ [] ∧ ∀ rg ∈ pg, ClosedRing rg :=
  multiPolygon_output_of ClosedRing box mp o out h (fun rings op cl h1 => clipRings_closed box rings op cl h1)
    (fun op _ inn _ res _ _ h3 pg hpg =>
      (singleClosed_ne res (smartWrap_rings_closed box (op ++ inn) o res h3) pg hpg).2)

/-- `smartclip.Ring` / `Polygon` / `MultiPolygon`: the input handed back as it is, or vertices in the box. -/
theorem ring_output_in_box (box : Bound α) (hb : BoxOK box) (r : List (Pt α)) (o : Int)
    (out : List (List (List (Pt α)))) (h : ring box r o = .ok out) :
    out = [[r]] ∨ ∀ pg ∈ out, ∀ rg ∈ pg, ∀ v ∈ rg, InBox box v := by
  have hl := line_spec' box hb
  rcases ring_cases h with rfl | rfl | ⟨op, cl, h1, h2⟩
  · exact Or.inr fun pg hpg => by simp at hpg
  · exact Or.inl rfl
  · exact Or.inr (smartWrap_in_box box hb op o out h2 (clipRings_in_box box hl [r] op cl h1).1)

theorem polygon_output_in_box (box : Bound α) (hb : BoxOK box) (p : List (List (Pt α)))
    (o : Int) (out : List (List (List (Pt α)))) (h : polygon box p o = .ok out) :
    out = [p] ∨ ∀ pg ∈ out, ∀ rg ∈ pg, ∀ v ∈ rg, InBox box v := by
  have hl := line_spec' box hb
  rcases polygon_output_of (fun rg => ∀ v ∈ rg, InBox box v) box p o out h
    (fun op cl h1 => (clipRings_in_box box hl p op cl h1).2)
    (fun op cl res h1 h2 => smartWrap_in_box box hb op o res h2 (clipRings_in_box box hl p op cl h1).1)
    with h' | h'
  · exact Or.inl h'
  · exact Or.inr fun pg hpg => (h' pg hpg).2

theorem multiPolygon_output_in_box (box : Bound α) (hb : BoxOK box)
    (mp : List (List (List (Pt α)))) (o : Int) (out : List (List (List (Pt α))))
    (h : multiPolygon box mp o = .ok out) :
    out = mp ∨ ∀ pg ∈ out, ∀ rg ∈ pg, ∀ v ∈ rg, InBox box v := by
  have hl := line_spec' box hb
  rcases multiPolygon_output_of (fun rg => ∀ v ∈ rg, InBox box v) box mp o out h
    (fun rings op cl h1 => (clipRings_in_box box hl rings op cl h1).2)
    (fun op cl inn cli res h1 h2 h3 => smartWrap_in_box box hb (op ++ inn) o res h3
      (List.forall_mem_append.2 ⟨(clipRings_in_box box hl _ op cl h1).1, (clipRings_in_box box hl _ inn cli h2).1⟩))
    with h' | h'
  · exact Or.inl h'
  · exact Or.inr fun pg hpg => (h' pg hpg).2

/-- The endpoint order never panics on pieces with both ends on the boundary … -/
theorem lessE_ok (mls : List (List (Pt α))) (a b : Endpoint α) (ha : EpOK mls a) (hb : EpOK mls b) :
    ∃ r, lessE mls a b = .ok r := lessE_ok_of_epOK mls a b ha hb

set_option linter.unusedVariables false in
/-- … nor does the stitching loop, whose fuel suffices (`hb` is the property's precondition; the proof does not use it). -/
theorem smartWrap_total (box : Bound α) (hb : BoxOK box) (input : List (List (Pt α))) (o : Int)
    (ho : o = CW ∨ o = CCW) (hp : ∀ ls ∈ input, PieceOK box ls) : ∃ out, smartWrap box input o = .ok out :=
  smartWrap_total' box input o ho hp

/-- The open-bound line clipper as smartclip uses it, for every box of positive area: it never gets
    stuck, every piece has at least two points in the closed box, starts on the boundary unless it
    starts at a first vertex strictly inside, ends on the boundary unless it ends at a last vertex
    strictly inside. -/
theorem line_spec (box : Bound α) (hb : BoxOK box) : LineSpec box := line_spec' box hb

/-- Every piece `clipRings` hands on has both ends on the boundary (the implicit closing and the
    re-joining leave no end inside the box — also for a two-vertex open ring, `ring_two_vertex_witness`). -/
theorem clipRings_spec (box : Bound α) (hb : BoxOK box) (rings : List (List (Pt α))) :
    ∃ op cl, clipRings box rings = .ok (op, cl) ∧ (∀ ls ∈ op, PieceOK box ls) ∧ (∀ ls ∈ cl, InsideRing box ls) :=
  clipRings_spec_of_lineSpec box (line_spec' box hb) rings

/-- The ring entry points return (no panic, the fuel suffices) for every box of positive area and both orientations. -/
theorem ring_total (box : Bound α) (hb : BoxOK box) (r : List (Pt α)) (o : Int)
    (ho : o = CW ∨ o = CCW) : ∃ out, ring box r o = .ok out :=
  ring_total_of_lineSpec box (line_spec' box hb) r o ho

theorem polygon_total (box : Bound α) (hb : BoxOK box) (p : List (List (Pt α))) (o : Int)
    (ho : o = CW ∨ o = CCW) : ∃ out, polygon box p o = .ok out :=
  polygon_total_of_lineSpec box (line_spec' box hb) p o ho

theorem multiPolygon_total (box : Bound α) (hb : BoxOK box) (mp : List (List (List (Pt α)))) (o : Int)
    (ho : o = CW ∨ o = CCW) : ∃ out, multiPolygon box mp o = .ok out :=
  multiPolygon_total_of_lineSpec box (line_spec' box hb) mp o ho

/-- TOTALITY of the generic entry point, at full strength: for every box of positive area, both
    orientations and EVERY geometry value (any kind, any nesting, empty members, rings of 0, 1, 2, …
    vertices, open or closed; at the top level also a nil interface and typed nil slices)
    `smartclip.Geometry` returns a value: no panic, no index out of range, and the loops of the model do
    not run out of fuel.
    (With an orientation other than CW/CCW the Go code panics "invalid orientation" as soon as two piece
    ends must be connected round the box: `smartWrap_invalid_orientation_witness`.) -/
theorem geometry_total (eb box : Bound α) (hb : BoxOK box) (o : Int) (ho : o = CW ∨ o = CCW) (v : GVal α) :
    ∃ r, geometryV eb box o v = .ok r := geometry_total'' eb box hb o ho v

/-! ### the headline clause — NOT proved, carried by the executable property -/

/-- REGION EQUALITY with winding and holes, stated in full.  `inside r q` is the even-odd rule for a
    closed chain, `area2 r` twice the signed (shoelace) area.  For a simple closed ring wound `o`
    whose boundary meets the open box, the returned polygons are pairwise disjoint, each wound `o`, and
    a point strictly inside the box and off the ring is inside exactly one of them iff it is inside the ring. -/
def smartclip_region_full (inside : List (Pt α) → Pt α → Prop) (area2 : List (Pt α) → α)
    (Simple : List (Pt α) → Prop) (OnRing : List (Pt α) → Pt α → Prop) : Prop :=
  ∀ (box : Bound α) (r : List (Pt α)) (o : Int) (out : List (List (List (Pt α)))),
    BoxOK box → (o = CW ∨ o = CCW) → ClosedRing r → Simple r →
    ((o = CCW ∧ 0 < area2 r) ∨ (o = CW ∧ area2 r < 0)) →
    (∃ a b, (a, b) ∈ r.zip (r.drop 1) ∧ ∃ q, InOpenBox box q ∧ OnRing [a, b] q) →
    ring box r o = .ok out →
    (∀ pg ∈ out, ∃ rg, pg = [rg] ∧ ((o = CCW ∧ 0 < area2 rg) ∨ (o = CW ∧ area2 rg < 0))) ∧
    ∀ q, InOpenBox box q → ¬ OnRing r q →
      ((∃ pg ∈ out, ∃ rg, pg = [rg] ∧ inside rg q) ↔ inside r q) ∧
      (∀ pg₁ ∈ out, ∀ pg₂ ∈ out, ∀ r₁ r₂, pg₁ = [r₁] → pg₂ = [r₂] → inside r₁ q → inside r₂ q → pg₁ = pg₂)

/-- OPEN INPUT, stated in full: an open path whose two ends lie outside the closed box, which is a
    contiguous part of a simple closed ring `full` wound `o` whose omitted part does not meet the open
    box, gives the same output region as `full` itself.  (Carried by the `open` and `arc` streams.) -/
def smartclip_open_full (region : List (List (List (Pt α))) → Pt α → Prop)
    (MeetsOpenBox : Bound α → List (Pt α) → Prop) : Prop :=
  ∀ (box : Bound α) (path omitted : List (Pt α)) (o : Int) (out₁ out₂ : List (List (List (Pt α)))) (f l : Pt α),
    BoxOK box → path.head? = some f → path.getLast? = some l → ¬ InBox box f → ¬ InBox box l →
    ¬ MeetsOpenBox box (l :: omitted ++ [f]) →
    ring box path o = .ok out₁ → ring box (path ++ omitted ++ [f]) o = .ok out₂ →
    ∀ q, InOpenBox box q → (region out₁ q ↔ region out₂ q)

end field

theorem aroundBound_witness :
    aroundBound (⟨⟨0, 0⟩, ⟨4, 4⟩⟩ : Bound ℚ) [⟨4, 1⟩, ⟨0, 3⟩] CCW =
      .ok [⟨4, 1⟩, ⟨0, 3⟩, ⟨0, 0⟩, ⟨2, 0⟩, ⟨4, 0⟩, ⟨4, 1⟩] := by
  decide +kernel

theorem smartWrap_invalid_orientation_witness :
    smartWrap (⟨⟨0, 0⟩, ⟨4, 4⟩⟩ : Bound ℚ) [[⟨0, 1⟩, ⟨2, 2⟩, ⟨0, 3⟩]] 0 = .panic "invalid orientation" := by
  decide

/-- a two-vertex open ring with an end strictly inside the box (fixed in /repo 5358bae: it crashed) -/
theorem ring_two_vertex_witness :
    ring (⟨⟨1, 1⟩, ⟨5, 5⟩⟩ : Bound ℚ) [⟨2, 2⟩, ⟨7, 2⟩] CCW = .ok [[[⟨5, 2⟩, ⟨2, 2⟩, ⟨5, 2⟩]]] := by
  with_unfolding_all rfl

/-- a ring touching the top side twice with perpendicular arrivals comes back as ONE polygon -/
theorem ring_touch_witness :
    ring (⟨⟨0, 0⟩, ⟨8, 8⟩⟩ : Bound ℚ)
      [⟨1, 2⟩, ⟨7, 2⟩, ⟨6, 4⟩, ⟨6, 8⟩, ⟨5, 4⟩, ⟨3, 4⟩, ⟨3, 8⟩, ⟨2, 4⟩, ⟨1, 2⟩] CCW =
      .ok [[[⟨3, 8⟩, ⟨2, 4⟩, ⟨1, 2⟩, ⟨7, 2⟩, ⟨6, 4⟩, ⟨6, 8⟩, ⟨6, 8⟩, ⟨5, 4⟩, ⟨3, 4⟩, ⟨3, 8⟩]]] := by
  with_unfolding_all rfl

/-- an open ring is completed along the box edge on its interior side: the short way for one winding,
    all the way round for the other -/
theorem ring_open_witness :
    ring (⟨⟨1, 1⟩, ⟨6, 6⟩⟩ : Bound ℚ) [⟨0, 2⟩, ⟨2, 2⟩, ⟨2, 3⟩, ⟨0, 3⟩] CCW =
      .ok [[[⟨1, 2⟩, ⟨2, 2⟩, ⟨2, 3⟩, ⟨1, 3⟩, ⟨1, 2⟩]]] ∧
    ring (⟨⟨1, 1⟩, ⟨6, 6⟩⟩ : Bound ℚ) [⟨0, 3⟩, ⟨2, 3⟩, ⟨2, 2⟩, ⟨0, 2⟩] CCW =
      .ok [[[⟨1, 3⟩, ⟨2, 3⟩, ⟨2, 2⟩, ⟨1, 2⟩, ⟨1, 1⟩, ⟨7/2, 1⟩, ⟨6, 1⟩, ⟨6, 7/2⟩, ⟨6, 6⟩, ⟨7/2, 6⟩, ⟨1, 6⟩, ⟨1, 3⟩]]] := by
  exact ⟨by with_unfolding_all rfl, by with_unfolding_all rfl⟩

/-- an L-shaped ring round the top-right corner of the box lies in no single outer half-plane and yields
    nothing (the hypothesis of `ring_wholly_outside_nil` is satisfiable beyond `ring_outside_nil`) -/
theorem ring_L_shape_outside_witness (o : Int) :
    ring (⟨⟨0, 0⟩, ⟨4, 4⟩⟩ : Bound ℚ) [⟨5, -1⟩, ⟨5, 5⟩, ⟨-1, 5⟩, ⟨-1, 6⟩, ⟨6, 6⟩, ⟨6, -1⟩, ⟨5, -1⟩] o = .ok [] :=
  (ring_L_shape_witness o).2

example : ∃ out, ring (⟨⟨0, 0⟩, ⟨8, 8⟩⟩ : Bound ℚ)
    [⟨1, 2⟩, ⟨7, 2⟩, ⟨6, 4⟩, ⟨6, 8⟩, ⟨5, 4⟩, ⟨3, 4⟩, ⟨3, 8⟩, ⟨2, 4⟩, ⟨1, 2⟩] CCW = .ok out ∧ out.length = 1 :=
  ⟨_, ring_touch_witness, rfl⟩

end Orb.SmartClip
