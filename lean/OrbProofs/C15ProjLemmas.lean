/-
  Vocabulary and helper lemmas for the part of C15 about `mvt.newProjection` (`projLevel`: the level it works at,
  `pixelScale`: pixels per unit of that level, `origin`: the tile's origin there, `pixelCentre`: the point it hands
  to `mercator.ToGeo`; with them both paths have one shape) and about the feature loops `Layer.ProjectTo*`
  (`gmap`: `project.Geometry` with a pure point function on a possibly-nil value); between the two, what
  `geometry_roundtrip` of C15.lean needs of a pure point function.
-/
import OrbProofs.C15Lemmas
import Mathlib.Data.Nat.Cast.Order.Ring
import Mathlib.Algebra.Order.Ring.Cast

set_option linter.unusedSectionVars false

namespace Orb.Project
open Orb Orb.Core

/-- extent 0 takes the power-of-two path (`n-1` wraps) -/
theorem ne_zero_of_not_pow2 {e : Nat} (h : isPowerOfTwo e = false) : e ≠ 0 := by
  rintro rfl; simp [isPowerOfTwo] at h

/-- the halving loop of `trailingZeros32` on `2^k`, for any fuel above `k` (the code's is 32) -/
theorem trailingZeros32_go_two_pow (fuel k : Nat) (h : k < fuel) : trailingZeros32.go fuel (2 ^ k) = k := by
  induction k generalizing fuel with
  | zero =>
    obtain ⟨f, rfl⟩ := Nat.exists_eq_succ_of_ne_zero (Nat.ne_of_gt h)
    rfl
  | succ k ih =>
    obtain ⟨f, rfl⟩ := Nat.exists_eq_succ_of_ne_zero (Nat.ne_of_gt (Nat.zero_lt_of_lt h))
    have h0 : 2 ^ (k + 1) % 2 = 0 := by rw [Nat.pow_succ, Nat.mul_mod_left]
    have h1 : 2 ^ (k + 1) / 2 = 2 ^ k := by rw [Nat.pow_succ, Nat.mul_div_cancel _ Nat.two_pos]
    rw [trailingZeros32.go, h0, h1, ih f (Nat.lt_of_succ_lt_succ h), Nat.add_comm]
    rfl

theorem two_pow_lt_iff (k : Nat) : 2 ^ k < 2 ^ 32 ↔ k < 32 :=
  Nat.pow_lt_pow_iff_right (by omega)

section field
variable {α : Type} [Field α] [LinearOrder α] [IsStrictOrderedRing α]

/-- the level `newProjection` works at -/
def projLevel (Z extent : Nat) : Nat :=
  if isPowerOfTwo extent then Z + trailingZeros32 extent else Z

/-- pixels per unit of that level (1 on the power-of-two path: there a pixel IS a unit) -/
def pixelScale (extent : Nat) : α := if isPowerOfTwo extent then 1 else (extent : α)

/-- the point that `newProjection(tile, extent).ToWGS84` hands to `mercator.ToGeo` for pixel (i, j):
    the pixel centre in units of `projLevel` -/
def pixelCentre (X Y extent : Nat) (i j : ℤ) : Pt α :=
  if isPowerOfTwo extent then
    ⟨(i : α) + (((X * 2 ^ trailingZeros32 extent) % 2 ^ 64 : ℕ) : α) + 1 / 2,
     (j : α) + (((Y * 2 ^ trailingZeros32 extent) % 2 ^ 64 : ℕ) : α) + 1 / 2⟩
  else ⟨((i : α) + 1 / 2) / (extent : α) + (X : α), ((j : α) + 1 / 2) / (extent : α) + (Y : α)⟩

/-- no wrap: `uint64(tile.X) << n` with `X < 2^32`, `n ≤ 32` -/
theorem origin_no_wrap (X n : Nat) (hX : X < 2 ^ 32) (hn : n ≤ 32) : (X * 2 ^ n) % 2 ^ 64 = X * 2 ^ n := by
  apply Nat.mod_eq_of_lt
  calc X * 2 ^ n < 2 ^ 32 * 2 ^ n := Nat.mul_lt_mul_of_pos_right hX (Nat.two_pow_pos n)
    _ ≤ 2 ^ 32 * 2 ^ 32 := Nat.mul_le_mul_left _ (Nat.pow_le_pow_right (by omega) hn)
    _ = 2 ^ 64 := by norm_num

theorem toGeo_congr (F : MFn α) (z z' : Nat) (p p' : Pt α)
    (hx : p.x / maxTiles F z = p'.x / maxTiles F z') (hy : p.y / maxTiles F z = p'.y / maxTiles F z') :
    toGeo F z p = toGeo F z' p' := by
  unfold toGeo
  simp only [hx, hy]

/-- A pixel coordinate `p` of tile `X` at zoom `Z + k` and the world coordinate `X + (p + ½)/2^k`
    at zoom `Z` are the same fraction of the world. -/
theorem world_fraction (X p : α) (Z k : Nat) :
    (p + X * 2 ^ k + 1 / 2) / 2 ^ (Z + k) = (X + (p + 1 / 2) / 2 ^ k) / 2 ^ Z := by
  have h2 : (2 : α) ^ k ≠ 0 := by positivity
  have hz : (2 : α) ^ Z ≠ 0 := by positivity
  rw [pow_add]
  field_simp
  ring

theorem pow2Proj_eq (floor : α → α) (P G : Pt α → Pt α) (mx my : α) :
    pow2Proj floor P G mx my = nonPow2Proj floor P G mx my 1 := by
  simp only [pow2Proj, nonPow2Proj, mul_one, div_one, add_right_comm _ _ (1 / 2 : α)]

/-- the tile's origin in units of `projLevel` (the code's `minx` / `miny` with an exact
    `float64(uint64(·))`) -/
def origin (X extent : Nat) : α :=
  if isPowerOfTwo extent then (((X * 2 ^ trailingZeros32 extent) % 2 ^ 64 : ℕ) : α) else (X : α)

theorem pixelScale_pos (extent : Nat) : (0 : α) < pixelScale extent := by
  unfold pixelScale
  split
  · exact one_pos
  · next h => exact Nat.cast_pos.2 (Nat.pos_of_ne_zero (ne_zero_of_not_pow2 (Bool.eq_false_of_not_eq_true h)))

theorem newProjection_eq (F : MFn α) (hofNat : ∀ n : Nat, F.ofNat n = (n : α)) (X Y Z extent : Nat) :
    newProjection F X Y Z extent =
      nonPow2Proj F.floor (toPlanar F (projLevel Z extent)) (toGeo F (projLevel Z extent))
        (origin X extent) (origin Y extent) (pixelScale extent) := by
  unfold newProjection projLevel origin pixelScale
  split <;> simp only [pow2Proj_eq, hofNat]

theorem pixelCentre_eq (X Y extent : Nat) (i j : ℤ) :
    (pixelCentre X Y extent i j : Pt α) =
      ⟨((i : α) + 1 / 2) / pixelScale extent + origin X extent,
       ((j : α) + 1 / 2) / pixelScale extent + origin Y extent⟩ := by
  unfold pixelCentre origin pixelScale
  split <;> simp only [div_one, add_right_comm _ _ (1 / 2 : α)]

end field

section pure
variable {α : Type} [LinearOrder α]

theorem ptssM_pure (f : Pt α → Pt α) (ls : List (List (Pt α))) :
    (ptssM (σ := Unit) (fun p s => (f p, s)) ls ()).1 = ls.map (List.map f) :=
  congrArg Prod.fst (ptssM_of_pure f ls ())

theorem ptsssM_pure (f : Pt α → Pt α) (ps : List (List (List (Pt α)))) :
    (ptsssM (σ := Unit) (fun p s => (f p, s)) ps ()).1 = ps.map (List.map (List.map f)) :=
  congrArg Prod.fst (ptsssM_of_pure f ps ())

theorem geometry_point (f : Pt α → Pt α) (p : Pt α) : geometry f (.point p) = .point (f p) := rfl

theorem map_id_of {β : Type} (f : β → β) (l : List β) (h : ∀ x ∈ l, f x = x) : l.map f = l := by
  conv_rhs => rw [← List.map_id l]
  exact List.map_congr_left (fun x hx => by simpa using h x hx)

end pure

/-- `project.Geometry` with a pure point function on a possibly-nil value (`Orb.C15Tie.pg` with the
    arguments the other way round) -/
def gmap {α : Type} [LT α] [LE α] [DecidableLT α] [DecidableLE α] [Min α] [Max α]
    (f : Pt α → Pt α) : GVal α → GVal α
  | .nilIface => .nilIface
  | .nilSlice k => .nilSlice k
  | .val g => .val (geometry f g)

theorem geometryVM_pureP {α : Type} [LT α] [LE α] [DecidableLT α] [DecidableLE α] [Min α] [Max α]
    (f : Pt α → Pt α) (g : GVal α) : (geometryVM (pureP f) g ()).1 = gmap f g := by
  cases g <;> rfl

section layer
variable {α : Type} [Field α] [LinearOrder α] [IsStrictOrderedRing α]

theorem layerProjectToTile_eq' (F : MFn α) (X Y Z extent : Nat) (feats : List (GVal α)) :
    layerProjectToTile F X Y Z extent feats = feats.map (gmap (newProjection F X Y Z extent).toTile) :=
  List.map_congr_left fun g _ => geometryVM_pureP _ g

theorem layerProjectToWGS84_eq' (F : MFn α) (X Y Z extent : Nat) (feats : List (GVal α)) :
    layerProjectToWGS84 F X Y Z extent feats = feats.map (gmap (newProjection F X Y Z extent).toWGS84) :=
  List.map_congr_left fun g _ => geometryVM_pureP _ g

/-- every vertex of a feature is an integer pixel at whose centre `toPlanar ∘ toGeo` is accurate to
    better than half a pixel -/
def PixelsOK (F : MFn α) (X Y Z extent : Nat) (g : Geom α) : Prop :=
  NoBounds g ∧ ∀ p ∈ verts g, ∃ (i j : ℤ) (ε : α), p = ⟨(i : α), (j : α)⟩ ∧ ε * pixelScale extent < 1 / 2 ∧
    CloseAt (toPlanar F (projLevel Z extent)) (toGeo F (projLevel Z extent)) ε (pixelCentre X Y extent i j)

end layer

end Orb.Project
