/-
  C03 — MVT tiles round-trip layers exactly and marshal deterministically; plus the MVT share
  of C05 (decoders never panic / never over-allocate).
  PROPERTY THEOREMS about the model `Orb.MVT` (encoding/mvt: geometry.go, marshal.go,
  unmarshal.go, layer.go).  `VTTile` mirrors vector_tile.proto; the protobuf wire encoding itself is
  modelled in `Orb.ProtoWire` and its theorems are in `OrbProofs/C03Wire.lean`.

  `mvtWF` is the property's quantifier as a decidable predicate: integer coordinates
  |v| < 2^28, non-empty parts, closed rings of non-zero shoelace area, outer rings
  counter-clockwise and holes clockwise, ids absent or non-negative integers < 2^53, property
  maps with distinct keys over the stated value universe, version ∈ {1,2}.
  `exactDomain` is the sub-domain on which the code is exact: collections of exactly one
  member, no ring with a doubled closing vertex, no negative float zero among the property
  values.  For collections and doubled closing vertices the `_full` statement is kept and its
  negation proved (`collection_witness`, `ring_reclose_witness`).
  `exactDomainZ` weakens the zero clause to what the code needs (no +0 / −0 pair of one float
  type within one layer), and the `_ori` / `_exact` theorems are stated for the decoder run with
  ANY orientation function that is exact on the rings of the input (`oriAgree`): Go runs the
  float64 shoelace of `Ring.Orientation`, which is not exact for thin rings at |v| ≥ 2^27 (known
  finding regroup-rounding) — the theorems with `oriInt` built in are the instance `ori = oriInt`
  and say nothing about those inputs beyond the model.
  Several theorems below restate a lemma of the lemma modules under the property's name (`zigzag_roundtrip`
  is `unzigzag_zigzag`, …); the lemma modules, which cannot import this file, cite the lemma.
  Ids: the model keeps the uint64 id; `Unmarshal` hands it out as `float64(id)` (`idFloat`), exact
  below 2^53 — the bound in `idWF`.
-/
import OrbProofs.C03Layer
import OrbProofs.C03Total
import OrbProofs.C03Ori

namespace Orb.MVT

/-- `unzigzag ∘ zigzag = id` on all 2^32 words. -/
theorem zigzag_roundtrip (x : BitVec 32) : unzigzag (zigzag x) = x := unzigzag_zigzag x

/-- A delta between two coordinates of the quantifier survives the 32-bit zigzag. -/
theorem delta_roundtrip (a b : Int) (ha : coordOK a = true) (hb : coordOK b = true) :
    unzigzagI (zigzag (i32 a - i32 b)) = a - b := unzigzagI_zigzag_sub a b ha hb

/-- Encoding then decoding a geometry of the quantifier gives its normal form: a one-member
    multi is its member, rings and bounds come back as (closed) polygons, polygons are
    regrouped by ring winding. -/
theorem geometry_roundtrip_partial (g : Geom Int) (h : geomWF g = true) (hd : geomNoDupClose g = true) :
    geometryRT g = .ok (normG g) := by
  have he := encodeGeometry_wf h
  simp only [geometryRT, he, decodeGeometry, geometry_roundtrip_iter_ori oriInt g h hd (fun _ _ => rfl) 0]

/-- The same for the decoder run with any orientation function `ori` that gives the exact sign
    on the rings of `g` (Go: the float64 shoelace; not exact for some rings with |v| ≥ 2^27). -/
theorem geometry_roundtrip_ori (ori : List (Pt Int) → Int) (g : Geom Int) (h : geomWF g = true)
    (hd : geomNoDupClose g = true) (hori : ∀ r ∈ ringsOf g, ori r = oriInt r) :
    ∃ t ws, encodeGeometry g = .ok (t, ws) ∧ (decodeGeometryIter ori t ws 0).1 = .ok (normG g) :=
  ⟨_, _, encodeGeometry_wf h,
    geometry_roundtrip_iter_ori ori g h hd hori 0⟩

/-- Where Go's float64 shoelace IS exact (so that `hori` of `geometry_roundtrip_ori` holds for the
    real decoder): `Ring.Orientation` moves the ring to its first vertex before multiplying, and on
    a ring of small own extent (`oriExactDomain`: 2·len·extent² ≤ 2^53) every number it computes —
    differences, products, terms, partial sums (`ringTrace`) — is an integer of magnitude ≤ 2^53,
    i.e. a float64 value, HOWEVER FAR the ring lies from the origin.  (The driver demands
    `oriFloat r = oriInt r` on this domain; regroup-rounding is confined to its complement.) -/
theorem orientation_intermediates_fit (r : List (Pt Int)) (h : oriExactDomain r = true) :
    ∀ v ∈ ringTrace r, |v| ≤ 2 ^ 53 := orientTrace_fits r h

/-- `ringTrace` is the run of `Ring.Orientation`: its last number is the shoelace sum whose sign
    is taken. -/
theorem orientation_trace_last (o : Pt Int) (rest : List (Pt Int)) :
    Core.orientArea (o :: rest) = ((ringTrace (o :: rest)).getLast?).getD 0 :=
  orientTrace_last o rest 0

/-- `Ring.Closed()` is decided by Go on the float64 points, the command words are built from
    their int32 truncations: `encRingG cl`.  On integer coordinates that is `encRing`. -/
theorem encRing_eq_encRingG (c : Cur) (r : List (Pt Int)) : encRing c r = encRingG (closed r) c r := by
  cases r <;> rfl

/-- A ring that is open as float64 points but whose int32 truncations close (`encRingG false`) is written
    like the truncated ring with its first vertex appended once more (what the driver feeds the model). -/
theorem encRingG_false_eq_reopen (c : Cur) (r : List (Pt Int)) (h : closed r = true) :
    encRingG false c r = encRing c (reopen r) := by
  have hcr := closed_reopen h
  obtain ⟨p, rest, rfl, _, _⟩ := closed_cons h
  have hdl : (rest ++ [p]).dropLast = rest := by simp
  simp only [reopen, List.cons_append] at hcr ⊢
  simp only [encRing, encRingG, hcr, if_true, hdl, Bool.false_eq_true, if_false]

def firstRingLen : R (Geom Int) → Nat
  | .ok (.polygon (r :: _)) => r.length
  | _ => 0

/-- Without the side condition the statement (`geometry_roundtrip_full`) is false. -/
theorem ring_reclose_witness : ¬ geometry_roundtrip_full := by
  intro hfull
  have h := hfull (.ring [⟨0, 0⟩, ⟨5, 0⟩, ⟨0, 5⟩, ⟨0, 0⟩, ⟨0, 0⟩]) (by decide)
  have h4 : firstRingLen (geometryRT (.ring [⟨0, 0⟩, ⟨5, 0⟩, ⟨0, 5⟩, ⟨0, 0⟩, ⟨0, 0⟩])) = 4 := by decide
  rw [h] at h4
  simp [firstRingLen, normG] at h4

/-- The tags written for a property map decode — against the tables of any later state of the
    layer's encoder — to the map with sorted keys and widened values. -/
theorem properties_roundtrip (e : KVE) (ps : List (String × PVal))
    (hn : nodupKeys ps = true) (hv : ∀ p ∈ ps, pvalWF p.2 = true) (hz : noNegZero ps = true)
    (hi : KVE.Inv e) (hk : e.keys.length + ps.length ≤ 2^32) (hl : e.vals.length + ps.length ≤ 2^32) :
    ∃ tags e', encodeProperties e ps = .ok (tags, e') ∧ KVE.Inv e' ∧ KVE.le e e' ∧
      e'.keys.length ≤ e.keys.length + ps.length ∧ e'.vals.length ≤ e.vals.length + ps.length ∧
      ∀ e'', KVE.le e' e'' → decodeTags e''.keys e''.dvals tags [] = .ok (expectProps ps) := by
  have hz' : ∀ p ∈ ps, Admits posZeros p.2 := fun p hp =>
    Admits.of_noNegZero (by simpa using List.all_eq_true.mp hz p hp)
  obtain ⟨tags, e', h1, h2, h3⟩ :=
    encodeProperties_decode posZeros e ps hn hv hz' ((KVE.inv_iff_invZ e).1 hi) hk hl
  exact ⟨tags, e', h1, (KVE.inv_iff_invZ e').2 h2, h3⟩

/-- The same under the weakest zero condition: the values of the map are among the values `vs`
    of a layer in which no +0 / −0 pair of one float type occurs (negative zeros allowed). -/
theorem properties_roundtrip_zero (vs : List PVal) (e : KVE) (ps : List (String × PVal))
    (hn : nodupKeys ps = true) (hv : ∀ p ∈ ps, pvalWF p.2 = true)
    (hsub : ∀ p ∈ ps, p.2 ∈ vs) (hnc : noZeroClash vs = true)
    (hi : KVE.InvZ vs e) (hk : e.keys.length + ps.length ≤ 2^32) (hl : e.vals.length + ps.length ≤ 2^32) :
    ∃ tags e', encodeProperties e ps = .ok (tags, e') ∧ KVE.InvZ vs e' ∧ KVE.le e e' ∧
      e'.keys.length ≤ e.keys.length + ps.length ∧ e'.vals.length ≤ e.vals.length + ps.length ∧
      ∀ e'', KVE.le e' e'' → decodeTags e''.keys e''.dvals tags [] = .ok (expectProps ps) :=
  encodeProperties_decode vs e ps hn hv (fun p hp => Admits.of_mem hnc (hsub p hp)) hi hk hl

/-- Every iteration order of the Go map gives the same tags and the same tables. -/
theorem marshal_deterministic (e : KVE) (l l' : List (String × PVal)) (hp : l.Perm l')
    (hn : nodupKeys l = true) : encodeProperties e l = encodeProperties e l' :=
  encodeProperties_perm e l l' hp hn

/-- Layers that differ only in the iteration order of their property maps give the same tile structure
    (and the same bytes: `encodeTile_deterministic` in C03Wire). -/
theorem marshalVT_deterministic (ls ls' : List Layer) (h : layersPermEq ls ls')
    (hn : ∀ l ∈ ls, ∀ f ∈ l.features, nodupKeys f.props = true) : marshalVT ls = marshalVT ls' := by
  fun_induction layersPermEq ls ls' with
  | case1 => rfl
  | case2 l ls l' ls' ih =>
    simp only [marshalVT, marshalLayer_permEq l l' h.1 (hn l List.mem_cons_self),
      ih h.2 (fun m hm => hn m (List.mem_cons_of_mem _ hm))]
  | case3 => exact h.elim

/-- The domain of `layer_roundtrip_partial` lies inside that of `layer_roundtrip_exact`: without a negative
    zero there is no +0 / −0 pair. -/
theorem exactDomain_le_exactDomainZ (ls : List Layer) (hx : exactDomain ls = true) :
    exactDomainZ ls = true := by
  simp only [exactDomain, exactDomainZ, List.all_eq_true] at hx ⊢
  intro l hl
  have hl' := hx l hl
  simp only [layerExactZ, Bool.and_eq_true, List.all_eq_true]
  refine ⟨fun f hf => ?_, ?_⟩
  · have := hl' f hf
    simp only [featureExact, Bool.and_eq_true] at this
    exact this.1
  · apply noZeroClash_of_noNegZero
    intro v hv
    simp only [layerVals, List.mem_flatMap, List.mem_map] at hv
    obtain ⟨f, hf, p, hp, rfl⟩ := hv
    have := hl' f hf
    simp only [featureExact, Bool.and_eq_true, noNegZero, List.all_eq_true] at this
    simpa using this.2 p hp

/-- The round trip at full strength, for what Go runs: `unmarshalVTWith ori` with any orientation
    function that is exact on the rings of the input (`oriAgree` — an explicit hypothesis: the
    float64 shoelace violates it on the thin-triangle witnesses of regroup-rounding, which satisfy
    `mvtWF ∧ exactDomain`), and layers without a +0 / −0 clash (a lone −0.0 comes back bit for bit).
    Name, version, extent, feature order, ids, geometries and properties all come back; nil
    geometries are skipped. -/
theorem layer_roundtrip_exact (ori : List (Pt Int) → Int) (ls : List Layer) (h : mvtWF ls = true)
    (hx : exactDomainZ ls = true) (ho : oriAgree ori ls) :
    ∃ t, marshalVT ls = .ok t ∧ (unmarshalVTWith ori t).1 = .ok (expectLayers ls) := by
  obtain ⟨t, ht, hd⟩ := marshalVT_roundtrip ori ls h hx ho
  obtain ⟨a', ha'⟩ := hd 0
  exact ⟨t, ht, by simp [unmarshalVTWith, ha']⟩

/-- The instance with the exact orientation, on `exactDomain`. -/
theorem layer_roundtrip_partial (ls : List Layer) (h : mvtWF ls = true) (hx : exactDomain ls = true) :
    ∃ t, marshalVT ls = .ok t ∧ unmarshalVT t = .ok (expectLayers ls) :=
  layer_roundtrip_exact oriInt ls h (exactDomain_le_exactDomainZ ls hx) (oriAgree_oriInt ls)

/-- "Every member of a collection becomes its own feature" holds for one-member collections: the
    feature counts agree (no well-formedness needed). -/
theorem collection_members_partial (ls : List Layer) (t : VTTile)
    (hs : ∀ l ∈ ls, ∀ f ∈ l.features, singleColl f.geom = true) (hm : marshalVT ls = .ok t) :
    t.map (fun l => l.features.length) = ls.map fun l => (l.features.flatMap expectFeature).length := by
  replace hm := marshalVT_forall₂ hm
  induction hm with
  | nil => rfl
  | @cons l v ls t h1 _ ih =>
    rw [List.map_cons, List.map_cons, ih (fun m hm => hs m (List.mem_cons_of_mem _ hm)),
      marshalLayer_len l v (hs l List.mem_cons_self) h1]

/-- A one-member collection is marshalled exactly like its member (same feature, same table
    updates), so that `layer_roundtrip_exact` gives the member's id, geometry and properties back. -/
theorem collection_single_as_member (fs : List VTFeature) (e : KVE) (id : IdVal)
    (props : List (String × PVal)) (g : Geom Int) (hg : ∀ gs, g ≠ .collection gs) :
    addFeature fs e ⟨id, .val (.collection [g]), props⟩ = addFeature fs e ⟨id, .val g, props⟩ := by
  cases g <;> first | rfl | exact absurd rfl (hg _)

def collWitness : List Layer :=
  [{ name := "c", version := 2, extent := 4096,
     features := [{ id := .none, props := [],
                    geom := .val (.collection [.point ⟨1, 2⟩, .lineString [⟨0, 0⟩, ⟨3, 4⟩]]) }] }]

/-- "Every member of a collection becomes its own feature" is false of the code in general: `addFeature`
    returns after the first member. -/
theorem collection_witness : ¬ collection_members_full := by
  intro h
  have hm : marshalVT collWitness = .ok
      [{ name := "c", version := 2, extent := 4096, keys := [], values := [],
         features := [{ id := none, tags := [], gtype := 1, geometry := [9#32, 2#32, 4#32] }] }] := by
    decide
  have := h collWitness _ (by decide) hm
  revert this
  decide

/-! ### C05: no panic, bounded allocation -/

/-- `int(2*count)` does not wrap. -/
theorem two_mul_count_nowrap (v : W) : (2#32 * (v >>> 3)).toNat = 2 * (v >>> 3).toNat :=
  two_mul_shr3_toNat v

/-- The geometry decoder never panics and its loops terminate (running out of fuel is a panic
    of the model), for every type, every word list and every orientation function. -/
theorem geometry_total_iter (ori : List (Pt Int) → Int) (gt : Int) (ws : List W) (a : Nat) :
    (decodeGeometryIter ori gt ws a).1.isPanic = false := decodeGeometryIter_noPanic ori gt ws a

/-- The instance with the exact orientation. -/
theorem geometry_total (gt : Int) (ws : List W) : (decodeGeometry gt ws).isPanic = false :=
  geometry_total_iter oriInt gt ws 0

/-- The capacity requested by the geometry decoder's own `make` calls is at most the number of
    words of the field, whatever counts the words claim. -/
theorem geometry_alloc_bound (gt : Int) (ws : List W) : geometryAlloc gt ws ≤ ws.length := by
  simpa [geometryAlloc] using decodeGeometryIter_alloc_le oriInt gt ws 0

/-- `unmarshalTile`, run with ANY orientation function (what Go runs is `ori = ` the float64
    shoelace), never panics on any tile structure and requests at most one slot per feature plus
    one per tag or command word (`vtSize`). -/
theorem unmarshal_total_ori (ori : List (Pt Int) → Int) (t : VTTile) :
    (unmarshalVTWith ori t).1.isPanic = false ∧ (unmarshalVTWith ori t).2 ≤ vtSize t := by
  simpa [unmarshalVTWith] using decodeLayers_spec ori 0 t

/-- `unmarshalTile` with the exact orientation `oriInt` never panics on any tile structure. -/
theorem unmarshal_total (t : VTTile) : (unmarshalVT t).isPanic = false :=
  (unmarshal_total_ori oriInt t).1

/-- `unmarshalTile` with the exact orientation requests at most one slot per feature plus one per tag or
    command word (`vtSize`). -/
theorem unmarshal_alloc_bound (t : VTTile) : unmarshalAlloc t ≤ vtSize t :=
  (unmarshal_total_ori oriInt t).2

/-- `Unmarshal` (the gzip magic test included) panics only if `unmarshalTile` does. -/
theorem unmarshal_top_total {α : Type} (data : List UInt8) (r : R α) (h : r.isPanic = false) :
    (unmarshalTop data r).isPanic = false := by
  unfold unmarshalTop
  cases r with
  | ok a => simpa using h
  | err e => simp only; split <;> rfl
  | panic w => simp [Res.isPanic] at h

/-- Non-vacuity: a well-formed layer in the exact domain (a polygon with a hole, an id, properties). -/
example : mvtWF [{ name := "a", version := 2, extent := 4096, features :=
    [{ id := .int 7, props := [("k", .sint .int8 (-3)), ("b", .nil)],
       geom := .val (.polygon [[⟨0,0⟩,⟨4,0⟩,⟨4,4⟩,⟨0,4⟩,⟨0,0⟩], [⟨1,1⟩,⟨1,2⟩,⟨2,2⟩,⟨2,1⟩,⟨1,1⟩]]) }] }] = true ∧
  exactDomain [{ name := "a", version := 2, extent := 4096, features :=
    [{ id := .int 7, props := [("k", .sint .int8 (-3)), ("b", .nil)],
       geom := .val (.polygon [[⟨0,0⟩,⟨4,0⟩,⟨4,4⟩,⟨0,4⟩,⟨0,0⟩], [⟨1,1⟩,⟨1,2⟩,⟨2,2⟩,⟨2,1⟩,⟨1,1⟩]]) }] }] = true := by
  decide

/-- Non-vacuity of the weakened zero clause: a lone −0.0 (float64) next to a +0.0 of the OTHER
    float type is in `exactDomainZ` but not in `exactDomain`. -/
example : exactDomainZ [{ name := "z", version := 1, extent := 4096, features :=
    [{ id := .none, props := [("a", .f64 0x8000000000000000), ("b", .f32 0)], geom := .val (.point ⟨1, 1⟩) }] }] = true ∧
  exactDomain [{ name := "z", version := 1, extent := 4096, features :=
    [{ id := .none, props := [("a", .f64 0x8000000000000000), ("b", .f32 0)], geom := .val (.point ⟨1, 1⟩) }] }] = false ∧
  mvtWF [{ name := "z", version := 1, extent := 4096, features :=
    [{ id := .none, props := [("a", .f64 0x8000000000000000), ("b", .f32 0)], geom := .val (.point ⟨1, 1⟩) }] }] = true := by
  decide

/-- Non-vacuity of `oriAgree`: it holds of the exact orientation for every input, and the rings it
    speaks about are the ones of the input (here: outer ring and hole of a polygon). -/
example : gvalRings (.val (.polygon [[⟨0,0⟩,⟨4,0⟩,⟨4,4⟩,⟨0,4⟩,⟨0,0⟩], [⟨1,1⟩,⟨1,2⟩,⟨2,2⟩,⟨2,1⟩,⟨1,1⟩]])) =
    [[⟨0,0⟩,⟨4,0⟩,⟨4,4⟩,⟨0,4⟩,⟨0,0⟩], [⟨1,1⟩,⟨1,2⟩,⟨2,2⟩,⟨2,1⟩,⟨1,1⟩]] ∧
    ∀ ls, oriAgree oriInt ls := ⟨rfl, oriAgree_oriInt⟩

/-- `encRingG false` on a ring whose truncations close: (0.5,0),(4,0),(4,4),(0,0) truncates to a closed
    ring; Go (Closed() = false on the floats) writes MoveTo, LineTo×3, ClosePath. -/
example : encRingG false cur0 [⟨0,0⟩,⟨4,0⟩,⟨4,4⟩,⟨0,0⟩] =
    .ok (⟨0, 0⟩, [9, 0, 0, 26, 8, 0, 0, 8, 7, 7, 15]) := by decide

end Orb.MVT
