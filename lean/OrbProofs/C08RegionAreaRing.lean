/-
  C08 (area), pass and ring layer.  An edge functional `w` summed over the output cycle of ONE Sutherland–Hodgman pass
  equals the pulled-back functional `pull w` summed over the input cycle, as soon as `w` is a coboundary along the clip
  line (`pass_cyc_area`; `pull w a b` is `w` summed over the clamped image of the edge `a b`: the edge is cut at the clip
  line and the dropped part is projected onto the line).  Four passes: the signed shoelace area of the clipped ring is a
  sum over the INPUT edges of an explicit per-edge quantity, the shoelace form pulled back through the four clamps,
  `G box = pull₁ (pull₂ (pull₄ (pull₈ sh)))` (`ring_area2`).
-/
import OrbProofs.C08Ring

namespace Orb.Clip.C08R
open Orb Orb.Core Orb.EvenOdd Orb.Contains Orb.Clip Orb.Clip.C08

set_option linter.unusedSectionVars false

variable {α : Type} [Field α] [LinearOrder α] [IsStrictOrderedRing α]

/-- the sum of an edge functional over an edge list; by unfolding, `sumE w (edges r)` is `edgeSumOf w r` of `EdgeList` and
    `prodE (· + ·) 0 w (edges r)` (`prodE_add`) -/
def sumE (w : Pt α → Pt α → α) (E : List (Pt α × Pt α)) : α := (E.map fun se => w se.1 se.2).sum

theorem sumE_nil (w : Pt α → Pt α → α) : sumE w [] = 0 := rfl

theorem sumE_cons (w : Pt α → Pt α → α) (s e : Pt α) (E : List (Pt α × Pt α)) :
    sumE w ((s, e) :: E) = w s e + sumE w E := by
  unfold sumE; rw [List.map_cons, List.sum_cons]

theorem sumE_append (w : Pt α → Pt α → α) (E F : List (Pt α × Pt α)) :
    sumE w (E ++ F) = sumE w E + sumE w F := by
  unfold sumE; rw [List.map_append, List.sum_append]

theorem sumE_congr {w w' : Pt α → Pt α → α} (h : ∀ a b, w a b = w' a b) (E : List (Pt α × Pt α)) :
    sumE w E = sumE w' E := congrArg (sumE · E) (funext₂ h)

theorem sumE_add (w w' : Pt α → Pt α → α) (E : List (Pt α × Pt α)) :
    sumE (fun a b => w a b + w' a b) E = sumE w E + sumE w' E := List.sum_map_add

theorem sumE_smul (c : α) (w : Pt α → Pt α → α) (E : List (Pt α × Pt α)) :
    sumE (fun a b => c * w a b) E = c * sumE w E := by
  induction E with
  | nil => simp [sumE_nil]
  | cons se E ih =>
    obtain ⟨s, e⟩ := se
    rw [sumE_cons, sumE_cons, ih]; ring

theorem sumE_edges_cob (h : Pt α → α) (r : List (Pt α)) : sumE (fun s e => h e - h s) (edges r) = 0 :=
  edgeSumOf_cob h r

/-- `w` summed over the clamped image of the edge `a b`; by unfolding, `pullM` of `C08Pass` at `+` -/
def pull (ins : Pt α → Bool) (ix : Pt α → Pt α → Pt α) (π : Pt α → Pt α) (w : Pt α → Pt α → α)
    (a b : Pt α) : α :=
  if ins a = ins b then w (π a) (π b) else w (π a) (ix a b) + w (ix a b) (π b)

section pass
variable {ins : Pt α → Bool} {ix : Pt α → Pt α → Pt α} {π : Pt α → Pt α} {L : Pt α → Prop}
  {w : Pt α → Pt α → α} {h : Pt α → α}

/-- the instance of `passC_cyc_tel` at `(α, +)`; `sumE` and `pull` meet its `prodE` and `pullM` by unfolding -/
theorem pass_cyc_area (H : Clamp ins ix π L) (hw : ∀ u v, L u → L v → w u v = h v - h u)
    (l : List (Pt α)) :
    sumE w (edges (passC ins ix true l)) = sumE (pull ins ix π w) (edges l) := by
  have key := passC_cyc_tel H (φ := w) ⟨add_assoc, add_comm, zero_add,
    fun u v x hu hv hx => by rw [hw u v hu hv, hw v x hv hx, hw u x hu hx]; ring,
    fun u hu => by rw [hw u u hu hu, sub_self]⟩ l
  rw [prodE_add, prodE_add] at key
  exact key

end pass

/-- the shoelace form of one edge -/
def sh (s e : Pt α) : α := s.x * e.y - e.x * s.y

/-- TWICE the signed area of the implicitly closed ring (positive = counter-clockwise) -/
def area2 (r : List (Pt α)) : α := sumE sh (edges r)

/-- `pull` through the pass for edge `k` of `box` -/
def pullK (box : Bound α) (k : Nat) (w : Pt α → Pt α → α) : Pt α → Pt α → α :=
  pull (insK box k) (Orb.Clip.cross box k) (projK box k) w

theorem passC_area (box : Bound α) (hb : BoxOK box) {k : Nat} (hk : Edge k) (w : Pt α → Pt α → α) (h : Pt α → α)
    (hw : ∀ u v, exc box k u = 0 → exc box k v = 0 → w u v = h v - h u) (l : List (Pt α)) :
    sumE w (edges (passC (insB box k) (ixB box k) true l)) = sumE (pullK box k w) (edges l) := by
  rw [ixB_eq_cross box hk, show insB box k = insK box k from insK_eq_bit box hb hk]
  exact pass_cyc_area (clamp_K box hk) hw l

/-- on every vertical line `x = c` the functional is `c` times the coboundary of `κ` -/
def XLin (w : Pt α → Pt α → α) (κ : Pt α → α) : Prop := ∀ u v, u.x = v.x → w u v = u.x * (κ v - κ u)

theorem xlin_sh : XLin (sh (α := α)) (fun p => p.y) := by
  intro u v h; simp only [sh, ← h]; ring

theorem projK_x (box : Bound α) {k : Nat} (hk : k = 4 ∨ k = 8) (p : Pt α) : (projK box k p).x = p.x := by
  unfold projK; split_ifs
  · rfl
  · rcases hk with rfl | rfl <;> simp [flatK]

theorem projK_y (box : Bound α) {k : Nat} (hk : k = 1 ∨ k = 2) (p : Pt α) : (projK box k p).y = p.y := by
  unfold projK; split_ifs
  · rfl
  · rcases hk with rfl | rfl <;> simp [flatK]

theorem cross_x_vert (box : Bound α) {k : Nat} (hk : k = 4 ∨ k = 8) (u v : Pt α) (h : u.x = v.x) :
    (Orb.Clip.cross box k u v).x = u.x := by
  rcases hk with rfl | rfl <;> simp [Orb.Clip.cross, h]

/-- a horizontal clamp keeps linearity along vertical lines (the potential is clamped) -/
theorem xlin_pullK (box : Bound α) {k : Nat} (hk : k = 4 ∨ k = 8) {w : Pt α → Pt α → α} {κ : Pt α → α}
    (hw : XLin w κ) : XLin (pullK box k w) (fun p => κ (projK box k p)) := by
  intro u v h
  have hu := projK_x box hk u
  have hv := projK_x box hk v
  have hc := cross_x_vert box hk u v h
  unfold pullK pull
  split_ifs
  · rw [hw _ _ (by rw [hu, hv, h]), hu]
  · rw [hw _ _ (by rw [hu, hc]), hw _ _ (by rw [hc, hv, h]), hu, hc]; ring

/-- the two horizontal clamps applied to the shoelace form -/
def Vy (box : Bound α) : Pt α → Pt α → α := pullK box 4 (pullK box 8 sh)

/-- `y` clamped to the vertical range of the box -/
def κy (box : Bound α) (p : Pt α) : α := (projK box 8 (projK box 4 p)).y

theorem xlin_Vy (box : Bound α) : XLin (Vy box) (κy box) :=
  xlin_pullK box (Or.inl rfl) (xlin_pullK box (Or.inr rfl) xlin_sh)

/-- the per-edge area functional: the shoelace form over the edge clamped to the box -/
def G (box : Bound α) : Pt α → Pt α → α := pullK box 1 (pullK box 2 (Vy box))

theorem pullK_inside (box : Bound α) (k : Nat) (w : Pt α → Pt α → α) (u v : Pt α)
    (hu : exc box k u ≤ 0) (hv : exc box k v ≤ 0) : pullK box k w u v = w u v := by
  unfold pullK pull
  rw [if_pos (by rw [insK_true.2 hu, insK_true.2 hv])]
  unfold projK; rw [if_pos hu, if_pos hv]

theorem closeL_area (l : List (Pt α)) : area2 (closeL true l) = area2 l := by
  rcases closeL_cases true l with ⟨e, -⟩ | ⟨f, t, -, rfl, e⟩ <;> rw [e]
  exact edgeSumOf_close sh (fun p => sub_self _) f t

theorem ring_area2 (box : Bound α) (hb : BoxOK box) (inp out : List (Pt α)) (hc : ClosedRing inp)
    (h : ring box inp = some out) : area2 out = sumE (G box) (edges inp) := by
  obtain rfl := Option.some.inj ((ring_eq box inp).symm.trans h)
  rw [ringL, closedB_of_closed hc.1 hc.2, closeL_area]
  have c8 : ∀ u v : Pt α, exc box 8 u = 0 → exc box 8 v = 0 →
      sh u v = (fun p : Pt α => -(box.hi.y * p.x)) v - (fun p : Pt α => -(box.hi.y * p.x)) u := by
    intro u v hu hv
    rw [exc_8, sub_eq_zero] at hu hv
    simp only [sh, hu, hv]; ring
  have c4 : ∀ u v : Pt α, exc box 4 u = 0 → exc box 4 v = 0 →
      pullK box 8 sh u v = (fun p : Pt α => -(box.lo.y * p.x)) v - (fun p : Pt α => -(box.lo.y * p.x)) u := by
    intro u v hu hv
    rw [exc_4, sub_eq_zero] at hu hv
    rw [pullK_inside box 8 sh u v (by rw [exc_8, ← hu]; exact sub_nonpos.2 hb.2.le)
      (by rw [exc_8, ← hv]; exact sub_nonpos.2 hb.2.le)]
    simp only [sh, ← hu, ← hv]; ring
  have c2 : ∀ u v : Pt α, exc box 2 u = 0 → exc box 2 v = 0 →
      Vy box u v = (fun p : Pt α => box.hi.x * κy box p) v - (fun p : Pt α => box.hi.x * κy box p) u := by
    intro u v hu hv
    rw [exc_2, sub_eq_zero] at hu hv
    rw [xlin_Vy box u v (by rw [hu, hv]), hu]; ring
  have c1 : ∀ u v : Pt α, exc box 1 u = 0 → exc box 1 v = 0 →
      pullK box 2 (Vy box) u v =
        (fun p : Pt α => box.lo.x * κy box p) v - (fun p : Pt α => box.lo.x * κy box p) u := by
    intro u v hu hv
    rw [exc_1, sub_eq_zero] at hu hv
    rw [pullK_inside box 2 _ u v (by rw [exc_2, ← hu]; exact sub_nonpos.2 hb.1.le)
      (by rw [exc_2, ← hv]; exact sub_nonpos.2 hb.1.le), xlin_Vy box u v (by rw [← hu, ← hv]), ← hu]; ring
  unfold area2 passes
  rw [passC_area box hb Edge.top sh _ c8, passC_area box hb Edge.bottom _ _ c4]
  show sumE (Vy box) (edges _) = _
  rw [passC_area box hb Edge.right _ _ c2, passC_area box hb Edge.left _ _ c1]
  rfl

end Orb.Clip.C08R
