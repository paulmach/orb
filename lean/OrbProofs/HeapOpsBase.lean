/-
  Facts about the slice-header heap model `Orb.HeapOps` shared by the heap-level lemma files of C15
  (project) and C08 (clip): the cell-level view of a store (`cell`, `upd`, `readH`), `iter`, the induction
  principle and header lists of `SGeom`.
-/
import Orb.HeapOps
import OrbProofs.C06HeapLemmas

namespace Orb.HeapOps
open Orb Orb.Heap

variable {α : Type}

theorem read_upd (σ : Store α) (a i b : Nat) (g : Pt α → Pt α) :
    read (upd σ a i g) b = if b = a then (read σ a).modify i g else read σ b :=
  read_modify σ a b _ (by simp)

theorem cell_upd (σ : Store α) (a i b j : Nat) (g : Pt α → Pt α) :
    cell (upd σ a i g) b j = if a = b ∧ i = j then (cell σ b j).map g else cell σ b j := by
  unfold cell
  rw [read_upd]
  by_cases hab : b = a
  · subst hab
    rw [if_pos rfl, List.getElem?_modify]
    by_cases hij : i = j <;> simp [hij]
  · have hba : ¬ a = b := fun e => hab e.symm
    simp [hab, hba]

theorem read_length_upd (σ : Store α) (a i b : Nat) (g : Pt α → Pt α) :
    (read (upd σ a i g) b).length = (read σ b).length := by
  rw [read_upd]; split
  · next h => rw [h, List.length_modify]
  · rfl

theorem length_upd (σ : Store α) (a i : Nat) (g : Pt α → Pt α) : (upd σ a i g).length = σ.length := by
  simp [upd]

theorem read_ext (σ σ' : Store α) (a : Nat) (h : ∀ i, cell σ' a i = cell σ a i) : read σ' a = read σ a :=
  List.ext_getElem? h

theorem getElem?_readH (σ : Store α) (h : Hdr) (k : Nat) :
    (readH σ h)[k]? = if k < h.len then cell σ h.arr (h.off + k) else none := by
  simp [readH, cell, List.getElem?_take, List.getElem?_drop]

theorem readH_congr {σ σ' : Store α} {x : Hdr}
    (h : ∀ k, k < x.len → cell σ' x.arr (x.off + k) = cell σ x.arr (x.off + k)) : readH σ' x = readH σ x := by
  apply List.ext_getElem?
  intro k
  rw [getElem?_readH, getElem?_readH]
  split
  · exact h k ‹_›
  · rfl

theorem readH_length (σ : Store α) (h : Hdr) (hw : h.WF σ) : (readH σ h).length = h.len := by
  unfold readH Hdr.WF at *
  simp only [List.length_take, List.length_drop]
  omega

theorem iter_add {β : Type} (f : β → β) (m n : Nat) (x : β) : iter f (m + n) x = iter f n (iter f m x) := by
  induction m generalizing x with
  | zero => simp [iter]
  | succ m ih => rw [Nat.succ_add]; simp only [iter]; exact ih (f x)

theorem iter_map {β : Type} (f : β → β) (m n : Nat) (x : Option β) :
    (x.map (iter f m)).map (iter f n) = x.map (iter f (m + n)) := by
  cases x with
  | none => rfl
  | some x => simp [iter_add]

theorem covers_iff (h : Hdr) (a i : Nat) : h.covers a i = true ↔ h.arr = a ∧ h.off ≤ i ∧ i < h.off + h.len := by
  simp [Hdr.covers, and_assoc]

theorem inWin_iff (h : Hdr) (a i : Nat) : h.inWin a i = true ↔ h.arr = a ∧ h.off ≤ i ∧ i < h.off + h.cap := by
  simp [Hdr.inWin, and_assoc]

/-- the cases in the order of the constructors: `h1` point, `h2` multiPoint, `h3` lineString, `h4` multiLineString,
    `h5` ring, `h6` polygon, `h7` multiPolygon, `h8` bound, `hc` collection (with the hypothesis for every member) -/
theorem SGeom.ind {motive : SGeom α → Prop}
    (h1 : ∀ p, motive (.point p)) (h2 : ∀ h, motive (.multiPoint h))
    (h3 : ∀ h, motive (.lineString h)) (h4 : ∀ hs, motive (.multiLineString hs))
    (h5 : ∀ h, motive (.ring h)) (h6 : ∀ hs, motive (.polygon hs))
    (h7 : ∀ hss, motive (.multiPolygon hss)) (h8 : ∀ a b, motive (.bound a b))
    (hc : ∀ gs, (∀ g ∈ gs, motive g) → motive (.collection gs)) : ∀ g, motive g := by
  intro g
  refine SGeom.rec (motive_1 := motive) (motive_2 := fun gs => ∀ g ∈ gs, motive g)
    h1 h2 h3 h4 h5 h6 h7 h8 hc ?_ ?_ g
  · intro g hg; cases hg
  · intro head tail hh ht g hg
    rcases List.mem_cons.1 hg with rfl | hg
    · exact hh
    · exact ht g hg

theorem denoteSList_eq_map (σ : Store α) (gs : List (SGeom α)) : denoteSList σ gs = gs.map (denoteS σ) := by
  induction gs with
  | nil => rfl
  | cons g gs ih => simp [denoteSList, ih]

theorem hdrsList_eq (gs : List (SGeom α)) : hdrsList gs = (gs.map hdrs).flatten := by
  induction gs with
  | nil => rfl
  | cons g gs ih => simp [hdrsList, ih]

theorem ringHdrsList_eq (gs : List (SGeom α)) : ringHdrsList gs = (gs.map ringHdrs).flatten := by
  induction gs with
  | nil => rfl
  | cons g gs ih => simp [ringHdrsList, ih]

theorem mem_hdrsList {gs : List (SGeom α)} {g : SGeom α} (hg : g ∈ gs) {h : Hdr} (hh : h ∈ hdrs g) :
    h ∈ hdrsList gs := by
  rw [hdrsList_eq]
  exact List.mem_flatten.2 ⟨_, List.mem_map_of_mem hg, hh⟩

theorem ringHdrs_sub_hdrs (g : SGeom α) : ∀ h ∈ ringHdrs g, h ∈ hdrs g := by
  induction g using SGeom.ind with
  | hc gs ih =>
    intro h hh
    simp only [ringHdrs, ringHdrsList_eq, List.mem_flatten, List.mem_map] at hh
    obtain ⟨l, ⟨g, hg, rfl⟩, hl⟩ := hh
    exact mem_hdrsList hg (ih g hg h hl)
  | _ => intro h hh; first | exact hh | cases hh

theorem denoteS_congr (σ σ' : Store α) (g : SGeom α) (h : ∀ x ∈ hdrs g, readH σ' x = readH σ x) :
    denoteS σ' g = denoteS σ g := by
  induction g using SGeom.ind with
  | h1 p => rfl
  | h8 a b => rfl
  | h2 x | h3 x | h5 x => simp [denoteS, h x (by simp [hdrs])]
  | h4 hs | h6 hs =>
    simp only [denoteS]; congr 1
    exact List.map_congr_left fun x hx => h x (by simpa [hdrs] using hx)
  | h7 hss =>
    simp only [denoteS]; congr 1
    apply List.map_congr_left
    intro hs hhs
    exact List.map_congr_left fun x hx => h x (List.mem_flatten.2 ⟨hs, hhs, hx⟩)
  | hc gs ih =>
    simp only [denoteS, denoteSList_eq_map]; congr 1
    exact List.map_congr_left fun g hg => ih g hg fun x hx => h x (mem_hdrsList hg hx)

end Orb.HeapOps
