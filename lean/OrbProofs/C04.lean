/-
  C04 — WKT text round-trips every geometry with full float precision; the typed parse functions
  accept exactly their own kind; keyword case and blanks do not change the result.
  C05 (WKT share) — `wkt.Unmarshal` and the seven typed functions never panic.

  PROPERTY THEOREMS about the model `Orb.WKT` (encoding/wkt/wkt.go, unmarshal.go as of /repo 5a01c04).

  A Go string is a byte list; coordinates are float64 bit patterns.  `fmtF` (fmt's `%g`) and `parseF`
  (`strconv.ParseFloat`) are parameters; the theorems assume of them, at the coordinates of the value
  only, `FloatText fmtF parseF x`: the text is non-empty, contains none of the six delimiter bytes
  (blank, tab, newline, comma, parentheses) and parses back to the same bits.  Nothing else: exponent
  forms (`1e+21`), signs, `NaN`/`+Inf` spellings are all allowed — the theorems hold for them if the
  pair (fmtF, parseF) round-trips them.

  The assumption is reduced further in the section "`%g`" below: the layout half of `%g`
  (`gLayout`, Orb/WKTFloat.lean: strconv's `%e`/`%f` writers and the choice between them) is modelled,
  and for EVERY sign, digit list and decimal-point position its text is proved non-empty, free of
  delimiter bytes and of adjacent letters.  What remains assumed (`GRoundTrip`): the text of a finite
  coordinate is `gLayout` of SOME digits (Go's shortest-digit generator is not modelled; the driver
  checks this shape on Go's own text of every coordinate of every case), and `ParseFloat` maps the
  text back to the same bits (the driver checks that too, on Go's own answer).

  `Spelled fmtF g t` (Orb/WKT.lean): `t` is a re-spelling of the text of `g` — keyword letters in
  either case, blanks at both ends, after the keyword and next to every parenthesis and comma.
  `noEmptyMemberDeep g`: no member of a multi-geometry prints as `()` — the one recorded finding.
-/
import OrbProofs.C04Round
import OrbProofs.C04Respell
import OrbProofs.C04Float
import OrbProofs.C04Empty

namespace Orb.WKT

section
variable (fmtF : UInt64 → Str) (parseF : Str → Option UInt64)

/-- Parsing ANY re-spelling of the text of `g` returns the canonical value (ring and bound as the
    one-ring polygon, empty values as empty values), for all nine kinds, collections nested to any
    depth, EMPTY members, exponent-form coordinates. -/
theorem unmarshal_spelled (g : G) (t : Str) (hs : Spelled fmtF g t) (he : noEmptyMemberDeep g = true)
    (hc : GoodCoords fmtF parseF g) : unmarshal parseF t = .ok (canon g) := by
  obtain ⟨pre, post, c, hpre, hpost, hcore, rfl⟩ := hs
  exact unmarshalF_spelledCore fmtF parseF g c hcore he hc pre post hpre hpost _ (Nat.lt_succ_self _)

/-- the text `Marshal` writes is one of the spellings … -/
theorem marshalG_spelled (g : G) : Spelled fmtF g (marshalG fmtF g) :=
  ⟨[], [], marshalG fmtF g, allBlank_nil, allBlank_nil, marshalG_spelledCore fmtF g, by simp⟩

/-- … hence `Unmarshal ∘ Marshal = canon`. -/
theorem unmarshal_marshal (g : G) (he : noEmptyMemberDeep g = true) (hc : GoodCoords fmtF parseF g) :
    unmarshal parseF (marshalG fmtF g) = .ok (canon g) :=
  unmarshal_spelled fmtF parseF g _ (marshalG_spelled fmtF g) he hc

/-- The statement of the property without the restriction.  It is FALSE of the code (witnesses
    below): a multi-geometry with a member printed as `()` does not parse. -/
def unmarshal_marshal_full : Prop :=
  ∀ (fmtF : UInt64 → Str) (parseF : Str → Option UInt64) (g : G), GoodCoords fmtF parseF g →
    unmarshal parseF (marshalG fmtF g) = .ok (canon g)

/-- Re-spelling does not change the result, structural form: every text in `Spelled` (keyword case,
    blanks at both ends, after the keyword and next to every parenthesis and comma, all kinds, all
    depths) parses like the plain text: no kind and no depth is left out, whatever the name suggests.  The text-edit form
    of the clause is `respell_invariant` below. -/
theorem respell_invariant_partial (g : G) (t : Str) (hs : Spelled fmtF g t) (he : noEmptyMemberDeep g = true)
    (hc : GoodCoords fmtF parseF g) : unmarshal parseF t = unmarshal parseF (marshalG fmtF g) := by
  rw [unmarshal_spelled fmtF parseF g t hs he hc, unmarshal_marshal fmtF parseF g he hc]

/-- One text edit of the property's wording — insert a blank immediately before or after a
    parenthesis or comma, or at either end of the text; flip the case of a letter that has a letter
    neighbour — turns a spelling into a spelling.  `CleanText`: the printed coordinates are non-empty,
    contain no delimiter byte and no two adjacent letters (a finite `%g` has at most an isolated `e`),
    so the only adjacent letters of the text are keyword letters. -/
theorem spelled_step (g : G) (t t' : Str) (hc : ∀ x ∈ coords g, CleanText (fmtF x))
    (he : noEmptyMemberDeep g = true) (hs : Spelled fmtF g t) (h : RespellStep t t') : Spelled fmtF g t' :=
  spelled_star fmtF g t t' hc he hs (.step (.refl t) h)

/-- The re-spelling clause in the property's own wording: ANY sequence of such text edits applied to
    the text `Marshal` produced leaves the result of `Unmarshal` unchanged (never a blank between
    the two numbers of a coordinate: no edit inserts one there). -/
theorem respell_invariant (g : G) (t : Str) (he : noEmptyMemberDeep g = true) (hc : GoodCoords fmtF parseF g)
    (hl : ∀ x ∈ coords g, NoAdjacentLetters (fmtF x)) (h : RespellStar (marshalG fmtF g) t) :
    unmarshal parseF t = unmarshal parseF (marshalG fmtF g) :=
  respell_invariant_partial fmtF parseF g t
    (spelled_star fmtF g _ t (fun x hx => ⟨(hc x hx).nonempty, (hc x hx).clean, hl x hx⟩) he
      (marshalG_spelled fmtF g) h) he hc

/-! ### `%g`: the float assumption reduced to the digit generator

  `gLayout neg d dp` is what `strconv.FormatFloat(x, 'g', -1, 64)` — i.e. `fmt`'s `%g` — writes once
  the shortest digits `d` and the decimal-point position `dp` of `|x|` are known.  The three
  text-level parts of the assumption hold for all `neg`, `d`, `dp`: -/

theorem gLayout_nonempty (neg : Bool) (d : List Nat) (dp : Int) : gLayout neg d dp ≠ [] :=
  gLayout_ne_nil' neg d dp

/-- every byte is a digit, `.`, `e`, `+` or `-` … -/
theorem gLayout_bytes (neg : Bool) (d : List Nat) (dp : Int) : ∀ b ∈ gLayout neg d dp, isGByte b = true :=
  gLayout_bytes' neg d dp

/-- … hence no blank, tab, newline, comma or parenthesis -/
theorem gLayout_clean (neg : Bool) (d : List Nat) (dp : Int) : ∀ b ∈ gLayout neg d dp, isDelim b = false :=
  gLayout_clean' neg d dp

/-- the only letter is the `e` of the exponent form, followed by the sign of the exponent -/
theorem gLayout_noAdjacentLetters (neg : Bool) (d : List Nat) (dp : Int) : NoAdjacentLetters (gLayout neg d dp) :=
  gLayout_noAdjacentLetters' neg d dp

/-- `FloatText` follows from the reduced assumption -/
theorem floatText_of_gRoundTrip (x : UInt64) (h : GRoundTrip fmtF parseF x) : FloatText fmtF parseF x := by
  obtain ⟨⟨neg, d, dp, hs⟩, hp⟩ := h
  exact ⟨hs ▸ gLayout_nonempty neg d dp, hs ▸ gLayout_clean neg d dp, hp⟩

theorem goodCoords_of_gCoords {g : G} (h : GCoords fmtF parseF g) : GoodCoords fmtF parseF g :=
  fun x hx => floatText_of_gRoundTrip fmtF parseF x (h x hx)

/-- Round trip under the reduced assumption: the `%g` text of every coordinate is `gLayout` of some
    digits and `ParseFloat` reads it back (`GCoords`). -/
theorem unmarshal_marshal_g (g : G) (he : noEmptyMemberDeep g = true) (hc : GCoords fmtF parseF g) :
    unmarshal parseF (marshalG fmtF g) = .ok (canon g) :=
  unmarshal_marshal fmtF parseF g he (goodCoords_of_gCoords fmtF parseF hc)

/-- the typed decision table under the reduced assumption -/
theorem typed_accepts_own_g (g : G) (t : Str) (hs : Spelled fmtF g t) (he : noEmptyMemberDeep g = true)
    (hc : GCoords fmtF parseF g) : typedAll parseF t = expectedTyped (kindIdx g) (.ok (canon g)) :=
  by rw [typedAll_of_kw parseF (kindIdx_lt g) (spelled_kw fmtF hs),
    unmarshal_spelled fmtF parseF g t hs he (goodCoords_of_gCoords fmtF parseF hc)]

/-- The re-spelling clause in the property's own wording under the reduced assumption (no separate
    hypothesis about adjacent letters: it is a theorem about `gLayout`). -/
theorem respell_invariant_g (g : G) (t : Str) (he : noEmptyMemberDeep g = true) (hc : GCoords fmtF parseF g)
    (h : RespellStar (marshalG fmtF g) t) : unmarshal parseF t = .ok (canon g) := by
  rw [respell_invariant fmtF parseF g t he (goodCoords_of_gCoords fmtF parseF hc)
    (fun x hx => (hc x hx).shaped.noAdjacentLetters) h]
  exact unmarshal_marshal fmtF parseF g he (goodCoords_of_gCoords fmtF parseF hc)

/-! ### the blank in front of `EMPTY` (outside the quantifier: what the code does there) -/

/-- `<KEYWORD> EMPTY` needs exactly one space: with any other run of blanks `a` (none, two spaces, a tab,
    a newline …) between a keyword of position `i` (order of `typedAll`, any letter case) and `EMPTY`
    (any letter case), and blanks at both ends, `Unmarshal` answers `ErrNotWKT`; `POINT` (`i = 0`), which
    has no EMPTY form, does so for the single space as well.  (With the single space the six other
    kinds parse to their empty value: `unmarshal_spelled` on `.multiPoint []` ….) -/
theorem empty_form_needs_single_space (i : Nat) (hi : i < 7) (k a e pre post : Str)
    (hk : CaseVariant (kwAt i) k) (he : CaseVariant kwEmptyWord e) (ha : AllBlank a)
    (hne : i = 0 ∨ a ≠ [cSpace]) (hpre : AllBlank pre) (hpost : AllBlank post) :
    unmarshal parseF (pre ++ (k ++ (a ++ e)) ++ post) = .err .notWKT :=
  empty_form_needs_single_space' parseF i hi k a e pre post hk he ha hne hpre hpost

/-! ### the typed entry points: a 7 × 7 decision table -/

/-- every typed function other than the one owning the kind of the text answers
    `ErrIncorrectGeometry` — for every value and every spelling, with no hypothesis on the floats -/
theorem typed_rejects_other (g : G) (t : Str) (hs : Spelled fmtF g t) (j : Nat) (hj : j < 7) (hne : j ≠ kindIdx g) :
    (typedAll parseF t)[j]? = some (.err .incorrect) := by
  rw [typedAll_of_kw parseF (kindIdx_lt g) (spelled_kw fmtF hs), expectedTyped_getElem?, if_pos hj, if_neg hne]

/-- the owning typed function answers exactly what `Unmarshal` answers (value or error) -/
theorem typed_own_eq_unmarshal (g : G) (t : Str) (hs : Spelled fmtF g t) :
    (typedAll parseF t)[kindIdx g]? = some (unmarshal parseF t) := by
  rw [typedAll_of_kw parseF (kindIdx_lt g) (spelled_kw fmtF hs), expectedTyped_getElem?, if_pos (kindIdx_lt g),
    if_pos rfl]

/-- the whole row: own kind accepted with the canonical value, the six others rejected -/
theorem typed_accepts_own (g : G) (t : Str) (hs : Spelled fmtF g t) (he : noEmptyMemberDeep g = true)
    (hc : GoodCoords fmtF parseF g) : typedAll parseF t = expectedTyped (kindIdx g) (.ok (canon g)) := by
  rw [typedAll_of_kw parseF (kindIdx_lt g) (spelled_kw fmtF hs), unmarshal_spelled fmtF parseF g t hs he hc]

/-! ### the recorded finding: a member printed as `()` does not parse back

  Whatever `%g` and `ParseFloat` do (the texts contain no coordinate).  These are the witnesses that
  `unmarshal_marshal_full` is false; the restriction `noEmptyMemberDeep` excludes exactly them. -/

/-- `POLYGON(())` (a polygon whose only ring is empty) -/
theorem roundtrip_fails_empty_ring : unmarshal parseF (marshalG fmtF (.polygon [[]])) = .err .notWKT := by
  rw [show marshalG fmtF (.polygon [[]]) = kwPolygon ++ [cLP, cLP, cRP, cRP] from rfl]; rfl

/-- … which is also the text of an empty `orb.Ring` -/
theorem roundtrip_fails_empty_ring_value : unmarshal parseF (marshalG fmtF (.ring [])) = .err .notWKT :=
  roundtrip_fails_empty_ring fmtF parseF

/-- `MULTILINESTRING(())` -/
theorem roundtrip_fails_empty_line : unmarshal parseF (marshalG fmtF (.multiLineString [[]])) = .err .notWKT := by
  rw [show marshalG fmtF (.multiLineString [[]]) = kwMultiLineString ++ [cLP, cLP, cRP, cRP] from rfl]; rfl

/-- `MULTIPOLYGON(())` -/
theorem roundtrip_fails_empty_polygon : unmarshal parseF (marshalG fmtF (.multiPolygon [[]])) = .err .notWKT := by
  rw [show marshalG fmtF (.multiPolygon [[]]) = kwMultiPolygon ++ [cLP, cLP, cRP, cRP] from rfl]; rfl

/-- `MULTIPOLYGON((()))` -/
theorem roundtrip_fails_empty_polygon_ring : unmarshal parseF (marshalG fmtF (.multiPolygon [[[]]])) = .err .notWKT := by
  rw [show marshalG fmtF (.multiPolygon [[[]]]) = kwMultiPolygon ++ [cLP, cLP, cLP, cRP, cRP, cRP] from rfl]; rfl

end

theorem unmarshal_marshal_full_false : ¬ unmarshal_marshal_full := by
  intro h
  have h1 := h fmt0 parse0 (.polygon [[]]) (by intro x hx; simp [coords, ringsCoords, ptsCoords] at hx)
  rw [roundtrip_fails_empty_ring] at h1
  cases h1

/-! ### C05: totality -/

/-- `wkt.Unmarshal` never panics, on any byte string, whatever `ParseFloat` answers; in particular
    the recursion budget `len(s)+1` of the model is never exhausted. -/
theorem wkt_unmarshal_total (parseF : Str → Option UInt64) (s : Str) : (unmarshal parseF s).isPanic = false :=
  unmarshalF_not_panic parseF _ s (Nat.lt_succ_self _)

/-- neither do `UnmarshalPoint` … `UnmarshalCollection` -/
theorem wkt_typed_total (parseF : Str → Option UInt64) (s : Str) : ∀ r ∈ typedAll parseF s, r.isPanic = false := by
  rw [typedAll_eq]
  intro r hr
  obtain ⟨j, hj, rfl⟩ := List.mem_map.1 hr
  rw [typed_eq]
  split
  · rename_i h
    exact branchAt_not_panic parseF (List.mem_range.1 hj) h fun m _ => wkt_unmarshal_total parseF m
  · rfl

/-! ### C05: capacities requested by the parser's own `make` calls

  `make(…, 0, strings.Count(s, ",")+1)`, `make(…, 0, len(indexes)+1)` (the `set` callback of
  `splitByRegexpYield`) and `make(orb.Collection, 0, len(geometries))` are the only allocations of
  orb's own code in this package; each is bounded by the length of the text in hand.  (The SUM over
  a whole parse, and the Go runtime / regexp allocations, are measured by the harness, not proved.) -/

theorem countCommas_le (s : Str) : countCommas s ≤ s.length := List.length_filter_le _ _

/-- `MatcherOK.findAll_length_le` at the two regexps -/
theorem findAll_length_le (s : Str) :
    (findAll matchSingle s).length ≤ s.length ∧ (findAll matchDouble s).length ≤ s.length :=
  ⟨matchSingle_ok.findAll_length_le s, matchDouble_ok.findAll_length_le s⟩

theorem splitGeometryCollection_count (s : Str) (ms : List Str) (h : splitGeometryCollection s = .ok ms) :
    ms.length ≤ s.length + 1 := by
  rcases splitGeometryCollection_spec s with ⟨e, h'⟩ | ⟨ms', h', -, h3⟩ <;> rw [h] at h'
  · cases h'
  · cases h'; exact h3

/-- the keyword test is the length guard of the slice that follows it (`hasPrefix_upperPrefix_length`) -/
theorem keyword_guards_slice (s kw : Str) (hk : ∀ b ∈ kw, b ≠ 0) (h : hasPrefix (upperPrefix s) kw = true) :
    kw.length ≤ s.length := hasPrefix_upperPrefix_length hk h

/-! ### non-vacuity

  `fmt0`/`parse0` print and parse four bit patterns (`1`, `2`, `-0.5`, and the exponent form `1e+21`).
  `g0` = a collection holding a nested collection (with a point and an EMPTY line string), a point
  with an exponent-form coordinate, a multi-polygon with a hole, a bound and a multi-point. -/

example : unmarshal parse0 (marshalG fmt0 g0) = .ok (canon g0) := unmarshal_marshal fmt0 parse0 g0 deep0 good0

example : typedAll parse0 (marshalG fmt0 g0) = expectedTyped 6 (.ok (canon g0)) :=
  typed_accepts_own fmt0 parse0 g0 _ (marshalG_spelled fmt0 g0) deep0 good0

/-- ` point (\t1 2\n) ` parses to the point -/
example : unmarshal parse0 t1 = .ok (.point ⟨1, 2⟩) := unmarshal_spelled fmt0 parse0 _ t1 spelled1 (by decide) good1

example : (typedAll parse0 t1)[2]? = some (.err .incorrect) :=
  typed_rejects_other fmt0 parse0 _ t1 spelled1 2 (by decide) (by decide)

example : (unmarshal parse0 t1).isPanic = false := wkt_unmarshal_total parse0 t1

/-- two text edits on Marshal's text of `g0`: a tab in front, the first `E` of the keyword in lower case -/
example : unmarshal parse0 (9 :: ([71] ++ flipCase 69 :: 79 :: (marshalG fmt0 g0).drop 3)) = .ok (canon g0) := by
  rw [respell_invariant fmt0 parse0 g0 _ deep0 good0 (fun x _ => noAdj0 x)
    (.step (.step (.refl _) (.caseL [71] ((marshalG fmt0 g0).drop 3) 69 79 (by decide) (by decide)))
      (.atStart _ 9 (by decide)))]
  exact unmarshal_marshal fmt0 parse0 g0 deep0 good0

/-- the reduced assumption is satisfiable too: `1`, `2`, `-0.5`, `1e+21` are `gLayout` of the digits
    `1`, `2`, `5` (`dp = 0`, negative), `1` (`dp = 22`) -/
example : unmarshal parse0 (marshalG fmt0 g0) = .ok (canon g0) := unmarshal_marshal_g fmt0 parse0 g0 deep0 gcoords0

example : gLayout true [5] 0 = [45, 48, 46, 53] ∧ gLayout false [1] 22 = [49, 101, 43, 50, 49] ∧
    gLayout false [1, 2, 3, 4, 5, 6, 7] 7 = [49, 46, 50, 51, 52, 53, 54, 55, 101, 43, 48, 54] ∧
    gLayout false [1, 2, 3, 4, 5, 6] 6 = [49, 50, 51, 52, 53, 54] ∧ gLayout false [1] 6 = [49, 48, 48, 48, 48, 48] ∧
    gLayout true [9, 9, 9, 9] (-4) = [45, 57, 46, 57, 57, 57, 101, 45, 48, 53] ∧ gLayout false [1] (-3) = [48, 46, 48, 48, 48, 49] ∧
    gLayout true [] 0 = [45, 48] ∧ gLayout false [5] (-323) = [53, 101, 45, 51, 50, 52] := by decide

/-- `MULTIPOLYGON\tEMPTY` (a tab, not the one space) is not WKT for this parser -/
example : unmarshal parse0 ([] ++ (kwMultiPolygon ++ ([9] ++ kwEmptyWord)) ++ []) = .err .notWKT :=
  empty_form_needs_single_space parse0 5 (by decide) kwMultiPolygon [9] kwEmptyWord [] []
    (by unfold CaseVariant; decide) (by unfold CaseVariant; decide) (by unfold AllBlank; decide)
    (.inr (by decide)) allBlank_nil allBlank_nil

/-- `Polygon ( ( 1 2 , 2 1 ) ,\n(-0.5 -0.5) ) ` parses to the two-ring polygon -/
example : unmarshal parse0 t2 = .ok g2 := unmarshal_spelled fmt0 parse0 g2 t2 spelled2 (by decide) good2

end Orb.WKT
