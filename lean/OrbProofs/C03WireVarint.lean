/-
  C03, the wire level: the primitives of `Orb.ProtoWire` — base-128 varints, zigzag of
  sint64, two's complement, fixed-width little-endian values, strings.
-/
import Orb.ProtoWire
import OrbProofs.C03Bits
import OrbProofs.ResLemmas

namespace Orb.ProtoWire
open Orb Orb.MVT

theorem u8_ge_80 (d : UInt8) : (d ≥ 0x80) ↔ 128 ≤ d.toNat := by
  show (0x80 : UInt8) ≤ d ↔ _
  rw [UInt8.le_iff_toNat_le]; rfl

theorem and_7f (n : Nat) : n &&& 0x7F = n % 128 := Nat.and_two_pow_sub_one_eq_mod n 7

theorem or_shift_eq_add (val g shift : Nat) (hv : val < 2^shift) :
    val ||| g * 2^shift = val + g * 2^shift := by
  rw [← Nat.shiftLeft_eq, Nat.or_comm, ← Nat.shiftLeft_add_eq_or_of_lt hv, Nat.add_comm]

theorem encodeVarintF_ne_nil (f v : Nat) : encodeVarintF (f+1) v ≠ [] := by
  unfold encodeVarintF; split <;> simp

theorem encodeVarintF_length_le (f v : Nat) : (encodeVarintF f v).length ≤ f := by
  induction f generalizing v with
  | zero => simp [encodeVarintF]
  | succ f ih =>
    unfold encodeVarintF
    split
    · simp
    · simp only [List.length_cons]; have := ih (v / 128); omega

/-- The encoder stops within its fuel: the fuel does not matter once it covers the value. -/
theorem encodeVarintF_fuel (f g v : Nat) (hf : v < 128^(f+1)) (hg : v < 128^(g+1)) :
    encodeVarintF (f+1) v = encodeVarintF (g+1) v := by
  induction f generalizing g v with
  | zero =>
    have : v < 128 := by simpa using hf
    unfold encodeVarintF; simp [this]
  | succ f ih =>
    unfold encodeVarintF
    by_cases hv : v < 128
    · simp [hv]
    · simp only [hv, if_false]
      cases g with
      | zero => exact absurd (by simpa using hg) hv
      | succ g =>
        congr 1
        apply ih
        · rw [Nat.pow_succ] at hf; omega
        · rw [Nat.pow_succ] at hg; omega

/-- One round of the decoder in arithmetic form: the low seven bits of `d` enter at `shift`,
    above everything accumulated so far. -/
theorem varintF_cons (bits f shift val : Nat) (d : UInt8) (rest : Bytes) (hv : val < 2^shift)
    (hfit : val + d.toNat % 128 * 2^shift < 2^bits) :
    varintF bits (f+1) shift val (d :: rest) =
      if 128 ≤ d.toNat then varintF bits f (shift + 7) (val + d.toNat % 128 * 2^shift) rest
      else some (val + d.toNat % 128 * 2^shift, rest) := by
  have hlt : d.toNat % 128 * 2^shift < 2^bits := by omega
  simp only [varintF, u8_ge_80, and_7f, Nat.shiftLeft_eq, Nat.mod_eq_of_lt hlt,
    or_shift_eq_add _ _ _ hv]

/-- Positional notation: the lowest base-`b` digit at weight `p`, the others at weight `p * b`. -/
theorem split_base (n b p : Nat) : n % b * p + n / b * (p * b) = n * p := by
  rw [← Nat.mul_assoc, Nat.mul_right_comm, ← Nat.add_mul, Nat.mod_add_div']

theorem split128 (n s : Nat) : n % 128 * 2^s + n / 128 * 2^(s + 7) = n * 2^s := by
  rw [Nat.pow_add]; exact split_base n 128 (2^s)

theorem varintF_single (bits fd fe shift val n : Nat) (rest : Bytes) (hn : n < 128)
    (hv : val < 2^shift) (hfit : val + n * 2^shift < 2^bits) :
    varintF bits (fd+1) shift val (encodeVarintF (fe+1) n ++ rest) = some (val + n * 2^shift, rest) := by
  have ht := UInt8.toNat_ofNat_of_lt' (by omega : n < 256)
  simp only [encodeVarintF, hn, if_true, List.singleton_append]
  rw [varintF_cons _ _ _ _ _ _ hv (by rw [ht, Nat.mod_eq_of_lt hn]; exact hfit), ht,
    Nat.mod_eq_of_lt hn, if_neg (by omega)]

/-- One fuel for both sides: where they differ (`varint32`), `encodeVarintF_fuel` changes the encoder's. -/
theorem varintF_encodeVarintF (bits : Nat) (f shift val n : Nat) (rest : Bytes)
    (hv : val < 2^shift) (hn : n < 128^(f+1)) (hfit : val + n * 2^shift < 2^bits) :
    varintF bits (f+1) shift val (encodeVarintF (f+1) n ++ rest) = some (val + n * 2^shift, rest) := by
  induction f generalizing shift val n with
  | zero => exact varintF_single _ _ _ _ _ _ _ (by simpa using hn) hv hfit
  | succ f ih =>
    by_cases h : n < 128
    · exact varintF_single _ _ _ _ _ _ _ h hv hfit
    have ht := UInt8.toNat_ofNat_of_lt' (by omega : n % 128 + 128 < 256)
    have hm : (n % 128 + 128) % 128 = n % 128 := by omega
    have hfit' : val + n % 128 * 2^shift + n / 128 * 2^(shift + 7) < 2^bits := by
      rw [Nat.add_assoc, split128]; exact hfit
    have hv' : val + n % 128 * 2^shift < 2^(shift + 7) := by
      have : n % 128 * 2^shift ≤ 127 * 2^shift := Nat.mul_le_mul_right _ (by omega)
      rw [Nat.pow_add]; omega
    unfold encodeVarintF
    simp only [h, if_false, List.cons_append]
    rw [varintF_cons _ _ _ _ _ _ hv (by rw [ht, hm]; omega), ht, hm, if_pos (by omega),
      ih (shift + 7) _ (n / 128) hv' (by rw [Nat.pow_succ] at hn; omega) hfit', Nat.add_assoc, split128]

theorem two_pow_64_le : (2:Nat)^64 ≤ 128^10 := by decide

theorem varint64_encodeVarint (n : Nat) (rest : Bytes) (h : n < 2^64) :
    varint64 (encodeVarint n ++ rest) = some (n, rest) := by
  have := varintF_encodeVarintF 64 9 0 0 n rest (by decide) (Nat.lt_of_lt_of_le h two_pow_64_le) (by simpa using h)
  simpa [varint64, encodeVarint] using this

/-- The uint32 reader has five rounds, the encoder ten: below `2^32` the encoder stops within five. -/
theorem varint32_encodeVarint (n : Nat) (rest : Bytes) (h : n < 2^32) :
    varint32 (encodeVarint n ++ rest) = some (n, rest) := by
  have h5 : n < 128^(4+1) := Nat.lt_of_lt_of_le h (by decide)
  have := varintF_encodeVarintF 32 4 0 0 n rest (by decide) h5 (by simpa using h)
  rw [encodeVarintF_fuel 4 9 n h5 (Nat.lt_of_lt_of_le (Nat.lt_of_lt_of_le h (by decide)) two_pow_64_le)] at this
  simpa [varint32, encodeVarint] using this

theorem encodeVarint_length_le (n : Nat) : (encodeVarint n).length ≤ 10 :=
  encodeVarintF_length_le 10 n

theorem encodeVarint_ne_nil (n : Nat) : encodeVarint n ≠ [] := encodeVarintF_ne_nil 9 n

theorem encodeVarint_length_pos (n : Nat) : 0 < (encodeVarint n).length :=
  List.length_pos_iff.mpr (encodeVarint_ne_nil n)

theorem encodeVarint_small (n : Nat) (h : n < 128) : encodeVarint n = [UInt8.ofNat n] := by
  simp [encodeVarint, encodeVarintF, h]

theorem varintF_rest_lt (bits f shift val : Nat) (bs : Bytes) (v : Nat) (r : Bytes)
    (h : varintF bits f shift val bs = some (v, r)) : r.length < bs.length := by
  revert h
  fun_induction varintF bits f shift val bs
  · nofun
  · nofun
  · next ih => intro h; exact Nat.lt_succ_of_lt (ih h)
  · intro h; rw [← (Prod.mk.inj (Option.some.inj h)).2]; exact Nat.lt_succ_self _

theorem varint64_rest_lt {bs : Bytes} {v : Nat} {r : Bytes} (h : varint64 bs = some (v, r)) :
    r.length < bs.length := varintF_rest_lt _ _ _ _ _ _ _ h

theorem varint32_rest_lt {bs : Bytes} {v : Nat} {r : Bytes} (h : varint32 bs = some (v, r)) :
    r.length < bs.length := varintF_rest_lt _ _ _ _ _ _ _ h

theorem unzigzag64_zigzag64 (x : BitVec 64) : unzigzag64 (zigzag64 x) = x :=
  zigzag_core x (fun b => (b <<< 63).sshiftRight 63) (by decide) (by decide)

/-- A sint64 value survives zigzag + varint (`Value.sint_value`). -/
theorem sint_roundtrip (v : Int) (h1 : -(2^63 : Int) ≤ v) (h2 : v < (2^63 : Int)) :
    (unzigzag64 (BitVec.ofNat 64 (zigzag64 (BitVec.ofInt 64 v)).toNat)).toInt = v := by
  rw [BitVec.ofNat_toNat, BitVec.setWidth_eq, unzigzag64_zigzag64, BitVec.toInt_ofInt]
  rw [Int.bmod_eq_of_le] <;> omega

/-- An int64 value survives `uint64(·)` + varint + `int64(·)`. -/
theorem i64_roundtrip (v : Int) (h1 : -(2^63 : Int) ≤ v) (h2 : v < (2^63 : Int)) :
    i64OfNat (u64OfInt v) = v := by
  unfold i64OfNat u64OfInt
  rw [BitVec.ofNat_toNat, BitVec.setWidth_eq, BitVec.toInt_ofInt]
  rw [Int.bmod_eq_of_le] <;> omega

/-- An int32 value survives `uint64(·)` (sign extension) + varint + `int32(·)`. -/
theorem i32_roundtrip (v : Int) (h1 : -(2^31 : Int) ≤ v) (h2 : v < (2^31 : Int)) :
    i32OfNat (u64OfInt v) = v := by
  unfold i32OfNat u64OfInt
  have : BitVec.ofNat 32 (BitVec.ofInt 64 v).toNat = BitVec.ofInt 32 v := by
    apply BitVec.eq_of_toNat_eq
    simp only [BitVec.toNat_ofNat, BitVec.toNat_ofInt]
    have h : ((v % (2^64 : Nat) : Int).toNat : Int) = v % (2^64 : Nat) :=
      Int.toNat_of_nonneg (Int.emod_nonneg _ (by decide))
    have h' : ((v % (2^32 : Nat) : Int).toNat : Int) = v % (2^32 : Nat) :=
      Int.toNat_of_nonneg (Int.emod_nonneg _ (by decide))
    omega
  rw [this, BitVec.toInt_ofInt, Int.bmod_eq_of_le] <;> omega

theorem u64OfInt_lt (v : Int) : u64OfInt v < 2^64 := (BitVec.ofInt 64 v).isLt

/-- Base 256: the byte at bit `k`, and what lies above it.  `m = k + 8` is a hypothesis so that `rw` meets
    the literal exponents of `fixed32` / `fixed64`. -/
theorem byte_split (n k m : Nat) (hm : m = k + 8) :
    n / 2^k % 256 * 2^k + n / 2^m * 2^m = n / 2^k * 2^k := by
  subst hm
  rw [Nat.pow_add, ← Nat.div_div_eq_div_mul]; exact split_base (n / 2^k) 256 (2^k)

theorem byte_top (n k : Nat) (h : n < 2^(k + 8)) : n / 2^k % 256 * 2^k = n / 2^k * 2^k := by
  rw [Nat.mod_eq_of_lt (Nat.div_lt_of_lt_mul (by rwa [Nat.pow_add] at h))]

/-- The little-endian digits sum to the number: the sum is folded from the top byte down
    (`byte_top`, then `byte_split` per byte). -/
theorem fixed32_le32 (b : UInt32) (rest : Bytes) : fixed32 (le32 b ++ rest) = some (b, rest) := by
  simp only [le32, fixed32, List.cons_append, List.nil_append, Option.some.injEq, Prod.mk.injEq, and_true]
  rw [UInt8.toNat_ofNat_of_lt' (Nat.mod_lt _ (by decide)), UInt8.toNat_ofNat_of_lt' (Nat.mod_lt _ (by decide)),
    UInt8.toNat_ofNat_of_lt' (Nat.mod_lt _ (by decide)), UInt8.toNat_ofNat_of_lt' (Nat.mod_lt _ (by decide)),
    byte_top _ 24 b.toNat_lt, Nat.add_assoc, byte_split _ 16 24 rfl, Nat.add_assoc,
    byte_split _ 8 16 rfl, Nat.mod_add_div' b.toNat 256, UInt32.ofNat_toNat]

theorem fixed64_le64 (b : UInt64) (rest : Bytes) : fixed64 (le64 b ++ rest) = some (b, rest) := by
  simp only [le64, fixed64, List.cons_append, List.nil_append, Option.some.injEq, Prod.mk.injEq, and_true]
  rw [UInt8.toNat_ofNat_of_lt' (Nat.mod_lt _ (by decide)), UInt8.toNat_ofNat_of_lt' (Nat.mod_lt _ (by decide)),
    UInt8.toNat_ofNat_of_lt' (Nat.mod_lt _ (by decide)), UInt8.toNat_ofNat_of_lt' (Nat.mod_lt _ (by decide)),
    UInt8.toNat_ofNat_of_lt' (Nat.mod_lt _ (by decide)), UInt8.toNat_ofNat_of_lt' (Nat.mod_lt _ (by decide)),
    UInt8.toNat_ofNat_of_lt' (Nat.mod_lt _ (by decide)), UInt8.toNat_ofNat_of_lt' (Nat.mod_lt _ (by decide)),
    byte_top _ 56 b.toNat_lt, Nat.add_assoc, byte_split _ 48 56 rfl, Nat.add_assoc,
    byte_split _ 40 48 rfl, Nat.add_assoc, byte_split _ 32 40 rfl, Nat.add_assoc,
    byte_split _ 24 32 rfl, Nat.add_assoc, byte_split _ 16 24 rfl, Nat.add_assoc,
    byte_split _ 8 16 rfl, Nat.mod_add_div' b.toNat 256, UInt64.ofNat_toNat]

theorem ofUtf8_utf8 (s : String) : ofUtf8? (utf8 s) = some s := by
  unfold ofUtf8? utf8
  have h : (⟨s.toUTF8.data.toList.toArray⟩ : ByteArray) = s.toUTF8 := by
    rw [Array.toArray_toList]
  rw [h]
  simp [String.fromUTF8?, String.toUTF8, s.isValidUTF8]
  rfl

/-- The stored feature messages are decoded by the shared member loop of `ResLemmas` (`C20M.resMapM`).  Stated
    here, in the common import of the codec and the totality proofs, which both cite it. -/
theorem decodeFeatureMsgs_eq (ms : List Bytes) : decodeFeatureMsgs ms = C20M.resMapM decodeFeatureMsg ms := by
  induction ms with
  | nil => rfl
  | cons m ms ih =>
    rw [decodeFeatureMsgs, C20M.resMapM, ih]
    cases decodeFeatureMsg m <;> first | rfl | (cases C20M.resMapM decodeFeatureMsg ms <;> rfl)

end Orb.ProtoWire
