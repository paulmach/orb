/-
  Lemmas for C09: the even-odd specification as a function of the edge list (`insideE` on `OrbProofs/EdgeList.lean`, the
  edge-by-edge facts being those of `OrbProofs/EvenOddEdge.lean`), and what `rayIntersect` answers (`ray_eq` for the
  infinitesimal nudge; a finite nudge against it: `finite_nudge_iff_of_le`), summed over a ring (`tally`).
  Lemmas named `…_of_le` are about an edge with `s.x ≤ e.x`, the order the code sorts the endpoints into (`ray_of_le` is
  `ray_sorted` of C09Shape for such an edge, its Boolean tests read as propositions).
-/
import OrbProofs.C06Lemmas
import OrbProofs.EdgeList
import OrbProofs.EvenOddEdge
import OrbProofs.C09Shape
import Mathlib.Tactic.SplitIfs

namespace Orb.Contains
open Orb Orb.Core Orb.EvenOdd

-- the lemmas of a section are all stated over its ordered ring or field, also those that use less of it
set_option linter.unusedSectionVars false

section spec
variable {α : Type} [CommRing α] [LinearOrder α] [IsStrictOrderedRing α]

/-- the spec as a function of the edge list -/
def insideE (E : List (Pt α × Pt α)) (p : Pt α) : Bool :=
  (E.any fun se => onSeg se.1 se.2 p) || (E.countP fun se => crossesAbove se.1 se.2 p) % 2 == 1

theorem inside_eq_insideE (r : List (Pt α)) (p : Pt α) : inside r p = insideE (edges r) p := rfl

theorem insideE_perm {E F : List (Pt α × Pt α)} (h : E.Perm F) (p : Pt α) : insideE E p = insideE F p := by
  rw [insideE, insideE, h.countP_eq, h.any_eq]

theorem insideE_swap (E : List (Pt α × Pt α)) (p : Pt α) : insideE (E.map Prod.swap) p = insideE E p := by
  unfold insideE
  rw [List.any_map, List.countP_map]
  congr 2
  · funext se; exact onSeg_swap _ _ _
  · congr 2; funext se; exact crossesAbove_swap _ _ _

theorem insideE_cons_self (v : Pt α) (E : List (Pt α × Pt α)) (p : Pt α) (h : ∃ s, (s, v) ∈ E) :
    insideE ((v, v) :: E) p = insideE E p := by
  unfold insideE
  rw [List.any_cons, List.countP_cons, crossesAbove_self]
  simp only [Bool.false_eq_true, if_false, Nat.add_zero]
  congr 1
  cases ho : onSeg v v p with
  | false => rfl
  | true =>
    obtain ⟨s, hs⟩ := h
    have := onSeg_self v p ho
    subst this
    rw [Bool.true_or]
    symm
    rw [List.any_eq_true]
    exact ⟨(s, p), hs, onSeg_self_right s p⟩

theorem inside_below (r : List (Pt α)) (p : Pt α) (h : ∀ v ∈ r, p.y < v.y) : inside r p = false := by
  cases r with
  | nil => rfl
  | cons v t =>
    have hE : ∀ se ∈ edges (v :: t), onSeg se.1 se.2 p = false ∧
        crossesAbove se.1 se.2 p = (decide (se.1.x ≤ p.x) != decide (se.2.x ≤ p.x)) := fun se hse =>
      have hm := mem_edges (s := se.1) (e := se.2) hse
      edge_below se.1 se.2 p (h _ hm.1) (h _ hm.2)
    have h1 : onBoundary (v :: t) p = false := List.any_eq_false.2 fun se hse => by rw [(hE se hse).1]; simp
    have h2 : (crossings (v :: t) p % 2 == 1) = false :=
      -- round the closed chain the side of `p.x` changes an even number of times
      (par_congr fun se hse => (hE se hse).2).trans <| by
        rw [edges_eq_chain, par_chain (fun w : Pt α => decide (w.x ≤ p.x))]
        exact bne_self_eq_false _
    rw [inside, h1, h2]; rfl

theorem inside_false (r : List (Pt α)) (p : Pt α)
    (h : ∀ s ∈ r, ∀ e ∈ r, onSeg s e p = false ∧ crossesAbove s e p = false) : inside r p = false := by
  have hE : ∀ se ∈ edges r, onSeg se.1 se.2 p = false ∧ crossesAbove se.1 se.2 p = false := fun se hse =>
    have hm := mem_edges (s := se.1) (e := se.2) hse
    h _ hm.1 _ hm.2
  rw [inside, onBoundary, crossings, List.any_eq_false.2 fun se hse => by rw [(hE se hse).1]; exact Bool.false_ne_true,
    List.countP_eq_zero.2 fun se hse => by rw [(hE se hse).2]; exact Bool.false_ne_true]
  rfl

theorem inside_of_not_contains (eb : Bound α) (r : List (Pt α)) (p : Pt α)
    (h : (multiPointBound eb r).contains p = false) : inside r p = false := by
  rcases eq_or_ne r [] with rfl | hr
  · rfl
  have T := (multiPointBound_tight' eb r hr).1
  generalize multiPointBound eb r = B at T h
  have hm : ¬ Mem p B := fun a => Bool.false_ne_true (h.symm.trans ((contains_iff' B p).2 a))
  -- outside its bound the ring lies wholly to the right of the query, to its left, above it or below it
  rw [Mem, not_and_or, not_and_or, not_and_or, not_le, not_le, not_le, not_le] at hm
  rcases hm with c | c | c | c
  · exact inside_false r p fun s hs e he => edge_left s e p (c.trans_le (T s hs).1) (c.trans_le (T e he).1)
  · exact inside_false r p fun s hs e he => edge_right s e p ((T s hs).2.1.trans_lt c) ((T e he).2.1.trans_lt c)
  · exact inside_below r p fun v hv => c.trans_le (T v hv).2.2.1
  · exact inside_false r p fun s hs e he => edge_above s e p ((T s hs).2.2.2.trans_lt c) ((T e he).2.2.2.trans_lt c)

end spec

/-! `rayIntersect` for `s.x ≤ e.x` is cut in two (`OrbProofs/C09Shape.lean`): the on-vertex tests (`ray_of_le`) and
what follows them (`rayFrom`: the abscissa tests, the tests on `p.y`, the slope comparison).  The slope comparison is
turned into the sign of a cross product once (`slopeTest_inf_plain`), for the query and for the nudged query alike.
The control flow is walked once, for every nudge (`ray_zones`); `ray_eq_of_le` and `finite_nudge_iff_of_le` answer
zone by zone. -/

section model
variable {α : Type} [Field α] [LinearOrder α] [IsStrictOrderedRing α]

theorem ray_swap (N : Nudge α) (p s e : Pt α) (h : e.x < s.x) : rayIntersect N p s e = rayIntersect N p e s :=
  (ray_sorted N p s e e s (if_pos h)).trans (ray_sorted N p e s e s (if_neg h.not_gt)).symm

theorem ray_of_le (N : Nudge α) (p s e : Pt α) (h : s.x ≤ e.x) :
    rayIntersect N p s e =
      if p.x = s.x then
        if p.y = s.y then (false, true)
        else if s.x = e.x ∧ (((e.y < s.y ∧ p.y ≤ s.y) ∧ e.y ≤ p.y) ∨ ((s.y < e.y ∧ p.y ≤ e.y) ∧ s.y ≤ p.y)) then
          (false, true)
        else rayFrom N p s e true
      else if p.x = e.x then (if p.y = e.y then (false, true) else rayFrom N p s e true)
      else rayFrom N p s e false := by
  rw [ray_sorted N p s e s e (if_neg (not_lt.2 h)), raySorted]
  simp only [beq_iff_eq, Bool.and_eq_true, Bool.or_eq_true, decide_eq_true_eq]

theorem yTests_eq (p s e : Pt α) (t : Bool × Bool) : yTests p s e t =
    if s.y < p.y ∧ e.y < p.y then (false, false) else if p.y < s.y ∧ p.y < e.y then (true, false) else t := by
  unfold yTests
  by_cases hA : s.y < p.y ∧ e.y < p.y
  · simp only [if_pos hA, if_pos hA.1, if_pos hA.2, ite_self]
  · rw [if_neg hA]
    by_cases hB : p.y < s.y ∧ p.y < e.y
    · simp only [if_pos hB, if_pos hB.1, if_pos hB.2, if_neg hB.1.not_gt, if_neg hB.2.not_gt, ite_self]
    · rw [if_neg hB]
      rw [not_and_or, not_lt, not_lt] at hA hB
      split_ifs with c1 c2 c3 c2 c3
      all_goals first | rfl | exfalso
      · exact hA.elim c2.not_ge (c1.trans c2).not_ge
      · exact hB.elim (c3.trans c1).not_ge c3.not_ge
      · exact hA.elim ((not_lt.1 c1).trans_lt c2).not_ge c2.not_ge
      · exact hB.elim c3.not_ge (c3.trans_le (not_lt.1 c1)).not_ge

/-- the answer of the slope comparison in terms of the cross product `c` -/
def crossTest (c : α) : Bool × Bool := if c = 0 then (false, true) else (decide (c < 0), false)

theorem crossTest_crosses_iff {c : α} : crossTest c = (true, false) ↔ c < 0 := by
  unfold crossTest
  split_ifs with h0 <;> simp [h0]

theorem crossTest_misses_iff {c : α} : crossTest c = (false, false) ↔ 0 < c := by
  unfold crossTest
  split_ifs with h0
  · simp [h0]
  · rw [Prod.mk.injEq, decide_eq_false_iff_not, not_lt]
    exact ⟨fun a => lt_of_le_of_ne a.1 (Ne.symm h0), fun a => ⟨a.le, rfl⟩⟩

theorem slopeTest_inf_plain (q s e : Pt α) (hq : s.x < q.x) (he : s.x < e.x) :
    slopeTest Nudge.inf q s e false = crossTest (EvenOdd.cross s e q) := by
  have h1 : (q.y - s.y) / (q.x - s.x) = (e.y - s.y) / (e.x - s.x) ↔ EvenOdd.cross s e q = 0 :=
    slope_eq_iff (sub_pos.2 hq) (sub_pos.2 he)
  have h2 : (q.y - s.y) / (q.x - s.x) ≤ (e.y - s.y) / (e.x - s.x) ↔ EvenOdd.cross s e q ≤ 0 :=
    slope_le_iff (sub_pos.2 hq) (sub_pos.2 he)
  simp only [slopeTest, Nudge.inf, Bool.false_and, Bool.false_eq_true, if_false, beq_iff_eq, h1, h2, crossTest]
  split_ifs with hc
  · rfl
  · rw [decide_eq_decide.2 (lt_iff_le_and_ne.trans (and_iff_left hc)).symm]

theorem yTests_cross (p s e : Pt α) (h1 : s.x ≤ p.x) (h2 : p.x < e.x) :
    yTests p s e (crossTest (EvenOdd.cross s e p)) =
      if onSeg s e p then (false, true) else (crossesAbove s e p, false) := by
  rw [yTests_eq]
  by_cases hA : s.y < p.y ∧ e.y < p.y
  · obtain ⟨a, b⟩ := edge_above s e p hA.1 hA.2
    rw [if_pos hA, a, b]; rfl
  · rw [if_neg hA]
    by_cases hB : p.y < s.y ∧ p.y < e.y
    · obtain ⟨a, b⟩ := edge_below s e p hB.1 hB.2
      rw [if_pos hB, a, b, decide_eq_true h1, decide_eq_false h2.not_ge]; rfl
    · rw [if_neg hB, crossTest]
      rw [not_and_or, not_lt, not_lt] at hA hB
      have hy : (s.y ≤ p.y ∧ p.y ≤ e.y) ∨ (e.y ≤ p.y ∧ p.y ≤ s.y) := by
        rcases le_total s.y p.y with c | c <;> rcases le_total p.y e.y with d | d
        · exact Or.inl ⟨c, d⟩
        · exact hA.elim (fun a => Or.inr ⟨d, a⟩) (fun a => Or.inl ⟨c, a⟩)
        · exact hB.elim (fun b => Or.inl ⟨b, d⟩) (fun b => Or.inr ⟨b, c⟩)
        · exact Or.inr ⟨d, c⟩
      have hc : crossesAbove s e p = decide (EvenOdd.cross s e p < 0) := by
        rw [Bool.eq_iff_iff, crossesAbove_iff, decide_eq_true_eq]
        exact ⟨fun a => a.elim (fun a => a.2.2) (fun a => absurd a.1 h2.not_ge), fun a => Or.inl ⟨h1, h2, a⟩⟩
      by_cases h0 : EvenOdd.cross s e p = 0
      · rw [if_pos h0, (onSeg_iff s e p).2 ⟨h0, Or.inl ⟨h1, h2.le⟩, hy⟩]; rfl
      · rw [if_neg h0, hc, Bool.eq_false_iff.2 fun a => h0 ((onSeg_iff s e p).1 a).1]; rfl

theorem pt_ext {p q : Pt α} (hx : p.x = q.x) (hy : p.y = q.y) : p = q := by
  cases p; cases q; simp_all

/-- level with the left endpoint of a non-vertical edge without being that endpoint: the one alignment in which the
    size of the nudge matters -/
def LevelLeft (p s e : Pt α) : Prop := p.x = s.x ∧ s.x < e.x ∧ p.y ≠ s.y

/-- on a vertical edge the code's test "`p.y` between the ends" is the specification's `onSeg` -/
theorem onSeg_vertical (p s e : Pt α) (h1 : p.x = s.x) (hv : s.x = e.x) (h2 : p.y ≠ s.y) : onSeg s e p = true ↔
    ((e.y < s.y ∧ p.y ≤ s.y) ∧ e.y ≤ p.y) ∨ ((s.y < e.y ∧ p.y ≤ e.y) ∧ s.y ≤ p.y) := by
  have hc : EvenOdd.cross s e p = 0 := by rw [cross_left s e p h1, hv, sub_self, zero_mul]
  rw [onSeg_iff, hc, h1, ← hv]
  simp only [le_refl, and_self, or_self, true_and]
  constructor
  · rintro (a | a)
    · exact Or.inr ⟨⟨lt_of_le_of_ne (a.1.trans a.2) fun q => h2 (le_antisymm (q ▸ a.2) a.1), a.2⟩, a.1⟩
    · exact Or.inl ⟨⟨lt_of_le_of_ne (a.1.trans a.2) fun q => h2 (le_antisymm a.2 (q ▸ a.1)), a.2⟩, a.1⟩
  · rintro (a | a)
    · exact Or.inr ⟨a.2, a.1.2⟩
    · exact Or.inl ⟨a.2, a.1.2⟩

theorem not_levelLeft_of_onSeg (p s e : Pt α) (ho : onSeg s e p = true) : ¬ LevelLeft p s e :=
  fun ⟨h1, h2, h3⟩ => h3 (onSeg_level s e p h1 h2.ne ho)

theorem cross_neg_of_levelLeft {p s e : Pt α} (hs : LevelLeft p s e) (c : p.y < s.y) : EvenOdd.cross s e p < 0 :=
  cross_left s e p hs.1 ▸ mul_neg_of_pos_of_neg (sub_pos.2 hs.2.1) (sub_neg.2 c)

theorem cross_pos_of_levelLeft {p s e : Pt α} (hs : LevelLeft p s e) (c : s.y < p.y) : 0 < EvenOdd.cross s e p :=
  cross_left s e p hs.1 ▸ mul_pos (sub_pos.2 hs.2.1) (sub_pos.2 c)

/-- the case analysis of `rayIntersect` on an edge with `s.x ≤ e.x`, for every nudge at once: the four zones in which
    the code behaves uniformly, what is known of the query in each, and which part of the code answers there -/
theorem ray_zones (p s e : Pt α) (h : s.x ≤ e.x) :
    (onSeg s e p = true ∧ ∀ N : Nudge α, rayIntersect N p s e = (false, true)) ∨
    (LevelLeft p s e ∧ ∀ N : Nudge α, rayIntersect N p s e = rayFrom N p s e true) ∨
    (e.x ≤ p.x ∧ onSeg s e p = false ∧ ∀ N : Nudge α, rayIntersect N p s e = rayFrom N p s e true) ∨
    (p.x ≠ s.x ∧ p.x ≠ e.x ∧ ∀ N : Nudge α, rayIntersect N p s e = rayFrom N p s e false) := by
  by_cases h1 : p.x = s.x
  · by_cases h2 : p.y = s.y
    · exact Or.inl ⟨by rw [pt_ext h1 h2, onSeg_swap, onSeg_self_right], fun N => by
        rw [ray_of_le N p s e h, if_pos h1, if_pos h2]⟩
    · rcases h.eq_or_lt with hv | hlt
      · have ho := onSeg_vertical p s e h1 hv h2
        by_cases hB : ((e.y < s.y ∧ p.y ≤ s.y) ∧ e.y ≤ p.y) ∨ ((s.y < e.y ∧ p.y ≤ e.y) ∧ s.y ≤ p.y)
        · exact Or.inl ⟨ho.2 hB, fun N => by rw [ray_of_le N p s e h, if_pos h1, if_neg h2, if_pos ⟨hv, hB⟩]⟩
        · exact Or.inr (Or.inr (Or.inl ⟨hv ▸ h1.ge, Bool.eq_false_iff.2 fun a => hB (ho.1 a), fun N => by
            rw [ray_of_le N p s e h, if_pos h1, if_neg h2, if_neg fun a => hB a.2]⟩))
      · exact Or.inr (Or.inl ⟨⟨h1, hlt, h2⟩, fun N => by
          rw [ray_of_le N p s e h, if_pos h1, if_neg h2, if_neg fun a => hlt.ne a.1]⟩)
  · by_cases h3 : p.x = e.x
    · by_cases h4 : p.y = e.y
      · exact Or.inl ⟨by rw [pt_ext h3 h4, onSeg_self_right], fun N => by
          rw [ray_of_le N p s e h, if_neg h1, if_pos h3, if_pos h4]⟩
      · -- level with the right endpoint and not that endpoint: off the segment
        have ho : onSeg s e p = false := Bool.eq_false_iff.2 fun a =>
          h4 (onSeg_level e s p h3 (fun q => h1 (h3.trans q)) ((onSeg_swap s e p).trans a))
        exact Or.inr (Or.inr (Or.inl ⟨h3.ge, ho, fun N => by
          rw [ray_of_le N p s e h, if_neg h1, if_pos h3, if_neg h4]⟩))
    · exact Or.inr (Or.inr (Or.inr ⟨h1, h3, fun N => by rw [ray_of_le N p s e h, if_neg h1, if_neg h3]⟩))

/-- level with the left endpoint the infinitesimal nudge compares `dy / ε = ±∞`: the sign of `dy`, which is the sign of
    the cross product -/
theorem slopeTest_inf_left (p s e : Pt α) (hs : LevelLeft p s e) :
    slopeTest Nudge.inf p s e true = crossTest (EvenOdd.cross s e p) := by
  have hd : p.y - s.y ≠ 0 := sub_ne_zero.2 hs.2.2
  simp only [slopeTest, Nudge.inf, hs.1, beq_self_eq_true, Bool.and_self, if_true, beq_iff_eq, hd, if_false]
  rcases lt_or_gt_of_ne hs.2.2 with c | c
  · rw [if_pos (sub_neg.2 c), crossTest_crosses_iff.2 (cross_neg_of_levelLeft hs c)]; rfl
  · rw [if_neg (sub_pos.2 c).not_gt, crossTest_misses_iff.2 (cross_pos_of_levelLeft hs c)]; rfl

theorem rayFrom_inf_levelLeft (p s e : Pt α) (hs : LevelLeft p s e) :
    rayFrom Nudge.inf p s e true = yTests p s e (crossTest (EvenOdd.cross s e p)) := by
  rw [rayFrom_in _ p s e true (decide_eq_false (hs.1 ▸ lt_irrefl _)) (decide_eq_false (hs.1 ▸ hs.2.1.not_ge)),
    slopeTest_inf_left p s e hs]

theorem rayFrom_plain (q s e : Pt α) (hq : s.x < q.x) :
    rayFrom Nudge.inf q s e false =
      if e.x < q.x then (false, false) else yTests q s e (crossTest (EvenOdd.cross s e q)) := by
  split_ifs with g
  · exact rayFrom_out _ q s e false (Or.inr (decide_eq_true g))
  · rw [rayFrom_in _ q s e false (decide_eq_false hq.not_gt) (decide_eq_false g),
      slopeTest_inf_plain q s e hq (hq.trans_le (not_lt.1 g))]

theorem yTests_crosses_iff (q s e : Pt α) (t : Bool × Bool) (h : q.y < s.y) :
    yTests q s e t = (true, false) ↔ q.y < e.y ∨ t = (true, false) := by
  rw [yTests_eq, if_neg fun a => h.not_gt a.1]
  by_cases d : q.y < e.y
  · rw [if_pos ⟨h, d⟩]; exact iff_of_true rfl (Or.inl d)
  · rw [if_neg fun a => d a.2, or_iff_right d]

theorem yTests_misses_iff (q s e : Pt α) (t : Bool × Bool) (h : s.y < q.y) :
    yTests q s e t = (false, false) ↔ e.y < q.y ∨ t = (false, false) := by
  rw [yTests_eq]
  by_cases d : e.y < q.y
  · rw [if_pos ⟨h, d⟩]; exact iff_of_true rfl (Or.inl d)
  · rw [if_neg fun a => d a.2, if_neg fun a => h.not_gt a.1, or_iff_right d]

theorem ray_eq_of_le (p s e : Pt α) (h : s.x ≤ e.x) :
    rayIntersect Nudge.inf p s e = if onSeg s e p then (false, true) else (crossesAbove s e p, false) := by
  rcases ray_zones p s e h with ⟨ho, hN⟩ | ⟨hs, hN⟩ | ⟨hr, ho, hN⟩ | ⟨h1, h3, hN⟩ <;> rw [hN]
  · rw [ho]; rfl
  · rw [rayFrom_inf_levelLeft p s e hs, yTests_cross p s e hs.1.ge (hs.1 ▸ hs.2.1)]
  · rw [rayFrom_out _ p s e true (Or.inr (decide_eq_true hr)), ho, crossesAbove_right s e p (h.trans hr) hr]; rfl
  · rcases lt_or_gt_of_ne h1 with a | a
    · obtain ⟨b, c⟩ := edge_left s e p a (a.trans_le h)
      rw [rayFrom_out _ p s e false (Or.inl (decide_eq_true a)), b, c]; rfl
    · rcases lt_or_gt_of_ne h3 with b | b
      · rw [rayFrom_plain p s e a, if_neg b.not_gt, yTests_cross p s e a.le b]
      · obtain ⟨c, d⟩ := edge_right s e p a b
        rw [rayFrom_out _ p s e false (Or.inr (decide_eq_true b)), c, d]; rfl

theorem ray_eq (p s e : Pt α) :
    rayIntersect Nudge.inf p s e = if onSeg s e p then (false, true) else (crossesAbove s e p, false) := by
  rcases le_or_gt s.x e.x with h | h
  · exact ray_eq_of_le p s e h
  · rw [ray_swap _ p s e h, ray_eq_of_le p e s h.le, onSeg_swap, crossesAbove_swap]

/-- `RingContains` from the per-edge answers: some edge reports `on`, or an odd number report `intersects` -/
def tally (N : Nudge α) (p : Pt α) (E : List (Pt α × Pt α)) : Bool :=
  (E.any fun se => (rayIntersect N p se.1 se.2).2) ||
    (E.countP fun se => (rayIntersect N p se.1 se.2).1) % 2 == 1

/-- the edge loop, for any nudge: an early `return true` changes nothing, the answer is `true` whenever an
    edge reports `on`; otherwise the running parity `c` it started from is flipped once per crossing -/
theorem ringLoop_tally (N : Nudge α) (p : Pt α) (l : List (Pt α)) (c : Bool) :
    ringLoop N p l c = (((chain l).any fun se => (rayIntersect N p se.1 se.2).2) ||
      (c != (((chain l).countP fun se => (rayIntersect N p se.1 se.2).1) % 2 == 1))) := by
  induction l generalizing c with
  | nil => simp [ringLoop, chain]
  | cons a l ih =>
    cases l with
    | nil => simp [ringLoop, chain]
    | cons b t =>
      rw [ringLoop, chain, List.any_cons, List.countP_cons, parity_add_ite]
      cases ho : (rayIntersect N p a b).2 with
      | true => simp
      | false =>
        simp only [Bool.false_eq_true, if_false, Bool.false_or]
        rw [ih]
        generalize (((chain (b :: t)).countP fun se => (rayIntersect N p se.1 se.2).1) % 2 == 1) = d
        cases (rayIntersect N p a b).1 <;> cases c <;> cases d <;> rfl

/-- with the infinitesimal nudge the edges report the specification's `onSeg`, and its `crossesAbove` where the count is
    read at all: when no edge reports `on` -/
theorem inf_any_count (p : Pt α) (E : List (Pt α × Pt α)) (f : Nat → Bool) :
    ((E.any fun se => (rayIntersect Nudge.inf p se.1 se.2).2) ||
      f (E.countP fun se => (rayIntersect Nudge.inf p se.1 se.2).1)) =
    ((E.any fun se => onSeg se.1 se.2 p) || f (E.countP fun se => crossesAbove se.1 se.2 p)) := by
  have h2 : (fun se : Pt α × Pt α => (rayIntersect Nudge.inf p se.1 se.2).2) = fun se => onSeg se.1 se.2 p :=
    funext fun se => by rw [ray_eq]; cases onSeg se.1 se.2 p <;> rfl
  rw [h2]
  cases h : E.any fun se => onSeg se.1 se.2 p
  · rw [List.countP_congr fun se hse => by rw [ray_eq, if_neg (List.any_eq_false.1 h se hse)]]
  · rfl

theorem tally_inf (p : Pt α) (E : List (Pt α × Pt α)) : tally Nudge.inf p E = insideE E p :=
  inf_any_count p E (· % 2 == 1)

/-- The edge loop of `RingContains` with the infinitesimal nudge, in the specification's terms.  (The ring theorems of
    C09 go through `ringLoop_tally` and `tally_inf`, not through this.) -/
theorem ringLoop_eq (p : Pt α) (l : List (Pt α)) (c : Bool) :
    ringLoop Nudge.inf p l c =
      (((chain l).any fun se => onSeg se.1 se.2 p) ||
        (c != (((chain l).countP fun se => crossesAbove se.1 se.2 p) % 2 == 1))) :=
  (ringLoop_tally _ p l c).trans (inf_any_count p (chain l) fun n => c != (n % 2 == 1))

/-- `edgeNudgeOK` on a sorted edge, read at the nudged point `q = (next p.x, p.y)`: only `LevelLeft` asks for anything.
    Below the left endpoint: `q` is still in the window and (below the right endpoint or) strictly under the line;
    above it: if `q` is still in the edge's box it is strictly over the line -/
theorem edgeNudgeOK_iff_of_le (next : α → α) (p s e : Pt α) (h : s.x ≤ e.x) :
    edgeNudgeOK next p s e = true ↔ (LevelLeft p s e →
      if p.y < s.y then next p.x ≤ e.x ∧ (p.y < e.y ∨ EvenOdd.cross s e ⟨next p.x, p.y⟩ < 0)
      else next p.x ≤ e.x → p.y ≤ e.y → 0 < EvenOdd.cross s e ⟨next p.x, p.y⟩) := by
  unfold edgeNudgeOK LevelLeft
  simp only [not_lt.2 h, if_false, Bool.and_eq_true, beq_iff_eq, decide_eq_true_eq, Bool.not_eq_true',
    beq_eq_false_iff_ne, ne_eq, and_assoc, EvenOdd.cross, sub_neg, sub_pos, mul_comm (e.x - s.x)]
  by_cases a : p.x = s.x ∧ s.x < e.x ∧ ¬ p.y = s.y
  · rw [if_pos a, imp_iff_right a]
    split_ifs with c
    · simp only [Bool.and_eq_true, Bool.or_eq_true, decide_eq_true_eq]
    · simp only [Bool.or_eq_true, Bool.not_eq_true', Bool.and_eq_false_iff, decide_eq_false_iff_not, decide_eq_true_eq]
      exact ⟨fun a b c => a.resolve_left (fun d => d.elim (fun d => d c) (fun d => d b)), fun a =>
        or_iff_not_imp_left.2 fun d => a (not_not.1 fun b => d (Or.inr b)) (not_not.1 fun b => d (Or.inl b))⟩
  · rw [if_neg a]; exact iff_of_true rfl fun b => absurd b a

theorem finite_nudge_iff_of_le (next : α → α) (p s e : Pt α) (hn : p.x < next p.x) (h : s.x ≤ e.x) :
    rayIntersect (Nudge.real next) p s e = rayIntersect Nudge.inf p s e ↔ edgeNudgeOK next p s e = true := by
  rw [edgeNudgeOK_iff_of_le next p s e h]
  rcases ray_zones p s e h with ⟨ho, hN⟩ | ⟨hs, hN⟩ | ⟨hr, _, hN⟩ | ⟨h1, _, hN⟩ <;> rw [hN, hN]
  · exact iff_of_true rfl fun a => absurd a (not_levelLeft_of_onSeg p s e ho)
  · -- the infinitesimal nudge answers at `p`, the finite one at the nudged point `q`, if that is still in the window
    rw [rayFrom_inf_levelLeft p s e hs, rayFrom_real_at, rayFrom_plain ⟨next p.x, p.y⟩ s e (hs.1 ▸ hn), imp_iff_right hs]
    rcases lt_or_gt_of_ne hs.2.2 with c | c
    · rw [if_pos c, (yTests_crosses_iff p s e _ c).2 (Or.inr (crossTest_crosses_iff.2 (cross_neg_of_levelLeft hs c)))]
      by_cases g : e.x < next p.x
      · rw [if_pos g]; exact iff_of_false nofun fun a => g.not_ge a.1
      · rw [if_neg g, yTests_crosses_iff ⟨next p.x, p.y⟩ s e _ c, crossTest_crosses_iff]
        exact (and_iff_right (not_lt.1 g)).symm
    · rw [if_neg c.not_gt, (yTests_misses_iff p s e _ c).2 (Or.inr (crossTest_misses_iff.2 (cross_pos_of_levelLeft hs c)))]
      by_cases g : e.x < next p.x
      · rw [if_pos g]; exact iff_of_true rfl fun a => absurd a g.not_ge
      · rw [if_neg g, yTests_misses_iff ⟨next p.x, p.y⟩ s e _ c, crossTest_misses_iff]
        exact ⟨fun a _ b => a.resolve_left b.not_gt, fun a => (lt_or_ge e.y p.y).imp_right (a (not_lt.1 g))⟩
  · refine iff_of_true ?_ fun a => absurd hr (a.1 ▸ a.2.1.not_ge)
    rw [rayFrom_real_at, rayFrom_out _ _ s e false (Or.inr (decide_eq_true (hr.trans_lt hn))),
      rayFrom_out _ p s e true (Or.inr (decide_eq_true hr))]
  · exact iff_of_true rfl fun a => absurd a.1 h1

end model

end Orb.Contains
