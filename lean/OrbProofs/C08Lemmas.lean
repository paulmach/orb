/-
  C08: the vertices of a geometry value (`gverts`), the typed clippers (`ring_ok`, `polygon_ok`,
  `multiPolygon_ok`; the member loops are those of ClipMembers), and the generic entry point `geometry`: it returns,
  and every vertex of what it returns is in the box (`geometry_good`).  Every kind is pre-test, typed clipper,
  unwrapping (the equations of C20Dispatch), and an unwrapping adds no vertex (`gverts_wrap…`).
-/
import OrbProofs.C08Ring
import OrbProofs.C06Lemmas
import OrbProofs.C07Mls
import OrbProofs.GeomInd
import OrbProofs.ClipMembers
import OrbProofs.C20Dispatch
import OrbProofs.ListLemmas

namespace Orb.Clip
open Orb Orb.Core Orb.C20M

variable {α : Type} [Field α] [LinearOrder α] [IsStrictOrderedRing α]

/-- every vertex of a geometry value -/
def gverts : Geom α → List (Pt α)
  | .point p => [p]
  | .multiPoint ps | .lineString ps | .ring ps => ps
  | .multiLineString ls | .polygon ls => ls.flatten
  | .multiPolygon ps => ps.flatten.flatten
  | .bound a b => [a, b]
  | .collection gs => gs.flatMap gverts

set_option linter.unusedSectionVars false

namespace C08

/-- the call returns, and whatever geometry it returns has all its vertices in the box -/
def GeoGood (box : Bound α) (res : Option (Option (Geom α))) : Prop :=
  ∃ r, res = some r ∧ ∀ g', r = some g' → ∀ v ∈ gverts g', InBox box v

theorem geoGood_nil (box : Bound α) : GeoGood box (some none) := ⟨none, rfl, by simp⟩

theorem geoGood_some (box : Bound α) (g : Geom α) (h : ∀ v ∈ gverts g, InBox box v) :
    GeoGood box (some (some g)) := ⟨some g, rfl, by rintro g' ⟨⟩; exact h⟩

theorem intersects_pt_inBox (box : Bound α) (p : Pt α) (h : box.intersects ⟨p, p⟩ = true) : InBox box p := by
  simp only [Bound.intersects] at h
  split_ifs at h with h1
  simp only [not_or, not_lt, gt_iff_lt] at h1
  exact ⟨h1.2.1, h1.1, h1.2.2.2, h1.2.2.1⟩

theorem clipBound_in (box c : Bound α) (hb : BoxOK box) (hne : (clipBound box c).isEmpty = false) :
    InBox box (clipBound box c).lo ∧ InBox box (clipBound box c).hi := by
  have hbe : box.isEmpty = false := by
    simp only [Bound.isEmpty, decide_eq_false_iff_not, gt_iff_lt, not_or, not_lt]
    exact ⟨hb.1.le, hb.2.le⟩
  cases hce : c.isEmpty with
  | true =>
    simp only [clipBound, hbe, hce, Bool.false_and, Bool.false_eq_true, if_false, if_true]
    exact ⟨⟨le_refl _, hb.1.le, le_refl _, hb.2.le⟩, ⟨hb.1.le, le_refl _, hb.2.le, le_refl _⟩⟩
  | false =>
    simp only [clipBound, hbe, hce, Bool.false_and, Bool.false_eq_true, if_false] at hne ⊢
    simp only [Bound.isEmpty, decide_eq_false_iff_not, gt_iff_lt, not_or, not_lt] at hne
    obtain ⟨hx, hy⟩ := hne
    refine ⟨⟨le_max_left _ _, hx.trans (min_le_left _ _), le_max_left _ _, hy.trans (min_le_left _ _)⟩,
      ⟨(le_max_left _ _).trans hx, min_le_left _ _, (le_max_left _ _).trans hy, min_le_left _ _⟩⟩

theorem ring_ok (box : Bound α) (r : List (Pt α)) : ∃ out, ring box r = some out ∧ ∀ v ∈ out, InBox box v := by
  obtain ⟨o, ho, hin⟩ := ring_spec box r conv_true (fun _ _ => trivial)
  exact ⟨o, ho, fun v hv => (hin v hv).1⟩

theorem polygon_ok (box : Bound α) (p : List (List (Pt α))) :
    ∃ out, polygon box p = some out ∧ ∀ r ∈ out, ∀ v ∈ r, InBox box v := by
  cases p with
  | nil => exact ⟨[], rfl, by simp⟩
  | cons outer holes =>
    obtain ⟨o, ho, hin⟩ := ring_ok box outer
    obtain ⟨hs, hm, hP⟩ := mapM_post holes fun h _ => ring_ok box h
    rw [polygon_cons_eq, ho, hm]
    cases o with
    | nil => exact ⟨[], rfl, by simp⟩
    | cons a o' =>
      refine ⟨(a :: o') :: hs.filter (· ≠ []), by simp, fun r hr => ?_⟩
      rcases List.mem_cons.1 hr with rfl | hr
      · exact hin
      · exact hP r (List.mem_filter.1 hr).1

theorem multiPolygon_ok (box : Bound α) (mp : List (List (List (Pt α)))) :
    ∃ out, multiPolygon box mp = some out ∧ ∀ p ∈ out, ∀ r ∈ p, ∀ v ∈ r, InBox box v := by
  obtain ⟨ys, hm, hP⟩ := mapM_post mp fun p _ => polygon_ok box p
  rw [multiPolygon_eq, hm]
  exact ⟨_, rfl, fun p hp => hP p (List.mem_filter.1 hp).1⟩

theorem gverts_wrapPts {l : List (Pt α)} {g : Geom α} (h : wrapPts l = some g) : gverts g = l := by
  match l, h with
  | [p], h | _ :: _ :: _, h => cases h; rw [gverts]

theorem gverts_wrapLines {l : List (List (Pt α))} {g : Geom α} (h : wrapLines l = some g) : gverts g = l.flatten := by
  match l, h with
  | [p], h => cases h; simp [gverts]
  | _ :: _ :: _, h => cases h; rw [gverts]

theorem gverts_wrapRing {l : List (Pt α)} {g : Geom α} (h : wrapRing l = some g) : gverts g = l := by
  match l, h with
  | _ :: _, h => cases h; rw [gverts]

theorem gverts_wrapPoly {l : List (List (Pt α))} {g : Geom α} (h : wrapPoly l = some g) : gverts g = l.flatten := by
  match l, h with
  | _ :: _, h => cases h; rw [gverts]

theorem gverts_wrapPolys {l : List (List (List (Pt α)))} {g : Geom α} (h : wrapPolys l = some g) :
    gverts g = l.flatten.flatten := by
  match l, h with
  | [p], h => cases h; simp [gverts]
  | _ :: _ :: _, h => cases h; rw [gverts]

theorem gverts_wrapColl {l : List (Geom α)} {g : Geom α} (h : wrapColl l = some g) : gverts g = l.flatMap gverts := by
  match l, h with
  | [p], h => cases h; simp
  | _ :: _ :: _, h => cases h; rw [gverts]

theorem geoGood_clipPre {eb box : Bound α} {g : Geom α} {k : Option (Option (Geom α))}
    (h : box.intersects (Core.bound eb g) = true → GeoGood box k) : GeoGood box (clipPre eb box g k) := by
  unfold clipPre
  cases hc : box.intersects (Core.bound eb g) with
  | false => exact geoGood_nil box
  | true => exact h hc

theorem geoGood_wrap {β : Type} {box : Bound α} {w : β → Option (Geom α)} {verts : β → List (Pt α)}
    (hw : ∀ {x g}, w x = some g → gverts g = verts x) {r : Option β}
    (h : ∃ out, r = some out ∧ ∀ v ∈ verts out, InBox box v) : GeoGood box (r.map w) := by
  obtain ⟨out, rfl, hP⟩ := h
  exact ⟨w out, rfl, fun g' hg' v hv => hP v (hw hg' ▸ hv)⟩

theorem geometry_good (eb box : Bound α) (hb : BoxOK box) (g : Geom α) : GeoGood box (geometry eb box g) := by
  obtain ⟨ePt, eMPt, eLS, eMLS, eR, eP, eMP, eB⟩ := clip_geometry_agrees_typed eb box
  induction g using Geom.ind with
  | point p =>
    rw [ePt]
    refine geoGood_clipPre fun hi => geoGood_some box _ ?_
    rw [Core.bound] at hi
    simp only [gverts, List.mem_singleton]
    rintro v rfl
    exact intersects_pt_inBox box v hi
  | multiPoint ps =>
    rw [eMPt]
    -- `Core.Mem v box` unfolds to `InBox box v`
    exact geoGood_clipPre fun _ => geoGood_wrap (r := some _) gverts_wrapPts
      ⟨_, rfl, fun v hv => (contains_iff' box v).1 (List.mem_filter.1 hv).2⟩
  | lineString ps =>
    rw [eLS]
    obtain ⟨out, ho⟩ := line_total_any' box false ps
    exact geoGood_clipPre fun _ => geoGood_wrap gverts_wrapLines
      ⟨out, ho, List.forall_mem_flatten.2 (clip_vertices_in_box' box hb false ps out ho)⟩
  | multiLineString ls =>
    rw [eMLS]
    have ho := multiLineString_eq box false ls
    exact geoGood_clipPre fun _ => geoGood_wrap gverts_wrapLines
      ⟨_, ho, List.forall_mem_flatten.2 (mls_vertices_in_box' box hb false ls _ ho)⟩
  | ring r =>
    rw [eR]
    exact geoGood_clipPre fun _ => geoGood_wrap gverts_wrapRing (ring_ok box r)
  | polygon p =>
    rw [eP]
    exact geoGood_clipPre fun _ => geoGood_wrap gverts_wrapPoly
      ((polygon_ok box p).imp fun _ h => ⟨h.1, List.forall_mem_flatten.2 h.2⟩)
  | multiPolygon mp =>
    rw [eMP]
    exact geoGood_clipPre fun _ => geoGood_wrap gverts_wrapPolys
      ((multiPolygon_ok box mp).imp fun _ h => ⟨h.1, List.forall_mem_flatten.2 (List.forall_mem_flatten.2 h.2)⟩)
  | bound a b =>
    rw [eB]
    refine geoGood_clipPre fun _ => ?_
    rw [wrapBoundArg, wrapBound]
    split
    · exact geoGood_nil box
    · split
      · exact geoGood_nil box
      · rename_i he
        obtain ⟨h1, h2⟩ := clipBound_in box ⟨a, b⟩ hb (by simpa using he)
        exact geoGood_some box _ (by simp [gverts, h1, h2])
  | collection gs ih =>
    rw [clip_geometry_collection]
    obtain ⟨rs, hrs, hP⟩ := mapM_post gs ih
    refine geoGood_clipPre fun _ => geoGood_wrap (verts := fun rs => (rs.filterMap id).flatMap gverts)
      gverts_wrapColl ⟨rs, hrs, fun v hv => ?_⟩
    obtain ⟨g', hg', hv⟩ := List.mem_flatMap.1 hv
    exact hP (some g') (by simpa using hg') g' rfl v hv

end C08

/-- the same statement as `Clip.geometry_total` (C08.lean), which cites it; here, below that file, for C16Lemmas
    and C20Models -/
theorem geometry_total' (eb box : Bound α) (hb : BoxOK box) (g : Geom α) : ∃ r, geometry eb box g = some r := by
  obtain ⟨r, hr, -⟩ := C08.geometry_good eb box hb g
  exact ⟨r, hr⟩

end Orb.Clip
