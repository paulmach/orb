/-
  C16: totality of `smartclip.Geometry`, where the two kinds of geometry meet: the ring entry points of
  C16Ring need the specification of the open-bound line clipper (C16Line `line_spec'`), the other kinds are
  clipped plainly (C08 `Clip.geometry_total'`).
-/
import OrbProofs.C16Ring
import OrbProofs.C16Line
import OrbProofs.C08Lemmas
import OrbProofs.C20Dispatch

set_option linter.unusedSectionVars false

namespace Orb.SmartClip
open Orb Orb.Core Orb.C20M

variable {α : Type} [Field α] [LinearOrder α] [IsStrictOrderedRing α]

theorem plainClip_total (eb box : Bound α) (hb : BoxOK box) (g : Geom α) : ∃ r, plainClip eb box g = .ok r := by
  obtain ⟨r, hr⟩ := Orb.Clip.geometry_total' eb box ⟨hb.1, hb.2⟩ g
  unfold plainClip
  rw [hr]
  cases r <;> exact ⟨_, rfl⟩

theorem geometry_total_geom (eb box : Bound α) (hb : BoxOK box) (o : Int) (ho : o = CW ∨ o = CCW) :
    ∀ g : Geom α, ∃ r, geometry eb box o g = .ok r := by
  have hl := line_spec' box hb
  obtain ⟨eR, eP, eMP, eB, ePt, eMPt, eLS, eMLS⟩ := smartclip_geometry_agrees_typed eb box o
  intro g
  induction g using Geom.ind with
  | point p => rw [ePt]; exact plainClip_total eb box hb _
  | multiPoint p => rw [eMPt]; exact plainClip_total eb box hb _
  | lineString p => rw [eLS]; exact plainClip_total eb box hb _
  | multiLineString p => rw [eMLS]; exact plainClip_total eb box hb _
  | bound a b => rw [eB]; exact plainClip_total eb box hb _
  | ring r =>
    obtain ⟨out, h⟩ := ring_total_of_lineSpec box hl r o ho
    rw [eR, h]; exact ⟨_, rfl⟩
  | polygon r =>
    obtain ⟨out, h⟩ := polygon_total_of_lineSpec box hl r o ho
    rw [eP, h]; exact ⟨_, rfl⟩
  | multiPolygon r =>
    obtain ⟨out, h⟩ := multiPolygon_total_of_lineSpec box hl r o ho
    rw [eMP, h]; exact ⟨_, rfl⟩
  | collection gs ih =>
    rw [smartclip_geometry_collection]
    split
    · exact plainClip_total eb box hb _
    · obtain ⟨cs, hcs⟩ := (Res.isOk_iff _).1
        (resMapM_isOk (geometry eb box o) gs fun g hg => (Res.isOk_iff _).2 (ih g hg))
      rw [hcs]; exact ⟨_, rfl⟩

/-- the statement of `geometry_total` (OrbProofs/C16.lean); here so that C20Models can use it without the rest of C16 -/
theorem geometry_total'' (eb box : Bound α) (hb : BoxOK box) (o : Int) (ho : o = CW ∨ o = CCW) (v : GVal α) :
    ∃ r, geometryV eb box o v = .ok r := by
  cases v with
  | nilIface => exact ⟨_, rfl⟩
  | nilSlice k => exact geometry_total_geom eb box hb o ho _
  | val g => exact geometry_total_geom eb box hb o ho g

end Orb.SmartClip
