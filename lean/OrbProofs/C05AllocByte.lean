/-
  Allocation accounting, byte-slice path (`Unmarshal`, the unmarshal* / Scan* functions):
  LINEAR for every input.  A member of a multi is decoded by the plain decoder of its type
  (`scanMember`), a succeeding member scan is paid for by the bytes the loop then skips (the re-derived
  stride), and a failing one ends the loop: the member loops are `repAlloc` of a `strided` scan, and `Paid.rep`
  at the rate of the member kind (0, 1 or 6 bytes per input byte) is the loop lemma.  The three multis and the
  polygon request what one shape does (`countedBAlloc`).  At the end the input family on which the member loops
  were quadratic.
-/
import OrbProofs.C05AllocStream

namespace Orb.WKB
open Orb Generated.Params

theorem unmarshalPointsAlloc_le (o : Order) (d : Bytes) : unmarshalPointsAlloc o d ≤ d.length := by
  unfold unmarshalPointsAlloc
  simp only [lenLt_eq, decide_eq_true_eq, szPoint, wkb_MaxPointsAlloc]
  split
  · omega
  · split
    · omega
    · rename_i h1 h2
      have := (allocCap_bounds (rd32 o d) 10000).2
      simp only [List.length_drop] at h2
      omega

theorem unmarshalPointsAlloc_ok {o : Order} {d : Bytes} {ps : List (Pt UInt64)}
    (h : unmarshalPoints o d = .ok ps) : unmarshalPointsAlloc o d ≤ 16 * ps.length := by
  unfold unmarshalPoints at h
  split at h
  · contradiction
  · simp only [] at h
    split at h
    · contradiction
    · injection h with h
      subst h
      rw [readPts_length]
      unfold unmarshalPointsAlloc
      simp only [lenLt_eq, decide_eq_true_eq, szPoint, wkb_MaxPointsAlloc]
      have := (allocCap_bounds (rd32 o d) 10000).2
      repeat' split
      all_goals omega

theorem repAlloc_le_sum {α : Type} {rd : Bytes → R (α × Bytes)} {al : Bytes → Nat} (w : α → Nat)
    (hw : ∀ s x s1, rd s = .ok (x, s1) → al s ≤ w x) (n : Nat) {s r : Bytes} {xs : List α}
    (h : rep rd n s = .ok (xs, r)) : repAlloc rd al n s ≤ (xs.map w).sum :=
  rep_ind (fun n s xs _ => repAlloc rd al n s ≤ (xs.map w).sum) (fun _ => Nat.le_refl _)
    (fun hx ih => by
      have := hw _ _ _ hx
      simp only [repAlloc, hx, List.map_cons, List.sum_cons]; omega) n h

theorem memberLoopAlloc_eq {β : Type} (scan : Bytes → R (β × Nat)) (scanAlloc : Bytes → Nat) (stride : β → Nat) :
    ∀ n d, memberLoopAlloc scan scanAlloc stride n d = repAlloc (strided scan stride) scanAlloc n d
  | 0, _ => rfl
  | n+1, d => by
    rw [memberLoopAlloc, repAlloc, strided]
    cases scan d with
    | ok p =>
      cases h : sliceFrom d (stride p.1) <;> simp only [h, Res.bind, memberLoopAlloc_eq scan scanAlloc stride n]
    | err e => rfl
    | panic m => rfl

theorem paid_strided {β : Type} (scan : Bytes → R (β × Nat)) (scanAlloc : Bytes → Nat) (stride : β → Nat) (c K : Nat)
    (hF : ∀ d, scanAlloc d ≤ c * d.length + K)
    (hS : ∀ d x s, scan d = .ok (x, s) → scanAlloc d ≤ c * stride x) :
    Paid c (strided scan stride) scanAlloc 0 K := by
  refine ⟨fun d x rest h => ?_, hF⟩
  obtain ⟨⟨srid, hx⟩, hl⟩ := strided_inv h
  have := hS d x srid hx
  rw [← hl, Nat.mul_add]; omega

theorem memberLoopAlloc_lin {β : Type} (scan : Bytes → R (β × Nat)) (scanAlloc : Bytes → Nat) (stride : β → Nat)
    (c K : Nat)
    (hF : ∀ d, scanAlloc d ≤ c * d.length + K)
    (hS : ∀ d x s, scan d = .ok (x, s) → scanAlloc d ≤ c * stride x) (n : Nat) (e : Bytes) :
    memberLoopAlloc scan scanAlloc stride n e ≤ c * e.length + K := by
  rw [memberLoopAlloc_eq]; exact ((paid_strided scan scanAlloc stride c K hF hS).rep n).F e

theorem ringScan_alloc {o : Order} {d : Bytes} {ps : List (Pt UInt64)} {s : Nat} (h : ringScan o d = .ok (ps, s)) :
    unmarshalPointsAlloc o d ≤ 16 * ps.length := by
  obtain ⟨ps', hp, h⟩ := Res.bind_eq_ok h
  cases h
  exact unmarshalPointsAlloc_ok hp

theorem unmarshalPolygonAlloc_loop_eq (o : Order) : ∀ n d,
    unmarshalPolygonAlloc.loop o n d =
      memberLoopAlloc (ringScan o) (unmarshalPointsAlloc o) (fun ps => 16 * ps.length + 4) n d
  | 0, _ => rfl
  | n+1, d => by
    rw [unmarshalPolygonAlloc.loop, memberLoopAlloc, ringScan]
    cases unmarshalPoints o d with
    | ok ps => cases h : sliceFrom d (16 * ps.length + 4) <;> simp only [h, Res.bind, unmarshalPolygonAlloc_loop_eq o n]
    | err e => rfl
    | panic m => rfl

/-- what `countedB` requests: the capped `make` of `sz`-byte elements BEFORE any member is looked at, then the loop
    (`unmarshalMultiFAlloc sz tS single singleAlloc stride` is, by definition, this for `scanMember tS single` and
    `scanMemberAlloc tS singleAlloc`) -/
def countedBAlloc {β : Type} (sz : Nat) (scan : Bytes → R (β × Nat)) (scanAlloc : Bytes → Nat) (stride : β → Nat)
    (o : Order) (d : Bytes) : Nat :=
  if lenLt d 4 then 0 else
  sz * allocCap (rd32 o d) wkb_MaxMultiAlloc + memberLoopAlloc scan scanAlloc stride (rd32 o d) (d.drop 4)

theorem unmarshalPolygonAlloc_eq (o : Order) (d : Bytes) :
    unmarshalPolygonAlloc o d =
      countedBAlloc szSlice (ringScan o) (unmarshalPointsAlloc o) (fun ps => 16 * ps.length + 4) o d := by
  unfold unmarshalPolygonAlloc countedBAlloc; split; rfl; rw [unmarshalPolygonAlloc_loop_eq]

theorem countedBAlloc_lin {β : Type} (sz : Nat) (scan : Bytes → R (β × Nat)) (scanAlloc : Bytes → Nat)
    (stride : β → Nat) (c K : Nat)
    (hF : ∀ d, scanAlloc d ≤ c * d.length + K)
    (hS : ∀ d x s, scan d = .ok (x, s) → scanAlloc d ≤ c * stride x) (o : Order) (d : Bytes) :
    countedBAlloc sz scan scanAlloc stride o d ≤ sz * wkb_MaxMultiAlloc + c * d.length + K := by
  unfold countedBAlloc
  simp only [lenLt_eq, decide_eq_true_eq]
  split
  · exact Nat.zero_le _
  · have hLA := memberLoopAlloc_lin scan scanAlloc stride c K hF hS (rd32 o d) (d.drop 4)
    have hc : sz * allocCap (rd32 o d) wkb_MaxMultiAlloc ≤ sz * wkb_MaxMultiAlloc :=
      Nat.mul_le_mul_left sz (allocCap_bounds _ _).1
    have : c * (d.drop 4).length ≤ c * d.length := Nat.mul_le_mul_left c (by simp only [List.length_drop]; omega)
    omega

theorem unmarshalPolygonAlloc_le (o : Order) (d : Bytes) : unmarshalPolygonAlloc o d ≤ d.length + 2400 := by
  have := countedBAlloc_lin szSlice (ringScan o) (unmarshalPointsAlloc o) (fun ps => 16 * ps.length + 4) 1 0
    (fun d => by have := unmarshalPointsAlloc_le o d; omega) (fun d ps s h => by have := ringScan_alloc h; omega) o d
  rw [unmarshalPolygonAlloc_eq]; simp only [szSlice, wkb_MaxMultiAlloc] at this ⊢; omega

theorem countedBAlloc_ok {β : Type} {sz : Nat} {scan : Bytes → R (β × Nat)} {scanAlloc : Bytes → Nat}
    {stride : β → Nat} (w : β → Nat)
    (hw : ∀ d x s, scan d = .ok (x, s) → scanAlloc d ≤ w x) {o : Order} {d : Bytes} {xs : List β}
    (h : countedB scan stride o d = .ok xs) :
    countedBAlloc sz scan scanAlloc stride o d ≤ sz * xs.length + (xs.map w).sum := by
  unfold countedB at h
  split at h
  · contradiction
  · rename_i h4
    rw [memberLoop_eq] at h
    obtain ⟨q, hq, h⟩ := Res.bind_eq_ok h
    cases h
    have h1 := repAlloc_le_sum (al := scanAlloc) w
      (fun s x s1 hx => by obtain ⟨⟨srid, hx⟩, _⟩ := strided_inv hx; exact hw _ _ _ hx) _ hq
    have h2 : q.1.length = rd32 o d :=
      rep_ind (fun n _ xs _ => xs.length = n) (fun _ => rfl) (fun _ ih => by rw [List.length_cons, ih]) _ hq
    have h3 : sz * allocCap (rd32 o d) wkb_MaxMultiAlloc ≤ sz * q.1.length :=
      h2 ▸ Nat.mul_le_mul_left sz (allocCap_bounds _ _).2
    unfold countedBAlloc
    rw [lenLt_eq, decide_eq_false h4, memberLoopAlloc_eq]
    simp only [Bool.false_eq_true, if_false]; omega

/-- a decoded polygon: a slice header per ring, 16 bytes per point returned -/
theorem unmarshalPolygonAlloc_paid {o : Order} {d : Bytes} {rs : List (List (Pt UInt64))}
    (h : unmarshalPolygon o d = .ok rs) :
    unmarshalPolygonAlloc o d ≤ 24 * rs.length + 16 * (rs.map List.length).sum := by
  rw [unmarshalPolygon_eq] at h
  have := countedBAlloc_ok (sz := szSlice) (scanAlloc := unmarshalPointsAlloc o)
    (fun ps : List (Pt UInt64) => 16 * ps.length) (fun d ps s hx => ringScan_alloc hx) h
  rwa [sum_map_mul, ← unmarshalPolygonAlloc_eq] at this

/-- For a success, a bound by the input length alone, without the fixed cap of `unmarshalPolygonAlloc_le`; the bound by
    the value returned, which `_ok` means for `unmarshalPointsAlloc_ok`, is `unmarshalPolygonAlloc_paid`. -/
theorem unmarshalPolygonAlloc_ok {o : Order} {d : Bytes} {rs : List (List (Pt UInt64))}
    (h : unmarshalPolygon o d = .ok rs) : unmarshalPolygonAlloc o d ≤ 7 * d.length := by
  have h1 := unmarshalPolygonAlloc_paid h
  have h2 := ((unmarshalPolygon_post o d).ok h).1
  rw [polyStride_eq] at h2
  omega

theorem unmarshalPolygonAlloc_stride {o : Order} {d : Bytes} {rs : List (List (Pt UInt64))}
    (h : unmarshalPolygon o d = .ok rs) : unmarshalPolygonAlloc o d ≤ 6 * polyStride rs := by
  have h1 := unmarshalPolygonAlloc_paid h
  rw [polyStride_eq]
  omega

theorem scanMemberAlloc_F (tS : Nat) (singleAlloc : Order → Bytes → Nat) (c K : Nat)
    (hF : ∀ o d, singleAlloc o d ≤ c * d.length + K) (d : Bytes) :
    scanMemberAlloc tS singleAlloc d ≤ c * d.length + K := by
  unfold scanMemberAlloc
  split
  · rename_i o typ srid gd hb
    have hl := unmarshalBOT_len hb
    split
    · exact Nat.zero_le _
    · have := hF o gd
      have : c * gd.length ≤ c * d.length := Nat.mul_le_mul_left c (by omega)
      omega
  · exact Nat.zero_le _

theorem scanMemberAlloc_S {β : Type} (tS : Nat) (single : Order → Bytes → R β)
    (singleAlloc : Order → Bytes → Nat) (stride : β → Nat) (c : Nat)
    (hS : ∀ o d x, single o d = .ok x → singleAlloc o d ≤ c * stride x)
    (d : Bytes) (x : β) (s : Nat) (h : scanMember tS single d = .ok (x, s)) :
    scanMemberAlloc tS singleAlloc d ≤ c * stride x := by
  rw [scanMember_eq] at h
  obtain ⟨⟨o, typ, srid, gd⟩, hb, h⟩ := Res.bind_eq_ok h
  split at h
  · cases h
  · rename_i ht
    obtain ⟨p, hp, h⟩ := Res.bind_eq_ok h
    cases h
    simp only [scanMemberAlloc, hb, if_neg ht]
    exact hS _ _ _ hp

/-- a multi decoder, every outcome: its own capped `make`, `c` bytes per input byte for the members
    that were skipped over, and what the last, failing member may request -/
theorem unmarshalMultiFAlloc_lin {β : Type} (sz tS : Nat) (single : Order → Bytes → R β)
    (singleAlloc : Order → Bytes → Nat) (stride : β → Nat) (c K : Nat)
    (hF : ∀ o d, singleAlloc o d ≤ c * d.length + K)
    (hS : ∀ o d x, single o d = .ok x → singleAlloc o d ≤ c * stride x) (o : Order) (d : Bytes) :
    unmarshalMultiFAlloc sz tS single singleAlloc stride o d ≤ sz * wkb_MaxMultiAlloc + c * d.length + K :=
  countedBAlloc_lin sz _ _ stride c K (scanMemberAlloc_F tS singleAlloc c K hF)
    (scanMemberAlloc_S tS single singleAlloc stride c hS) o d

theorem unmarshalMultiF_first_err {β : Type} (tS : Nat) (single : Order → Bytes → R β) (stride : β → Nat) (o : Order)
    (n : Nat) (d : Bytes) (e : Err) (hn : n + 1 < 2 ^ 32) (h : scanMember tS single d = .err e) :
    unmarshalMultiF tS single stride o (u32 o (n + 1) ++ d) = .err e := by
  have h4 : ¬ (u32 o (n + 1) ++ d).length < 4 := by simp only [List.length_append, u32_length]; omega
  simp only [unmarshalMultiF, if_neg h4, rd32_u32_of_lt _ _ _ hn, drop_u32, memberLoop, h]

theorem unmarshalMultiFAlloc_first_err {β : Type} (sz tS : Nat) (single : Order → Bytes → R β)
    (singleAlloc : Order → Bytes → Nat) (stride : β → Nat) (o : Order) (n : Nat) (d : Bytes) (e : Err)
    (hn : n + 1 < 2 ^ 32) (h : scanMember tS single d = .err e) :
    unmarshalMultiFAlloc sz tS single singleAlloc stride o (u32 o (n + 1) ++ d) =
      sz * allocCap (n + 1) wkb_MaxMultiAlloc + scanMemberAlloc tS singleAlloc d := by
  have h4 : lenLt (u32 o (n + 1) ++ d) 4 = false := by
    rw [lenLt_eq]; simp only [List.length_append, u32_length, decide_eq_false_iff_not]; omega
  simp only [unmarshalMultiFAlloc, h4, rd32_u32_of_lt _ _ _ hn, drop_u32, memberLoopAlloc, h, Bool.false_eq_true,
    if_false, Nat.add_zero]

/- The constants of the three bounds that follow: 1600 = `szPoint * MaxMultiAlloc`, 2400 = `szSlice * MaxMultiAlloc`,
   4800 = 2 · 2400 (multi polygon and one polygon open); 6: a ring costs a 24-byte slice header and has at least 4
   input bytes. -/

theorem unmarshalMultiPointAlloc_le (o : Order) (d : Bytes) : unmarshalMultiPointAlloc o d ≤ 1600 := by
  have := unmarshalMultiFAlloc_lin szPoint wkb_pointType unmarshalPoint (fun _ _ => 0) (fun _ => 21) 0 0
    (fun _ _ => Nat.zero_le _) (fun _ _ _ _ => Nat.zero_le _) o d
  simp only [szPoint, wkb_MaxMultiAlloc] at this
  unfold unmarshalMultiPointAlloc
  simp only [szPoint]
  omega

theorem unmarshalMultiLineStringAlloc_le (o : Order) (d : Bytes) :
    unmarshalMultiLineStringAlloc o d ≤ d.length + 2400 := by
  have := unmarshalMultiFAlloc_lin szSlice wkb_lineStringType unmarshalPoints unmarshalPointsAlloc
    (fun ls => 16 * ls.length + 9) 1 0
    (fun o d => by have := unmarshalPointsAlloc_le o d; omega)
    (fun o d x h => by have := unmarshalPointsAlloc_ok h; omega) o d
  simp only [szSlice, wkb_MaxMultiAlloc] at this
  unfold unmarshalMultiLineStringAlloc
  simp only [szSlice]
  omega

theorem unmarshalMultiPolygonAlloc_le (o : Order) (d : Bytes) :
    unmarshalMultiPolygonAlloc o d ≤ 6 * d.length + 4800 := by
  have := unmarshalMultiFAlloc_lin szSlice wkb_polygonType unmarshalPolygon unmarshalPolygonAlloc polyStride 6 2400
    (fun o d => by have := unmarshalPolygonAlloc_le o d; omega)
    (fun o d x h => unmarshalPolygonAlloc_stride h) o d
  simp only [szSlice, wkb_MaxMultiAlloc] at this
  unfold unmarshalMultiPolygonAlloc
  simp only [szSlice]
  omega

theorem scanSingleAlloc_lin (tS tM : Nat) (singleAlloc multiAlloc : Order → Bytes → Nat) (c K : Nat)
    (hF : ∀ o d, singleAlloc o d ≤ c * d.length + K)
    (hM : ∀ o d, multiAlloc o d ≤ c * d.length + K) (d : Bytes) :
    scanSingleAlloc tS tM singleAlloc multiAlloc d ≤ c * d.length + K := by
  unfold scanSingleAlloc
  split
  · rename_i o typ srid gd hb
    have hl := unmarshalBOT_len hb
    have : c * gd.length ≤ c * d.length := Nat.mul_le_mul_left c (by omega)
    split
    · have := hF o gd; omega
    · split
      · have := hM o gd; omega
      · exact Nat.zero_le _
  · exact Nat.zero_le _

/-! ### the input family on which the member loops were quadratic

  Finding C05-wkb-nested-multi-quadratic: `nestedMultiInput`, a multi claiming k+1 members followed by k nested
  one-member multi headers and an empty member (9k+18 bytes).  A member loop that scanned its members with the coercing
  `Scan*` functions went through the k-i remaining headers for member i (one `make` each) and then advanced by 9 bytes:
  12·k·(k+1) bytes requested, and the decode succeeded.  A member must be a plain line string: the first nested header
  is `ErrIncorrectGeometry`, after the one `make` of the outer multi. -/

theorem nestHeaders_length (t k : Nat) : (nestHeaders t k).length = 9 * k := by
  induction k with
  | zero => rfl
  | succ k ih =>
    simp only [nestHeaders, List.length_append, List.length_cons, u32_length, ih]; omega

theorem unmarshalBOT_little (t : Nat) (ht : TC t) (body : Bytes) (hb : 1 ≤ body.length) :
    unmarshalBOT (1 :: (u32 .little t ++ body)) = .ok (.little, t, 0, body) := by
  have := unmarshalBOT_hdr .little t 0 body ht (by decide) hb
  simpa only [hdr_zero, orderByte] using this

theorem TC_multiLineString : TC wkb_multiLineStringType := by unfold TC wkb_multiLineStringType; omega

/-- an empty LINESTRING (little endian, no SRID), followed by `tail` -/
def emptyLineStringBytes (tail : Bytes) : Bytes :=
  1 :: (u32 .little wkb_lineStringType ++ (u32 .little 0 ++ tail))

theorem nestHeaders_succ_append (t j : Nat) (rest : Bytes) :
    nestHeaders t (j + 1) ++ rest = 1 :: (u32 .little t ++ (u32 .little 1 ++ (nestHeaders t j ++ rest))) := by
  simp only [nestHeaders, List.cons_append, List.append_assoc]

theorem nestedMultiInput_eq (k : Nat) :
    nestedMultiInput wkb_multiLineStringType wkb_lineStringType k
      = 1 :: (u32 .little wkb_multiLineStringType ++ (u32 .little (k + 1) ++
          (nestHeaders wkb_multiLineStringType k ++ emptyLineStringBytes []))) := by
  simp only [nestedMultiInput, emptyLineStringBytes, List.cons_append, List.append_assoc, List.append_nil]

theorem unmarshalBOT_nested (k : Nat) :
    unmarshalBOT (nestedMultiInput wkb_multiLineStringType wkb_lineStringType k)
      = .ok (.little, wkb_multiLineStringType, 0,
          u32 .little (k + 1) ++ (nestHeaders wkb_multiLineStringType k ++ emptyLineStringBytes [])) := by
  rw [nestedMultiInput_eq]
  exact unmarshalBOT_little _ TC_multiLineString _ (by simp only [List.length_append, u32_length]; omega)

theorem scanMember_nested (j : Nat) (tail : Bytes) :
    scanMember wkb_lineStringType unmarshalPoints (nestHeaders wkb_multiLineStringType (j + 1) ++ tail)
      = .err .incorrectGeometry
    ∧ scanMemberAlloc wkb_lineStringType unmarshalPointsAlloc
        (nestHeaders wkb_multiLineStringType (j + 1) ++ tail) = 0 := by
  have hb := unmarshalBOT_little wkb_multiLineStringType TC_multiLineString
    (u32 .little 1 ++ (nestHeaders wkb_multiLineStringType j ++ tail))
    (by simp only [List.length_append, u32_length]; omega)
  have hne : wkb_multiLineStringType ≠ wkb_lineStringType := by decide
  rw [nestHeaders_succ_append]
  exact ⟨by simp only [scanMember, hb, hne, ne_eq, not_false_eq_true, if_true],
         by simp only [scanMemberAlloc, hb, hne, ne_eq, not_false_eq_true, if_true]⟩

end Orb.WKB
