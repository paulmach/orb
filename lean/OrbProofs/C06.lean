/-
  C06 — Core values: Clone is deep, Equal is structural, Bound is the tight box.
  PROPERTY THEOREMS about the model `Orb.Core` (bound.go, clone.go, equal.go, the
  per-kind Bound/Equal/Clone methods, LineString.Reverse, Ring.Orientation).

  Coordinates range over an arbitrary linear order (bound laws), an arbitrary
  type with lawful `==` (equality) or an arbitrary ordered commutative ring
  (orientation): exact arithmetic; NaN is outside these theorems.

  The clause about MEMORY ("a clone shares no memory with the original: mutating either
  leaves the other unchanged") is stated over the heap model `Orb.Heap` (slice headers into a
  store of backing arrays) in the last part of this file, for an arbitrary coordinate type.

  NIL MEMBERS (nil rings / lines / polygons, typed nil and nil-interface members of collections)
  are the subject of the middle part, over the model `Orb.CoreNil`: there `cloneN`, `equalN`, `boundN`
  follow the nil tests of the code, extend the `Orb.Core` functions (`equalN_extends`,
  `boundN_extends`), and "a clone is equal to the original" is stated for them (`clone_preserves`,
  `clone_equal`).
-/
import OrbProofs.C06Lemmas
import OrbProofs.C06HeapLemmas
import OrbProofs.C06Nil

namespace Orb.Core

section bounds
variable {α : Type} [LinearOrder α]

/-- `Contains` is membership in the closed box. -/
theorem contains_iff (b : Bound α) (p : Pt α) : b.contains p = true ↔ Mem p b := contains_iff' b p

/-- `IsEmpty` holds exactly when the box has no points. -/
theorem isEmpty_iff (b : Bound α) : b.isEmpty = true ↔ ¬ ∃ p, Mem p b := isEmpty_iff' b

/-- Union of two non-empty boxes is the componentwise min/max box (the least box containing both). -/
theorem union_nonempty (a b : Bound α) (ha : a.isEmpty = false) (hb : b.isEmpty = false) :
    a.union b = ⟨⟨min a.lo.x b.lo.x, min a.lo.y b.lo.y⟩, ⟨max a.hi.x b.hi.x, max a.hi.y b.hi.y⟩⟩ :=
  union_nonempty' a b ha hb

/-- The empty box is the identity of union, on both sides (on the left for a non-empty `a`: for two empty
    boxes `e.union a` is `e`, `Equiv` to `a` but not equal). -/
theorem union_empty_right (a e : Bound α) (he : e.isEmpty = true) : a.union e = a := union_empty_right' a e he
theorem union_empty_left (a e : Bound α) (he : e.isEmpty = true) (ha : a.isEmpty = false) : e.union a = a :=
  union_empty_left' a e he ha

/-- Lattice laws: commutativity up to `Equiv` (all empty boxes are identified); associativity and
    idempotence hold with plain equality (`union_assoc` is stated with `Equiv` all the same). -/
theorem union_comm (a b : Bound α) : Equiv (a.union b) (b.union a) := by
  rcases Bool.eq_false_or_eq_true a.isEmpty with ha | ha <;> rcases Bool.eq_false_or_eq_true b.isEmpty with hb | hb
  · left; rw [union_empty_right' _ _ hb, union_empty_right' _ _ ha]; exact ⟨ha, hb⟩
  · right; rw [union_empty_left' _ _ ha hb, union_empty_right' _ _ ha]
  · right; rw [union_empty_left' _ _ hb ha, union_empty_right' _ _ hb]
  · right; rw [union_nonempty' _ _ ha hb, union_nonempty' _ _ hb ha]
    apply Bound.ext_coords <;> simp only [min_comm, max_comm]

theorem union_assoc (a b c : Bound α) : Equiv ((a.union b).union c) (a.union (b.union c)) :=
  Or.inr (union_assoc_eq a b c)

theorem union_idem (a : Bound α) : a.union a = a := by
  rcases Bool.eq_false_or_eq_true a.isEmpty with ha | ha
  · exact union_empty_right' _ _ ha
  · rw [union_nonempty' _ _ ha ha]
    apply Bound.ext_coords <;> simp

/-- The union contains both boxes (upper bound) and lies inside every box that contains both (least). -/
theorem union_upper (a b : Bound α) (p : Pt α) (h : Mem p a ∨ Mem p b) : Mem p (a.union b) := union_upper' a b p h
theorem union_least (a b c : Bound α) (ha : ∀ p, Mem p a → Mem p c) (hb : ∀ p, Mem p b → Mem p c) :
    ∀ p, Mem p (a.union b) → Mem p c := union_least' a b c ha hb

/-- Extending by a point is the union with that point's box; it contains the point and keeps what it had. -/
theorem extend_eq_union_point (b : Bound α) (p : Pt α) : b.extend p = b.union ⟨p, p⟩ := extend_eq_union_point' b p
theorem extend_contains (b : Bound α) (p : Pt α) : Mem p (b.extend p) := by
  rw [extend_eq_union_point']
  exact union_upper' _ _ p (Or.inr (mem_point p))

theorem extend_absorb (b : Bound α) (p : Pt α) (h : Mem p b) : b.extend p = b := extend_absorb' b p h

/-- `Intersects` is symmetric and, for non-empty boxes, holds iff the boxes share a point. -/
theorem intersects_comm (a b : Bound α) : a.intersects b = b.intersects a := by
  simp only [Bound.intersects]
  split_ifs <;> grind

theorem intersects_iff_common_point (a b : Bound α) (ha : a.isEmpty = false) (hb : b.isEmpty = false) :
    a.intersects b = true ↔ ∃ p, Mem p a ∧ Mem p b := intersects_iff_common_point' a b ha hb

/-- `MultiPoint.Bound` is the tight box of its points. -/
theorem multiPointBound_tight (eb : Bound α) (ps : List (Pt α)) (h : ps ≠ []) :
    IsTight ps (multiPointBound eb ps) := multiPointBound_tight' eb ps h

/-- The bound of any geometry is the smallest box containing every vertex (outer rings for polygons) …
    (`hv` is not used by the proof: without vertices the empty box is tight.) -/
theorem bound_tight (eb : Bound α) (he : eb.isEmpty = true) (g : Geom α) (hw : BoundsWF g) (hv : bverts g ≠ []) :
    IsTight (bverts g) (bound eb g) := by
  rw [bound_eq_foldl eb he g hw]; exact foldl_extend_tight eb he _

/-- … and it is empty exactly when there are no vertices. -/
theorem bound_empty_iff (eb : Bound α) (he : eb.isEmpty = true) (g : Geom α) (hw : BoundsWF g) :
    (bound eb g).isEmpty = true ↔ bverts g = [] := by
  rw [bound_eq_foldl eb he g hw]; exact foldl_extend_isEmpty eb he _

end bounds

section equality
variable {α : Type} [BEq α] [LawfulBEq α]

/-- `Equal` holds exactly when kind, nesting, lengths and every coordinate agree. -/
theorem equal_iff (g h : Geom α) : equal g h = true ↔ g = h := by
  -- `equal` is `equalN` on the values without nil members; those are normal forms, and `ofGeom` is injective
  rw [← CoreNil.equalN_ofGeom, CoreNil.equalN_both.1, CoreNil.normN_ofGeom, CoreNil.normN_ofGeom]
  refine ⟨fun e => Option.some.inj ?_, congrArg _⟩
  rw [← CoreNil.strip_ofGeom g, e, CoreNil.strip_ofGeom]

/-- … including nil interfaces and typed nil slices (a nil slice equals the empty slice of its kind). -/
theorem equalV_iff (a b : GVal α) : equalV a b = true ↔ normV a = normV b := by
  cases a <;> cases b <;> simp [equalV, normV, equal_iff]

/-- Equality is an equivalence. -/
theorem equalV_refl (a : GVal α) : equalV a a = true := (equalV_iff a a).2 rfl
theorem equalV_symm (a b : GVal α) (h : equalV a b = true) : equalV b a = true :=
  (equalV_iff b a).2 ((equalV_iff a b).1 h).symm
theorem equalV_trans (a b c : GVal α) (h1 : equalV a b = true) (h2 : equalV b c = true) : equalV a c = true :=
  (equalV_iff a c).2 (((equalV_iff a b).1 h1).trans ((equalV_iff b c).1 h2))

/- "A clone is equal to the original": `Orb.Core.cloneV` is the identity BY DEFINITION, so at this level
   the clause is `equalV_refl` and is not restated under another name.  Its content is
   `Orb.CoreNil.clone_preserves` / `clone_equal` below (the clone function there is a recursion that
   follows the per-type `Clone` methods and their nil tests) and `Orb.Heap.clone_equal_denote`. -/

end equality

/-- The in-place index-swap loop of `Reverse` reverses the list; twice is the identity. -/
theorem reverse_eq {β : Type} (ps : List β) : reverse ps = ps.reverse := by
  unfold reverse
  simp only []
  obtain ⟨hs, hg⟩ := rev_inv ps.toArray (ps.toArray.size / 2) (Nat.le_refl _)
  change (List.foldl (revStep (ps.toArray.size - 1)) ps.toArray (List.range (ps.toArray.size / 2))).toList = _
  generalize (List.range (ps.toArray.size / 2)).foldl (revStep (ps.toArray.size - 1)) ps.toArray = A at hs hg
  simp only [List.size_toArray] at hs hg
  apply List.ext_getElem?
  intro j
  by_cases hj : j < ps.length
  · rw [Array.getElem?_toList, hg j hj, List.getElem?_reverse hj]
    simp only [List.getElem?_toArray]
    split_ifs
    · rfl
    · congr 1; omega
  · rw [List.getElem?_eq_none (by simp; omega), List.getElem?_eq_none (by simp; omega)]
theorem reverse_reverse {β : Type} (ps : List β) : reverse (reverse ps) = ps := by
  rw [reverse_eq, reverse_eq, List.reverse_reverse]

section orient
variable {α : Type} [CommRing α] [LinearOrder α] [IsStrictOrderedRing α]

/-- Reversing a ring negates its orientation (closed or not, any length incl. 0). -/
theorem orientation_reverse (r : List (Pt α)) : orientation (reverse r) = - orientation r := by
  rw [reverse_eq, orientation_eq, orientation_eq, cyc_reverse]
  -- the sign of `-a` is minus the sign of `a`
  rcases lt_trichotomy (cyc r) 0 with h | h | h
  · rw [if_pos (neg_pos.2 h), if_neg (lt_asymm h), if_pos h]; rfl
  · rw [h, neg_zero, if_neg (lt_irrefl _), if_neg (lt_irrefl _)]; rfl
  · rw [if_neg (lt_asymm (neg_lt_zero.2 h)), if_pos (neg_lt_zero.2 h), if_pos h]

end orient

/-- Non-vacuity: a concrete non-empty box pair, a concrete unequal/equal pair, a concrete CCW ring. -/
example : (⟨⟨0, 0⟩, ⟨2, 2⟩⟩ : Bound Int).isEmpty = false ∧ (⟨⟨1, 1⟩, ⟨-1, -1⟩⟩ : Bound Int).isEmpty = true ∧
    (⟨⟨0, 0⟩, ⟨2, 2⟩⟩ : Bound Int).intersects ⟨⟨2, 1⟩, ⟨5, 9⟩⟩ = true ∧
    orientation ([⟨0, 0⟩, ⟨1, 0⟩, ⟨1, 1⟩, ⟨0, 0⟩] : List (Pt Int)) = 1 := by decide

end Orb.Core

/-! ## Values with nil members

`NGeom` keeps nil-ness at every level: `Polygon{nil}` is `.polygon (some [none])`,
`Collection{MultiPoint(nil), nil}` is `.collection [.multiPoint none, .nilIface]`. -/
namespace Orb.CoreNil
open Orb Orb.Core

variable {α : Type}

/-- `orb.Clone` returns a value of the same kind, nesting, lengths, coordinates AND nil-ness: a clone of
    a nil ring / line / polygon is nil, a clone of a typed nil member is that typed nil, a clone of a
    nil-interface member is the nil interface, a clone of an empty slice is an (empty, non-nil) slice. -/
theorem clone_preserves (g : NGeom α) : cloneN g = g := cloneN_both.1 g

/-- … spelled out on the members the nil tests of `Ring.Clone`, `Polygon.Clone`, `orb.Clone` exist for -/
theorem clone_nil_members (p : Pt α) :
    cloneN (.polygon (some [none, some [p]])) = .polygon (some [none, some [p]]) ∧
    cloneN (.multiPolygon (some [none, some [none]])) = (.multiPolygon (some [none, some [none]]) : NGeom α) ∧
    cloneN (.collection [.nilIface, .multiPoint none, .nilCollection, .collection [.nilIface]]) =
      (.collection [.nilIface, .multiPoint none, .nilCollection, .collection [.nilIface]] : NGeom α) ∧
    cloneN (.multiPoint (some [])) = (.multiPoint (some []) : NGeom α) :=
  ⟨clone_preserves _, clone_preserves _, clone_preserves _, clone_preserves _⟩

section equality
variable [BEq α] [LawfulBEq α]

/-- `Equal` holds exactly when the two values agree after every nil SLICE is read as the empty slice
    of its type: kind, nesting, lengths and every coordinate.  The nil INTERFACE (top level or member
    of a collection) is equal to the nil interface only. -/
theorem equalN_iff (g h : NGeom α) : equalN g h = true ↔ normN g = normN h := equalN_both.1 g h

theorem equalN_refl (g : NGeom α) : equalN g g = true := (equalN_iff g g).2 rfl
theorem equalN_symm (g h : NGeom α) (e : equalN g h = true) : equalN h g = true :=
  (equalN_iff h g).2 ((equalN_iff g h).1 e).symm
theorem equalN_trans (a b c : NGeom α) (h1 : equalN a b = true) (h2 : equalN b c = true) : equalN a c = true :=
  (equalN_iff a c).2 (((equalN_iff a b).1 h1).trans ((equalN_iff b c).1 h2))

/-- A clone is equal to the original — nil members of every sort included. -/
theorem clone_equal (g : NGeom α) : equalN g (cloneN g) = true := by
  rw [clone_preserves]; exact equalN_refl g

end equality

/-- On values without nil members (and on the top-level nil values of `GVal`) `equalN` IS `Core.equalV`. -/
theorem equalN_extends [BEq α] (a b : GVal α) : equalN (ofGVal a) (ofGVal b) = equalV a b := by
  cases a with
  | nilIface =>
    cases b with
    | nilIface => simp [ofGVal, equalN, equalV]
    | nilSlice k => rw [equalN_nilSlice_right]; exact (equalN_nilIface_ofGeom _).1
    | val h => exact (equalN_nilIface_ofGeom h).1
  | nilSlice k =>
    cases b with
    | nilIface => rw [equalN_nilSlice_left]; exact (equalN_nilIface_ofGeom _).2
    | nilSlice k' => rw [equalN_nilSlice_left, equalN_nilSlice_right, equalN_ofGeom]; rfl
    | val h => rw [equalN_nilSlice_left]; exact equalN_ofGeom _ h
  | val g =>
    cases b with
    | nilIface => exact (equalN_nilIface_ofGeom g).2
    | nilSlice k => rw [equalN_nilSlice_right]; exact equalN_ofGeom g _
    | val h => exact equalN_ofGeom g h

section bounds
variable [LinearOrder α]

/-- `Bound()` reads nil slices as empty and `Collection.Bound` skips nil-interface members: the bound is
    the `Core.bound` of the value with those removed (`strip`). -/
theorem boundN_strip (eb : Bound α) (g : NGeom α) (g' : Geom α) (h : strip g = some g') :
    boundN eb g = bound eb g' := by
  rw [(boundN_both eb).1 g, h]; rfl

omit [LinearOrder α] in
/-- every value but the nil interface has such a reading … -/
theorem strip_isSome (g : NGeom α) (h : g ≠ .nilIface) : (strip g).isSome = true := by
  cases hs : strip g with
  | none => exact absurd ((strip_eq_none_iff g).1 hs) h
  | some _ => rfl

omit [LinearOrder α] in
/-- … which drops exactly the nil-interface members -/
theorem strip_collection (gs : List (NGeom α)) :
    strip (.collection gs) = some (.collection (gs.filterMap strip)) := by
  rw [strip, stripList_eq_filterMap]

/-- On values without nil members `boundN` IS `Core.bound`. -/
theorem boundN_extends (eb : Bound α) (g : Geom α) : boundN eb (ofGeom g) = bound eb g :=
  boundN_strip eb _ g (strip_ofGeom g)

/-- The bound is the smallest box containing every vertex (outer rings for polygons) of the non-nil
    members, at every nesting depth … (`hv` is only handed on to `bound_tight`, which does not use it.) -/
theorem boundN_tight (eb : Bound α) (he : eb.isEmpty = true) (g : NGeom α) (g' : Geom α) (hs : strip g = some g')
    (hw : BoundsWF g') (hv : bverts g' ≠ []) : IsTight (bverts g') (boundN eb g) := by
  rw [boundN_strip eb g g' hs]; exact bound_tight eb he g' hw hv

/-- … and it is empty exactly when there are none (`Collection{nil}`, `Collection{nil, Polygon{nil}}`, …). -/
theorem boundN_empty_iff (eb : Bound α) (he : eb.isEmpty = true) (g : NGeom α) (g' : Geom α) (hs : strip g = some g')
    (hw : BoundsWF g') : (boundN eb g).isEmpty = true ↔ bverts g' = [] := by
  rw [boundN_strip eb g g' hs]; exact bound_empty_iff eb he g' hw

end bounds

/-- Non-vacuity: nil slices against empty ones (equal), the nil interface against an empty collection
    (not equal), and the bound of a collection whose first, middle and last members are nil. -/
example :
    equalN (.polygon (some [none]) : NGeom Int) (.polygon (some [some []])) = true ∧
    equalN (.nilCollection : NGeom Int) (.collection []) = true ∧
    equalN (.collection [.nilIface] : NGeom Int) (.collection [.nilCollection]) = false ∧
    equalN (.collection [.nilIface] : NGeom Int) (.collection [.nilIface]) = true ∧
    boundN ⟨⟨1, 1⟩, ⟨-1, -1⟩⟩ (.collection [.nilIface, .point ⟨3, 4⟩, .nilIface, .polygon (some [none]),
      .lineString (some [⟨0, 9⟩]), .nilIface] : NGeom Int) = ⟨⟨0, 4⟩, ⟨3, 9⟩⟩ ∧
    boundN ⟨⟨1, 1⟩, ⟨-1, -1⟩⟩ (.collection [.nilIface, .nilIface] : NGeom Int) = ⟨⟨1, 1⟩, ⟨-1, -1⟩⟩ := by
  refine ⟨?_, ?_, ?_, ?_, ?_, ?_⟩
  · simp [equalN, ptssEqN, ptssEqL, ptsEqN, ptsOf, ptsEq]
  · simp [equalN, equalNList]
  · simp [equalN, equalNList]
  · simp [equalN, equalNList]
  · simp [boundN, boundStart, boundRest, polygonBound, multiPointBound, ptssOf, ptsOf]
    decide
  · simp [boundN, boundStart]

end Orb.CoreNil

/-! ## Heap level: a clone shares no memory with the original

`σ` is the store of backing arrays before the call, `g` the headers of the original,
`(clone σ g).1` the store after the call and `(clone σ g).2` the headers of the clone.
`WF σ g` (no dangling header) holds for every Go value. -/
namespace Orb.Heap
open Orb

variable {α : Type}

/-- The clone denotes the value the original had … -/
theorem clone_denote (σ : Store α) (g : HGeom α) (h : WF σ g) :
    denote (clone σ g).1 (clone σ g).2 = denote σ g := clone_denote' σ g h

/-- … so `orb.Equal` answers `true` on (original, clone) … -/
theorem clone_equal_denote [BEq α] [LawfulBEq α] (σ : Store α) (g : HGeom α) (h : WF σ g) :
    Core.equal (denote σ g) (denote (clone σ g).1 (clone σ g).2) = true := by
  rw [clone_denote σ g h]; exact (Core.equal_iff _ _).2 rfl

/-- … and the call does not disturb the original (it only appends arrays). -/
theorem clone_preserves_original (σ : Store α) (g : HGeom α) (h : WF σ g) :
    denote (clone σ g).1 g = denote σ g := by
  rw [clone_store σ g h]
  exact denote_append σ _ g h

/-- The clone's headers are exactly the next unused array ids, one per point slice of the original,
    in traversal order … -/
theorem clone_footprint_eq (σ : Store α) (g : HGeom α) :
    footprint (clone σ g).2 = List.range' σ.length (footprint g).length := clone_footprint_eq' σ g

/-- … hence: every array of the clone is fresh (allocated by the call), no two point slices of the
    clone share an array — whatever sharing the original has internally — and no array of the clone
    is an array of the original. -/
theorem clone_fresh (σ : Store α) (g : HGeom α) :
    (∀ a ∈ footprint (clone σ g).2, σ.length ≤ a) ∧
    (footprint (clone σ g).2).Nodup ∧
    (WF σ g → ∀ a ∈ footprint (clone σ g).2, a ∉ footprint g) := by
  rw [clone_footprint_eq']
  refine ⟨fun a ha => (List.mem_range'_1.1 ha).1, List.nodup_range', fun hw a ha hg => ?_⟩
  have h1 := (List.mem_range'_1.1 ha).1
  have h2 := hw a hg
  omega

/-- The clone is well-formed in the new store. -/
theorem clone_WF (σ : Store α) (g : HGeom α) : WF (clone σ g).1 (clone σ g).2 := clone_WF' σ g

/-- Frame rule: a write to an array outside the footprint of a value is invisible in it. -/
theorem write_frame (σ : Store α) (g : HGeom α) (a i : Nat) (v : Pt α) (h : a ∉ footprint g) :
    denote (write σ a i v) g = denote σ g :=
  denote_congr σ _ g fun b hb => read_write_ne σ a b i v (fun e => h (e ▸ hb))

/-- What a write does: array `a` gets `v` at index `i`, every other array is untouched. -/
theorem read_write (σ : Store α) (a b i : Nat) (v : Pt α) :
    read (write σ a i v) b = if b = a then (read σ a).set i v else read σ b := by
  by_cases h : b = a
  · subst h; simp [read_write_same]
  · simp [h, read_write_ne σ a b i v h]

/-- Mutating either leaves the other unchanged: overwriting ANY vertex (any index `i`, any value `v`)
    of ANY array of the clone leaves the value of the original as it was before the call, and
    overwriting any vertex of any array of the original leaves the value of the clone equal to
    the value the original had when it was cloned. -/
theorem clone_independent (σ : Store α) (g : HGeom α) (h : WF σ g) :
    (∀ a ∈ footprint (clone σ g).2, ∀ (i : Nat) (v : Pt α),
        denote (write (clone σ g).1 a i v) g = denote σ g) ∧
    (∀ a ∈ footprint g, ∀ (i : Nat) (v : Pt α),
        denote (write (clone σ g).1 a i v) (clone σ g).2 = denote σ g) := by
  constructor
  · intro a ha i v
    rw [write_frame _ g a i v (fun hg => (clone_fresh σ g).2.2 h a ha hg)]
    exact clone_preserves_original σ g h
  · intro a ha i v
    rw [write_frame _ _ a i v (fun hc => (clone_fresh σ g).2.2 h a hc ha)]
    exact clone_denote' σ g h

/-- Non-vacuity on a concrete nested value whose ORIGINAL shares memory internally (array 0 is both
    rings of the polygon and two rings of the nested multi-polygon): the value is well-formed, the
    clone lives in arrays 2‥7 (all distinct), a write through the clone is visible in the clone and
    a write through the original is visible in the original (in every member sharing the array),
    so the independence statement is not about writes that do nothing. -/
example :
    let σ : Store Int := [[⟨0, 0⟩, ⟨1, 0⟩, ⟨1, 1⟩, ⟨0, 0⟩], [⟨5, 5⟩]]
    let g : HGeom Int := .collection [.polygon [0, 0],
      .collection [.lineString 1, .multiPolygon [[0], [1, 0]]], .point ⟨9, 9⟩]
    (∀ a ∈ footprint g, a < σ.length) ∧
    footprint g = [0, 0, 1, 0, 1, 0] ∧
    footprint (clone σ g).2 = [2, 3, 4, 5, 6, 7] ∧
    (clone σ g).1.length = 8 ∧
    read (clone σ g).1 7 = [⟨0, 0⟩, ⟨1, 0⟩, ⟨1, 1⟩, ⟨0, 0⟩] ∧
    read (write (clone σ g).1 7 1 ⟨3, 3⟩) 7 = [⟨0, 0⟩, ⟨3, 3⟩, ⟨1, 1⟩, ⟨0, 0⟩] ∧
    read (write (clone σ g).1 0 1 ⟨3, 3⟩) 0 = [⟨0, 0⟩, ⟨3, 3⟩, ⟨1, 1⟩, ⟨0, 0⟩] ∧
    read (write (clone σ g).1 0 1 ⟨3, 3⟩) 7 = [⟨0, 0⟩, ⟨1, 0⟩, ⟨1, 1⟩, ⟨0, 0⟩] := by decide

example :
    denote (write [[⟨0, 0⟩, ⟨1, 0⟩], [⟨5, 5⟩]] 0 1 ⟨3, 3⟩)
      (.collection [.polygon [0, 0], .lineString 1] : HGeom Int) =
    .collection [.polygon [[⟨0, 0⟩, ⟨3, 3⟩], [⟨0, 0⟩, ⟨3, 3⟩]], .lineString [⟨5, 5⟩]] := rfl

end Orb.Heap
