/-
  C02 — features and feature collections.  The document of a feature collection is a Go map written
  key-sorted (`normKeys`); the decoder looks the reserved keys up, where of several members with one key
  the last counts, and keeps the rest as foreign members.  So the first part is about key-sorted member
  lists (`insertKeep`, `normKeys`: sortedness, lookups, filters on keys); then the round trip of
  features and the parts of a collection document.
-/
import OrbProofs.C02Nil
namespace Orb.GeoJSON
open Orb

def KeysAbove (k : String) (m : Members) : Prop := ∀ kv ∈ m, k < kv.1

theorem sortedKeys_cons_iff (k : String) (v : Json) (m : Members) :
    SortedKeys ((k, v) :: m) ↔ KeysAbove k m ∧ SortedKeys m := by
  induction m generalizing k v with
  | nil => simp [SortedKeys, KeysAbove]
  | cons kv m ih =>
    obtain ⟨k', v'⟩ := kv
    simp only [SortedKeys, ih k' v', KeysAbove, List.mem_cons, forall_eq_or_imp]
    constructor
    · rintro ⟨h1, h2, h3⟩
      exact ⟨⟨h1, fun kv hkv => String.lt_trans h1 (h2 kv hkv)⟩, h2, h3⟩
    · rintro ⟨⟨h1, _⟩, h2, h3⟩
      exact ⟨h1, h2, h3⟩

theorem insertKeep_above (k : String) (v : Json) (m : Members) (h : KeysAbove k m) :
    insertKeep k v m = (k, v) :: m := by
  cases m with
  | nil => rfl
  | cons kv m =>
    obtain ⟨k', v'⟩ := kv
    have : k < k' := h (k', v') (by simp)
    simp [insertKeep, this]

theorem keysAbove_insertKeep (a k : String) (v : Json) (m : Members) (hk : a < k) (h : KeysAbove a m) :
    KeysAbove a (insertKeep k v m) := by
  induction m with
  | nil => intro kv hkv; simp [insertKeep] at hkv; subst hkv; exact hk
  | cons kv m ih =>
    obtain ⟨k', v'⟩ := kv
    have h1 : a < k' := h (k', v') (by simp)
    have h2 : KeysAbove a m := fun kv hkv => h kv (by simp [hkv])
    simp only [insertKeep]
    split
    · intro kv hkv
      rcases List.mem_cons.1 hkv with rfl | hkv
      · exact hk
      · exact h kv hkv
    · split
      · exact h
      · intro kv hkv
        rcases List.mem_cons.1 hkv with rfl | hkv
        · exact h1
        · exact ih h2 kv hkv

theorem sortedKeys_insertKeep (k : String) (v : Json) (m : Members) (h : SortedKeys m) :
    SortedKeys (insertKeep k v m) := by
  induction m with
  | nil => simp [insertKeep, SortedKeys]
  | cons kv m ih =>
    obtain ⟨k', v'⟩ := kv
    have h' := (sortedKeys_cons_iff k' v' m).1 h
    simp only [insertKeep]
    split
    · rename_i hlt
      exact ⟨hlt, h⟩
    · split
      · exact h
      · rename_i h1 h2
        exact (sortedKeys_cons_iff _ _ _).2
          ⟨keysAbove_insertKeep k' k v m (Std.lt_of_le_of_ne (String.not_lt.1 h1) (Ne.symm h2)) h'.1, ih h'.2⟩

theorem sortedKeys_normKeys (L : Members) : SortedKeys (normKeys L) := by
  induction L with
  | nil => trivial
  | cons kv L ih => obtain ⟨k, v⟩ := kv; exact sortedKeys_insertKeep k v _ ih

theorem normKeys_idem (L : Members) : normKeys (normKeys L) = normKeys L :=
  normKeys_sorted _ (sortedKeys_normKeys L)

/-- the last member with key `k` -/
def lookupLast (k : String) : Members → Option Json
  | [] => none
  | (k', v) :: ms =>
    match lookupLast k ms with
    | some w => some w
    | none => if k' = k then some v else none

theorem lookupKey_above (k : String) (m : Members) (h : KeysAbove k m) : lookupKey k m = none := by
  induction m with
  | nil => rfl
  | cons kv m ih =>
    obtain ⟨k', v'⟩ := kv
    have h1 : k < k' := h (k', v') (by simp)
    have h2 : KeysAbove k m := fun kv hkv => h kv (by simp [hkv])
    have : k' ≠ k := by rintro rfl; exact String.lt_irrefl _ h1
    simp [lookupKey, this, ih h2]

theorem lookupKey_insertKeep (k k' : String) (v : Json) (m : Members) (h : SortedKeys m) :
    lookupKey k (insertKeep k' v m) =
      (match lookupKey k m with
       | some w => some w
       | none => if k' = k then some v else none) := by
  induction m with
  | nil => simp [insertKeep, lookupKey]
  | cons kv m ih =>
    obtain ⟨k'', v''⟩ := kv
    have h' := (sortedKeys_cons_iff k'' v'' m).1 h
    simp only [insertKeep]
    split
    · rename_i hlt
      by_cases hk : k' = k
      · subst hk
        have hne : k'' ≠ k' := by rintro rfl; exact String.lt_irrefl _ hlt
        have := lookupKey_above k' m (fun kv hkv => String.lt_trans hlt (h'.1 kv hkv))
        simp [lookupKey, hne, this]
      · have : lookupKey k ((k', v) :: (k'', v'') :: m) = lookupKey k ((k'', v'') :: m) := by
          simp [lookupKey, hk]
        rw [this]
        cases lookupKey k ((k'', v'') :: m) <;> simp [hk]
    · split
      · rename_i h1 h2
        subst h2
        by_cases hk : k' = k
        · simp [lookupKey, hk]
        · simp only [hk, if_false]
          cases lookupKey k ((k', v'') :: m) <;> rfl
      · rename_i h1 h2
        by_cases hk : k'' = k
        · simp [lookupKey, hk]
        · simp only [lookupKey, hk, if_false]
          exact ih h'.2

theorem lookupKey_normKeys (k : String) (L : Members) : lookupKey k (normKeys L) = lookupLast k L := by
  induction L with
  | nil => rfl
  | cons kv L ih =>
    obtain ⟨k', v⟩ := kv
    rw [normKeys, lookupKey_insertKeep k k' v _ (sortedKeys_normKeys L), ih, lookupLast]

theorem lookupLast_append (k : String) (A B : Members) :
    lookupLast k (A ++ B) = (match lookupLast k B with | some w => some w | none => lookupLast k A) := by
  induction A with
  | nil => simp [lookupLast]; cases lookupLast k B <;> rfl
  | cons kv A ih =>
    obtain ⟨k', v⟩ := kv
    simp only [List.cons_append, lookupLast, ih]
    cases lookupLast k B <;> rfl

theorem lookupLast_none (k : String) (A : Members) (h : ∀ kv ∈ A, kv.1 ≠ k) : lookupLast k A = none := by
  induction A with
  | nil => rfl
  | cons kv A ih =>
    obtain ⟨k', v⟩ := kv
    have h1 : k' ≠ k := h (k', v) (by simp)
    simp [lookupLast, ih (fun kv hkv => h kv (by simp [hkv])), h1]

theorem lookupLast_append_of_none (k : String) (A B : Members) (h : ∀ kv ∈ A, kv.1 ≠ k) :
    lookupLast k (A ++ B) = lookupLast k B := by
  rw [lookupLast_append, lookupLast_none k A h]; cases lookupLast k B <;> rfl

theorem keysAbove_filter (k : String) (p : String × Json → Bool) (m : Members) (h : KeysAbove k m) :
    KeysAbove k (m.filter p) := fun kv hkv => h kv (List.mem_filter.1 hkv).1

theorem sortedKeys_filter (p : String × Json → Bool) (m : Members) (h : SortedKeys m) :
    SortedKeys (m.filter p) := by
  induction m with
  | nil => trivial
  | cons kv m ih =>
    obtain ⟨k, v⟩ := kv
    have h' := (sortedKeys_cons_iff k v m).1 h
    rw [List.filter_cons]
    split
    · exact (sortedKeys_cons_iff _ _ _).2 ⟨keysAbove_filter k p m h'.1, ih h'.2⟩
    · exact ih h'.2

theorem filter_insertKeep (q : String → Bool) (k : String) (v : Json) (m : Members) (h : SortedKeys m) :
    (insertKeep k v m).filter (fun kv => q kv.1) =
      if q k then insertKeep k v (m.filter fun kv => q kv.1) else m.filter fun kv => q kv.1 := by
  induction m with
  | nil => by_cases hq : q k = true <;> simp [insertKeep, hq]
  | cons kv m ih =>
    obtain ⟨k', v'⟩ := kv
    have h' := (sortedKeys_cons_iff k' v' m).1 h
    simp only [insertKeep]
    split
    · rename_i hlt
      have hab : KeysAbove k ((k', v') :: m) := by
        intro kv hkv
        rcases List.mem_cons.1 hkv with rfl | hkv
        · exact hlt
        · exact String.lt_trans hlt (h'.1 kv hkv)
      by_cases hq : q k = true
      · rw [if_pos hq, insertKeep_above k v _ (keysAbove_filter k _ _ hab)]
        rw [List.filter_cons]; simp [hq]
      · rw [if_neg hq]
        rw [List.filter_cons]; simp [hq]
    · split
      · rename_i h1 h2
        subst h2
        by_cases hq : q k = true
        · rw [if_pos hq, List.filter_cons]
          simp [hq, insertKeep, h1]
        · rw [if_neg hq]
      · rename_i h1 h2
        by_cases hq' : q k' = true
        · rw [List.filter_cons, List.filter_cons]
          simp only [hq', if_true, ih h'.2]
          by_cases hq : q k = true
          · simp [hq, insertKeep, h1, h2]
          · simp [hq]
        · rw [List.filter_cons, List.filter_cons]
          simp only [hq', ih h'.2]
          simp

theorem filter_normKeys (q : String → Bool) (L : Members) :
    (normKeys L).filter (fun kv => q kv.1) = normKeys (L.filter fun kv => q kv.1) := by
  induction L with
  | nil => rfl
  | cons kv L ih =>
    obtain ⟨k, v⟩ := kv
    rw [normKeys, filter_insertKeep q k v _ (sortedKeys_normKeys L), ih, List.filter_cons]
    by_cases hq : q k = true
    · simp [hq, normKeys]
    · simp [hq]

/-- **The collection decoder on any member list**: of each reserved key the LAST member counts, the other
    members are the foreign ones, as a Go map. -/
theorem decodeFCMap_normKeys (c : Codec) (L : Members) :
    decodeFCMap c (normKeys L) =
      (fcTypeOf c (lookupLast "type" L)).bind fun typ => (fcBBoxOf c (lookupLast "bbox" L)).bind fun bb =>
      (fcFeaturesOf c (lookupLast "features" L)).bind fun fs =>
      (fcExtrasOf c (normKeys (L.filter fun kv => !reservedKey kv.1))).map fun ex =>
        { typ := typ, bbox := bb, features := fs, extra := ex } := by
  rw [decodeFCMap_eq]
  simp only [lookupKey_normKeys, filter_normKeys (fun k => !reservedKey k)]

/-! ### the round trip of features -/

theorem decode_tailPart (c : Codec) (v : V) (props : Option Members) (id : Option Json) (bbox : Option (List UInt64))
    (hok : okV v = true) (hb : c = .json ∨ okVB v = true) (hp : okMembers (props.getD []) = true) :
    (decodeFMembers c [("geometry", geomMember c v), ("properties", propsDoc props)]
      { id := id, ty := "Feature", bbox := bbox }).bind featureFinish =
    .ok { id := id, typ := "Feature", bbox := bbox, geom := canonV v, props := canonProps props } := by
  rcases decode_geomMember c v hok hb with ⟨hn, hcan⟩ | hdec
  · simp [decodeFMembers, hn, fStep_geometry_null, fStep_propsDoc c props _ hp, featureFinish, hcan, Res.bind]
  · simp [decodeFMembers, fStep_geometry c _ _ _ hdec, fStep_propsDoc c props _ hp, featureFinish,
      derefGeometry, Res.bind]

/-- `featureOfDoc_eq` (C02Total.lean) at `rawNull = false` and an object, with the pointer step opened -/
theorem featureOfDoc_obj (c : Codec) (ms : Members) :
    featureOfDoc c false (.obj ms) = (decodeFMembers c ms {}).bind featureFinish := by
  simp only [featureOfDoc, featureDocPtr, Bool.false_eq_true, if_false]
  cases decodeFMembers c ms {} <;> simp [Res.map, Res.bind, featureFinishPtr]

theorem okId_map_valOf (id : Option Json) (h : okId id = true) : id.map valOf = id := by
  cases id with
  | none => rfl
  | some j => cases j <;> simp [okId] at h <;> simp [valOf]

theorem feature_roundtrip' (c : Codec) (f : Feature) (hok : okFeature f = true)
    (hb : c = .json ∨ okVB f.geom = true) :
    featureOfDoc c false (featureDoc c f) = .ok (canonF f) := by
  obtain ⟨id, typ, bbox, geom, props⟩ := f
  simp only [okFeature, Bool.and_eq_true] at hok
  obtain ⟨⟨⟨hid, hv⟩, hbb⟩, hp⟩ := hok
  have hidv := okId_map_valOf id hid
  simp only [featureDoc, featureDocG, List.append_assoc, featureOfDoc_obj]
  rw [decodeFMembers_append, decode_idPart c id {} hid rfl]
  simp only [Res.bind, List.cons_append, List.nil_append, decodeFMembers, fStep_type]
  rw [decodeFMembers_append, decode_bboxPart c bbox _ hbb rfl]
  simp only [Res.bind]
  have := decode_tailPart c geom props id (canonBBox bbox) hv hb hp
  simp only [Res.bind] at this
  rw [this]
  simp [canonF, hidv]

theorem eraseKey_none (k : String) (m : Members) (h : ∀ kv ∈ m, kv.1 ≠ k) : eraseKey k m = m := by
  induction m with
  | nil => rfl
  | cons kv m ih =>
    obtain ⟨k', v⟩ := kv
    have h1 : k' ≠ k := h (k', v) (by simp)
    simp [eraseKey, h1, ih (fun kv hkv => h kv (by simp [hkv]))]

/-- the "bbox" member of the feature-collection document -/
def fcBBoxPart : Option (List UInt64) → Members
  | some bb => [("bbox", bboxJ bb)]
  | none => []

theorem lookupLast_reserved (bbox : Option (List UInt64)) (F : Json) :
    let R := [("type", Json.str "FeatureCollection")] ++ fcBBoxPart bbox ++ [("features", F)]
    lookupLast "type" R = some (.str "FeatureCollection") ∧ lookupLast "bbox" R = bbox.map bboxJ ∧
    lookupLast "features" R = some F ∧ R.filter (fun kv => !reservedKey kv.1) = [] := by
  cases bbox <;> exact ⟨rfl, rfl, rfl, rfl⟩

theorem okFC_spec (x : FC) (hok : okFC x = true) :
    (x.bbox.getD []).all finite = true ∧
    (∀ f ∈ x.features.getD [], ∃ g, f = some g ∧ okFeature g = true) ∧
    okMembers (x.extra.getD []) = true ∧
    (∀ kv ∈ x.extra.getD [], kv.1 ≠ "type" ∧ kv.1 ≠ "bbox" ∧ kv.1 ≠ "features") := by
  simp only [okFC, Bool.and_eq_true] at hok
  obtain ⟨⟨⟨hbb, hfs⟩, hE⟩, hres⟩ := hok
  refine ⟨hbb, fun f hf => ?_, hE, fun kv hkv => ?_⟩
  · have := List.all_eq_true.1 hfs f hf
    cases f with
    | none => cases this
    | some g => exact ⟨g, rfl, this⟩
  · have := List.all_eq_true.1 hres kv hkv
    simpa [reservedKey, and_assoc] using this

theorem fcDoc_eq (c : Codec) (x : FC) (hok : okFC x = true) :
    fcDoc c x = .obj (normKeys (x.extra.getD [] ++
      ([("type", .str "FeatureCollection")] ++ fcBBoxPart x.bbox ++
        [("features", .arr ((x.features.getD []).map (featureMember c)))]))) := by
  obtain ⟨_, _, hE, hres⟩ := okFC_spec x hok
  have h1 : eraseKey "bbox" (x.extra.getD []) = x.extra.getD [] :=
    eraseKey_none _ _ fun kv hkv => (hres kv hkv).2.1
  unfold fcDoc fcDocG
  rw [h1, valOfMembers_ok _ hE]
  cases x.bbox <;> simp [fcBBoxPart]

theorem decodeFeatures_map (c : Codec) (fs : List (Option Feature))
    (h : ∀ f ∈ fs, ∃ g, f = some g ∧ okFeature g = true ∧ (c = .json ∨ okVB g.geom = true)) :
    decodeFeatures c (fs.map (featureMember c)) = .ok (fs.map fun f => f.map canonF) := by
  rw [decodeFeatures_eq]
  refine C20M.resMapM_map_ok _ _ _ fs fun f hf => ?_
  obtain ⟨g, rfl, hg, hb⟩ := h f hf
  show (featureOfDoc c false (featureDoc c g)).map some = _
  rw [feature_roundtrip' c g hg hb]; rfl

theorem fcExtrasOf_ok (c : Codec) (ex : Option Members) (h : okMembers (ex.getD []) = true) :
    fcExtrasOf c (ex.getD []) = .ok (canonProps ex) := by
  cases ex with
  | none => rfl
  | some ps =>
    cases ps with
    | nil => rfl
    | cons p ps =>
      have h1 : okMembers (p :: ps) = true := by simpa using h
      have h2 := normVal_ok _ h1
      have h3 := valOfMembers_ok _ h1
      simp only [canonProps, h2]
      simp [fcExtrasOf, hasInfMembers_ok _ h1, hasBadMembers_ok _ h1, h3]

theorem canonProps_getD (ex : Option Members) (h : okMembers (ex.getD []) = true) :
    (canonProps ex).getD [] = ex.getD [] := by
  cases ex with
  | none => rfl
  | some ps =>
    cases ps with
    | nil => rfl
    | cons p ps =>
      have h1 : okMembers (p :: ps) = true := by simpa using h
      simp [canonProps, normVal_ok _ h1]

end Orb.GeoJSON
