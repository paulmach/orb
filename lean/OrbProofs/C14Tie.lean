/-
  C14 — translation tie for `maptile.At`, which `tilecover.Point`, `MultiPoint` and `Bound` call (helpers.go), and
  for `Point` and `MultiPoint` themselves (`coverPoint_tie`, `coverMultiPoint_tie`).
  `Generated/TileGeoGo.lean` is REGENERATED from /repo on every run by
  harness/cmd/factgen/translate_float.go.  The model `Orb.TileCover.tileAt` takes the longitude and the
  fraction `Fraction(ll, z)` as arguments and keeps `uint32(f)` and the west-edge expression
  `360.0*(float64(x)/float64(max)-0.5)` in its record `Ops`; `tileAt_tie` proves the regenerated `At` equal to
  `tileAt` at the regenerated `Fraction`, for every `Ops` whose `westEdge` is that expression
  (`westEdgeOf ofNat`) and whose `toU32` answers a uint32.
-/
import Orb.TileCover
import Generated.TileGeoGo
import Generated.TilecoverGo
import Orb.LoopForms

namespace Orb.C14Tie
open Orb Orb.Tile Orb.TileCover

set_option linter.unusedSectionVars false

variable {α : Type} [Add α] [Sub α] [Mul α] [Div α] [Neg α] [LT α] [DecidableLT α]
  [OfNat α 0] [OfNat α 1] [OfNat α 2] [OfNat α 90] [OfNat α 180] [OfNat α 360]

theorem u32_pred (n : Nat) (h0 : 0 < n) (h : n < 2 ^ 32) : (n + 2 ^ 32 - 1) % 2 ^ 32 = n - 1 := by
  have e : n + 2 ^ 32 - 1 = (n - 1) + 2 ^ 32 := by omega
  rw [e, Nat.add_mod_right, Nat.mod_eq_of_lt (by omega)]

/-- `maptile.At(ll, z)` is the model's `tileAt` at `Fraction(ll, z)` -/
theorem tileAt_tie (ops : Ops α) (ofNat : Nat → α) (hw : ops.westEdge = westEdgeOf ofNat)
    (hu : ∀ a, ops.toU32 a < 2 ^ 32) (sin log : α → α) (pi twoPi latMax : α) (ll : Pt α) (z : Nat) :
    Generated.TileGeoGo.at_ sin log ops.toU32 pi twoPi latMax ofNat ll z
      = tileAt ops ll.x (Generated.TileGeoGo.fraction sin log pi twoPi latMax ofNat ll z) z := by
  unfold Generated.TileGeoGo.at_ tileAt
  rw [hw]
  simp only [westEdgeOf]
  generalize Generated.TileGeoGo.fraction sin log pi twoPi latMax ofNat ll z = f
  have hx := hu f.x
  generalize ops.toU32 f.x = x at hx ⊢
  generalize ops.toU32 f.y = y
  have hm : shl32 1 z < 2 ^ 32 := Nat.mod_lt _ (by decide)
  generalize shl32 1 z = mx at hm ⊢
  by_cases h0 : mx = 0
  · subst h0; simp
  · have hpos : 0 < mx := Nat.pos_of_ne_zero h0
    simp only [ne_eq, h0, not_false_eq_true, ↓reduceIte, true_and, ge_iff_le, gt_iff_lt]
    rw [u32_pred mx hpos hm]
    by_cases h1 : mx ≤ x
    · simp only [h1, ↓reduceIte]
      have hlt : mx - 1 < 2 ^ 32 := by omega
      by_cases h2 : 0 < mx - 1 ∧ ll.x < 360 * (ofNat (mx - 1) / ofNat mx - 1 / 2)
      · simp only [h2, and_self, ↓reduceIte]
        rw [u32_pred (mx - 1) h2.1 hlt]
      · simp only [h2, ↓reduceIte]
    · simp only [h1, ↓reduceIte]
      by_cases h2 : 0 < x ∧ ll.x < 360 * (ofNat x / ofNat mx - 1 / 2)
      · simp only [h2, and_self, ↓reduceIte]
        rw [u32_pred x h2.1 hx]
      · simp only [h2, ↓reduceIte]

/-! ### maptile/tilecover/helpers.go: `Point`, `MultiPoint`

A `maptile.Set` (a Go map) that is only written (`set[k] = true`) and returned is translated as the list of the keys
in insertion order — what the model's covers are. -/

section cover
variable [BEq α]

theorem coverPoint_tie (ops : Ops α) (ofNat : Nat → α) (hw : ops.westEdge = westEdgeOf ofNat)
    (hu : ∀ a, ops.toU32 a < 2 ^ 32) (sin log : α → α) (pi twoPi latMax : α) (fuel : Nat) (p : Pt α) (z : Nat) :
    cover ops (fun q => Generated.TileGeoGo.fraction sin log pi twoPi latMax ofNat q z) z fuel (.point p)
      = .ok (Generated.TilecoverGo.coverPoint sin log ops.toU32 pi twoPi latMax ofNat p z) := by
  rw [cover, Generated.TilecoverGo.coverPoint, tileAt_tie ops ofNat hw hu]

theorem coverMultiPoint_tie (ops : Ops α) (ofNat : Nat → α) (hw : ops.westEdge = westEdgeOf ofNat)
    (hu : ∀ a, ops.toU32 a < 2 ^ 32) (sin log : α → α) (pi twoPi latMax : α) (fuel : Nat) (ps : List (Pt α)) (z : Nat) :
    cover ops (fun q => Generated.TileGeoGo.fraction sin log pi twoPi latMax ofNat q z) z fuel (.multiPoint ps)
      = .ok (Generated.TilecoverGo.coverMultiPoint sin log ops.toU32 pi twoPi latMax ofNat ps z) := by
  have hf : (fun p => Generated.TileGeoGo.at_ sin log ops.toU32 pi twoPi latMax ofNat p z)
      = (fun p => tileAt ops p.x (Generated.TileGeoGo.fraction sin log pi twoPi latMax ofNat p z) z) := by
    funext p; exact tileAt_tie ops ofNat hw hu sin log pi twoPi latMax p z
  rw [cover]
  unfold Generated.TilecoverGo.coverMultiPoint
  have h := Orb.LoopForms.foldl_append_map
    (fun p => Generated.TileGeoGo.at_ sin log ops.toU32 pi twoPi latMax ofNat p z) ps []
  simp only [List.nil_append] at h
  simp only []
  rw [h, hf]

end cover

theorem all_translated_TilecoverGo : Generated.TilecoverGo.translated = ["coverPoint", "coverMultiPoint"] := rfl

theorem at_translated : "at_" ∈ Generated.TileGeoGo.translated ∧ "fraction" ∈ Generated.TileGeoGo.translated := by
  simp only [Generated.TileGeoGo.translated, List.mem_cons, String.reduceEq, or_true, false_or, true_or, and_self]

end Orb.C14Tie
