/-
  C02 / C05 (GeoJSON share) — closed documents on which the decoders answer with an error, and
  totality: no decoder of geometries, features, feature collections or of the typed helper types
  `geojson.Point` … `geojson.MultiPolygon` panics, whatever the document; `bbox.go`.
-/
import OrbProofs.C02Lemmas

namespace Orb.GeoJSON
open Orb

/-- `{"type":"GeometryCollection","geometries":[null]}` -/
def nullMemberDoc : Json :=
  .obj [("type", .str "GeometryCollection"), ("geometries", .arr [.null])]

/-- the `null` member is found by the nil-member loop of the "GeometryCollection" arm -/
theorem decode_nullMember (c : Codec) : decodeGeometry c nullMemberDoc = .err .invalid := by
  rw [nullMemberDoc, decodeGeometry_collObj]; rfl

/-- the bson case of `empty_collection_rejected` (C02.lean) -/
theorem empty_collection_rejected_bson' :
    geomOfDoc .bson (geomDoc .bson (.val (.collection []))) = .err .invalid := by rfl

theorem coordsOf_noPanic (c : Codec) (ty : String) (j : Json) (r : R V) (h : coordsOf c ty j = some r) :
    r.isPanic = false := by
  unfold coordsOf at h
  -- the "Point" arm is a `match` as it stands, the five slice arms after the local `fin` is applied
  split at h <;> cases h <;> first | (split <;> rfl) | (dsimp only; split <;> rfl)

theorem hasNilMember_iff (ms : List (Option DG)) : hasNilMember ms = true ↔ none ∈ ms := by
  induction ms with
  | nil => simp [hasNilMember]
  | cons m ms ih => cases m <;> simp [hasNilMember, ih]

/-- THE CHECK COVERS THE DEREFERENCE: when no member is a nil pointer, `Geometry()` over the
    members does not panic.  (With `hasNilMember ms = true` it does: `members_check_needed`.) -/
theorem membersGeometry_noPanic (ms : List (Option DG)) (h : hasNilMember ms = false) :
    (membersGeometry ms).isPanic = false := by
  rw [membersGeometry_eq]
  refine C20M.resMapM_np _ ms fun m hm => ?_
  cases m with
  | some d => rfl
  | none => rw [(hasNilMember_iff ms).2 hm] at h; cases h

/-- only the "GeometryCollection" arm without a "geometries" member leaves both fields of the value nil -/
def BareColl (d : DG) : Prop := d.bare = true → d.v = .val (.collection [])

theorem finishGeometry_post (c : Codec) (st : GSt) : Res.Post BareColl (finishGeometry c st) := by
  unfold finishGeometry
  refine Res.Post.ite trivial (Res.Post.ite ?_ ?_)
  · cases st.geoms with
    | none => exact fun _ => rfl
    | some ds =>
      simp only
      split
      · trivial
      · rename_i hn
        have := membersGeometry_noPanic ds (by simpa using hn)
        revert this
        cases membersGeometry ds <;> simp [Res.isPanic, Res.Post, BareColl]
  · cases st.coords with
    | none => simp only; cases coordsOf c st.ty .null <;> trivial
    | some j =>
      simp only
      cases hk : coordsOf c st.ty j with
      | none => trivial
      | some r =>
        have := coordsOf_noPanic c st.ty j r hk
        cases r <;> simp_all [Res.isPanic, Res.Post, BareColl]

theorem gTypeErr_noPanic (c : Codec) (st : GSt) : (gTypeErr c st).isPanic = false := by
  cases c <;> rfl

theorem gTypeField_noPanic (c : Codec) (v : Json) (st : GSt) : (gTypeField c v st).isPanic = false := by
  unfold gTypeField; split <;> first | rfl | exact gTypeErr_noPanic c st

theorem gGeomsField_noPanic (c : Codec) (v : Json) (st : GSt) (elems : R (List (Option DG)))
    (h : elems.isPanic = false) : (gGeomsField c v st elems).isPanic = false := by
  unfold gGeomsField; split
  · rfl
  · cases elems <;> first | rfl | cases h
  · exact gTypeErr_noPanic c st

theorem gStep_noPanic (c : Codec) (k : String) (v : Json) (st : GSt) (hv : (geomsOf c v).isPanic = false) :
    (gStep c k v st (geomsOf c v)).isPanic = false :=
  Res.np_ite (gTypeField_noPanic c v st) <| Res.np_ite rfl <| Res.np_ite (gGeomsField_noPanic c v st _ hv) rfl

theorem decodeGMembers_noPanic (c : Codec) (ms : Members) (hms : ∀ kv ∈ ms, (geomsOf c kv.2).isPanic = false) :
    ∀ st, (decodeGMembers c ms st).isPanic = false := by
  induction ms with
  | nil => intro st; rfl
  | cons kv ms ih =>
    intro st
    rw [decodeGMembers_cons]
    exact Res.np_bind (gStep_noPanic c kv.1 kv.2 st (hms kv (by simp))) fun st' _ =>
      ih (fun kv hkv => hms kv (by simp [hkv])) st'

theorem gElemOf_noPanic (j : Json) (r : R DG) (h : r.isPanic = false) : (gElemOf j r).isPanic = false := by
  cases j <;> simp [gElemOf, Res.isPanic_map, h] <;> rfl

theorem decodeGElems_noPanic (c : Codec) (l : List Json) (hl : ∀ j ∈ l, (decodeGeometry c j).isPanic = false) :
    (decodeGElems c l).isPanic = false := by
  rw [decodeGElems_eq]
  exact C20M.resMapM_np _ l fun j hj => gElemOf_noPanic j _ (hl j hj)

/-- **No geometry decoder panics.**  The induction carries two facts for a value `j`: decoding it as a geometry
    does not panic, nor does decoding it as a "geometries" array (a member of an object may be such an array). -/
theorem decodeGeometry_noPanic (c : Codec) :
    ∀ j : Json, (decodeGeometry c j).isPanic = false ∧ (geomsOf c j).isPanic = false := by
  intro j
  induction j using Json.ind with
  | hnull => cases c <;> exact ⟨rfl, rfl⟩
  | hbool b => exact ⟨rfl, rfl⟩
  | hnum b => exact ⟨rfl, rfl⟩
  | hstr s => exact ⟨rfl, rfl⟩
  | hbad => exact ⟨rfl, rfl⟩
  | harr l ih =>
    refine ⟨by cases c <;> rfl, ?_⟩
    simpa [geomsOf] using decodeGElems_noPanic c l (fun j hj => (ih j hj).1)
  | hobj ms ih =>
    refine ⟨?_, rfl⟩
    rw [decodeGeometry_obj]
    exact Res.np_bind (decodeGMembers_noPanic c ms (fun kv hkv => (ih kv hkv).2) {}) fun st _ =>
      (finishGeometry_post c st).np

theorem fTypeErr_noPanic (c : Codec) (st : FSt) : (fTypeErr c st).isPanic = false := by
  cases c <;> rfl

theorem fIdField_noPanic (c : Codec) (v : Json) (st : FSt) : (fIdField c v st).isPanic = false := by
  unfold fIdField; split
  · rfl
  · exact Res.np_ite (fTypeErr_noPanic c st) rfl

theorem fTypeField_noPanic (c : Codec) (v : Json) (st : FSt) : (fTypeField c v st).isPanic = false := by
  unfold fTypeField; split <;> first | rfl | exact fTypeErr_noPanic c st

theorem fBBoxField_noPanic (c : Codec) (v : Json) (st : FSt) : (fBBoxField c v st).isPanic = false := by
  unfold fBBoxField; split <;> first | rfl | exact fTypeErr_noPanic c st

/-- the one field whose decoder calls an Unmarshaler of the package -/
theorem fGeomField_noPanic (c : Codec) (v : Json) (st : FSt) : (fGeomField c v st).isPanic = false := by
  have hv := (decodeGeometry_noPanic c v).1
  unfold fGeomField; split
  · rfl
  · cases hd : decodeGeometry c v <;> first | rfl | (rw [hd] at hv; cases hv)

theorem fPropsField_noPanic (c : Codec) (v : Json) (st : FSt) : (fPropsField c v st).isPanic = false := by
  unfold fPropsField; split
  · rfl
  · exact Res.np_ite (fTypeErr_noPanic c st) rfl
  · exact fTypeErr_noPanic c st

theorem fStep_noPanic (c : Codec) (k : String) (v : Json) (st : FSt) : (fStep c k v st).isPanic = false :=
  Res.np_ite (fIdField_noPanic c v st) <| Res.np_ite (fTypeField_noPanic c v st) <|
    Res.np_ite (fBBoxField_noPanic c v st) <| Res.np_ite (fGeomField_noPanic c v st) <|
      Res.np_ite (fPropsField_noPanic c v st) rfl

theorem decodeFMembers_noPanic (c : Codec) (ms : Members) :
    ∀ st, (decodeFMembers c ms st).isPanic = false := by
  induction ms with
  | nil => intro st; rfl
  | cons kv ms ih =>
    intro st
    rw [decodeFMembers_cons]
    exact Res.np_bind (fStep_noPanic c kv.1 kv.2 st) fun st' _ => ih st'

theorem featureFinish_noPanic (st : FSt) : (featureFinish st).isPanic = false := by
  unfold featureFinish
  split
  · rfl
  · split
    · rfl
    · split
      · rfl
      · -- `doc.Geometry != nil` has been checked: the dereference finds a pointer
        rename_i hg
        cases hgeom : st.geom with
        | none => simp [hgeom] at hg
        | some d => simp only [derefGeometry]; split <;> rfl

/-- only a JSON `null` leaves `doc` nil: `UnmarshalBSON` can do without the `doc == nil` check that
    `UnmarshalJSON` needs -/
theorem featureDocPtr_post (c : Codec) (j : Json) :
    Res.Post (fun p => p = none → c = .json) (featureDocPtr c j) := by
  cases j with
  | obj ms => exact Res.Post.map (Res.Post.of (decodeFMembers_noPanic c ms {}) fun _ _ h => nomatch h)
  | null => cases c <;> first | exact fun _ => rfl | trivial
  | arr l => cases c <;> first | exact fun h => nomatch h | trivial
  | _ => trivial

theorem featureOfDoc_eq (c : Codec) (rawNull : Bool) (j : Json) :
    featureOfDoc c rawNull j = if rawNull then .ok { typ := "" } else
      (featureDocPtr c j).bind fun p => if c = .json ∧ p.isNone then .ok { typ := "" } else featureFinishPtr p := by
  unfold featureOfDoc; split
  · rfl
  · cases featureDocPtr c j <;> rfl

/-- **No feature decoder panics**: the `doc == nil` check of `UnmarshalJSON` (json), resp. the
    impossibility of a nil `doc` (bson), stands before `doc.Type`. -/
theorem feature_total' (c : Codec) (rawNull : Bool) (j : Json) : (featureOfDoc c rawNull j).isPanic = false := by
  rw [featureOfDoc_eq]
  refine Res.np_ite rfl (Res.Post.np (P := fun _ => True) (Res.Post.bind ((featureDocPtr_post c j).mono fun p hp => ?_)))
  cases p with
  | some st => simpa [featureFinishPtr] using Res.Post.of (featureFinish_noPanic st) fun _ _ => trivial
  | none => rw [hp rfl]; trivial

theorem decodeFeatures_noPanic (c : Codec) (l : List Json) : (decodeFeatures c l).isPanic = false := by
  rw [decodeFeatures_eq]
  refine C20M.resMapM_np _ l fun j _ => ?_
  cases j with
  | null => rfl
  | _ => simp only [featureElem, Res.isPanic_map]; exact feature_total' c false _

theorem fcTypeOf_noPanic (c : Codec) (o : Option Json) : (fcTypeOf c o).isPanic = false := by
  unfold fcTypeOf; split <;> first | rfl | (cases c <;> rfl)

theorem fcBBoxOf_noPanic (c : Codec) (o : Option Json) : (fcBBoxOf c o).isPanic = false := by
  unfold fcBBoxOf; split
  · rfl
  · split <;> rfl

theorem fcFeaturesOf_noPanic (c : Codec) (o : Option Json) : (fcFeaturesOf c o).isPanic = false := by
  cases o with
  | none => rfl
  | some v =>
    cases v with
    | arr l => simp only [fcFeaturesOf, Res.isPanic_map]; exact decodeFeatures_noPanic c l
    | _ => rfl

theorem fcExtrasOf_noPanic (c : Codec) (ms : Members) : (fcExtrasOf c ms).isPanic = false := by
  unfold fcExtrasOf; split
  · rfl
  · split
    · rfl
    · split <;> rfl

theorem decodeFCMap_noPanic (c : Codec) (m : Members) : (decodeFCMap c m).isPanic = false := by
  rw [decodeFCMap_eq]
  exact Res.np_bind (fcTypeOf_noPanic c _) fun _ _ => Res.np_bind (fcBBoxOf_noPanic c _) fun _ _ =>
    Res.np_bind (fcFeaturesOf_noPanic c _) fun _ _ => (Res.isPanic_map _ _).trans (fcExtrasOf_noPanic c _)

theorem fcOfDoc_obj (c : Codec) (rawNull : Bool) (ms : Members) :
    fcOfDoc c rawNull (.obj ms) = if rawNull then .ok { typ := "" } else
      (decodeFCMap c (normKeys ms)).bind fun fc =>
        if fc.typ ≠ "FeatureCollection" then .err .notType else .ok fc := by
  unfold fcOfDoc; split
  · rfl
  · simp only; cases decodeFCMap c (normKeys ms) <;> rfl

/-! ### the typed helper types, totality: the `g == nil` check stands before `g.Coordinates` (round trip: C02Nil.lean) -/

theorem typedGeomPtr_post (c : Codec) (j : Json) :
    Res.Post (fun p => p = none → c = .json ∧ j = .null) (typedGeomPtr c j) := by
  have hg : Res.Post (fun p => p = none → c = .json ∧ j = .null) ((decodeGeometry c j).map some) :=
    Res.Post.map (Res.Post.of (decodeGeometry_noPanic c j).1 fun _ _ h => nomatch h)
  cases c with
  | bson => cases j <;> exact hg
  | json =>
    cases j with
    | null => exact fun _ => ⟨rfl, rfl⟩
    | _ => exact hg

/-- no proof uses it: it is the fact the comment on `typedOfDoc` (Orb/GeoJSON.lean) cites for the `UnmarshalBSON`
    twins, which have no `g == nil` check and need none -/
theorem typedGeomPtr_nil_iff (c : Codec) (j : Json) :
    typedGeomPtr c j = .ok none ↔ (c = .json ∧ j = .null) :=
  ⟨fun h => (typedGeomPtr_post c j).ok h rfl, by rintro ⟨rfl, rfl⟩; rfl⟩

theorem typedOfDoc_eq (c : Codec) (k : Kind) (j : Json) :
    typedOfDoc c k j = (typedGeomPtr c j).bind fun p =>
      if c = .json ∧ p.isNone then .err .invalid else
        (derefCoords p).bind fun v => if assertKind k v then .ok v else .err .notType := by
  unfold typedOfDoc
  cases typedGeomPtr c j with
  | ok p => simp only [Res.bind_ok]; split <;> first | rfl | (cases derefCoords p <;> rfl)
  | err e => rfl
  | panic s => rfl

theorem bboxAt_lt (l : List UInt64) (i : Nat) (h : i < l.length) : bboxAt l i = .ok l[i] := by
  simp [bboxAt, List.getElem?_eq_getElem h]

end Orb.GeoJSON
