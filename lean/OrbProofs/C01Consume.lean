/-
  Every encoding is `orderByte :: hdr ++ body` (`encGeom_eq`); each byte decoder, given the bytes the encoder wrote
  for its part followed by anything, returns that part; the stream readers are codecs.  Then the encoder's bytes
  through `Scan`'s framings: an encoding starts with a byte-order mark and is long enough.
-/
import OrbProofs.C01Reader
import OrbProofs.C01Framing

namespace Orb.WKB
open Orb Generated.Params

/-- the type code the encoder writes for a value (ring and bound are written as polygons).  Literals, like `TC`: where
    a table is consulted `simp +decide` identifies them with `wkb_pointType` … of `Generated.Params`, and that is where a
    regenerated code would break the proofs. -/
def tcode : G → Nat
  | .point _ => 1
  | .multiPoint _ => 4
  | .lineString _ => 2
  | .multiLineString _ => 5
  | .ring _ => 3
  | .polygon _ => 3
  | .multiPolygon _ => 6
  | .bound _ _ => 3
  | .collection _ => 7

/-- count word and rings: what polygon, ring and bound have after the header -/
def polyBody (o : Order) (rs : List (List (Pt UInt64))) : Bytes :=
  u32 o rs.length ++ rs.flatMap (encRingBody o)

/-- everything the encoder writes after the header, the count word included -/
def body (o : Order) : G → Bytes
  | .point p => encPt o p
  | .multiPoint ps => u32 o ps.length ++ ps.flatMap (encPoint o 0)
  | .lineString ps => encRingBody o ps
  | .multiLineString ls => u32 o ls.length ++ ls.flatMap (encLineString o 0)
  | .ring r => polyBody o [r]
  | .polygon rs => polyBody o rs
  | .multiPolygon ps => u32 o ps.length ++ ps.flatMap (encPolygon o 0)
  | .bound a b => polyBody o [boundRing a b]
  | .collection gs => u32 o gs.length ++ encGeom.encList o gs

theorem tcode_TC (g : G) : TC (tcode g) := by
  cases g <;> simp [tcode, TC]

theorem encPoint_eq (o : Order) (srid : Nat) (p : Pt UInt64) :
    encPoint o srid p = orderByte o :: (hdr o 1 srid ++ encPt o p) := by
  simp only [encPoint, hdr, wkb_pointType]

theorem encLineString_eq (o : Order) (srid : Nat) (ps : List (Pt UInt64)) :
    encLineString o srid ps = orderByte o :: (hdr o 2 srid ++ encRingBody o ps) := by
  simp [encLineString, typePrefix_eq, encRingBody, wkb_lineStringType]

theorem encPolygon_eq (o : Order) (srid : Nat) (rs : List (List (Pt UInt64))) :
    encPolygon o srid rs = orderByte o :: (hdr o 3 srid ++ polyBody o rs) := by
  simp [encPolygon, typePrefix_eq, polyBody, wkb_polygonType]

theorem encGeom_eq (o : Order) (srid : Nat) (g : G) :
    encGeom o srid g = orderByte o :: (hdr o (tcode g) srid ++ body o g) := by
  cases g <;>
    simp [encGeom, encPoint_eq, encLineString_eq, encPolygon_eq, encMultiPoint, encMultiLineString,
      encMultiPolygon, typePrefix_eq, tcode, body, wkb_multiPointType, wkb_multiLineStringType,
      wkb_multiPolygonType, wkb_geometryCollectionType]

theorem flatMap_encPt_length (o : Order) (ps : List (Pt UInt64)) :
    (ps.flatMap (encPt o)).length = 16 * ps.length := by
  simp only [List.length_flatMap, encPt_length, sum_const]

theorem encRingBody_length (o : Order) (ps : List (Pt UInt64)) :
    (encRingBody o ps).length = 4 + 16 * ps.length := by
  simp only [encRingBody, List.length_append, u32_length, flatMap_encPt_length]

theorem encPoint0_length (o : Order) (p : Pt UInt64) : (encPoint o 0 p).length = 21 := by
  simp [encPoint_eq, hdr_zero, u32_length, encPt_length]

theorem encLineString0_length (o : Order) (ps : List (Pt UInt64)) :
    (encLineString o 0 ps).length = 16 * ps.length + 9 := by
  simp [encLineString_eq, hdr_zero, u32_length, encRingBody_length]; omega

theorem encPolygon0_length (o : Order) (rs : List (List (Pt UInt64))) :
    (encPolygon o 0 rs).length = polyStride rs := by
  simp only [encPolygon_eq, hdr_zero, u32_length, polyBody, List.length_flatMap, encRingBody_length, polyStride,
    List.length_cons, List.length_append]; omega

theorem body_length_ge (o : Order) (g : G) : 4 ≤ (body o g).length := by
  cases g <;> simp only [body, polyBody, List.length_append, u32_length, encPt_length, encRingBody_length] <;> omega

theorem rd64_encPt_x (o : Order) (p : Pt UInt64) (rest : Bytes) : rd64 o (encPt o p ++ rest) = p.x := by
  simp only [encPt, List.append_assoc, rd64_u64]

theorem drop8_encPt (o : Order) (p : Pt UInt64) (rest : Bytes) :
    (encPt o p ++ rest).drop 8 = u64 o p.y ++ rest := by
  simp only [encPt, List.append_assoc]
  exact List.drop_left' (u64_length o p.x)

theorem drop16_encPt (o : Order) (p : Pt UInt64) (rest : Bytes) : (encPt o p ++ rest).drop 16 = rest :=
  List.drop_left' (encPt_length o p)

theorem unmarshalPoint_encPt (o : Order) (p : Pt UInt64) (rest : Bytes) :
    unmarshalPoint o (encPt o p ++ rest) = .ok p := by
  unfold unmarshalPoint
  have : ¬ (encPt o p ++ rest).length < 16 := by
    simp only [List.length_append, encPt_length]; omega
  rw [if_neg this, rd64_encPt_x, drop8_encPt, rd64_u64]

theorem readPts_enc (o : Order) (ps : List (Pt UInt64)) (rest : Bytes) :
    readPts o (ps.flatMap (encPt o) ++ rest) ps.length = ps := by
  induction ps with
  | nil => rfl
  | cons p ps ih =>
    simp only [List.flatMap_cons, List.length_cons, readPts, List.append_assoc, rd64_encPt_x, drop8_encPt,
      rd64_u64, drop16_encPt, ih]

theorem unmarshalPoints_enc (o : Order) (ps : List (Pt UInt64)) (rest : Bytes) (h : ps.length < 2 ^ 32) :
    unmarshalPoints o (encRingBody o ps ++ rest) = .ok ps := by
  unfold unmarshalPoints
  have h1 : ¬ (encRingBody o ps ++ rest).length < 4 := by
    simp only [List.length_append, encRingBody_length]; omega
  rw [if_neg h1]
  simp only [encRingBody, List.append_assoc, rd32_u32_of_lt _ _ _ h, drop_u32]
  have h2 : ¬ (ps.flatMap (encPt o) ++ rest).length < ps.length * 16 := by
    simp only [List.length_append, flatMap_encPt_length]; omega
  rw [if_neg h2, readPts_enc]

theorem countedB_enc {β : Type} (scan : Bytes → R (β × Nat)) (stride : β → Nat) (enc : β → Bytes) (o : Order)
    (xs : List β) (rest : Bytes) (hlen : xs.length < 2 ^ 32)
    (hscan : ∀ x ∈ xs, ∀ rest', scan (enc x ++ rest') = .ok (x, 0))
    (hstride : ∀ x ∈ xs, (enc x).length = stride x) :
    countedB scan stride o (u32 o xs.length ++ (xs.flatMap enc ++ rest)) = .ok xs := by
  unfold countedB
  have h1 : ¬ (u32 o xs.length ++ (xs.flatMap enc ++ rest)).length < 4 := by
    simp only [List.length_append, u32_length]; omega
  rw [if_neg h1, rd32_u32_of_lt _ _ _ hlen, drop_u32, memberLoop_eq, rep_enc enc xs rest fun x hx r => by
    simp only [strided, hscan x hx, Res.bind_ok, sliceFrom_append _ _ _ (hstride x hx)]]
  rfl

theorem unmarshalPolygon_enc (o : Order) (rs : List (List (Pt UInt64))) (rest : Bytes)
    (hl : rs.length < 2 ^ 32) (h : ∀ r ∈ rs, r.length < 2 ^ 32) :
    unmarshalPolygon o (polyBody o rs ++ rest) = .ok rs := by
  rw [unmarshalPolygon_eq, polyBody, List.append_assoc]
  exact countedB_enc _ _ (encRingBody o) o rs rest hl
    (fun r hr rest' => by simp only [ringScan, unmarshalPoints_enc o r rest' (h r hr), Res.bind_ok])
    (fun r _ => by rw [encRingBody_length]; omega)

theorem scanSingle_single {β : Type} (tS tM : Nat) (single : Order → Bytes → R β)
    (multi : Order → Bytes → R (List β)) (o : Order) (srid : Nat) (bdy : Bytes) (x : β)
    (ht : TC tS) (hs : srid < 2 ^ 32) (hb : 1 ≤ bdy.length) (h : single o bdy = .ok x) :
    scanSingle tS tM single multi (orderByte o :: (hdr o tS srid ++ bdy)) = .ok (x, srid) := by
  unfold scanSingle
  rw [unmarshalBOT_hdr o tS srid bdy ht hs hb]
  simp only [if_true, h]

theorem scanSingle_multi {β : Type} (tS tM : Nat) (single : Order → Bytes → R β)
    (multi : Order → Bytes → R (List β)) (o : Order) (srid : Nat) (bdy : Bytes) (xs : List β)
    (ht : TC tM) (hne : tM ≠ tS) (hs : srid < 2 ^ 32) (hb : 1 ≤ bdy.length) (h : multi o bdy = .ok xs) :
    scanSingle tS tM single multi (orderByte o :: (hdr o tM srid ++ bdy)) =
      (match xs with
       | [p] => .ok (p, srid)
       | _ => .err .incorrectGeometry) := by
  unfold scanSingle
  rw [unmarshalBOT_hdr o tM srid bdy ht hs hb]
  simp only [if_neg hne, if_true, h]
  rcases xs with _ | ⟨_, _ | _⟩ <;> rfl

theorem scanSingle_other {β : Type} (tS tM : Nat) (single : Order → Bytes → R β)
    (multi : Order → Bytes → R (List β)) (o : Order) (srid t : Nat) (bdy : Bytes)
    (ht : TC t) (hne : t ≠ tS) (hne' : t ≠ tM) (hs : srid < 2 ^ 32) (hb : 1 ≤ bdy.length) :
    scanSingle tS tM single multi (orderByte o :: (hdr o t srid ++ bdy)) = .err .incorrectGeometry := by
  unfold scanSingle
  rw [unmarshalBOT_hdr o t srid bdy ht hs hb]
  simp only [if_neg hne, if_neg hne']

theorem scanMember_single {β : Type} (tS : Nat) (single : Order → Bytes → R β) (o : Order) (srid : Nat)
    (bdy : Bytes) (x : β) (ht : TC tS) (hs : srid < 2 ^ 32) (hb : 1 ≤ bdy.length) (h : single o bdy = .ok x) :
    scanMember tS single (orderByte o :: (hdr o tS srid ++ bdy)) = .ok (x, srid) := by
  unfold scanMember
  rw [unmarshalBOT_hdr o tS srid bdy ht hs hb]
  simp only [ne_eq, not_true_eq_false, if_false, h]

theorem unmarshalMultiF_enc {β : Type} (tS : Nat) (single : Order → Bytes → R β) (stride : β → Nat)
    (enc : β → Bytes) (o : Order) (xs : List β) (rest : Bytes)
    (hlen : xs.length < 2 ^ 32)
    (hscan : ∀ x ∈ xs, ∀ rest', scanMember tS single (enc x ++ rest') = .ok (x, 0))
    (hstride : ∀ x ∈ xs, (enc x).length = stride x) :
    unmarshalMultiF tS single stride o (u32 o xs.length ++ (xs.flatMap enc ++ rest)) = .ok xs :=
  countedB_enc _ stride enc o xs rest hlen hscan hstride

theorem scanMember_encPoint0 (o : Order) (p : Pt UInt64) (rest : Bytes) :
    scanMember 1 unmarshalPoint (encPoint o 0 p ++ rest) = .ok (p, 0) := by
  rw [encPoint_eq, List.cons_append, List.append_assoc]
  exact scanMember_single 1 _ o 0 _ p (by simp [TC]) (by decide)
    (by simp only [List.length_append, encPt_length]; omega) (unmarshalPoint_encPt o p rest)

theorem scanMember_encLineString0 (o : Order) (ps : List (Pt UInt64)) (rest : Bytes) (h : ps.length < 2 ^ 32) :
    scanMember 2 unmarshalPoints (encLineString o 0 ps ++ rest) = .ok (ps, 0) := by
  rw [encLineString_eq, List.cons_append, List.append_assoc]
  exact scanMember_single 2 _ o 0 _ ps (by simp [TC]) (by decide)
    (by simp only [List.length_append, encRingBody_length]; omega) (unmarshalPoints_enc o ps rest h)

theorem scanMember_encPolygon0 (o : Order) (rs : List (List (Pt UInt64))) (rest : Bytes)
    (hl : rs.length < 2 ^ 32) (h : ∀ r ∈ rs, r.length < 2 ^ 32) :
    scanMember 3 unmarshalPolygon (encPolygon o 0 rs ++ rest) = .ok (rs, 0) := by
  rw [encPolygon_eq, List.cons_append, List.append_assoc]
  exact scanMember_single 3 _ o 0 _ rs (by simp [TC]) (by decide)
    (by simp only [polyBody, List.length_append, u32_length]; omega) (unmarshalPolygon_enc o rs rest hl h)

theorem unmarshalMultiPoint_enc (o : Order) (ps : List (Pt UInt64)) (rest : Bytes)
    (h : ps.length < 2 ^ 32) :
    unmarshalMultiPoint o (u32 o ps.length ++ (ps.flatMap (encPoint o 0) ++ rest)) = .ok ps :=
  unmarshalMultiF_enc 1 unmarshalPoint (fun _ => 21) (encPoint o 0) o ps rest h
    (fun p _ rest' => scanMember_encPoint0 o p rest')
    (fun p _ => encPoint0_length o p)

theorem unmarshalMultiLineString_enc (o : Order) (ls : List (List (Pt UInt64))) (rest : Bytes)
    (h : ls.length < 2 ^ 32) (hl : ∀ l ∈ ls, l.length < 2 ^ 32) :
    unmarshalMultiLineString o (u32 o ls.length ++ (ls.flatMap (encLineString o 0) ++ rest)) = .ok ls :=
  unmarshalMultiF_enc 2 unmarshalPoints (fun ls => 16 * ls.length + 9) (encLineString o 0) o ls rest h
    (fun l hm rest' => scanMember_encLineString0 o l rest' (hl l hm))
    (fun l _ => encLineString0_length o l)

theorem unmarshalMultiPolygon_enc (o : Order) (ps : List (List (List (Pt UInt64)))) (rest : Bytes)
    (h : ps.length < 2 ^ 32) (hp : ∀ p ∈ ps, p.length < 2 ^ 32 ∧ ∀ r ∈ p, r.length < 2 ^ 32) :
    unmarshalMultiPolygon o (u32 o ps.length ++ (ps.flatMap (encPolygon o 0) ++ rest)) = .ok ps :=
  unmarshalMultiF_enc 3 unmarshalPolygon polyStride (encPolygon o 0) o ps rest h
    (fun p hm rest' => scanMember_encPolygon0 o p rest' (hp p hm).1 (hp p hm).2)
    (fun p _ => encPolygon0_length o p)

theorem codec_point (o : Order) : Codec (readPoint o) (encPt o) (fun _ => True) (fun _ => 16) where
  post := fun s => (readPoint_post o s).mono fun _ h => ⟨by omega, trivial⟩
  enc := fun p rest _ => readPoint_encPt o p rest

theorem codec_lineString (o : Order) :
    Codec (readLineString o) (encRingBody o) (fun ps => ps.length < 2 ^ 32) (fun ps => 16 * ps.length + 4) := by
  have h := (codec_point o).counted o
  refine ⟨fun s => ?_, fun ps rest hw => ?_⟩
  · rw [readLineString_eq]
    exact (h.post s).mono fun q hq => ⟨by have := hq.1; simp only [sum_const] at this; omega, hq.2.1⟩
  · rw [readLineString_eq]; exact h.enc ps rest ⟨hw, fun _ _ => trivial⟩

theorem codec_polygon (o : Order) :
    Codec (readPolygon o) (polyBody o) (fun rs => rs.length < 2 ^ 32 ∧ ∀ r ∈ rs, r.length < 2 ^ 32)
      (fun rs => 16 * (rs.map List.length).sum + 4 * rs.length + 4) := by
  have h := (codec_lineString o).counted o
  refine ⟨fun s => ?_, fun rs rest hw => ?_⟩
  · rw [readPolygon_eq]
    exact (h.post s).mono fun q hq =>
      ⟨by have := hq.1; simp only [sum_map_add, sum_map_mul, sum_const] at this; omega, hq.2⟩
  · rw [readPolygon_eq]; exact h.enc rs rest hw

theorem encGeom_shape (o : Order) (srid : Nat) (g : G) :
    ∃ b1 tl, encGeom o srid g = orderByte o :: b1 :: tl ∧ 6 ≤ tl.length := by
  rw [encGeom_eq]
  have h1 := hdr_length_ge o (tcode g) srid
  have h2 := body_length_ge o g
  rcases hl : hdr o (tcode g) srid ++ body o g with _ | ⟨b1, tl⟩
  · have := congrArg List.length hl
    simp only [List.length_append, List.length_nil] at this; omega
  · refine ⟨b1, tl, rfl, ?_⟩
    have := congrArg List.length hl
    simp only [List.length_append, List.length_cons] at this; omega

theorem orderByte_ne92 (o : Order) : orderByte o ≠ 92 := by cases o <;> decide
theorem orderByte_ne48 (o : Order) : orderByte o ≠ 48 := by cases o <;> decide

theorem scan_enc (bnd : BoundFn) (d : Dest) (o : Order) (srid : Nat) (g : G) :
    scan bnd d (encGeom o srid g) = scanDest bnd d (encGeom o srid g) := by
  obtain ⟨b1, tl, he, hl⟩ := encGeom_shape o srid g
  rw [he]
  exact scan_raw bnd d _ b1 tl (orderByte_ne92 o) (orderByte_ne48 o) (by omega)

theorem scan_hex_enc (bnd : BoundFn) (d : Dest) (upper : Bool) (o : Order) (srid : Nat) (g : G) :
    scan bnd d (hexEncode upper (encGeom o srid g)) = scanDest bnd d (encGeom o srid g) := by
  obtain ⟨b1, tl, he, hl⟩ := encGeom_shape o srid g
  have hdec := hexDecode_hexEncode upper (encGeom o srid g)
  rw [he] at hdec ⊢
  simp only [hexEncode] at hdec ⊢
  have h1 : hexDigit ((orderByte o).toNat / 16) upper = 48 := by cases o <;> cases upper <;> decide
  have h2 : hexDigit ((orderByte o).toNat % 16) upper = 48 ∨ hexDigit ((orderByte o).toNat % 16) upper = 49 := by
    cases o <;> cases upper <;> decide
  rw [h1] at hdec ⊢
  exact scan_hex bnd d _ _ _ h2 hdec (by simp only [List.length_cons, hexEncode_length]; omega)

theorem scan_bslash_enc (bnd : BoundFn) (d : Dest) (o : Order) (srid : Nat) (g : G) :
    scan bnd d (92 :: 120 :: hexEncode false (encGeom o srid g)) = scanDest bnd d (encGeom o srid g) := by
  obtain ⟨b1, tl, he, hl⟩ := encGeom_shape o srid g
  have hdec := hexDecode_hexEncode false (encGeom o srid g)
  have hlen : 3 ≤ (hexEncode false (encGeom o srid g)).length := by
    rw [hexEncode_length, he]; simp only [List.length_cons]; omega
  rw [he] at hdec hlen ⊢
  exact scan_bslash bnd d _ _ _ _ hdec (orderByte_ne48 o) hlen

theorem unmarshalBOT_enc (o : Order) (srid : Nat) (g : G) (hs : srid < 2^32) :
    unmarshalBOT (encGeom o srid g) = .ok (o, tcode g, srid, body o g) := by
  rw [encGeom_eq]
  exact unmarshalBOT_hdr o _ srid _ (tcode_TC g) hs (by have := body_length_ge o g; omega)

theorem scanPoint_def : scanPoint = scanSingle 1 4 unmarshalPoint unmarshalMultiPoint := rfl
theorem scanLineString_def : scanLineString = scanSingle 2 5 unmarshalPoints unmarshalMultiLineString := rfl
theorem scanPolygon_def : scanPolygon = scanSingle 3 6 unmarshalPolygon unmarshalMultiPolygon := rfl

end Orb.WKB
