/-
  C01 — WKB/EWKB encode–decode is lossless; every decode path agrees.
  PROPERTY THEOREMS about the model `Orb.WKB` (encoding/internal/wkbcommon + wkb/ewkb wrappers).

  Coordinates are arbitrary 64-bit patterns (NaN payloads, ±0, ±Inf, subnormals: no special case).
  `WF32 g` : every slice length fits the 32-bit count field.  SRID 0 = absent.
  `collDepth g ≤ wkb_MaxCollectionDepth` : geometry collections are nested no deeper than the decoders
  accept (`wkbcommon.MaxCollectionDepth`, regenerated into `Generated.Params`; 10000).  The round trip is
  NOT "to any depth": beyond the limit both decoders answer `ErrNestingTooDeep` (`encode_too_deep`), which
  is what keeps hostile input from overflowing the goroutine stack (C05).
-/
import OrbProofs.C01Decoded
import OrbProofs.C01Order

namespace Orb.WKB

/-- A nil interface and every typed nil slice encode to no bytes. -/
theorem encode_nil (o : Order) (srid : Nat) (k : Kind) :
    encode o srid .nilIface = [] ∧ encode o srid (.nilSlice k) = [] := ⟨rfl, rfl⟩

/-- One-shot byte decoder: decoding an encoding returns the canonical value and the SRID written. -/
theorem unmarshal_encode (o : Order) (srid : Nat) (g : G) (hw : WF32 g) (hs : srid < 2^32)
    (hd : collDepth g ≤ Generated.Params.wkb_MaxCollectionDepth) :
    unmarshal (encGeom o srid g) = .ok (canon g, srid) := by
  rw [unmarshal_enc_eq o srid g hw hs, if_pos hd]

/-- Streaming decoder: it consumes exactly the encoding and leaves the rest of the stream; a decoder
    that is itself `MaxCollectionDepth - left` collections deep accepts `left` more levels. -/
theorem decodeStream_encode (o : Order) (srid : Nat) (g : G) (hw : WF32 g) (hs : srid < 2^32) (rest : Bytes)
    (left : Nat) (hd : collDepth g ≤ left) :
    decodeStream left (encGeom o srid g ++ rest) = .ok (canon g, srid, rest) := by
  rw [decodeStream_enc_eq o srid g hw hs rest left, if_pos hd]

/-- The streaming decoder over exactly the bytes of an encoding (`Decode()` on a fresh reader). -/
theorem decode_encode (o : Order) (srid : Nat) (g : G) (hw : WF32 g) (hs : srid < 2^32)
    (hd : collDepth g ≤ Generated.Params.wkb_MaxCollectionDepth) :
    decode (encGeom o srid g) = .ok (canon g, srid) := by
  rw [decode_enc_eq o srid g hw hs, if_pos hd]

/-- The depth hypothesis is exactly what is needed: the encoding of a value whose collections are
    nested deeper than `MaxCollectionDepth` is REJECTED by both decoders, with `ErrNestingTooDeep`
    (the encoder itself has no limit). -/
theorem encode_too_deep (o : Order) (srid : Nat) (g : G) (hw : WF32 g) (hs : srid < 2^32)
    (hd : Generated.Params.wkb_MaxCollectionDepth < collDepth g) :
    decode (encGeom o srid g) = .err .nestingTooDeep ∧ unmarshal (encGeom o srid g) = .err .nestingTooDeep := by
  rw [decode_enc_eq o srid g hw hs, unmarshal_enc_eq o srid g hw hs, if_neg (by omega)]
  exact ⟨rfl, rfl⟩

/-- The same for a decoder with `left` levels to go, whatever follows in the stream. -/
theorem decodeStream_too_deep (o : Order) (srid : Nat) (g : G) (hw : WF32 g) (hs : srid < 2^32) (rest : Bytes)
    (left : Nat) (hd : left < collDepth g) :
    decodeStream left (encGeom o srid g ++ rest) = .err .nestingTooDeep := by
  rw [decodeStream_enc_eq o srid g hw hs rest left, if_neg (by omega)]

/-- Scanning into each of the ten destinations yields the value under the documented coercions
    (`coerce` is the table, written out as data) and a wrong-geometry error for every other kind. -/
theorem scan_table (bnd : BoundFn) (d : Dest) (o : Order) (srid : Nat) (g : G) (hw : WF32 g) (hs : srid < 2^32)
    (hd : collDepth g ≤ Generated.Params.wkb_MaxCollectionDepth) :
    scan bnd d (encGeom o srid g) =
      (match coerce bnd d (canon g) with
       | some v => .ok (v, srid)
       | none => .err .incorrectGeometry) := by
  have hdec := decode_encode o srid g hw hs hd
  rw [scan_enc]
  refine scanDest_coerce bnd d (unmarshalBOT_enc o srid g hs) (enc_unmarshalAs o srid g hw fun _ _ => hdec) hdec ?_
  intro h
  cases g with
  | collection gs => exact ⟨_, rfl⟩
  | _ => simp only [tcode] at h; exact absurd h (by decide)

/-- The byte decoder, the stream decoder and the untyped scanner agree on every encoder output
    (at ANY nesting depth: beyond the limit they agree on the error). -/
theorem paths_agree (bnd : BoundFn) (o : Order) (srid : Nat) (g : G) (hw : WF32 g) (hs : srid < 2^32) :
    unmarshal (encGeom o srid g) = decode (encGeom o srid g) ∧
    scan bnd .any (encGeom o srid g) = unmarshal (encGeom o srid g) := by
  refine ⟨?_, ?_⟩
  · rw [unmarshal_enc_eq o srid g hw hs, decode_enc_eq o srid g hw hs]
  · rw [scan_enc]; rfl

/-- Hex text framing (either letter case) scans like the raw bytes. -/
theorem framing_hex (bnd : BoundFn) (d : Dest) (upper : Bool) (o : Order) (srid : Nat) (g : G) :
    scan bnd d (hexEncode upper (encGeom o srid g)) = scan bnd d (encGeom o srid g) := by
  rw [scan_hex_enc, scan_enc]

/-- `\x`-prefixed hex framing scans like the raw bytes. -/
theorem framing_bslash_x (bnd : BoundFn) (d : Dest) (o : Order) (srid : Nat) (g : G) :
    scan bnd d (92 :: 120 :: hexEncode false (encGeom o srid g)) = scan bnd d (encGeom o srid g) := by
  rw [scan_bslash_enc, scan_enc]

/-- `ewkb.ScannerPrefixSRID`: the 4-byte little-endian prefix is stripped; the SRID reported is the
    embedded one when non-zero, else the prefix. -/
theorem framing_prefix_ewkb (bnd : BoundFn) (d : Dest) (o : Order) (srid p : Nat) (g : G) (hw : WF32 g)
    (hs : srid < 2^32) (hp : p < 2^32) (hd : collDepth g ≤ Generated.Params.wkb_MaxCollectionDepth) :
    ewkbScan bnd true d (u32 .little p ++ encGeom o srid g) =
      (match coerce bnd d (canon g) with
       | some v => .ok (v, if srid ≠ 0 then srid else p)
       | none => .err .incorrectGeometry) := by
  obtain ⟨_, _, he, _⟩ := encGeom_shape o srid g
  have hlen : ¬ (u32 .little p ++ encGeom o srid g).length < 5 := by
    simp only [List.length_append, u32_length, he, List.length_cons]; omega
  simp only [ewkbScan, if_true, if_neg hlen, drop_u32, scan_table bnd d o srid g hw hs hd,
    rd32_u32_of_lt _ _ _ hp]
  cases coerce bnd d (canon g) <;> rfl

/-- The deprecated `wkb.Scanner` retry (strip a 4-byte prefix when the header is not WKB) works
    whenever the first prefix byte cannot be mistaken for a byte-order mark or a hex framing:
    PARTIAL — the full statement (every prefix) is false of the code, see the witness below. -/
theorem framing_prefix_wkb_partial (bnd : BoundFn) (d : Dest) (o : Order) (p : Nat) (g : G) (hw : WF32 g)
    (hp : p < 2^32) (h0 : p % 256 ≠ 0) (h1 : p % 256 ≠ 1) (h2 : p % 256 ≠ 48) (h3 : p % 256 ≠ 92)
    (hd : collDepth g ≤ Generated.Params.wkb_MaxCollectionDepth) :
    wkbScan bnd d (u32 .little p ++ encGeom o 0 g) =
      (match coerce bnd d (canon g) with
       | some v => .ok v
       | none => .err .incorrectGeometry) := by
  obtain ⟨b1, b2, b3, hu⟩ := u32_little_shape p hp
  obtain ⟨_, _, he, _⟩ := encGeom_shape o 0 g
  simp only [hu, List.cons_append, List.nil_append]
  rw [wkbScan_prefix bnd d _ b1 b2 b3 _ (ofNat_mod_ne p 0 (by decide) h0) (ofNat_mod_ne p 1 (by decide) h1)
    (ofNat_mod_ne p 48 (by decide) h2) (ofNat_mod_ne p 92 (by decide) h3)
    (by rw [he]; simp only [List.length_cons]; omega),
    scan_table bnd d o 0 g hw (by decide) hd]
  cases coerce bnd d (canon g) <;> rfl

/-- Witness that the full statement fails: SRID 256 (prefix bytes 00 01 00 00) in front of a point
    is accepted as a big-endian header and a wrong point is returned with no error. -/
theorem wkbScan_prefix_witness (bnd : BoundFn) :
    ∃ v, wkbScan bnd .any (u32 .little 256 ++ encGeom .little 0 (.point ⟨0x3ff0000000000000, 0x4000000000000000⟩)) = .ok v ∧
      v ≠ .point ⟨0x3ff0000000000000, 0x4000000000000000⟩ := by
  refine ⟨.point ⟨0x0100000000000000, 0x0000f03f00000000⟩, by rfl, ?_⟩
  intro h
  injection h with h
  injection h with h _
  exact absurd h (by decide)

/-- Whatever the stream decoder returns is nested no deeper than the limit (so it re-encodes to something
    the decoders accept). -/
theorem decode_depth_ok (bs : Bytes) (g : G) (srid : Nat) (h : decode bs = .ok (g, srid)) :
    collDepth g ≤ Generated.Params.wkb_MaxCollectionDepth := ((decode_post bs).ok h).2.1

/-- The same for the byte decoder: only a collection, decoded by the stream decoder, is nested at all. -/
theorem unmarshal_depth_ok (bs : Bytes) (g : G) (srid : Nat) (h : unmarshal bs = .ok (g, srid)) :
    collDepth g ≤ Generated.Params.wkb_MaxCollectionDepth := ((unmarshal_post bs).ok h).2.1

/-- A decoded value re-encodes and decodes to itself: it is canonical, fits the 32-bit counts and is nested no
    deeper than the limit. -/
theorem reencode_stable (bs : Bytes) (g : G) (srid : Nat) (h : unmarshal bs = .ok (g, srid)) (o : Order) :
    unmarshal (encGeom o srid g) = .ok (g, srid) := by
  obtain ⟨⟨hc, hw⟩, hs⟩ := ((unmarshal_post bs).ok h).1
  have := unmarshal_encode o srid g hw hs (unmarshal_depth_ok bs g srid h)
  rwa [hc] at this

/-- One `ewkb.GeometryScanner` value reused for many rows: what the caller observes after a `Scan`
    (error, `Valid`, `Geometry`, and the SRID of a valid row) never depends on the rows scanned before. -/
theorem ewkb_scanner_history_free (bnd : BoundFn) (p : Bool) (d : Dest) (σ σ' : ScanState) (x : ScanIn) :
    (ewkbScanStep bnd p d σ x).map ScanState.observe = (ewkbScanStep bnd p d σ' x).map ScanState.observe := by
  cases x with
  | null => cases p <;> simp [ewkbScanStep, Res.map, ScanState.observe]
  | nilBytes => cases p <;> simp [ewkbScanStep, Res.map, ScanState.observe]
  | bytes b =>
    simp only [ewkbScanStep]
    cases h : ewkbScan bnd p d b with
    | ok r => obtain ⟨g, s⟩ := r; simp [Res.map, ScanState.observe]
    | err e => simp [Res.map, ScanState.observe]
    | panic m => simp [Res.map]

/-- A row written by the encoder reads, on a reused `ewkb.GeometryScanner`, exactly as the coercion table says. -/
theorem ewkb_scanner_reused_row (bnd : BoundFn) (d : Dest) (σ : ScanState) (o : Order) (srid : Nat) (g : G)
    (hw : WF32 g) (hs : srid < 2^32) (hd : collDepth g ≤ Generated.Params.wkb_MaxCollectionDepth) :
    (ewkbScanStep bnd false d σ (.bytes (encGeom o srid g))).map ScanState.observe =
      (match coerce bnd d (canon g) with
       | some v => .ok (none, true, some v, srid)
       | none => .ok (some .incorrectGeometry, false, none, 0)) := by
  simp only [ewkbScanStep, ewkbScan, Bool.false_eq_true, if_false]
  rw [scan_table bnd d o srid g hw hs hd]
  cases coerce bnd d (canon g) <;> simp [Res.map, ScanState.observe]

/-- The deprecated `wkb.GeometryScanner` is history free as well. -/
theorem wkb_scanner_history_free (bnd : BoundFn) (d : Dest) (σ σ' : ScanState) (x : ScanIn) :
    (wkbScanStep bnd d σ x).map ScanState.observe = (wkbScanStep bnd d σ' x).map ScanState.observe := by
  cases x <;> simp only [wkbScanStep]

/-! ### the byte-order VALUE given to the encoder (`Orb.WKBOrder`)

  `encodeBO isLittleEndianValue payload` is `Marshal(g, srid, order)` for a `binary.ByteOrder` value that is
  (or is not) `binary.LittleEndian` and writes integers in order `payload`; the mark in front of every
  geometry is `codeMark …`, decided by the code by probing the value (`isLittleEndian`): `codeMark` ignores
  `isLittleEndianValue` and returns `payload`, so the Boolean has no effect in the theorems below. -/

/-- Mark and payload in the same order: the encoder all the theorems above are about. -/
theorem encGeomM_same (o : Order) (srid : Nat) (g : G) : encGeomM o o srid g = encGeom o srid g :=
  match g with
  | .collection gs => by simp only [encGeomM, encGeom, encListM_same o gs]
  | .point _ => by simp only [encGeomM, encGeom, encPointM_same]
  | .multiPoint _ => by simp only [encGeomM, encGeom, encMultiPointM_same]
  | .lineString _ => by simp only [encGeomM, encGeom, encLineStringM_same]
  | .multiLineString _ => by simp only [encGeomM, encGeom, encMultiLineStringM_same]
  | .ring _ => by simp only [encGeomM, encGeom, encPolygonM_same]
  | .polygon _ => by simp only [encGeomM, encGeom, encPolygonM_same]
  | .multiPolygon _ => by simp only [encGeomM, encGeom, encMultiPolygonM_same]
  | .bound _ _ => by simp only [encGeomM, encGeom, encPolygonM_same]
where
  encListM_same (o : Order) : ∀ (gs : List G), encGeomM.encListM o o gs = encGeom.encList o gs
    | [] => by simp only [encGeomM.encListM, encGeom.encList]
    | g :: gs => by simp only [encGeomM.encListM, encGeom.encList, encGeomM_same o 0 g, encListM_same o gs]

/-- EVERY byte-order value round-trips (`binary.LittleEndian`, `binary.BigEndian`, `binary.NativeEndian`, user
    types): since fix C01-3 the mark is decided by probing the value, so it is the order of the payload. -/
theorem byte_order_roundtrip (isLittleEndianValue : Bool) (o : Order) (srid : Nat) (g : G) (hw : WF32 g)
    (hs : srid < 2^32) (hd : collDepth g ≤ Generated.Params.wkb_MaxCollectionDepth) :
    unmarshal (encodeBO isLittleEndianValue o srid (.val g)) = .ok (canon g, srid) ∧
    decode (encodeBO isLittleEndianValue o srid (.val g)) = .ok (canon g, srid) := by
  simp only [encodeBO, codeMark, encGeomM_same]
  exact ⟨unmarshal_encode o srid g hw hs hd, decode_encode o srid g hw hs hd⟩

/-- Non-vacuity: concrete collections meet `WF32` and the depth hypothesis, and the first 13 bytes of an
    encoding are what Go writes (`01 07000020 E6100000 01000000 | 01 …` for SRID 4326). -/
example : WF32 (.collection [.point ⟨1, 2⟩, .ring []]) ∧
    collDepth (.collection [.point ⟨1, 2⟩, .collection [.ring []]]) = 2 ∧
    collDepth (.collection [.point ⟨1, 2⟩, .collection [.ring []]]) ≤ Generated.Params.wkb_MaxCollectionDepth ∧
    (encGeom .little 4326 (.collection [.point ⟨1, 2⟩])).take 13 = [1, 7, 0, 0, 32, 0xE6, 0x10, 0, 0, 1, 0, 0, 0] := by
  refine ⟨?_, by decide, by decide, by decide⟩
  simp [WF32]

/-- Non-vacuity of `decodeStream_too_deep` and `decodeStream_encode` (at one and two levels left, where they can
    be computed): a collection in a collection is rejected by a decoder that has one level left. -/
example : decodeStream 1 (encGeom .little 0 (.collection [.collection []])) = .err .nestingTooDeep ∧
    decodeStream 2 (encGeom .little 0 (.collection [.collection []])) = .ok (.collection [.collection []], 0, []) :=
  ⟨rfl, rfl⟩

end Orb.WKB
