/-
  C08 / C20, the memory clauses of package clip — "This operation will modify the input by using as a scratch
  space": theorems about the heap-level model `Orb.HeapOps.geometryH` of clip.Geometry (clip/helpers.go,
  clip/clip.go), in which a geometry is a tree of Go slice headers (array identity, offset, length, CAPACITY)
  into a store of backing arrays; what the source does is described in the header of lean/Orb/HeapOps.lean.
  Frame (only capacity windows of rings of 2-d members are written), read-only 0-d / 1-d input, where the result
  lives, the link to the value-level model (`clip_ring_denote`, `clip_denote` under separation of the windows),
  and the sharp edges as computed facts (each is also a correspondence case against the real code).
  Core Lean only.
-/
import OrbProofs.C08HeapLemmas
import OrbProofs.C08HeapDenote


namespace Orb.HeapOps
open Orb Orb.Heap Orb.Core

variable {α : Type} [Add α] [Sub α] [Mul α] [Div α] [LT α] [LE α] [DecidableLT α] [DecidableLE α] [BEq α]
  [Min α] [Max α]

/-- Frame: arrays are only added, none changes its size, and a cell of the old heap that lies in
    no capacity window of a ring of a 2-d member is unchanged. -/
theorem clip_writes_only_ring_windows (eb box : Bound α) (σ σ' : Store α) (g : SGeom α)
    (r : Option (SGeom α)) (hr : geometryH eb box σ g = some (σ', r)) :
    σ.length ≤ σ'.length ∧
    (∀ a, a < σ.length → (read σ' a).length = (read σ a).length) ∧
    (∀ a i, a < σ.length → (∀ h ∈ ringHdrs g, h.inWin a i = false) → cell σ' a i = cell σ a i) :=
  let e := (geometryH_run eb box g σ σ' r hr).good.1
  ⟨e.len, e.size, e.frame⟩

/-- Frame, array by array: an array no ring of a 2-d member points into is unchanged. -/
theorem clip_frame (eb box : Bound α) (σ σ' : Store α) (g : SGeom α) (r : Option (SGeom α))
    (hr : geometryH eb box σ g = some (σ', r)) (a : Nat) (ha : a < σ.length)
    (h : ∀ x ∈ ringHdrs g, x.arr ≠ a) : read σ' a = read σ a :=
  read_ext _ _ _ fun i => (geometryH_run eb box g σ σ' r hr).good.1.frame a i ha fun x hx =>
    Bool.eq_false_iff.2 fun hw => h x hx ((inWin_iff x a i).1 hw).1

/-- 0-d and 1-d input is read-only: without ring / polygon / multi-polygon members the old heap
    is a prefix of the new one, array for array. -/
theorem clip_readonly_1d (eb box : Bound α) (σ σ' : Store α) (g : SGeom α) (r : Option (SGeom α))
    (hr : geometryH eb box σ g = some (σ', r)) (h1d : ringHdrs g = []) :
    ∀ a, a < σ.length → read σ' a = read σ a := fun a ha =>
  clip_frame eb box σ σ' g r hr a ha (by rw [h1d]; intro x hx; cases hx)

/-- Every slice of the result is a whole fresh array, or `s[:n]` (n ≤ cap s) for a ring `s` of a 2-d
    member of the argument. -/
theorem clip_result_fresh_or_subslice (eb box : Bound α) (σ σ' : Store α) (g : SGeom α)
    (r : Option (SGeom α)) (hr : geometryH eb box σ g = some (σ', r)) (x : Hdr) (hx : x ∈ resHdrs r) :
    (σ.length ≤ x.arr ∧ x.arr < σ'.length ∧ x.off = 0 ∧ x.cap = x.len ∧ (read σ' x.arr).length = x.len) ∨
    (∃ h ∈ ringHdrs g, x.arr = h.arr ∧ x.off = h.off ∧ x.cap = h.cap ∧ x.len ≤ h.cap) :=
  (geometryH_run eb box g σ σ' r hr).good.2 x hx

/-- … so the result of clipping 0-d / 1-d input shares no memory with the argument. -/
theorem clip_result_fresh_1d (eb box : Bound α) (σ σ' : Store α) (g : SGeom α)
    (r : Option (SGeom α)) (hr : geometryH eb box σ g = some (σ', r)) (h1d : ringHdrs g = [])
    (x : Hdr) (hx : x ∈ resHdrs r) : σ.length ≤ x.arr ∧ x.arr < σ'.length := by
  rcases clip_result_fresh_or_subslice eb box σ σ' g r hr x hx with h | ⟨h, hh, _⟩
  · exact ⟨h.1, h.2.1⟩
  · rw [h1d] at hh; cases hh

/-- Link to the value level, one ring: the returned header reads, in the new store, `Clip.ring` of
    what the argument read in the old store (nil ↔ the empty list). -/
theorem clip_ring_denote (box : Bound α) (σ σ' : Store α) (h : Hdr) (r : Option Hdr) (hw : h.WF σ)
    (hr : ringH box σ h = some (σ', r)) :
    Clip.ring box (readH σ h) = some ((r.map (readH σ')).getD []) :=
  (dropSpec_eq_some ((ringH_run box σ σ' h r hr).den
    (fun x hx => by rw [List.mem_singleton.1 hx]; exact hw) (by simp))).1

/-- The heap model is stuck (`panic("no edge??")`) exactly when the value-level model is. -/
theorem clip_ring_stuck_iff (box : Bound α) (σ : Store α) (h : Hdr) :
    ringH box σ h = none ↔ Clip.ring box (readH σ h) = none := by
  unfold ringH
  rw [(ringTrace_spec box _).1]
  cases ringTrace box (readH σ h) <;> simp

/-- Link to the value level, whole geometries: legal, pairwise separated slices ⇒ the in-place
    call returns what the value-level model returns. -/
theorem clip_denote (eb box : Bound α) (σ σ' : Store α) (g : SGeom α) (r : Option (SGeom α))
    (hr : geometryH eb box σ g = some (σ', r)) (hwf : ∀ h ∈ hdrs g, h.WF σ) (hsep : Sep g) :
    Clip.geometry eb box (denoteS σ g) = some (r.map (denoteS σ')) :=
  (geometryH_run eb box g σ σ' r hr).den hwf hsep

/-! ### the sharp edges, computed (box [-3,3]², a diamond |x|+|y| ≤ 4 whose clip is an octagon) -/

namespace Example
def eb : Bound Int := ⟨⟨1, 1⟩, ⟨-1, -1⟩⟩
def box : Bound Int := ⟨⟨-3, -3⟩, ⟨3, 3⟩⟩
def dia : List (Pt Int) := [⟨4, 0⟩, ⟨0, 4⟩, ⟨-4, 0⟩, ⟨0, -4⟩, ⟨4, 0⟩]
def oct : List (Pt Int) := [⟨3, 1⟩, ⟨1, 3⟩, ⟨-1, 3⟩, ⟨-3, 1⟩, ⟨-3, -1⟩, ⟨-1, -3⟩, ⟨1, -3⟩, ⟨3, -1⟩, ⟨3, 1⟩]
def pad (n : Nat) : List (Pt Int) := List.replicate n ⟨99, 99⟩
end Example
open Example

/-- `clip.Ring`: a 5-vertex ring with capacity 9 comes back IN PLACE with 9 vertices: 4 cells beyond
    its length are overwritten. -/
theorem clip_writes_beyond_len :
    ringH box [dia ++ pad 5] ⟨0, 0, 5, 9⟩ = some ([oct ++ pad 1], some ⟨0, 0, 9, 9⟩) := by decide

/-- With capacity 7 the 9-vertex result does not fit: it comes back in a fresh array, and the
    argument's array keeps the first 7 vertices of an intermediate pass. -/
theorem clip_overflow_leaves_garbage :
    ringH box [dia ++ pad 5] ⟨0, 0, 5, 7⟩ = some ([oct.take 7 ++ pad 3, oct], some ⟨1, 0, 9, 9⟩) := by
  decide

/-- nil after the argument has been overwritten: a triangle whose bounding box meets the clip box
    (so clip.Geometry's pre-test lets it through) but which vanishes in the third pass. -/
theorem clip_nil_clobbers :
    ringH box [[⟨13, 0⟩, ⟨3, -10⟩, ⟨-7, -10⟩, ⟨13, 0⟩] ++ pad 2] ⟨0, 0, 4, 5⟩ =
      some ([[⟨3, -10⟩, ⟨3, -10⟩, ⟨-3, -10⟩, ⟨-3, -8⟩, ⟨3, -5⟩, ⟨99, 99⟩]], none) := by decide

/-- `clip.Polygon` on two rings cut from one buffer as `buf[0:5]` (capacity 10, running over the
    second) and `buf[5:10]`: clipping the outer ring overwrites the hole before the hole is clipped;
    the "hole" that comes back is clipped from the overwritten cells.  The value-level result is two
    octagons. -/
theorem clip_overlap_hazard :
    polygonH box [dia ++ dia] [⟨0, 0, 5, 10⟩, ⟨0, 5, 5, 5⟩] =
      some ([oct ++ [⟨3, 1⟩]], some [⟨0, 0, 9, 10⟩, ⟨0, 5, 5, 5⟩]) ∧
    Clip.polygon box [dia, dia] = some [oct, oct] := by decide

/-- non-vacuity of `clip_ring_denote`: a legal slice on which `ringH` and `Clip.ring` compute -/
example : (⟨0, 0, 5, 9⟩ : Hdr).WF ([dia ++ pad 5] : Store Int) ∧
    Clip.ring box (readH [dia ++ pad 5] ⟨0, 0, 5, 9⟩) = some oct := by
  refine ⟨⟨by decide, by decide⟩, by decide⟩

end Orb.HeapOps
