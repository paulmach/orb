/-
  C03: layers — `unmarshalVT ∘ marshalVT`, determinism lifted to one layer, and the feature
  counts behind the collection-flattening defect.
-/
import OrbProofs.C03Poly
import OrbProofs.C03Props
import OrbProofs.ResForall

namespace Orb.MVT
open Orb

/-- Two features that differ only in the iteration order of their property maps. -/
def Feature.permEq (f f' : Feature) : Prop :=
  f.id = f'.id ∧ f.geom = f'.geom ∧ f.props.Perm f'.props

/-- `List.Forall₂ Feature.permEq`, written out; proofs follow the recursion by `fun_induction`. -/
def featuresPermEq : List Feature → List Feature → Prop
  | [], [] => True
  | f :: fs, f' :: fs' => f.permEq f' ∧ featuresPermEq fs fs'
  | _, _ => False

def Layer.permEq (l l' : Layer) : Prop :=
  l.name = l'.name ∧ l.version = l'.version ∧ l.extent = l'.extent ∧
  featuresPermEq l.features l'.features

/-- Layer lists that differ only in the iteration order of the property maps. -/
def layersPermEq : List Layer → List Layer → Prop
  | [], [] => True
  | l :: ls, l' :: ls' => l.permEq l' ∧ layersPermEq ls ls'
  | _, _ => False

/-- The round trip over `mvtWF` alone.  Nothing proves or refutes it; what is proved is `layer_roundtrip_partial` /
    `layer_roundtrip_exact`, under `exactDomain` / `exactDomainZ`. -/
def layer_roundtrip_full : Prop :=
  ∀ ls, mvtWF ls = true → ∃ t, marshalVT ls = .ok t ∧ unmarshalVT t = .ok (expectLayers ls)

/-! The round-trip lemmas are stated for the decoder run with any orientation function `ori` that agrees
  with the exact one on the rings of the input (`oriAgree`), and for layers without a +0 / −0 clash
  (`noZeroClash (layerVals l)`); `vs` is the list of all values of the layer. -/

theorem decodeFeature_of_parts (ori : List (Pt Int) → Int) (keys : List String) (vals : List DVal) (a : Nat) (id : Option Nat)
    (tags : List W) (gt : Int) (ws : List W) (props : List (String × DVal)) (g : Geom Int)
    (ht : decodeTags keys vals tags [] = .ok props)
    (hg : (decodeGeometryIter ori gt ws a).1 = .ok g) :
    ∃ a', decodeFeature ori keys vals a ⟨id, tags, gt, ws⟩ = (.ok ⟨id, g, props⟩, a') := by
  have hemp : ws.isEmpty = false := by
    cases ws with
    | nil => exact absurd rfl (decodeGeometryIter_ok_ne_nil hg)
    | cons _ _ => rfl
  rcases hd : decodeGeometryIter ori gt ws a with ⟨r, s⟩
  rw [hd] at hg
  simp only at hg
  subst hg
  refine ⟨s.alloc, ?_⟩
  simp [decodeFeature, ht, hemp, hd]

theorem decodeFeatures_append (ori : List (Pt Int) → Int) (keys : List String) (vals : List DVal) (xs ys : List VTFeature) :
    ∀ (a a1 a2 : Nat) (r1 r2 : List DFeature),
      decodeFeatures ori keys vals a xs = (.ok r1, a1) →
      decodeFeatures ori keys vals a1 ys = (.ok r2, a2) →
      decodeFeatures ori keys vals a (xs ++ ys) = (.ok (r1 ++ r2), a2) := by
  induction xs with
  | nil =>
    intro a a1 a2 r1 r2 h1 h2
    cases h1
    exact h2
  | cons x xs ih =>
    intro a a1 a2 r1 r2 h1 h2
    simp only [decodeFeatures, List.cons_append] at h1 ⊢
    split at h1
    · next x' ax hx =>
      split at h1
      · next xs' _ hxs =>
        cases h1
        simp only [ih ax a1 a2 xs' r2 hxs h2, List.cons_append]
      all_goals cases h1
    all_goals cases h1

/-- All features of `xs` decode, from every value of the counter, to `r`. -/
def DecOK (ori : List (Pt Int) → Int) (e : KVE) (xs : List VTFeature) (r : List DFeature) : Prop :=
  ∀ a, ∃ a', decodeFeatures ori e.keys e.dvals a xs = (.ok r, a')

theorem DecOK.append {ori : List (Pt Int) → Int} {e : KVE} {xs ys : List VTFeature} {r1 r2 : List DFeature}
    (h1 : DecOK ori e xs r1) (h2 : DecOK ori e ys r2) : DecOK ori e (xs ++ ys) (r1 ++ r2) := by
  intro a
  obtain ⟨a1, h1⟩ := h1 a
  obtain ⟨a2, h2⟩ := h2 a1
  exact ⟨a2, decodeFeatures_append _ _ _ _ _ _ _ _ _ _ h1 h2⟩

theorem DecOK.nil (ori : List (Pt Int) → Int) (e : KVE) : DecOK ori e [] [] := fun a => ⟨a, rfl⟩

theorem addSingle_roundtrip (ori : List (Pt Int) → Int) (vs : List PVal) (fs : List VTFeature) (e : KVE) (g : Geom Int)
    (props : List (String × PVal))
    (id : IdVal) (hg : geomWF g = true) (hd : geomNoDupClose g = true)
    (hori : ∀ r ∈ ringsOf g, ori r = oriInt r)
    (hn : nodupKeys props = true) (hv : ∀ p ∈ props, pvalWF p.2 = true)
    (hsub : ∀ p ∈ props, p.2 ∈ vs) (hnc : noZeroClash vs = true)
    (hi : KVE.InvZ vs e) (hk : e.keys.length + props.length ≤ 2^32)
    (hl : e.vals.length + props.length ≤ 2^32) :
    ∃ vf e', addSingle fs e g props id = .ok (fs ++ [vf], e') ∧ KVE.InvZ vs e' ∧ KVE.le e e' ∧
      e'.keys.length ≤ e.keys.length + props.length ∧ e'.vals.length ≤ e.vals.length + props.length ∧
      ∀ e'', KVE.le e' e'' →
        DecOK ori e'' [vf] [⟨convertID id, normG g, expectProps props⟩] := by
  have henc := encodeGeometry_wf hg
  obtain ⟨tags, e', hp, hi', hle, hk', hl', hdec⟩ :=
    encodeProperties_decode vs e props hn hv (fun p hp => Admits.of_mem hnc (hsub p hp)) hi hk hl
  refine ⟨⟨convertID id, tags, (gwords g).1, (gwords g).2⟩, e', ?_, hi', hle, hk', hl', ?_⟩
  · simp [addSingle, henc, hp]
  · intro e'' hle'' a
    obtain ⟨a', ha'⟩ := decodeFeature_of_parts ori e''.keys e''.dvals a (convertID id) tags _ _ _ _
      (hdec e'' hle'') (geometry_roundtrip_iter_ori ori g hg hd hori a)
    exact ⟨a', by simp [decodeFeatures, ha']⟩

/-- The typed nil `Collection` is written with itself and `encodeGeometry` then fails: hence the premise
    in the `some` case. -/
theorem expectFeature_of_firstGeom (f : Feature) (hs : singleColl f.geom = true) :
    match firstGeom f with
    | none => expectFeature f = []
    | some g => (∀ gs, g ≠ .collection gs) →
        expectFeature f = [⟨convertID f.id, normG g, expectProps f.props⟩] := by
  obtain ⟨id, geom, props⟩ := f
  cases geom with
  | nilIface => rfl
  | nilSlice k => cases k <;> first | rfl | exact fun _ => rfl | exact fun h => absurd rfl (h _)
  | val g =>
    cases g <;> first | exact fun _ => rfl | skip
    rename_i gs
    simp only [singleColl, beq_iff_eq] at hs
    match gs, hs with
    | [g], _ => exact fun _ => rfl

theorem firstGeom_wf (f : Feature) (hw : gvalWF f.geom = true) (hs : singleColl f.geom = true)
    (hd : gvalNoDupClose f.geom = true) {g : Geom Int} (hg : firstGeom f = some g) :
    geomWF g = true ∧ geomNoDupClose g = true ∧ ringsOf g = gvalRings f.geom := by
  obtain ⟨id, geom, props⟩ := f
  cases geom with
  | nilIface => cases hg
  | nilSlice k => cases hw
  | val g' =>
    cases g' <;> first | (cases hg; exact ⟨hw, hd, rfl⟩) | skip
    rename_i gs
    simp only [singleColl, beq_iff_eq] at hs
    match gs, hs with
    | [g1], _ =>
      cases hg
      simp only [gvalWF, gvalNoDupClose, List.all_cons, List.all_nil, Bool.and_true] at hw hd
      exact ⟨hw, hd, by simp [gvalRings]⟩

theorem addFeature_roundtrip (ori : List (Pt Int) → Int) (vs : List PVal) (fs : List VTFeature) (e : KVE) (f : Feature)
    (hwf : featureWF f = true) (hs : singleColl f.geom = true) (hd : gvalNoDupClose f.geom = true)
    (hori : ∀ r ∈ gvalRings f.geom, ori r = oriInt r)
    (hsub : ∀ p ∈ f.props, p.2 ∈ vs) (hnc : noZeroClash vs = true)
    (hi : KVE.InvZ vs e) (hk : e.keys.length + f.props.length ≤ 2^32)
    (hl : e.vals.length + f.props.length ≤ 2^32) :
    ∃ new e', addFeature fs e f = .ok (fs ++ new, e') ∧ KVE.InvZ vs e' ∧ KVE.le e e' ∧
      e'.keys.length ≤ e.keys.length + f.props.length ∧
      e'.vals.length ≤ e.vals.length + f.props.length ∧
      ∀ e'', KVE.le e' e'' → DecOK ori e'' new (expectFeature f) := by
  simp only [featureWF, Bool.and_eq_true, List.all_eq_true] at hwf
  obtain ⟨⟨⟨hgw, _⟩, hn⟩, hv⟩ := hwf
  have hexp := expectFeature_of_firstGeom f hs
  rw [addFeature_eq]
  cases hg : firstGeom f with
  | none =>
    rw [hg] at hexp
    exact ⟨[], e, by simp, hi, KVE.le_refl e, by simp, by simp, fun e'' _ => hexp ▸ DecOK.nil ori e''⟩
  | some g =>
    rw [hg] at hexp
    obtain ⟨hgwf, hnd, hr⟩ := firstGeom_wf f hgw hs hd hg
    obtain ⟨vf, e', h, hi', hle, hk', hl', hdec⟩ := addSingle_roundtrip ori vs fs e g f.props f.id hgwf hnd
      (hr ▸ hori) hn hv hsub hnc hi hk hl
    exact ⟨[vf], e', h, hi', hle, hk', hl',
      hexp (by rintro gs rfl; simp [geomWF] at hgwf) ▸ hdec⟩

theorem addFeatures_roundtrip (ori : List (Pt Int) → Int) (vs : List PVal) (hnc : noZeroClash vs = true) (feats : List Feature) :
    ∀ (fs : List VTFeature) (e : KVE),
      (∀ f ∈ feats, featureWF f = true ∧ singleColl f.geom = true ∧ gvalNoDupClose f.geom = true ∧
        (∀ r ∈ gvalRings f.geom, ori r = oriInt r) ∧ ∀ p ∈ f.props, p.2 ∈ vs) → KVE.InvZ vs e →
      e.keys.length + (feats.map fun f => f.props.length).sum ≤ 2^32 →
      e.vals.length + (feats.map fun f => f.props.length).sum ≤ 2^32 →
      ∃ new e', addFeatures fs e feats = .ok (fs ++ new, e') ∧ KVE.InvZ vs e' ∧ KVE.le e e' ∧
        ∀ e'', KVE.le e' e'' → DecOK ori e'' new (feats.flatMap expectFeature) := by
  induction feats with
  | nil =>
    intro fs e _ hi _ _
    exact ⟨[], e, by simp [addFeatures], hi, KVE.le_refl e, fun e'' _ => DecOK.nil ori e''⟩
  | cons f rest ih =>
    intro fs e hf hi hk hl
    simp only [List.map_cons, List.sum_cons] at hk hl
    obtain ⟨hwf, hs, hd, ho, hsub⟩ := hf f (List.mem_cons_self)
    obtain ⟨new1, e1, h1, hi1, hle1, hk1, hl1, hdec1⟩ :=
      addFeature_roundtrip ori vs fs e f hwf hs hd ho hsub hnc hi (by omega) (by omega)
    obtain ⟨new2, e2, h2, hi2, hle2, hdec2⟩ :=
      ih (fs ++ new1) e1 (fun f' hf' => hf f' (List.mem_cons_of_mem _ hf')) hi1 (by omega) (by omega)
    refine ⟨new1 ++ new2, e2, ?_, hi2, KVE.le_trans hle1 hle2, ?_⟩
    · simp [addFeatures, h1, h2]
    · intro e'' hle''
      rw [List.flatMap_cons]
      exact (hdec1 e'' (KVE.le_trans hle2 hle'')).append (hdec2 e'' hle'')

theorem mem_layerVals {l : Layer} {f : Feature} (hf : f ∈ l.features) {p : String × PVal}
    (hp : p ∈ f.props) : p.2 ∈ layerVals l := by
  simp only [layerVals, List.mem_flatMap, List.mem_map]
  exact ⟨f, hf, p, hp, rfl⟩

theorem marshalLayer_roundtrip (ori : List (Pt Int) → Int) (l : Layer) (hwf : layerWF l = true)
    (hx : layerExactZ l = true)
    (ho : ∀ f ∈ l.features, ∀ r ∈ gvalRings f.geom, ori r = oriInt r) :
    ∃ v, marshalLayer l = .ok v ∧
      ∀ a, ∃ a', decodeLayer ori a v = (.ok (expectLayer l), a') := by
  simp only [layerWF, Bool.and_eq_true, List.all_eq_true, decide_eq_true_eq] at hwf
  simp only [layerExactZ, Bool.and_eq_true, List.all_eq_true] at hx
  obtain ⟨⟨⟨_, _⟩, hf⟩, hsum⟩ := hwf
  obtain ⟨hshape, hnc⟩ := hx
  obtain ⟨new, e', h, _, _, hdec⟩ := addFeatures_roundtrip ori (layerVals l) hnc l.features [] KVE.empty
    (fun f hfm => ⟨hf f hfm, (hshape f hfm).1, (hshape f hfm).2, ho f hfm, fun p hp => mem_layerVals hfm hp⟩) (KVE.invZ_empty _)
    (by simp only [KVE.empty, List.length_nil]; omega)
    (by simp only [KVE.empty, List.length_nil]; omega)
  refine ⟨_, by simp only [marshalLayer, h]; rfl, ?_⟩
  intro a
  obtain ⟨a', ha'⟩ := hdec e' (KVE.le_refl e') (a + new.length)
  refine ⟨a', ?_⟩
  have hv : List.map decodeTVal (List.map (fun x => x.2) e'.vals) = e'.dvals := by
    simp [KVE.dvals, List.map_map, Function.comp_def]
  simp only [decodeLayer, List.nil_append, hv, ha']
  rfl

theorem marshalVT_roundtrip (ori : List (Pt Int) → Int) (ls : List Layer) (h : mvtWF ls = true)
    (hx : exactDomainZ ls = true) (ho : oriAgree ori ls) :
    ∃ t, marshalVT ls = .ok t ∧
      ∀ a, ∃ a', decodeLayers ori a t = (.ok (expectLayers ls), a') := by
  induction ls with
  | nil => exact ⟨[], rfl, fun a => ⟨a, rfl⟩⟩
  | cons l ls ih =>
    simp only [mvtWF, exactDomainZ, List.all_cons, Bool.and_eq_true] at h hx
    obtain ⟨v, hv, hdv⟩ := marshalLayer_roundtrip ori l h.1 hx.1 (fun f hf => ho l (by simp) f hf)
    obtain ⟨vs, hvs, hdvs⟩ := ih h.2 hx.2 (fun m hm => ho m (List.mem_cons_of_mem _ hm))
    refine ⟨v :: vs, by simp [marshalVT, hv, hvs], ?_⟩
    intro a
    obtain ⟨a1, h1⟩ := hdv a
    obtain ⟨a2, h2⟩ := hdvs a1
    exact ⟨a2, by simp [decodeLayers, h1, h2, expectLayers]⟩

theorem oriAgree_oriInt (ls : List Layer) : oriAgree oriInt ls := fun _ _ _ _ _ _ => rfl

theorem addFeature_permEq (fs : List VTFeature) (e : KVE) (f f' : Feature) (h : f.permEq f')
    (hn : nodupKeys f.props = true) : addFeature fs e f = addFeature fs e f' := by
  obtain ⟨id, geom, props⟩ := f
  obtain ⟨id', geom', props'⟩ := f'
  obtain ⟨h1, h2, h3⟩ := h
  simp only at h1 h2 h3 hn
  subst h1 h2
  have hp := fun e => encodeProperties_perm e props props' h3 hn
  have hs : ∀ g, addSingle fs e g props id = addSingle fs e g props' id := by
    intro g
    simp only [addSingle, hp]
  simp only [addFeature, hs]

theorem addFeatures_permEq (feats feats' : List Feature) (fs : List VTFeature) (e : KVE)
    (h : featuresPermEq feats feats') (hn : ∀ f ∈ feats, nodupKeys f.props = true) :
    addFeatures fs e feats = addFeatures fs e feats' := by
  fun_induction featuresPermEq feats feats' generalizing fs e with
  | case1 => rfl
  | case2 f rest f' rest' ih =>
    simp only [addFeatures, addFeature_permEq fs e f f' h.1 (hn f List.mem_cons_self)]
    cases addFeature fs e f' with
    | ok r => exact ih r.1 r.2 h.2 (fun g hg => hn g (List.mem_cons_of_mem _ hg))
    | err _ => rfl
    | panic _ => rfl
  | case3 => exact h.elim

theorem marshalLayer_permEq (l l' : Layer) (h : l.permEq l')
    (hn : ∀ f ∈ l.features, nodupKeys f.props = true) : marshalLayer l = marshalLayer l' := by
  obtain ⟨h1, h2, h3, h4⟩ := h
  simp only [marshalLayer, addFeatures_permEq l.features l'.features [] KVE.empty h4 hn, h1, h2, h3]

theorem Emit.length {e e' : KVE} {feats : List Feature} {out : List VTFeature} (h : Emit e feats out e')
    (hs : ∀ f ∈ feats, singleColl f.geom = true) :
    out.length = (feats.flatMap expectFeature).length := by
  induction h with
  | nil => rfl
  | @skip _ _ f _ _ hg _ ih =>
    have := expectFeature_of_firstGeom f (hs f List.mem_cons_self)
    rw [hg] at this
    rw [List.flatMap_cons, this, List.nil_append, ih fun g hg => hs g (List.mem_cons_of_mem _ hg)]
  | @one _ _ _ f _ _ g _ _ _ hg hgeo _ _ ih =>
    have := expectFeature_of_firstGeom f (hs f List.mem_cons_self)
    rw [hg] at this
    rw [List.flatMap_cons, this (by rintro gs rfl; simp [encodeGeometry] at hgeo), List.length_cons,
      ih fun g hg => hs g (List.mem_cons_of_mem _ hg)]
    simp only [List.length_append, List.length_cons, List.length_nil]; omega

theorem marshalLayer_len (l : Layer) (v : VTLayer) (hs : ∀ f ∈ l.features, singleColl f.geom = true)
    (h : marshalLayer l = .ok v) : v.features.length = (l.features.flatMap expectFeature).length := by
  obtain ⟨fs, e, hem, rfl⟩ := marshalLayer_of_ok h
  exact hem.length hs

/-- `Marshal` runs `marshalLayer` over the layers by the shared member loop of `ResLemmas` (`C20M.resMapM`). -/
theorem marshalVT_eq (ls : List Layer) : marshalVT ls = C20M.resMapM marshalLayer ls := by
  induction ls with
  | nil => rfl
  | cons l ls ih =>
    rw [marshalVT, C20M.resMapM, ih]
    cases marshalLayer l <;> first | rfl | (cases C20M.resMapM marshalLayer ls <;> rfl)

theorem marshalVT_forall₂ {ls : List Layer} {t : VTTile} (h : marshalVT ls = .ok t) :
    List.Forall₂ (fun l v => marshalLayer l = .ok v) ls t :=
  (C20M.resMapM_ok_iff marshalLayer ls t).1 (marshalVT_eq ls ▸ h)

/-- "Every member of a collection becomes its own feature", as a count. -/
def collection_members_full : Prop :=
  ∀ ls t, mvtWF ls = true → marshalVT ls = .ok t →
    t.map (fun l => l.features.length) = ls.map fun l => (l.features.flatMap expectFeature).length

end Orb.MVT
