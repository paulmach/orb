/-
  Byte-slice decoder, function by function.  The main statement of each is its `…_post`: it does not panic, and a
  success means the slice held the bytes of what is returned — so the stride its caller re-derives from the value
  stays inside the slice — and the counts of the value are in range.  The member loops are `rep` of a `strided` scan,
  the three multis and the polygon one `countedB`.  `scanMember` and `scanSingle` also get their `bind` form (`_eq`),
  and `scanSingle` what a success ran (`_inv`), from which the facts about its result follow.
-/
import OrbProofs.C01Reader

namespace Orb.WKB
open Orb Generated.Params

theorem byteOrderType_post (buf : Bytes) : Res.Post (fun _ => 6 ≤ buf.length) (byteOrderType buf) := by
  unfold byteOrderType
  split
  · exact trivial
  · have h6 : 6 ≤ buf.length := by omega
    split
    · split
      · exact h6
      · split
        · exact h6
        · exact trivial
    · exact trivial

theorem unmarshalBOT_eq (buf : Bytes) :
    unmarshalBOT buf = (byteOrderType buf).bind fun p =>
      if p.2 &&& wkb_ewkbType = 0 then .ok (p.1, p.2 &&& wkb_hdrMaskBytes, 0, buf.drop 5)
      else if buf.length < 10 then .err .notWKB
      else .ok (p.1, p.2 &&& wkb_hdrMaskBytes, rd32 p.1 (buf.drop 5), buf.drop 9) := by
  unfold unmarshalBOT; cases byteOrderType buf <;> rfl

theorem unmarshalBOT_post (buf : Bytes) :
    Res.Post (fun t => t.2.2.2.length + 5 ≤ buf.length ∧ t.2.2.1 < 2 ^ 32) (unmarshalBOT buf) := by
  rw [unmarshalBOT_eq]
  refine ((byteOrderType_post buf).mono fun p h6 => ?_).bind
  split
  · exact ⟨by show (buf.drop 5).length + 5 ≤ buf.length; simp only [List.length_drop]; omega, Nat.two_pow_pos 32⟩
  · split
    · exact trivial
    · exact ⟨by show (buf.drop 9).length + 5 ≤ buf.length; simp only [List.length_drop]; omega, rd32_lt _ _⟩

theorem unmarshalBOT_len {buf gd : Bytes} {o : Order} {t srid : Nat}
    (h : unmarshalBOT buf = .ok (o, t, srid, gd)) : gd.length + 5 ≤ buf.length :=
  ((unmarshalBOT_post buf).ok h).1

theorem unmarshalPoint_post (o : Order) (buf : Bytes) :
    Res.Post (fun _ => 16 ≤ buf.length) (unmarshalPoint o buf) := by
  unfold unmarshalPoint
  split
  · exact trivial
  · show 16 ≤ buf.length; omega

theorem readPts_length (o : Order) (n : Nat) : ∀ data, (readPts o data n).length = n := by
  induction n with
  | zero => intro; rfl
  | succ n ih => intro data; simp only [readPts, List.length_cons, ih]

theorem unmarshalPoints_post (o : Order) (data : Bytes) :
    Res.Post (fun ps => 4 + 16 * ps.length ≤ data.length ∧ ps.length < 2 ^ 32) (unmarshalPoints o data) := by
  unfold unmarshalPoints
  split
  · exact trivial
  · simp only []
    split
    · exact trivial
    · rename_i h4 hn
      simp only [List.length_drop] at hn
      show 4 + 16 * (readPts o _ _).length ≤ data.length ∧ (readPts o _ _).length < 2 ^ 32
      rw [readPts_length]
      exact ⟨by omega, rd32_lt _ _⟩

theorem memberLoop_post {β : Type} (scan : Bytes → R (β × Nat)) (stride : β → Nat) (P : β → Prop)
    (hscan : ∀ d, Res.Post (fun p => stride p.1 ≤ d.length ∧ P p.1) (scan d)) (n : Nat) (d : Bytes) :
    Res.Post (fun xs => (xs.map stride).sum ≤ d.length ∧ xs.length = n ∧ ∀ x ∈ xs, P x)
      (memberLoop scan stride n d) := by
  rw [memberLoop_eq]
  exact ((rep_len stride P (strided_post scan stride P hscan) n d).mono
    fun q h => ⟨by show _ ≤ _; omega, h.2⟩).bind

theorem scanMember_eq {β : Type} (tS : Nat) (single : Order → Bytes → R β) (d : Bytes) :
    scanMember tS single d = (unmarshalBOT d).bind fun t =>
      if t.2.1 ≠ tS then .err .incorrectGeometry else (single t.1 t.2.2.2).bind fun p => .ok (p, t.2.2.1) := by
  unfold scanMember
  cases unmarshalBOT d with
  | ok t => simp only [Res.bind_ok]; split; rfl; cases single t.1 t.2.2.2 <;> rfl
  | err e => rfl
  | panic m => rfl

/-- `hs`: what a plain decoder returns, header included (5 bytes), accounts for the stride re-derived from it -/
theorem scanMember_post {β : Type} {tS : Nat} {single : Order → Bytes → R β} {stride : β → Nat} {WF : β → Prop}
    (hs : ∀ o d, Res.Post (fun x => stride x ≤ d.length + 5 ∧ WF x) (single o d)) (d : Bytes) :
    Res.Post (fun p => stride p.1 ≤ d.length ∧ WF p.1) (scanMember tS single d) := by
  rw [scanMember_eq]
  refine ((unmarshalBOT_post d).mono fun t hl => ?_).bind
  split
  · exact trivial
  · exact ((hs _ _).mono fun x h => ⟨by show stride x ≤ d.length; omega, h.2⟩).bind

theorem countedB_post {β : Type} {scan : Bytes → R (β × Nat)} {stride : β → Nat} {WF : β → Prop}
    (hscan : ∀ d, Res.Post (fun p => stride p.1 ≤ d.length ∧ WF p.1) (scan d)) (o : Order) (d : Bytes) :
    Res.Post (fun xs => 4 + (xs.map stride).sum ≤ d.length ∧ xs.length < 2 ^ 32 ∧ ∀ x ∈ xs, WF x)
      (countedB scan stride o d) := by
  unfold countedB
  split
  · exact trivial
  · exact (memberLoop_post _ stride WF hscan _ _).mono fun xs h =>
      ⟨by have := h.1; simp only [List.length_drop] at this; omega, by rw [h.2.1]; exact rd32_lt _ _, h.2.2⟩

/-- of a success alone, whatever the member decoder is: the strides that were skipped lay inside the slice -/
theorem unmarshalMultiF_len {β : Type} (tS : Nat) (single : Order → Bytes → R β) (stride : β → Nat)
    (o : Order) (data : Bytes) (xs : List β)
    (h : unmarshalMultiF tS single stride o data = .ok xs) :
    4 + (xs.map stride).sum ≤ data.length := by
  simp only [unmarshalMultiF] at h
  split at h
  · contradiction
  · rw [memberLoop_eq] at h
    obtain ⟨q, hq, h⟩ := Res.bind_eq_ok h
    cases h
    have := rep_ind (fun _ d xs r => (xs.map stride).sum + r.length = d.length) (fun _ => by simp)
      (fun hx ih => by have := (strided_inv hx).2; simp only [List.map_cons, List.sum_cons]; omega) _ hq
    simp only [List.length_drop] at this
    omega

theorem polyStride_eq (p : List (List (Pt UInt64))) :
    polyStride p = 16 * (p.map List.length).sum + 4 * p.length + 9 := by
  simp only [polyStride, sum_map_add, sum_map_mul, sum_const]; omega

theorem ringScan_post (o : Order) (d : Bytes) :
    Res.Post (fun p => 16 * p.1.length + 4 ≤ d.length ∧ p.1.length < 2 ^ 32) (ringScan o d) :=
  ((unmarshalPoints_post o d).mono fun ps h => ⟨by show 16 * ps.length + 4 ≤ d.length; omega, h.2⟩).bind

theorem unmarshalPolygon_post (o : Order) (d : Bytes) :
    Res.Post (fun rs => polyStride rs ≤ d.length + 5 ∧ rs.length < 2 ^ 32 ∧ ∀ r ∈ rs, r.length < 2 ^ 32)
      (unmarshalPolygon o d) := by
  rw [unmarshalPolygon_eq]
  refine (countedB_post (WF := fun r : List (Pt UInt64) => r.length < 2 ^ 32) (ringScan_post o) o d).mono fun rs h => ?_
  have := h.1
  simp only [sum_map_add, sum_map_mul, sum_const] at this
  exact ⟨by rw [polyStride_eq]; omega, h.2⟩

/-- (the last conjunct is `countedB_post`'s clause about the members, which says nothing of points) -/
theorem unmarshalMultiPoint_post (o : Order) (d : Bytes) :
    Res.Post (fun ps => 4 + (ps.map fun _ => 21).sum ≤ d.length ∧ ps.length < 2 ^ 32 ∧ ∀ p ∈ ps, True)
      (unmarshalMultiPoint o d) :=
  countedB_post (scanMember_post fun o d => (unmarshalPoint_post o d).mono fun _ h =>
    ⟨by show 21 ≤ d.length + 5; omega, trivial⟩) o d

theorem unmarshalMultiLineString_post (o : Order) (d : Bytes) :
    Res.Post (fun ls => 4 + (ls.map fun l => 16 * l.length + 9).sum ≤ d.length ∧ ls.length < 2 ^ 32 ∧
      ∀ l ∈ ls, l.length < 2 ^ 32) (unmarshalMultiLineString o d) :=
  countedB_post (scanMember_post fun o d => (unmarshalPoints_post o d).mono fun ps h =>
    ⟨by show 16 * ps.length + 9 ≤ d.length + 5; omega, h.2⟩) o d

theorem unmarshalMultiPolygon_post (o : Order) (d : Bytes) :
    Res.Post (fun ps => 4 + (ps.map polyStride).sum ≤ d.length ∧ ps.length < 2 ^ 32 ∧
      ∀ p ∈ ps, p.length < 2 ^ 32 ∧ ∀ r ∈ p, r.length < 2 ^ 32) (unmarshalMultiPolygon o d) :=
  countedB_post (scanMember_post (WF := fun p : List (List (Pt UInt64)) => p.length < 2 ^ 32 ∧ ∀ r ∈ p, r.length < 2 ^ 32)
    unmarshalPolygon_post) o d

theorem unmarshalMultiPoint_np (o : Order) (d : Bytes) : (unmarshalMultiPoint o d).isPanic = false :=
  (unmarshalMultiPoint_post o d).np

theorem unmarshalMultiLineString_np (o : Order) (d : Bytes) : (unmarshalMultiLineString o d).isPanic = false :=
  (unmarshalMultiLineString_post o d).np

theorem unmarshalMultiPolygon_np (o : Order) (d : Bytes) : (unmarshalMultiPolygon o d).isPanic = false :=
  (unmarshalMultiPolygon_post o d).np

theorem scanSingle_eq {β : Type} (tS tM : Nat) (single : Order → Bytes → R β) (multi : Order → Bytes → R (List β))
    (d : Bytes) :
    scanSingle tS tM single multi d = (unmarshalBOT d).bind fun t =>
      if t.2.1 = tS then (single t.1 t.2.2.2).bind fun p => .ok (p, t.2.2.1)
      else if t.2.1 = tM then (multi t.1 t.2.2.2).bind fun ps =>
        match ps with
        | [p] => .ok (p, t.2.2.1)
        | _ => .err .incorrectGeometry
      else .err .incorrectGeometry := by
  unfold scanSingle
  cases unmarshalBOT d with
  | ok t =>
    simp only [Res.bind_ok]
    split
    · cases single t.1 t.2.2.2 <;> rfl
    · split
      · cases multi t.1 t.2.2.2 with
        | ok ps => rcases ps with _ | ⟨_, _ | _⟩ <;> rfl
        | err e => rfl
        | panic m => rfl
      · rfl
  | err e => rfl
  | panic m => rfl

theorem scanSingle_inv {β : Type} {tS tM : Nat} {single : Order → Bytes → R β} {multi : Order → Bytes → R (List β)}
    {d : Bytes} {x : β} {s : Nat} (h : scanSingle tS tM single multi d = .ok (x, s)) :
    ∃ o typ gd, unmarshalBOT d = .ok (o, typ, s, gd) ∧ (single o gd = .ok x ∨ multi o gd = .ok [x]) := by
  rw [scanSingle_eq] at h
  obtain ⟨⟨o, typ, srid, gd⟩, hb, h⟩ := Res.bind_eq_ok h
  refine ⟨o, typ, gd, ?_⟩
  split at h
  · obtain ⟨p, hp, h⟩ := Res.bind_eq_ok h
    cases h; exact ⟨hb, .inl hp⟩
  · split at h
    · obtain ⟨ps, hp, h⟩ := Res.bind_eq_ok h
      split at h
      · cases h; exact ⟨hb, .inr hp⟩
      · cases h
    · cases h

theorem scanSingle_stride {β : Type} (tS tM : Nat) (single : Order → Bytes → R β)
    (multi : Order → Bytes → R (List β)) (stride : β → Nat)
    (hsingle : ∀ o d x, single o d = .ok x → stride x ≤ d.length + 5)
    (hmulti : ∀ o d x, multi o d = .ok [x] → stride x ≤ d.length)
    {data : Bytes} {x : β} {s : Nat} (h : scanSingle tS tM single multi data = .ok (x, s)) :
    stride x ≤ data.length := by
  obtain ⟨o, typ, gd, hb, h | h⟩ := scanSingle_inv h
  · have := hsingle _ _ _ h; have := unmarshalBOT_len hb; omega
  · have := hmulti _ _ _ h; have := unmarshalBOT_len hb; omega

theorem scanSingle_np {β : Type} (tS tM : Nat) (single : Order → Bytes → R β)
    (multi : Order → Bytes → R (List β)) (data : Bytes)
    (hsingle : ∀ o d, (single o d).isPanic = false)
    (hmulti : ∀ o d, (multi o d).isPanic = false) :
    (scanSingle tS tM single multi data).isPanic = false := by
  rw [scanSingle_eq]
  refine (((unmarshalBOT_post data).mono fun t _ => ?_).bind (P := fun _ => True)).np
  split
  · exact (Res.Post.of (hsingle _ _) fun _ _ => trivial).bind
  · split
    · exact (Res.Post.of (hmulti _ _) fun ps _ => by split <;> trivial).bind
    · exact trivial

theorem scanPoint_np (d : Bytes) : (scanPoint d).isPanic = false :=
  scanSingle_np _ _ _ _ d (fun o d => (unmarshalPoint_post o d).np) unmarshalMultiPoint_np

theorem scanLineString_np (d : Bytes) : (scanLineString d).isPanic = false :=
  scanSingle_np _ _ _ _ d (fun o d => (unmarshalPoints_post o d).np) unmarshalMultiLineString_np

theorem scanPolygon_np (d : Bytes) : (scanPolygon d).isPanic = false :=
  scanSingle_np _ _ _ _ d (fun o d => (unmarshalPolygon_post o d).np) unmarshalMultiPolygon_np

end Orb.WKB
