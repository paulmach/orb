/-
  C18 — translation ties for geo/bound.go and geo/distance.go (straight-line functions, by `rfl`), for
  geo/area.go (`SignedArea`, `polygonArea`, `multiPolygonArea`, the Ring / Polygon / MultiPolygon / Bound
  cases of `Area`) and for internal/length/length.go as package geo uses it (`lineStringLength`,
  `polygonLength` and the cases of `Length`, for EVERY distance function; the list of translated functions
  of `Generated/LengthGo.lean` is recorded in OrbProofs/C10Tie.lean).
  `Generated/GeoGo.lean` and `Generated/LengthGo.lean` are REGENERATED from /repo on every run by
  harness/cmd/factgen/translate_float.go.  The spherical-excess loop of `ringArea` (a counted loop with
  rewired indices) is outside the translated loop forms: it stays an opaque function parameter `ringArea`,
  instantiated below by the model's `Geo.ringArea F`; `math.Abs` is the model's `F.abs`.
-/
import Orb.Geo
import Generated.GeoGo
import Generated.LengthGo
import Orb.LoopForms
import OrbProofs.FoldPairs

namespace Orb.C18Tie
open Orb Orb.Core Orb.Geo

set_option linter.unusedSectionVars false
-- the translated lambda of `alongLoop_tie` binds `from_`, `to_` and re-binds them at once
set_option linter.unusedVariables false

variable {α : Type} [Add α] [Sub α] [Mul α] [Div α] [Neg α] [LT α] [LE α] [DecidableLT α] [DecidableLE α]
  [BEq α] [Min α] [Max α] [OfNat α 0] [OfNat α 1] [OfNat α 2] [OfNat α 6] [OfNat α 90] [OfNat α 180] [NatCast α]

/-! ### geo/bound.go (deg2rad, rad2deg), geo/distance.go

The straight-line functions are translated with libm's functions, `math.Abs` / `Min` / `Max`, `math.Pi` and
`orb.EarthRadius` as explicit parameters — the fields of the model's record `Fn`.  `2*math.Pi` and
`2.0*orb.EarthRadius`, which Go folds at compile time, are the products `2 * pi`, `2 * R` as in the model
(doubling is exact in binary floating point). -/

open Orb.LoopForms

theorem deg2rad_tie (F : Fn α) (d : α) : Generated.GeoGo.deg2rad F.pi d = deg2rad F d := rfl
theorem rad2deg_tie (F : Fn α) (r : α) : Generated.GeoGo.rad2deg F.pi r = rad2deg F r := rfl

theorem distance_tie (F : Fn α) (p1 p2 : Pt α) :
    Generated.GeoGo.distance F.sqrt F.abs F.cos F.R F.pi p1 p2 = distance F p1 p2 := rfl

theorem distanceHaversine_tie (F : Fn α) (p1 p2 : Pt α) :
    Generated.GeoGo.distanceHaversine F.sqrt F.cos F.atan2 F.min F.R F.sin F.pi p1 p2 = distanceHaversine F p1 p2 := rfl

theorem bearing_tie (F : Fn α) (a b : Pt α) :
    Generated.GeoGo.bearing F.cos F.atan2 F.sin F.pi a b = bearing F a b := rfl

theorem midpoint_tie (F : Fn α) (p p2 : Pt α) :
    Generated.GeoGo.midpoint F.sqrt F.cos F.atan2 F.sin F.pi p p2 = midpoint F p p2 := rfl

theorem pointAtBearingAndDistance_tie (F : Fn α) (p : Pt α) (brg dist : α) :
    Generated.GeoGo.pointAtBearingAndDistance F.cos F.asin F.atan2 F.max F.min F.R F.sin F.pi p brg dist
      = pointAtBearingAndDistance F p brg dist := rfl

/-- the loop `for i := 1; i < len(ls); i++` of `PointAtDistanceAlongLine`, which returns from inside -/
theorem alongLoop_tie (F : Fn α) (dist : α) (prev : Pt α) (rest : List (Pt α)) (travelled : α) (a b : Pt α) :
    (match foldPairsRet (ρ := Res Unit (Pt α × α)) (fun ((from_, to_, travelled) : Pt α × Pt α × α) (p_ q_ : Pt α) =>
        let (from_, to_) := ((p_, q_) : Pt α × Pt α)
        let actualSegmentDistance : α :=
          Generated.GeoGo.distanceHaversine F.sqrt F.cos F.atan2 F.min F.R F.sin F.pi from_ to_
        let expectedSegmentDistance : α := dist - travelled
        if expectedSegmentDistance < actualSegmentDistance then
          let bearing : α := Generated.GeoGo.bearing F.cos F.atan2 F.sin F.pi from_ to_
          Sum.inl (.ok (Generated.GeoGo.pointAtBearingAndDistance F.cos F.asin F.atan2 F.max F.min F.R F.sin F.pi
            from_ bearing expectedSegmentDistance, bearing))
        else
          let travelled : α := travelled + actualSegmentDistance
          Sum.inr (from_, to_, travelled)) (prev :: rest) (a, b, travelled) with
      | .inl r => r
      | .inr (from_, to_, _) => .ok (to_, Generated.GeoGo.bearing F.cos F.atan2 F.sin F.pi from_ to_))
      = .ok (alongLoop F dist prev rest travelled (a, b)) := by
  induction rest generalizing prev travelled a b with
  | nil => rfl
  | cons p t ih =>
    simp only [foldPairsRet, alongLoop, distanceHaversine_tie]
    by_cases h : dist - travelled < distanceHaversine F prev p <;> simp only [h, ↓reduceIte]
    · rfl
    · exact ih p _ prev p

/-- `PointAtDistanceAlongLine`, the panic on the empty line string included -/
theorem pointAtDistanceAlongLine_tie (F : Fn α) (ls : List (Pt α)) (dist : α) :
    Generated.GeoGo.pointAtDistanceAlongLine F.sqrt F.cos F.asin F.atan2 F.max F.min F.R F.sin F.pi ls dist
      = pointAtDistanceAlongLine F ls dist := by
  cases ls with
  | nil => rfl
  | cons p0 rest =>
    cases rest with
    | nil =>
      unfold Generated.GeoGo.pointAtDistanceAlongLine pointAtDistanceAlongLine
      simp
    | cons q t =>
      by_cases hd : dist < 0
      · unfold Generated.GeoGo.pointAtDistanceAlongLine pointAtDistanceAlongLine
        simp [hd]
      · have hc1 : ¬ ((p0 :: q :: t).length = 0) := by simp
        have hc2 : ¬ (dist < 0 ∨ (p0 :: q :: t).length = 1) := by simp [hd]
        have hc3 : ¬ (dist < 0 ∨ (q :: t).isEmpty = true) := by simp [hd]
        simp only [pointAtDistanceAlongLine, hc3, ↓reduceIte]
        unfold Generated.GeoGo.pointAtDistanceAlongLine
        rw [if_neg hc1, if_neg hc2]
        exact alongLoop_tie F dist p0 (q :: t) 0 ⟨0, 0⟩ ⟨0, 0⟩

/-! ### geo/bound.go (NewBoundAroundPoint, BoundPad, BoundHeight, BoundWidth)

The package variables `minLatitude = deg2rad(-90)` … (initialised once, never assigned) are translated by
their initialisers, as the model has them; the literal `111131.75` is the explicit parameter `mPerDeg`. -/

theorem newBoundAroundPoint_tie (F : Fn α) (c : Pt α) (dist : α) :
    Generated.GeoGo.newBoundAroundPoint F.cos F.asin F.max F.min F.R F.sin F.pi c dist
      = ⟨(newBoundAroundPoint F c dist).1, (newBoundAroundPoint F c dist).2⟩ := by
  have hd : Generated.GeoGo.deg2rad F.pi = deg2rad F := funext (deg2rad_tie F)
  have hr : Generated.GeoGo.rad2deg F.pi = rad2deg F := funext (rad2deg_tie F)
  unfold Generated.GeoGo.newBoundAroundPoint newBoundAroundPoint
  rw [hd, hr]
  by_cases h : deg2rad F (-90) < deg2rad F c.y - dist / F.R ∧ deg2rad F c.y + dist / F.R < deg2rad F 90
  · simp only [h, gt_iff_lt, and_self, ↓reduceIte]
  · simp only [h, gt_iff_lt, ↓reduceIte]

theorem boundPad_tie (F : Fn α) (mPerDeg : α) (lo hi : Pt α) (meters : α) :
    Generated.GeoGo.boundPad F.cos F.max F.min mPerDeg F.pi ⟨lo, hi⟩ meters
      = ⟨(boundPad F mPerDeg lo hi meters).1, (boundPad F mPerDeg lo hi meters).2⟩ := rfl

theorem boundHeight_tie (mPerDeg : α) (lo hi : Pt α) :
    Generated.GeoGo.boundHeight mPerDeg ⟨lo, hi⟩ = boundHeight mPerDeg lo hi := rfl

theorem boundWidth_tie (F : Fn α) (lo hi : Pt α) :
    Generated.GeoGo.boundWidth F.sqrt F.abs F.cos F.R F.pi ⟨lo, hi⟩ = boundWidth F lo hi := rfl

/-! ### geo/area.go -/

theorem signedArea_tie (F : Fn α) (r : List (Pt α)) :
    Generated.GeoGo.signedArea (ringArea F) r = ringArea F r := rfl

/-- `polygonArea`: `sum := math.Abs(ringArea(p[0])); for i := 1; i < len(p); i++ { sum -= math.Abs(ringArea(p[i])) }` -/
theorem polygonArea_tie (F : Fn α) (p : List (List (Pt α))) :
    Generated.GeoGo.polygonArea F.abs (ringArea F) p = polygonArea F p := by
  cases p with
  | nil => rfl
  | cons o hs => rfl

theorem polygonArea_fn (F : Fn α) : Generated.GeoGo.polygonArea F.abs (ringArea F) = polygonArea F := by
  funext p; exact polygonArea_tie F p

/-- `multiPolygonArea`: `for _, p := range mp { sum += polygonArea(p) }` -/
theorem multiPolygonArea_tie (F : Fn α) (mp : List (List (List (Pt α)))) :
    Generated.GeoGo.multiPolygonArea F.abs (ringArea F) mp = multiPolygonArea F mp := by
  unfold Generated.GeoGo.multiPolygonArea multiPolygonArea
  rw [polygonArea_fn]

/-- the Ring, Polygon, MultiPolygon and Bound cases of the type switch of `geo.Area` -/
theorem area_cases_tie (F : Fn α) :
    (∀ r : List (Pt α), Generated.GeoGo.areaRing F.abs (ringArea F) r = area F (.ring r)) ∧
    (∀ p : List (List (Pt α)), Generated.GeoGo.areaPolygon F.abs (ringArea F) p = area F (.polygon p)) ∧
    (∀ mp : List (List (List (Pt α))),
      Generated.GeoGo.areaMultiPolygon F.abs (ringArea F) mp = area F (.multiPolygon mp)) ∧
    (∀ lo hi : Pt α, Generated.GeoGo.areaBound F.abs (ringArea F) ⟨lo, hi⟩ = area F (.bound lo hi)) := by
  exact ⟨fun _ => rfl, polygonArea_tie F, multiPolygonArea_tie F, fun _ _ => rfl⟩

/-! ### internal/length/length.go, for every distance function -/

/-- the loop `for i := 1; i < len(ls); i++ { sum += df(ls[i], ls[i-1]) }` -/
theorem lineLength_loop (df : Pt α → Pt α → α) (prev : Pt α) (rest : List (Pt α)) (acc : α) :
    Generated.BoundGo.foldPairs (fun (sum : α) (p q : Pt α) => sum + df q p) (prev :: rest) acc
      = lineLength.go df prev rest acc :=
  foldPairs_sim id _ (fun (l : List (Pt α)) (s : α) => match l with | [] => s | p :: t => lineLength.go df p t s) _
    (fun _ => rfl) (fun _ _ => rfl) (fun _ _ _ _ => rfl) (fun _ _ _ => rfl) (prev :: rest) acc

theorem lineStringLength_tie (df : Pt α → Pt α → α) (ls : List (Pt α)) :
    Generated.LengthGo.lineStringLength ls df = lineLength df ls := by
  cases ls with
  | nil => rfl
  | cons p t => exact lineLength_loop df p t 0

theorem polygonLength_tie (df : Pt α → Pt α → α) (p : List (List (Pt α))) :
    Generated.LengthGo.polygonLength p df = polygonLength df p := by
  have hf : (fun (sum : α) (r : List (Pt α)) => sum + Generated.LengthGo.lineStringLength r df)
      = (fun sum r => sum + lineLength df r) := by
    funext sum r; rw [lineStringLength_tie]
  show List.foldl _ 0 p = _
  rw [hf]; rfl

/-- the cases of the type switch of `length.Length(g, df)` -/
theorem length_cases_tie (df : Pt α → Pt α → α) :
    (∀ g : List (Pt α), Generated.LengthGo.lengthLineString g df = length df (.lineString g)) ∧
    (∀ g : List (List (Pt α)), Generated.LengthGo.lengthMultiLineString g df = length df (.multiLineString g)) ∧
    (∀ g : List (Pt α), Generated.LengthGo.lengthRing g df = length df (.ring g)) ∧
    (∀ g : List (List (Pt α)), Generated.LengthGo.lengthPolygon g df = length df (.polygon g)) ∧
    (∀ g : List (List (List (Pt α))), Generated.LengthGo.lengthMultiPolygon g df = length df (.multiPolygon g)) ∧
    (∀ lo hi : Pt α, Generated.LengthGo.lengthBound ⟨lo, hi⟩ df = length df (.bound lo hi)) := by
  -- `length df (.ring g)` &c. are the right sides by `rfl`; under the two member loops the tie is rewritten as a function
  have hl : (fun ls => Generated.LengthGo.lineStringLength ls df) = lineLength df := funext (lineStringLength_tie df)
  have hp : (fun p => Generated.LengthGo.polygonLength p df) = polygonLength df := funext (polygonLength_tie df)
  exact ⟨congrFun hl, fun g => congrArg (fun (f : List (Pt α) → α) => g.foldl (fun sum ls => sum + f ls) 0) hl,
    congrFun hl, congrFun hp,
    fun g => congrArg (fun (f : List (List (Pt α)) → α) => g.foldl (fun sum p => sum + f p) 0) hp,
    fun lo hi => congrFun hl (toRing lo hi)⟩

theorem all_translated_GeoGo : Generated.GeoGo.translated =
    ["deg2rad", "rad2deg", "distance", "distanceHaversine", "bearing", "midpoint", "pointAtBearingAndDistance",
     "pointAtDistanceAlongLine", "newBoundAroundPoint", "boundPad", "boundHeight", "boundWidth", "signedArea", "polygonArea", "multiPolygonArea", "areaRing", "areaPolygon", "areaMultiPolygon", "areaBound"] := rfl

end Orb.C18Tie
