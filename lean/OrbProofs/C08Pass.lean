/-
  One Sutherland–Hodgman pass as a list function: `passL ins ix prev l` is what `ringPass.go` appends, the `flatMap` of
  `emit` over the consecutive pairs of `prev :: l`.  Facts about the vertices of the output follow from `mem_passL`;
  facts about its edges from ONE telescoping theorem (`pass_cyc_tel`): an edge functional with values in a commutative
  monoid that telescopes along the clip line, combined over the output cycle, equals its pull-back through the clamp
  combined over the input cycle (parity, boundary flag, area and the chain relation are instances).  `intersect`
  answers for each of the four edge codes whatever the arithmetic, so `ring box inp = some (ringL box inp)` (`ring_eq`).
-/
import Orb.Clip
import OrbProofs.C07Seg
import OrbProofs.EdgeList
import Mathlib.Tactic.SplitIfs

namespace Orb.Clip.C08
open Orb Orb.EvenOdd Orb.Contains
open Orb.Core

set_option linter.unusedSectionVars false

section list
variable {α : Type}

/-- what one loop iteration appends -/
def emit (ins : Pt α → Bool) (ix : Pt α → Pt α → Pt α) (a b : Pt α) : List (Pt α) :=
  (if (ins b != ins a) = true then [ix a b] else []) ++ (if ins b = true then [b] else [])

/-- everything one pass appends, starting from `prev` -/
def passL (ins : Pt α → Bool) (ix : Pt α → Pt α → Pt α) : Pt α → List (Pt α) → List (Pt α)
  | _, [] => []
  | prev, p :: rest => emit ins ix prev p ++ passL ins ix p rest

variable {ins : Pt α → Bool} {ix : Pt α → Pt α → Pt α}

/-! the four shapes of one loop iteration (`o` dropped, `i` kept: first `prev`, then the vertex `p`) -/

section step
variable {prev p : Pt α} (rest : List (Pt α))

theorem passL_oo (hprev : ins prev = false) (hp : ins p = false) :
    passL ins ix prev (p :: rest) = passL ins ix p rest := by simp [passL, emit, hp, hprev]

theorem passL_io (hprev : ins prev = true) (hp : ins p = false) :
    passL ins ix prev (p :: rest) = ix prev p :: passL ins ix p rest := by simp [passL, emit, hp, hprev]

theorem passL_oi (hprev : ins prev = false) (hp : ins p = true) :
    passL ins ix prev (p :: rest) = ix prev p :: p :: passL ins ix p rest := by simp [passL, emit, hp, hprev]

theorem passL_ii (hprev : ins prev = true) (hp : ins p = true) :
    passL ins ix prev (p :: rest) = p :: passL ins ix p rest := by simp [passL, emit, hp, hprev]

end step

theorem passL_eq_flatMap (l : List (Pt α)) (prev : Pt α) :
    passL ins ix prev l = (chain (prev :: l)).flatMap fun se => emit ins ix se.1 se.2 := by
  induction l generalizing prev with
  | nil => rfl
  | cons p rest ih => rw [passL, ih p, chain_cons_cons, List.flatMap_cons]

theorem mem_emit {a b v : Pt α} (h : v ∈ emit ins ix a b) :
    (v = b ∧ ins b = true) ∨ (v = ix a b ∧ ins a ≠ ins b) := by
  unfold emit at h
  rcases List.mem_append.1 h with h | h
  · right
    split_ifs at h with hc
    · simp at h
      refine ⟨h, ?_⟩
      intro heq; simp [heq] at hc
    · simp at h
  · left
    split_ifs at h with hc
    · simp at h; exact ⟨h, hc⟩
    · simp at h

theorem mem_passL {l : List (Pt α)} {prev v : Pt α} (h : v ∈ passL ins ix prev l) :
    ∃ a b, (a, b) ∈ chain (prev :: l) ∧ ((v = b ∧ ins b = true) ∨ (v = ix a b ∧ ins a ≠ ins b)) := by
  rw [passL_eq_flatMap, List.mem_flatMap] at h
  obtain ⟨⟨a, b⟩, hab, hv⟩ := h
  exact ⟨a, b, hab, mem_emit hv⟩

theorem passL_forall (ins : Pt α → Bool) (ix : Pt α → Pt α → Pt α) (Pre G : Pt α → Prop)
    (h1 : ∀ p, Pre p → ins p = true → G p) (h2 : ∀ a b, Pre a → Pre b → ins a ≠ ins b → G (ix a b))
    (l : List (Pt α)) (prev : Pt α) (hp : Pre prev) (hl : ∀ p ∈ l, Pre p) : ∀ v ∈ passL ins ix prev l, G v := by
  intro v hv
  obtain ⟨a, b, hab, h⟩ := mem_passL hv
  have hm : ∀ x ∈ prev :: l, Pre x := List.forall_mem_cons.2 ⟨hp, hl⟩
  rcases h with ⟨rfl, hi⟩ | ⟨rfl, hne⟩
  · exact h1 _ (hm _ (mem_chain hab).2) hi
  · exact h2 a b (hm _ (mem_chain hab).1) (hm _ (mem_chain hab).2) hne

theorem passL_id (ins : Pt α → Bool) (ix : Pt α → Pt α → Pt α) :
    ∀ (l : List (Pt α)) (prev : Pt α), ins prev = true → (∀ p ∈ l, ins p = true) → passL ins ix prev l = l := by
  intro l
  induction l with
  | nil => intro prev _ _; rfl
  | cons p rest ih =>
    intro prev hprev hl
    have hp : ins p = true := hl p List.mem_cons_self
    simp [passL, emit, hp, hprev, ih p hp (fun q hq => hl q (List.mem_cons_of_mem _ hq))]

theorem passL_head {L : Pt α → Prop} (hL : ∀ a b, ins a ≠ ins b → L (ix a b)) :
    ∀ (l : List (Pt α)) (prev : Pt α), ins prev = false → ∀ w, (passL ins ix prev l).head? = some w → L w := by
  intro l
  induction l with
  | nil => intro prev _ w hw; simp [passL] at hw
  | cons p rest ih =>
    intro prev hprev w hw
    cases hp : ins p
    · rw [passL_oo rest hprev hp] at hw
      exact ih p hp w hw
    · rw [passL_oi rest hprev hp, List.head?_cons, Option.some.injEq] at hw
      rw [← hw]; exact hL _ _ (by simp [hp, hprev])

/-- how the last emitted vertex `u` relates to the loop variable `prev` -/
def Link (ins : Pt α → Bool) (L : Pt α → Prop) (u prev : Pt α) : Prop :=
  (ins prev = true → u = prev) ∧ (ins prev = false → L u)

theorem passL_link {L : Pt α → Prop} (hL : ∀ a b, ins a ≠ ins b → L (ix a b)) :
    ∀ (l : List (Pt α)) (prev u : Pt α), Link ins L u prev →
      Link ins L (lastD' u (passL ins ix prev l)) (lastD' prev l) := by
  intro l
  induction l with
  | nil => intro prev u hl; exact hl
  | cons p rest ih =>
    intro prev u hl
    show Link ins L _ (lastD' p rest)
    cases hp : ins p <;> cases hprev : ins prev
    · rw [passL_oo rest hprev hp]
      exact ih p u ⟨fun h => by simp [hp] at h, fun _ => hl.2 hprev⟩
    · rw [passL_io rest hprev hp]
      exact ih p (ix prev p) ⟨fun h => by simp [hp] at h, fun _ => hL _ _ (by simp [hp, hprev])⟩
    · rw [passL_oi rest hprev hp]
      exact ih p p ⟨fun _ => rfl, fun h => by simp [hp] at h⟩
    · rw [passL_ii rest hprev hp]
      exact ih p p ⟨fun _ => rfl, fun h => by simp [hp] at h⟩

/-- the clamp of a pass: `π` fixes kept vertices and sends dropped ones to the clip line `L`, where the cut points
    live -/
structure Clamp (ins : Pt α → Bool) (ix : Pt α → Pt α → Pt α) (π : Pt α → Pt α) (L : Pt α → Prop) : Prop where
  pin : ∀ p, ins p = true → π p = p
  pout : ∀ p, ins p = false → L (π p)
  ixL : ∀ a b, ins a ≠ ins b → L (ix a b)

section tel
variable {M : Type} (op : M → M → M) (e : M)

/-- `φ` combined over the clamped image of the edge `a b`: the edge is cut at the clip line and its dropped end is
    sent to the line by `π` -/
def pullM (ins : Pt α → Bool) (ix : Pt α → Pt α → Pt α) (π : Pt α → Pt α) (φ : Pt α → Pt α → M) (a b : Pt α) : M :=
  if ins a = ins b then φ (π a) (π b) else op (φ (π a) (ix a b)) (φ (ix a b) (π b))

/-- the piece of the clip line between the last emitted vertex `u` and the clamp image of a dropped loop variable -/
def gap (ins : Pt α → Bool) (π : Pt α → Pt α) (φ : Pt α → Pt α → M) (u p : Pt α) : M :=
  if ins p = true then e else φ u (π p)

/-- `(M, op, e)` is a commutative monoid and `φ` telescopes along the clip line `L` -/
structure TelHyp (L : Pt α → Prop) (φ : Pt α → Pt α → M) : Prop where
  assoc : ∀ x y z, op (op x y) z = op x (op y z)
  comm : ∀ x y, op x y = op y x
  unitL : ∀ x, op e x = x
  tel : ∀ u v w, L u → L v → L w → op (φ u v) (φ v w) = φ u w
  one : ∀ u, L u → φ u u = e

variable {op e} {π : Pt α → Pt α} {L : Pt α → Prop} {φ : Pt α → Pt α → M}

theorem TelHyp.unitR (T : TelHyp op e L φ) (x : M) : op x e = x := by rw [T.comm, T.unitL]

theorem TelHyp.tel_assoc (T : TelHyp op e L φ) {u v w : Pt α} (hu : L u) (hv : L v) (hw : L w) (x : M) :
    op (φ u v) (op (φ v w) x) = op (φ u w) x := by rw [← T.assoc, T.tel u v w hu hv hw]

/-- THE OPEN-CHAIN INVARIANT: the output chain from the anchor `u`, followed by the gap to the clamped last input
    vertex, is the gap from `u` to the clamped `prev` followed by the pulled-back input chain.  With the gaps as
    boundary terms nothing has to be cancelled, so a monoid is enough. -/
theorem passL_tel (H : Clamp ins ix π L) (T : TelHyp op e L φ) :
    ∀ (l : List (Pt α)) (prev u : Pt α), Link ins L u prev →
      op (prodE op e φ (chain (u :: passL ins ix prev l)))
          (gap e ins π φ (lastD' u (passL ins ix prev l)) (lastD' prev l)) =
        op (gap e ins π φ u prev) (prodE op e (pullM op ins ix π φ) (chain (prev :: l))) := by
  intro l
  induction l with
  | nil => intro prev u _; show op e _ = op _ e; rw [T.unitL, T.unitR]; rfl
  | cons p rest ih =>
    intro prev u hl
    rw [chain_cons_cons prev p rest, prodE_cons]
    show op _ (gap e ins π φ (lastD' u (passL ins ix prev (p :: rest))) (lastD' p rest)) = _
    cases hp : ins p <;> cases hprev : ins prev
    · have hu := hl.2 hprev
      rw [passL_oo rest hprev hp, ih p u ⟨fun h => by simp [hp] at h, fun _ => hu⟩]
      simp only [gap, pullM, hp, hprev, Bool.false_eq_true, if_false, if_true]
      rw [T.tel_assoc hu (H.pout _ hprev) (H.pout _ hp)]
    · have hne : ins prev ≠ ins p := by simp [hp, hprev]
      obtain rfl : u = prev := hl.1 hprev
      rw [passL_io rest hprev hp, chain_cons_cons, prodE_cons, T.assoc]
      show op _ (op _ (gap e ins π φ (lastD' (ix u p) (passL ins ix p rest)) (lastD' p rest))) = _
      rw [ih p (ix u p) ⟨fun h => by simp [hp] at h, fun _ => H.ixL _ _ hne⟩]
      simp only [gap, pullM, hp, hprev, Bool.false_eq_true, if_false, if_true, H.pin u hprev, T.unitL, T.assoc,
        Bool.true_eq_false]
    · have hne : ins prev ≠ ins p := by simp [hp, hprev]
      rw [passL_oi rest hprev hp, chain_cons_cons, prodE_cons, chain_cons_cons, prodE_cons, T.assoc, T.assoc]
      show op _ (op _ (op _ (gap e ins π φ (lastD' p (passL ins ix p rest)) (lastD' p rest)))) = _
      rw [ih p p ⟨fun _ => rfl, fun h => by simp [hp] at h⟩]
      simp only [gap, pullM, hp, hprev, Bool.false_eq_true, if_false, if_true, H.pin p hp, T.unitL, T.assoc]
      rw [T.tel_assoc (hl.2 hprev) (H.pout _ hprev) (H.ixL _ _ hne)]
    · obtain rfl : u = prev := hl.1 hprev
      rw [passL_ii rest hprev hp, chain_cons_cons, prodE_cons, T.assoc]
      show op _ (op _ (gap e ins π φ (lastD' p (passL ins ix p rest)) (lastD' p rest))) = _
      rw [ih p p ⟨fun _ => rfl, fun h => by simp [hp] at h⟩]
      simp only [gap, pullM, hp, hprev, if_true, H.pin u hprev, H.pin p hp, T.unitL]

end tel

/-- one pass over a whole vertex list: the loop variable `prev` starts at the last vertex when the ring counts as
    closed, else at the first -/
def passC (ins : Pt α → Bool) (ix : Pt α → Pt α → Pt α) (ic : Bool) : List (Pt α) → List (Pt α)
  | [] => []
  | f :: t => passL ins ix (if ic = true then lastD' f t else f) (f :: t)

theorem prevC_mem (ic : Bool) (f : Pt α) (t : List (Pt α)) : (if ic = true then lastD' f t else f) ∈ f :: t := by
  split_ifs
  · exact lastD'_mem f t
  · exact List.mem_cons_self

theorem passC_forall (ins : Pt α → Bool) (ix : Pt α → Pt α → Pt α) (Pre G : Pt α → Prop)
    (h1 : ∀ p, Pre p → ins p = true → G p) (h2 : ∀ a b, Pre a → Pre b → ins a ≠ ins b → G (ix a b)) (ic : Bool)
    (l : List (Pt α)) (hl : ∀ p ∈ l, Pre p) : ∀ v ∈ passC ins ix ic l, G v := by
  cases l with
  | nil => intro v hv; cases hv
  | cons f t => exact passL_forall ins ix Pre G h1 h2 (f :: t) _ (hl _ (prevC_mem ic f t)) hl

theorem passC_id (ins : Pt α → Bool) (ix : Pt α → Pt α → Pt α) (ic : Bool) (l : List (Pt α))
    (h : ∀ p ∈ l, ins p = true) : passC ins ix ic l = l := by
  cases l with
  | nil => rfl
  | cons f t => exact passL_id ins ix (f :: t) _ (h _ (prevC_mem ic f t)) h

end list

section close
variable {α : Type} [BEq α]

/-- the re-closing tail of `ring` -/
def closeL (ic : Bool) : List (Pt α) → List (Pt α)
  | [] => []
  | f :: t => if ic = true ∧ ptEqB f (lastD' f t) = false then f :: t ++ [f] else f :: t

/-- `ring` treats its input as closed when the first vertex equals the last (`ptEqB`: the `==` of the arithmetic) -/
def closedB : List (Pt α) → Bool
  | [] => false
  | f :: t => ptEqB f (lastD' f t)

theorem closeL_cases (ic : Bool) (l : List (Pt α)) :
    (closeL ic l = l ∧ (ic = true → ∀ f t, l = f :: t → ptEqB f (lastD' f t) = true)) ∨
      ∃ f t, ic = true ∧ l = f :: t ∧ closeL ic l = f :: t ++ [f] := by
  cases l with
  | nil => exact Or.inl ⟨rfl, fun _ _ _ h => nomatch h⟩
  | cons f t =>
    by_cases h : ic = true ∧ ptEqB f (lastD' f t) = false
    · exact Or.inr ⟨f, t, h.1, rfl, if_pos h⟩
    · refine Or.inl ⟨if_neg h, fun hic f' t' e => ?_⟩
      cases e
      simpa [hic] using h

theorem mem_closeL {ic : Bool} {l : List (Pt α)} {v : Pt α} (h : v ∈ closeL ic l) : v ∈ l := by
  rcases closeL_cases ic l with ⟨e, -⟩ | ⟨f, t, -, rfl, e⟩ <;> rw [e] at h
  · exact h
  · rcases List.mem_append.1 h with h | h
    · exact h
    · rw [List.mem_singleton.1 h]; exact List.mem_cons_self

end close

section model
variable {α : Type} [Add α] [Sub α] [Mul α] [Div α] [LT α] [LE α] [DecidableLT α] [DecidableLE α] [BEq α]
  [Min α] [Max α]

theorem go_eq_passL (box : Bound α) (e : Nat) (ix : Pt α → Pt α → Pt α)
    (hix : ∀ a b, intersect box e a b = some (ix a b)) (l : List (Pt α)) (prev : Pt α) (out : List (Pt α)) :
    ringPass.go box e l prev ((bitCode box prev &&& e) == 0) out
      = some (out ++ passL (fun p => (bitCode box p &&& e) == 0) ix prev l) := by
  induction l generalizing prev out with
  | nil => rw [ringPass.go, passL, List.append_nil]
  | cons p rest ih =>
    rw [ringPass.go]
    simp only [hix, ih, passL, emit]
    rcases Bool.eq_false_or_eq_true ((bitCode box p &&& e) == 0) with hp | hp <;>
      rcases Bool.eq_false_or_eq_true ((bitCode box prev &&& e) == 0) with hq | hq <;> simp [hp, hq]

/-- the inside test of the pass for the edge code `e` (`go_eq_passL` above spells it out, as `ringPass.go` does, so
    that it rewrites the model's loop; `ringPass_eq` folds it by `rfl`) -/
def insB (box : Bound α) (e : Nat) (p : Pt α) : Bool := (bitCode box p &&& e) == 0

/-- the point `intersect` returns for the edge code `e`; for the four codes of `Edge` it does return one
    (`intersect_ixB`), so the default of `getD` is never taken -/
def ixB (box : Bound α) (e : Nat) (a b : Pt α) : Pt α := (intersect box e a b).getD a

theorem intersect_ixB (box : Bound α) {e : Nat} (he : Edge e) (a b : Pt α) :
    intersect box e a b = some (ixB box e a b) := by
  rcases he with rfl | rfl | rfl | rfl <;>
    simp [ixB, intersect, Generated.Params.clip_codeTop, Generated.Params.clip_codeBottom,
      Generated.Params.clip_codeRight, Generated.Params.clip_codeLeft]

theorem ringPass_eq (box : Bound α) (e : Nat) (ix : Pt α → Pt α → Pt α)
    (hix : ∀ a b, intersect box e a b = some (ix a b)) (ic : Bool) (l : List (Pt α)) :
    ringPass box e ic l = some (passC (insB box e) ix ic l) := by
  cases l with
  | nil => rfl
  | cons f t =>
    rw [ringPass, go_eq_passL box e ix hix, getLast?_getD_eq, List.nil_append]
    rfl

def passes (box : Bound α) (ic : Bool) (inp : List (Pt α)) : List (Pt α) :=
  passC (insB box 8) (ixB box 8) ic (passC (insB box 4) (ixB box 4) ic
    (passC (insB box 2) (ixB box 2) ic (passC (insB box 1) (ixB box 1) ic inp)))

/-- `clip.ring` -/
def ringL (box : Bound α) (inp : List (Pt α)) : List (Pt α) := closeL (closedB inp) (passes box (closedB inp) inp)

/-- the local `pass` of `ring` and its re-closing tail under names, so that `ring` unfolds to them (`ring_eq`); `G`
    for any arithmetic.  `rpass`, `rclose` of C08Ring are these two definitions once more over an ordered field: two
    statements of C08Region are written in them and fix them there. -/
def passG (box : Bound α) (ic : Bool) (e : Nat) (cur : Option (List (Pt α))) : Option (List (Pt α)) :=
  match cur with
  | none => none
  | some [] => some []
  | some c => ringPass box e ic c

def recloseG (ic : Bool) (r : Option (List (Pt α))) : Option (List (Pt α)) :=
  match r with
  | none => none
  | some [] => some []
  | some out =>
    if ic then
      match out, out.getLast? with
      | f' :: _, some l' => if ptEqB f' l' then some out else some (out ++ [f'])
      | _, _ => some out
    else some out

theorem passG_some (box : Bound α) (ic : Bool) {e : Nat} (he : Edge e) (l : List (Pt α)) :
    passG box ic e (some l) = some (passC (insB box e) (ixB box e) ic l) := by
  cases l with
  | nil => rfl
  | cons f t => exact ringPass_eq box e _ (intersect_ixB box he) ic (f :: t)

theorem recloseG_some (ic : Bool) (l : List (Pt α)) : recloseG ic (some l) = some (closeL ic l) := by
  cases l with
  | nil => rfl
  | cons f t =>
    simp only [recloseG, closeL, getLast?_cons_eq]
    cases ic <;> cases ptEqB f (lastD' f t) <;> simp

/-- `ring` never reaches `panic("no edge??")`, on floats as over a field: it is the list function `ringL` -/
theorem ring_eq (box : Bound α) (inp : List (Pt α)) : ring box inp = some (ringL box inp) := by
  cases inp with
  | nil => rfl
  | cons f t =>
    have : ring box (f :: t) = recloseG (ptEqB f ((f :: t).getLast?.getD f))
        (passG box (ptEqB f ((f :: t).getLast?.getD f)) 8 (passG box (ptEqB f ((f :: t).getLast?.getD f)) 4
          (passG box (ptEqB f ((f :: t).getLast?.getD f)) 2
            (passG box (ptEqB f ((f :: t).getLast?.getD f)) 1 (some (f :: t)))))) := by
      unfold ring passG recloseG; rfl
    rw [this, getLast?_getD_eq, passG_some box _ .left, passG_some box _ .right, passG_some box _ .bottom,
      passG_some box _ .top, recloseG_some]
    rfl

/-- induction over the four passes: `P k` holds of the vertex list that enters the pass for edge `k` -/
theorem passes_ind (box : Bound α) (ic : Bool) (inp : List (Pt α)) (P : Nat → List (Pt α) → Prop) (h0 : P 1 inp)
    (step : ∀ k, Edge k → ∀ l, P k l → P (2 * k) (passC (insB box k) (ixB box k) ic l)) : P 16 (passes box ic inp) :=
  step 8 .top _ (step 4 .bottom _ (step 2 .right _ (step 1 .left _ h0)))

end model

section cycle
variable {α : Type} {M : Type} {op : M → M → M} {e : M}
variable {ins : Pt α → Bool} {ix : Pt α → Pt α → Pt α} {π : Pt α → Pt α} {L : Pt α → Prop} {φ : Pt α → Pt α → M}

/-- THE CYCLE THEOREM: `φ` over the output cycle of a pass started at the last vertex (as `ringPass … true` does)
    is the pull-back of `φ` over the input cycle.  The output chain is anchored at the clamp image of the start
    vertex, whether that vertex is kept or dropped. -/
theorem pass_cyc_tel (H : Clamp ins ix π L) (T : TelHyp op e L φ) (f : Pt α) (t : List (Pt α)) :
    prodE op e φ (edges (passL ins ix (lastD' f t) (f :: t))) =
      prodE op e (pullM op ins ix π φ) (edges (f :: t)) := by
  have hA : edges (f :: t) = chain (lastD' f t :: f :: t) := by rw [edges_cons]; rfl
  have hz : lastD' (lastD' f t) (f :: t) = lastD' f t := rfl
  rw [hA]
  generalize lastD' f t = z at hz ⊢
  have hl : Link ins L (π z) z := ⟨H.pin z, H.pout z⟩
  have hg : gap e ins π φ (π z) z = e := by
    unfold gap; split_ifs with hi
    · rfl
    · exact T.one _ (H.pout z (by simpa using hi))
  have h1 := passL_link H.ixL (f :: t) z (π z) hl
  have h2 := passL_tel H T (f :: t) z (π z) hl
  rw [hz] at h1 h2
  rw [hg, T.unitL] at h2
  rw [← h2]
  cases ho : passL ins ix z (f :: t) with
  | nil => show e = op e (gap e ins π φ (π z) z); rw [hg, T.unitL]
  | cons w r =>
    rw [ho] at h1
    have h1 : Link ins L (lastD' w r) z := h1
    rw [edges_cons, prodE_cons, chain_cons_cons, prodE_cons]
    show _ = op _ (gap e ins π φ (lastD' w r) z)
    cases hi : ins z
    · have hw : L w := passL_head H.ixL (f :: t) z hi w (by rw [ho]; rfl)
      simp only [gap, hi, Bool.false_eq_true, if_false]
      rw [T.comm _ (φ (lastD' w r) (π z)), T.tel_assoc (h1.2 hi) (H.pout z hi) hw]
    · simp only [gap, hi, if_true, T.unitR, H.pin z hi, h1.1 hi]

/-- no clamp: `φ` telescopes on the whole discarded side `R` and is multiplicative under cutting an edge at the
    clip line; then the pass does not change `φ` round the cycle -/
theorem pass_cyc_cut {R : Pt α → Prop} (H : Clamp ins ix id R) (T : TelHyp op e R φ)
    (cut : ∀ a b, ins a ≠ ins b → φ a b = op (φ a (ix a b)) (φ (ix a b) b)) (f : Pt α) (t : List (Pt α)) :
    prodE op e φ (edges (passL ins ix (lastD' f t) (f :: t))) = prodE op e φ (edges (f :: t)) := by
  rw [pass_cyc_tel H T f t]
  refine prodE_congr fun se _ => ?_
  unfold pullM; split_ifs with h
  · rfl
  · exact (cut _ _ h).symm

theorem passC_cyc_tel (H : Clamp ins ix π L) (T : TelHyp op e L φ) (l : List (Pt α)) :
    prodE op e φ (edges (passC ins ix true l)) = prodE op e (pullM op ins ix π φ) (edges l) := by
  cases l with
  | nil => rfl
  | cons f t => exact pass_cyc_tel H T f t

end cycle

end Orb.Clip.C08
