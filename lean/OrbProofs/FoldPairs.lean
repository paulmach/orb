/-
  The translator's loop over consecutive pairs, `Generated.BoundGo.foldPairs` (printed into Generated/BoundGo.lean),
  against a model loop of the same recursion.  Core Lean only.
-/
import Orb.LoopForms
import Generated.BoundGo

namespace Orb.LoopForms
variable {β σ τ : Type}

theorem foldPairs_eq_foldl (f : σ → β → β → σ) (l : List β) (s : σ) :
    Generated.BoundGo.foldPairs f l s = (l.zip l.tail).foldl (fun s e => f s e.1 e.2) s :=
  pairLoop_foldl (Generated.BoundGo.foldPairs f) f (fun _ => rfl) (fun _ _ => rfl) (fun _ _ _ _ => rfl) l s

/-- the translated loop with step `f` on the state `r t` is the model loop with step `g` on `t`, as soon as one turn
    corresponds (`H`); `h0`–`h2` say that `loop` is a loop over consecutive pairs with step `g` -/
theorem foldPairs_sim (r : τ → σ) (f : σ → β → β → σ) (loop : List β → τ → τ) (g : τ → β → β → τ)
    (h0 : ∀ s, loop [] s = s) (h1 : ∀ a s, loop [a] s = s)
    (h2 : ∀ a b t s, loop (a :: b :: t) s = loop (b :: t) (g s a b))
    (H : ∀ t a b, f (r t) a b = r (g t a b)) (l : List β) (t : τ) :
    Generated.BoundGo.foldPairs f l (r t) = r (loop l t) := by
  rw [foldPairs_eq_foldl, pairLoop_foldl loop g h0 h1 h2]
  exact List.foldl_hom r fun t e => H t e.1 e.2

end Orb.LoopForms
