/-
  C04 — the EMPTY form and the blank in front of `EMPTY`.

  `<KEYWORD> EMPTY` is recognised by `strings.EqualFold(s, "<KEYWORD> EMPTY")`: exactly ONE space.
  With anything else between keyword and `EMPTY` (nothing, two spaces, a tab, a newline, …) the text
  falls through to the bracket parser, which finds `E` where it wants `(`: `ErrNotWKT`, for all six
  kinds with an EMPTY form — and `POINT`, which has none, rejects `POINT EMPTY` with any blanks.
  Such texts are OUTSIDE the quantifier of C04 (its re-spellings put blanks next to commas and
  parentheses and at both ends of the text only); this file pins down what the code does there.
-/
import OrbProofs.C04Kinds
namespace Orb.WKT

/-- `sEmpty` (Orb/WKT.lean) without its leading space -/
def kwEmptyWord : Str := [69, 77, 80, 84, 89]   -- EMPTY

section
variable (parseF : Str → Option UInt64)

/-- a case variant of `EMPTY` is five bytes, the first neither blank nor `(`, the last not blank -/
theorem ef_word {e : Str} (he : CaseVariant kwEmptyWord e) :
    ∃ b1 b2 b3 b4 b5, e = [b1, b2, b3, b4, b5] ∧ isBlank b1 = false ∧ b1 ≠ cLP ∧ isBlank b5 = false := by
  obtain ⟨b1, e1, rfl, h1, he⟩ := caseVariant_cons he
  obtain ⟨b2, e2, rfl, -, he⟩ := caseVariant_cons he
  obtain ⟨b3, e3, rfl, -, he⟩ := caseVariant_cons he
  obtain ⟨b4, e4, rfl, -, he⟩ := caseVariant_cons he
  obtain ⟨b5, e5, rfl, h5, he⟩ := caseVariant_cons he
  have : e5 = [] := by
    unfold CaseVariant at he
    exact List.map_eq_nil_iff.1 he
  subst this
  refine ⟨b1, b2, b3, b4, b5, rfl, notBlank_of_upper (by rw [h1]; decide), ?_,
    notBlank_of_upper (by rw [h5]; decide)⟩
  rintro rfl
  revert h1; decide

/-- `trimSpaceBrackets` on `<blanks>EMPTY`: the first byte is not `(` -/
theorem ef_trimSpaceBrackets {a e : Str} (ha : AllBlank a) (he : CaseVariant kwEmptyWord e) :
    trimSpaceBrackets (a ++ e) = .err .notWKT := by
  obtain ⟨b1, b2, b3, b4, b5, rfl, hb1, hlp, hb5⟩ := ef_word he
  have hge : GoodEnds [b1, b2, b3, b4, b5] :=
    goodEnds_of_head_last (by simp) (x := b1) (y := b5) rfl hb1 rfl hb5
  have ht : trimSpace (a ++ [b1, b2, b3, b4, b5]) = b1 :: [b2, b3, b4, b5] := by
    have := trimSpace_pad ha allBlank_nil hge
    simpa using this
  rw [trimSpaceBrackets_of_trimSpace_cons ht, if_pos (by simpa using hlp)]

theorem ef_foldByte_blank {b : UInt8} (hb : isBlank b = true) (h : foldByte b = 32) : b = 32 := by
  revert hb h
  simp only [isBlank, foldByte, cSpace, cTab, cNL, Bool.or_eq_true, beq_iff_eq, ← UInt8.toNat_inj,
    UInt8.le_iff_toNat_le, apply_ite UInt8.toNat, UInt8.toNat_add, UInt8.toNat_ofNat]
  split_ifs <;> omega

/-- `EqualFold(k ++ blanks ++ EMPTY, "<KW> EMPTY")` holds only for the single space -/
theorem ef_equalFold_false {kw k a e : Str} (hk : k.length = kw.length) (ha : AllBlank a)
    (he : CaseVariant kwEmptyWord e) (hne : a ≠ [cSpace]) : equalFold (k ++ (a ++ e)) (kw ++ sEmpty) = false := by
  obtain ⟨b1, b2, b3, b4, b5, rfl, -, -, -⟩ := ef_word he
  unfold equalFold
  rw [beq_eq_false_iff_ne]
  intro heq
  simp only [List.map_append] at heq
  have hlen : (k.map foldByte).length = (kw.map foldByte).length := by simp [hk]
  have h2 := (List.append_inj heq hlen).2
  have hl := congrArg List.length h2
  simp only [List.length_append, List.length_map, List.length_cons, List.length_nil, sEmpty] at hl
  have hal : a.length = 1 := by omega
  obtain ⟨b, rfl⟩ := List.length_eq_one_iff.1 hal
  have hb : foldByte b = 32 := by
    simp only [List.map_cons, List.map_nil, List.cons_append, List.nil_append, sEmpty] at h2
    have := (List.cons.inj h2).1
    rw [this]; decide
  exact hne (by rw [ef_foldByte_blank (ha b (by simp)) hb]; rfl)

/-- the bracket parser finds `E` where it wants `(` -/
theorem framed_blankEmpty {α : Type} (f : Str → R α) {kw k a e : Str} (n : Nat) (hn : kw.length = n)
    (hk : CaseVariant kw k) (ha : AllBlank a) (he : CaseVariant kwEmptyWord e) :
    framed n f (k ++ (a ++ e)) = .err .notWKT := by
  have hu : sliceFrom (k ++ (a ++ e)) n = .ok (a ++ e) := hn ▸ sliceFrom_caseVariant hk
  simp only [framed, br, hu, ef_trimSpaceBrackets ha he, Res.bind]

theorem framedE_blankEmpty {α : Type} (f : Str → R (List α)) {kw k a e : Str} (n : Nat) (hn : kw.length = n)
    (hk : CaseVariant kw k) (ha : AllBlank a) (he : CaseVariant kwEmptyWord e) (hne : a ≠ [cSpace]) :
    framedE kw n f (k ++ (a ++ e)) = .err .notWKT := by
  rw [framedE, ef_equalFold_false (caseVariant_length hk) ha he hne, if_neg Bool.false_ne_true,
    framed_blankEmpty f n hn hk ha he]

/-- Anything but exactly one space between the keyword and `EMPTY` is `ErrNotWKT`, for each of the six
    kinds with an EMPTY form (positions 1..6 of `typedAll`), in any letter case and with blanks at
    both ends; `POINT` (position 0) rejects `POINT<blanks>EMPTY` whatever the blanks.  (`empty_form_needs_single_space` of
    OrbProofs.C04 is the same statement and cites this one.) -/
theorem empty_form_needs_single_space' (i : Nat) (hi : i < 7) (k a e pre post : Str)
    (hk : CaseVariant (kwAt i) k) (he : CaseVariant kwEmptyWord e) (ha : AllBlank a)
    (hne : i = 0 ∨ a ≠ [cSpace]) (hpre : AllBlank pre) (hpost : AllBlank post) :
    unmarshal parseF (pre ++ (k ++ (a ++ e)) ++ post) = .err .notWKT := by
  obtain ⟨x, hx, hxu⟩ := caseVariant_getLast he (y := 89) rfl  -- 89 = `Y`
  have hge : GoodEnds (k ++ (a ++ e)) := by
    refine goodEnds_kw hk ?_ (notBlank_of_upper (by rw [hxu]; decide))
    rwa [List.getLast?_append_of_ne_nil _ (fun h => by rw [h] at hx; cases hx)]
  unfold unmarshal
  rw [unmarshalF_of_trim parseF _ hi (trimSpace_pad hpre hpost hge) (hasPrefix_caseVariant hk (kwAt_length_le i) _)]
  have hE : ∀ {α : Type} (f : Str → R (List α)) (n : Nat), (kwAt i).length = n → i ≠ 0 →
      framedE (kwAt i) n f (k ++ (a ++ e)) = .err .notWKT :=
    fun f n hn h0 => framedE_blankEmpty f n hn hk ha he (hne.resolve_left h0)
  obtain rfl | rfl | rfl | rfl | rfl | rfl | rfl := lt_seven_cases hi
  · rw [branchAt, unmarshalPoint_eq, framed_blankEmpty _ 5 rfl hk ha he]; rfl
  · rw [branchAt, unmarshalMultiPoint_eq]; exact congrArg (Res.map _) (hE _ 10 rfl (by decide))
  · rw [branchAt, unmarshalLineString_eq]; exact congrArg (Res.map _) (hE _ 10 rfl (by decide))
  · rw [branchAt, unmarshalMultiLineString_eq]; exact congrArg (Res.map _) (hE _ 15 rfl (by decide))
  · rw [branchAt, unmarshalPolygon_eq]; exact congrArg (Res.map _) (hE _ 7 rfl (by decide))
  · rw [branchAt, unmarshalMultiPolygon_eq]; exact congrArg (Res.map _) (hE _ 12 rfl (by decide))
  · have h1 : equalFold (k ++ (a ++ e)) (kwCollection ++ sEmpty) = false :=
      ef_equalFold_false (caseVariant_length hk) ha he (hne.resolve_left (by decide))
    show (unmarshalCollection _ _).map _ = _
    rw [unmarshalCollection_eq, h1, if_neg Bool.false_ne_true, framed_blankEmpty _ 18 rfl hk ha he, ite_self]
    rfl

end

end Orb.WKT
