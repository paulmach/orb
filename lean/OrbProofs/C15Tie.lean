/-
  C15 — translation ties: project/helpers.go (`Point`, `MultiPoint`, `LineString`, `MultiLineString`,
  `Ring`, `Polygon`, `MultiPolygon`, `Bound`) first, then internal/mercator, encoding/mvt/projection.go,
  encoding/mvt/layer.go and the two closures of project/projections.go, each under a heading of its
  own, with the list of translated functions of each generated module.
  `Generated/ProjectGo.lean` is REGENERATED from /repo on every run by
  harness/cmd/factgen/translate_float.go.  The in-place loops `for i := range mp { mp[i] = proj(mp[i]) }`
  are translated as folds over the indices that replace the i-th element (`List.set`);
  `Orb.LoopForms.foldl_set_map` turns them into `List.map`.  An `orb.Projection` is translated as a PURE
  function `f`; the model `Orb.Project` threads a state through the calls of `proj` (a Go closure), and the
  theorems below tie the translation to the model at the stateless projection `fun p s => (f p, s)`:
  every vertex is transformed exactly once, by `f`, and nothing else happens.  A change of helpers.go
  outside the translated subset (goroutines, chunking, sub-slices) leaves the function unresolved and
  breaks `all_translated_ProjectGo`.
-/
import OrbProofs.C15Pure
import Orb.LoopForms
import Generated.ProjectGo
import Generated.MercatorGo
import Generated.MvtGo

namespace Orb.C15Tie
open Orb Orb.Core Orb.Project Orb.LoopForms

set_option linter.unusedSectionVars false

variable {α : Type} [Add α] [Sub α] [Mul α] [Div α] [Neg α] [LT α] [LE α] [DecidableLT α] [DecidableLE α]
  [BEq α] [Min α] [Max α] [OfNat α 0] [OfNat α 1] [OfNat α 2] [OfNat α 6] [OfNat α 90] [OfNat α 180] [OfNat α 360] [NatCast α]

/-- a projection without state: `Orb.Project.pureP` for any state type `σ` -/
def pureProj {σ : Type} (f : Pt α → Pt α) : Proj σ α := fun p s => (f p, s)

/-! ### project/helpers.go -/

theorem projPoint_tie (f : Pt α → Pt α) (p : Pt α) : Generated.ProjectGo.projPoint p f = f p := rfl

/-- `for i := range mp { mp[i] = proj(mp[i]) }` transforms every point, in place -/
theorem projMultiPoint_map (f : Pt α → Pt α) (ps : List (Pt α)) :
    Generated.ProjectGo.projMultiPoint ps f = ps.map f :=
  foldl_set_map f ⟨0, 0⟩ ps

theorem projLineString_map (f : Pt α → Pt α) (ps : List (Pt α)) :
    Generated.ProjectGo.projLineString ps f = ps.map f := projMultiPoint_map f ps

theorem projRing_map (f : Pt α → Pt α) (ps : List (Pt α)) :
    Generated.ProjectGo.projRing ps f = ps.map f := projMultiPoint_map f ps

theorem projMultiLineString_map (f : Pt α → Pt α) (ls : List (List (Pt α))) :
    Generated.ProjectGo.projMultiLineString ls f = ls.map (List.map f) :=
  (foldl_set_map (fun l => Generated.ProjectGo.projLineString l f) [] ls).trans
    (List.map_congr_left fun l _ => projLineString_map f l)

theorem projPolygon_map (f : Pt α → Pt α) (rs : List (List (Pt α))) :
    Generated.ProjectGo.projPolygon rs f = rs.map (List.map f) :=
  (foldl_set_map (fun l => Generated.ProjectGo.projRing l f) [] rs).trans
    (List.map_congr_left fun l _ => projRing_map f l)

theorem projMultiPolygon_map (f : Pt α → Pt α) (ps : List (List (List (Pt α)))) :
    Generated.ProjectGo.projMultiPolygon ps f = ps.map (List.map (List.map f)) :=
  (foldl_set_map (fun l => Generated.ProjectGo.projPolygon l f) [] ps).trans
    (List.map_congr_left fun l _ => projPolygon_map f l)

/-! The model's loops at a stateless projection, for any state type and with the state returned
    (`Orb.Project.ptsM_of_pure` and its two liftings, spelled with `pureProj`). -/

theorem ptsM_pure {σ : Type} (f : Pt α → Pt α) (ps : List (Pt α)) (s : σ) :
    ptsM (pureProj f) ps s = (ps.map f, s) := ptsM_of_pure f ps s

theorem ptssM_pure {σ : Type} (f : Pt α → Pt α) (ls : List (List (Pt α))) (s : σ) :
    ptssM (pureProj f) ls s = (ls.map (List.map f), s) := ptssM_of_pure f ls s

theorem ptsssM_pure {σ : Type} (f : Pt α → Pt α) (ps : List (List (List (Pt α)))) (s : σ) :
    ptsssM (pureProj f) ps s = (ps.map (List.map (List.map f)), s) := ptsssM_of_pure f ps s

/-- `project.MultiPoint` / `LineString` / `Ring` are the model's `ptsM` -/
theorem projPts_tie {σ : Type} (f : Pt α → Pt α) (ps : List (Pt α)) (s : σ) :
    ptsM (pureProj f) ps s = (Generated.ProjectGo.projMultiPoint ps f, s) ∧
    ptsM (pureProj f) ps s = (Generated.ProjectGo.projLineString ps f, s) ∧
    ptsM (pureProj f) ps s = (Generated.ProjectGo.projRing ps f, s) := by
  rw [ptsM_pure, projMultiPoint_map, projLineString_map, projRing_map]
  exact ⟨rfl, rfl, rfl⟩

/-- `project.MultiLineString` / `Polygon` are the model's `ptssM` -/
theorem projPtss_tie {σ : Type} (f : Pt α → Pt α) (ls : List (List (Pt α))) (s : σ) :
    ptssM (pureProj f) ls s = (Generated.ProjectGo.projMultiLineString ls f, s) ∧
    ptssM (pureProj f) ls s = (Generated.ProjectGo.projPolygon ls f, s) := by
  rw [ptssM_pure, projMultiLineString_map, projPolygon_map]
  exact ⟨rfl, rfl⟩

/-- `project.MultiPolygon` is the model's `ptsssM` -/
theorem projPtsss_tie {σ : Type} (f : Pt α → Pt α) (ps : List (List (List (Pt α)))) (s : σ) :
    ptsssM (pureProj f) ps s = (Generated.ProjectGo.projMultiPolygon ps f, s) := by
  rw [ptsssM_pure, projMultiPolygon_map]

/-- `project.Bound`: `min := proj(b.Min); Bound{min, min}.Extend(proj(b.Max))` -/
theorem projBound_tie (f : Pt α → Pt α) (lo hi : Pt α) :
    Generated.ProjectGo.projBound ⟨lo, hi⟩ f = boundOf (f lo) (f hi) := rfl

/-! ### internal/mercator: `ToPlanar`, `ToGeo`

translated with libm's functions, `math.Pi`, the folded constants `2*math.Pi`, `180.0/math.Pi`, the literal
`0.9999` and `float64(uint64)` as explicit parameters (the fields of the model's record `MFn`); the clamp of
`ToPlanar` is decided on `siny`, and the named results are variables returned by the bare `return`. -/

/-- `1 << level` as the translation writes it is the argument of the model's `maxTiles` (its VALUE is
    `Orb.Project.maxTiles_eq`, C15.lean) -/
theorem maxtiles_eq (F : MFn α) (level : Nat) : F.ofNat ((1 <<< level) % 2 ^ 64) = maxTiles F level := by
  rw [maxTiles, Nat.one_shiftLeft]

theorem toPlanar_tie (F : MFn α) (level : Nat) (g : Pt α) :
    Generated.MercatorGo.toPlanar F.sin F.log F.pi F.twoPi F.c9999 F.ofNat g.x g.y level
      = ((toPlanar F level g).x, (toPlanar F level g).y) := by
  unfold Generated.MercatorGo.toPlanar toPlanar
  rw [maxtiles_eq]
  by_cases h1 : F.sin (g.y * F.pi / 180) < -F.c9999
  · simp only [h1, ↓reduceIte]
  · by_cases h2 : F.c9999 < F.sin (g.y * F.pi / 180)
    · simp only [h1, h2, ↓reduceIte]
    · simp only [h1, h2, ↓reduceIte]

theorem toGeo_tie (F : MFn α) (level : Nat) (p : Pt α) :
    Generated.MercatorGo.toGeo F.atan F.exp F.pi F.twoPi F.d180pi F.ofNat p.x p.y level
      = ((toGeo F level p).x, (toGeo F level p).y) := by
  unfold Generated.MercatorGo.toGeo toGeo
  rw [maxtiles_eq]

theorem all_translated_MercatorGo : Generated.MercatorGo.translated = ["toPlanar", "toGeo"] := rfl

/-! ### encoding/mvt/projection.go: `isPowerOfTwo`, `newProjection`, `nonPowerOfTwoProjection`

`newProjection` returns a struct of two closures; each is translated as "the field of the result, applied to
`p`" (the statements in front of the `return`, then the closure's body; `return nonPowerOfTwoProjection(…)`
becomes the call of the same field of that function).  uint32 subtraction wraps (`(a + 2^32 - b) % 2^32`),
`uint64(x) << n` is `(x <<< n) % 2^64`, `bits.TrailingZeros32` is an opaque parameter instantiated by the
model's `trailingZeros32`, `math.Floor` is `F.floor`. -/

theorem isPowerOfTwo_tie (n : Nat) (h : n < 2 ^ 32) : Generated.MvtGo.isPowerOfTwo n = isPowerOfTwo n := by
  unfold Generated.MvtGo.isPowerOfTwo isPowerOfTwo
  cases n with
  | zero => simp
  | succ k =>
    have hk : (k + 1 + 2 ^ 32 - 1) % 2 ^ 32 = k := by
      have : k + 1 + 2 ^ 32 - 1 = k + 2 ^ 32 := by omega
      rw [this, Nat.add_mod_right, Nat.mod_eq_of_lt (by omega)]
    rw [hk]
    simp
    by_cases h0 : (k + 1) &&& k = 0 <;> simp [h0]

theorem nonPow2ToTile_tie (F : MFn α) (t : Orb.Tile.Tile) (extent : Nat) (p : Pt α) :
    Generated.MvtGo.nonPow2ToTile F.sin F.log F.floor F.pi F.twoPi F.c9999 F.ofNat t extent p
      = (nonPow2Proj F.floor (toPlanar F t.z) (toGeo F t.z) (F.ofNat t.x) (F.ofNat t.y) (F.ofNat extent)).toTile p := by
  unfold Generated.MvtGo.nonPow2ToTile nonPow2Proj
  simp only [toPlanar_tie]

theorem nonPow2ToWGS84_tie (F : MFn α) (t : Orb.Tile.Tile) (extent : Nat) (p : Pt α) :
    Generated.MvtGo.nonPow2ToWGS84 F.atan F.exp F.pi F.twoPi F.d180pi F.ofNat t extent p
      = (nonPow2Proj F.floor (toPlanar F t.z) (toGeo F t.z) (F.ofNat t.x) (F.ofNat t.y) (F.ofNat extent)).toWGS84 p := by
  unfold Generated.MvtGo.nonPow2ToWGS84 nonPow2Proj
  have h := toGeo_tie F t.z ⟨(p.x + 1 / 2) / F.ofNat extent + F.ofNat t.x, (p.y + 1 / 2) / F.ofNat extent + F.ofNat t.y⟩
  simp only [h]

/-- `newProjection(tile, extent).ToTile`, for an extent that is a uint32 -/
theorem newProjToTile_tie (F : MFn α) (t : Orb.Tile.Tile) (extent : Nat) (he : extent < 2 ^ 32) (p : Pt α) :
    Generated.MvtGo.newProjToTile F.sin F.log F.floor trailingZeros32 F.pi F.twoPi F.c9999 F.ofNat t extent p
      = (newProjection F t.x t.y t.z extent).toTile p := by
  unfold Generated.MvtGo.newProjToTile newProjection
  rw [isPowerOfTwo_tie extent he]
  cases isPowerOfTwo extent with
  | true =>
    simp only [↓reduceIte, pow2Proj, toPlanar_tie, Nat.shiftLeft_eq]
  | false =>
    simp only [Bool.false_eq_true, ↓reduceIte]
    exact nonPow2ToTile_tie F t extent p

/-- `newProjection(tile, extent).ToWGS84` -/
theorem newProjToWGS84_tie (F : MFn α) (t : Orb.Tile.Tile) (extent : Nat) (he : extent < 2 ^ 32) (p : Pt α) :
    Generated.MvtGo.newProjToWGS84 F.atan F.exp trailingZeros32 F.pi F.twoPi F.d180pi F.ofNat t extent p
      = (newProjection F t.x t.y t.z extent).toWGS84 p := by
  unfold Generated.MvtGo.newProjToWGS84 newProjection
  rw [isPowerOfTwo_tie extent he]
  cases isPowerOfTwo extent with
  | true =>
    simp only [↓reduceIte, pow2Proj, Nat.shiftLeft_eq]
    have h := toGeo_tie F (t.z + trailingZeros32 extent)
      ⟨p.x + F.ofNat (t.x * 2 ^ trailingZeros32 extent % 2 ^ 64) + 1 / 2,
       p.y + F.ofNat (t.y * 2 ^ trailingZeros32 extent % 2 ^ 64) + 1 / 2⟩
    simp only [h]
  | false =>
    simp only [Bool.false_eq_true, ↓reduceIte]
    exact nonPow2ToWGS84_tie F t extent p

/-! ### encoding/mvt/layer.go: `Layer.ProjectToTile`, `Layer.ProjectToWGS84`

The methods have a pointer receiver and write `f.Geometry` through the feature pointers.  They are translated
through a VIEW of what they touch: `l.Extent` is a parameter, `l.Features` is the list of the `Geometry` values of
the (distinct) features, `for _, f := range l.Features { f.Geometry = project.Geometry(f.Geometry, p.ToTile) }`
replaces the i-th value, and the result is that list after the method; `p := newProjection(tile, l.Extent)` stands
for the two translated closures, `project.Geometry` on the opaque geometry values is the explicit parameter
`projectGeometry` (instantiated by the model's `geometryVM` at a pure projection), the zero value of the interface
is `gnil` (the nil interface).  Any other use of the receiver (a cached field, a helper method) leaves the method
unresolved. -/

/-- `project.Geometry` on values, with a pure projection -/
def pg (g : GVal α) (f : Pt α → Pt α) : GVal α := (geometryVM (pureP f) g ()).1

theorem layerProjectToTile_tie (F : MFn α) (t : Orb.Tile.Tile) (extent : Nat) (he : extent < 2 ^ 32)
    (feats : List (GVal α)) :
    Generated.MvtGo.layerProjectToTile F.sin F.log F.atan F.exp F.floor trailingZeros32 F.pi F.twoPi F.d180pi F.c9999
        F.ofNat GVal.nilIface pg t extent feats
      = layerProjectToTile F t.x t.y t.z extent feats := by
  have hf : Generated.MvtGo.newProjToTile F.sin F.log F.floor trailingZeros32 F.pi F.twoPi F.c9999 F.ofNat t extent
      = (newProjection F t.x t.y t.z extent).toTile := funext (newProjToTile_tie F t extent he)
  unfold Generated.MvtGo.layerProjectToTile layerProjectToTile
  rw [hf]
  exact foldl_set_map (fun g => pg g (newProjection F t.x t.y t.z extent).toTile) GVal.nilIface feats

theorem layerProjectToWGS84_tie (F : MFn α) (t : Orb.Tile.Tile) (extent : Nat) (he : extent < 2 ^ 32)
    (feats : List (GVal α)) :
    Generated.MvtGo.layerProjectToWGS84 F.sin F.log F.atan F.exp F.floor trailingZeros32 F.pi F.twoPi F.d180pi F.c9999
        F.ofNat GVal.nilIface pg t extent feats
      = layerProjectToWGS84 F t.x t.y t.z extent feats := by
  have hf : Generated.MvtGo.newProjToWGS84 F.atan F.exp trailingZeros32 F.pi F.twoPi F.d180pi F.ofNat t extent
      = (newProjection F t.x t.y t.z extent).toWGS84 := funext (newProjToWGS84_tie F t extent he)
  unfold Generated.MvtGo.layerProjectToWGS84 layerProjectToWGS84
  rw [hf]
  exact foldl_set_map (fun g => pg g (newProjection F t.x t.y t.z extent).toWGS84) GVal.nilIface feats

theorem all_translated_MvtGo : Generated.MvtGo.translated =
    ["isPowerOfTwo", "nonPow2ToTile", "nonPow2ToWGS84", "newProjToTile", "newProjToWGS84", "layerProjectToTile",
     "layerProjectToWGS84"] := rfl

/-! ### project/projections.go: the closures `Mercator.ToWGS84`, `WGS84.ToMercator`

the function literals that initialise the package variables (nothing in the package assigns them); the
named constant `earthRadiusPi` is accepted as the model's `rPi` only while it is defined as
`orb.EarthRadius * math.Pi`. -/

theorem mercatorToWGS84_tie (F : MFn α) (p : Pt α) :
    Generated.ProjectGo.mercatorToWGS84 F.R F.atan F.exp F.piHalf F.d180pi F.rPi p = mercatorToWGS84 F p := rfl

theorem wgs84ToMercator_tie (F : MFn α) (g : Pt α) :
    Generated.ProjectGo.wgs84ToMercator F.max F.min F.R F.log F.tan F.pi F.rPi F.rPi180 g = wgs84ToMercator F g := rfl

theorem all_translated_ProjectGo : Generated.ProjectGo.translated =
    ["mercatorToWGS84", "wgs84ToMercator", "projPoint", "projMultiPoint", "projLineString", "projMultiLineString", "projRing", "projPolygon",
     "projMultiPolygon", "projBound"] := rfl

end Orb.C15Tie
