/-
  The ring loop of `polygon`, multi-line-strings, multi-polygons and collections are one loop: `List.foldlM` with
  a `Res` outcome (every member adds to the state, or the first failure is the outcome).  `line` is the segment
  loop followed by a function of its final state.  From these: the rectangle of a bound, totality of `cover`, and
  what the polygon fill can add.  Any number type.
-/
import Orb.TileCover
import OrbProofs.C13Lemmas
import OrbProofs.GeomInd
import OrbProofs.ResLemmas
set_option linter.unusedSectionVars false

namespace Orb.TileCover
open Orb Orb.Tile
section loop
variable {β : Type}

/-- For a clause that also says that the loop succeeds (the `_union` / `_error` clauses) take this pair; from a
    result that is already `.ok`, `foldlM_res_ok_iff` with `mem_foldl_add` (`C14Unions`) gives the members'
    outputs in order.  Both are proved here without `List.Forall₂`: this module is core Lean only. -/
theorem foldlM_union {γ : Type} {f : List Tile → β → CRes (List Tile)} {g : β → CRes γ} {T : γ → List Tile}
    (hf : ∀ set b, f set b = (g b).map (T · ++ set)) :
    ∀ (bs : List β) (set : List Tile), (∀ b ∈ bs, ∃ o, g b = .ok o) →
      ∃ S, bs.foldlM f set = .ok S ∧
        ∀ t, t ∈ S ↔ t ∈ set ∨ ∃ b ∈ bs, ∃ o, g b = .ok o ∧ t ∈ T o := by
  intro bs
  induction bs with
  | nil => exact fun set _ => ⟨set, rfl, fun t => ⟨Or.inl, fun h => h.elim id fun ⟨_, hb, _⟩ => nomatch hb⟩⟩
  | cons b bs ih =>
    intro set hs
    obtain ⟨o, hb⟩ := hs b List.mem_cons_self
    obtain ⟨S, hS, hmem⟩ := ih (T o ++ set) fun b' hb' => hs b' (List.mem_cons_of_mem _ hb')
    refine ⟨S, by rw [List.foldlM_cons, hf, hb]; exact hS, fun t => ?_⟩
    rw [hmem t, List.mem_append]
    constructor
    · rintro ((h | h) | ⟨b', hb', o', ho', ht⟩)
      · exact Or.inr ⟨b, List.mem_cons_self, o, hb, h⟩
      · exact Or.inl h
      · exact Or.inr ⟨b', List.mem_cons_of_mem _ hb', o', ho', ht⟩
    · rintro (h | ⟨b', hb', o', ho', ht⟩)
      · exact Or.inl (Or.inr h)
      · rcases List.mem_cons.mp hb' with rfl | hb''
        · rw [hb] at ho'
          cases ho'
          exact Or.inl (Or.inl ht)
        · exact Or.inr ⟨b', hb'', o', ho', ht⟩

theorem foldlM_error {γ : Type} {f : List Tile → β → CRes (List Tile)} {g : β → CRes γ} {T : γ → List Tile}
    (hf : ∀ set b, f set b = (g b).map (T · ++ set)) (b : β) (bs₂ : List β) (hb : (g b).isOk = false) :
    ∀ (bs₁ : List β) (set : List Tile), (∀ b' ∈ bs₁, ∃ o, g b' = .ok o) →
      ∀ set', (bs₁ ++ b :: bs₂).foldlM f set = f set' b := by
  intro bs₁
  induction bs₁ with
  | nil =>
    intro set _ set'
    rw [List.nil_append, List.foldlM_cons, hf, hf]
    cases hfb : g b with
    | ok s => rw [hfb] at hb; cases hb
    | err e => rfl
    | panic w => rfl
  | cons b' bs ih =>
    intro set hs
    obtain ⟨s, hs'⟩ := hs b' List.mem_cons_self
    rw [List.cons_append, List.foldlM_cons, hf, hs']
    exact ih _ fun b'' hb'' => hs b'' (List.mem_cons_of_mem _ hb'')

end loop

section covers
variable {α : Type} [Add α] [Sub α] [Div α] [Neg α] [OfNat α 0] [OfNat α 1] [LT α] [DecidableLT α] [BEq α]

theorem multiLine_eq_loop (ops : Ops α) (zoom fuel : Nat) (ls : List (List (Pt α))) :
    ∀ set, multiLine ops zoom fuel set ls =
      ls.foldlM (fun set l => (line ops zoom fuel set l none).map (·.1)) set := by
  induction ls with
  | nil => intro set; rfl
  | cons l ls ih =>
    intro set
    rw [multiLine, List.foldlM_cons]
    cases line ops zoom fuel set l none with
    | ok r => exact ih r.1
    | err e => rfl
    | panic w => rfl

theorem multiPolygon_eq_loop (ops : Ops α) (zoom fuel : Nat) (ps : List (List (List (Pt α)))) :
    ∀ set, multiPolygon ops zoom fuel set ps = ps.foldlM (polygon ops zoom fuel) set := by
  induction ps with
  | nil => intro set; rfl
  | cons p ps ih =>
    intro set
    rw [multiPolygon, List.foldlM_cons]
    cases polygon ops zoom fuel set p with
    | ok s => exact ih s
    | err e => rfl
    | panic w => rfl



theorem collection_eq_loop (ops : Ops α) (frac : Pt α → Pt α) (zoom fuel : Nat) (gs : List (Geom α)) :
    cover ops frac zoom fuel (.collection gs) =
      gs.foldlM (fun set g => (cover ops frac zoom fuel g).map (· ++ set)) [] := by
  rw [cover]
  generalize ([] : List Tile) = set
  have stuck : ∀ (gs : List (Geom α)) (r : CRes (List Tile)), r.isOk = false →
      gs.foldl (fun acc g =>
        match acc with
        | .ok set =>
          (match cover ops frac zoom fuel g with
           | .ok s => .ok (s ++ set)
           | .err e => .err e
           | .panic w => .panic w)
        | r => r) r = r := by
    intro gs
    induction gs with
    | nil => intro r _; rfl
    | cons g gs ih =>
      intro r hr
      cases r with
      | ok s => cases hr
      | err e => exact ih _ rfl
      | panic w => exact ih _ rfl
  induction gs generalizing set with
  | nil => rfl
  | cons g gs ih =>
    rw [List.foldl_cons, List.foldlM_cons]
    cases cover ops frac zoom fuel g with
    | ok s => exact ih (s ++ set)
    | err e => exact stuck gs _ rfl
    | panic w => exact stuck gs _ rfl


theorem polygon_ok {ops : Ops α} {zoom fuel : Nat} {set S : List Tile} {rings : List (List (Pt α))}
    (h : polygon ops zoom fuel set rings = .ok S) :
    ∃ set' inter, traceRings ops zoom fuel set [] rings = .ok (set', inter) ∧
      inter.length % 2 = 0 ∧ S = fillPairs zoom (sortYX inter) ++ set' := by
  rw [polygon] at h
  cases ht : traceRings ops zoom fuel set [] rings with
  | ok res =>
    obtain ⟨set', inter⟩ := res
    rw [ht] at h
    dsimp only at h
    by_cases hodd : (inter.length % 2 != 0) = true
    · rw [if_pos hodd] at h; cases h
    · rw [if_neg hodd] at h
      cases h
      exact ⟨set', inter, rfl, by simpa using hodd, rfl⟩
  | err e => rw [ht] at h; cases h
  | panic w => rw [ht] at h; cases h

theorem mem_coverRect (lo hi t : Tile) (z : Nat) :
    t ∈ coverRect lo hi z ↔ t.z = z ∧ lo.x ≤ t.x ∧ t.x ≤ hi.x ∧ hi.y ≤ t.y ∧ t.y ≤ lo.y := by
  simp only [coverRect, List.mem_flatMap, List.mem_map, List.mem_range]
  constructor
  · rintro ⟨i, hi', j, hj, rfl⟩
    refine ⟨rfl, ?_⟩
    show lo.x ≤ lo.x + i ∧ lo.x + i ≤ hi.x ∧ hi.y ≤ hi.y + j ∧ hi.y + j ≤ lo.y
    omega
  · rintro ⟨h1, h2, h3, h4, h5⟩
    refine ⟨t.x - lo.x, by omega, t.y - hi.y, by omega, ?_⟩
    apply tile_ext <;> simp only [] <;> omega

/-- `cover_collection_union'`, `cover_collection_error'` and `cover_total'` are the statements of the unprimed
    theorems of `C14`; they stand here because `C20Models` cites them from this core-only module. -/
theorem cover_collection_union' (ops : Ops α) (frac : Pt α → Pt α) (zoom fuel : Nat) (gs : List (Geom α))
    (hs : ∀ g ∈ gs, ∃ s, cover ops frac zoom fuel g = .ok s) :
    ∃ S, cover ops frac zoom fuel (.collection gs) = .ok S ∧
      ∀ t, t ∈ S ↔ ∃ g ∈ gs, ∃ s, cover ops frac zoom fuel g = .ok s ∧ t ∈ s := by
  obtain ⟨S, hS, hmem⟩ := foldlM_union (fun _ _ => rfl) gs [] hs
  exact ⟨S, (collection_eq_loop ops frac zoom fuel gs).trans hS,
    fun t => (hmem t).trans (or_iff_right List.not_mem_nil)⟩

theorem cover_collection_error' (ops : Ops α) (frac : Pt α → Pt α) (zoom fuel : Nat)
    (gs₁ : List (Geom α)) (g : Geom α) (gs₂ : List (Geom α))
    (hs : ∀ g ∈ gs₁, ∃ s, cover ops frac zoom fuel g = .ok s)
    (hg : (cover ops frac zoom fuel g).isOk = false) :
    cover ops frac zoom fuel (.collection (gs₁ ++ g :: gs₂)) = cover ops frac zoom fuel g :=
  (collection_eq_loop ops frac zoom fuel _).trans <|
    (foldlM_error (fun _ _ => rfl) g gs₂ hg gs₁ [] hs []).trans <| by
      cases cover ops frac zoom fuel g <;> simp [Res.map]

/-- what `line` returns from the final state of the segment loop: the set, and the ring trace without its
    last entry when the walk ended in the row of the first entry -/
def lineOut (ops : Ops α) (s : LState α) : List Tile × Option (List (Nat × Nat)) :=
  (s.set, s.ring.map fun r =>
    if (r.head?.map fun first => ops.toU32 s.y == first.2) = some true then r.dropLast else r)

theorem line_eq (ops : Ops α) (zoom fuel : Nat) (set : List Tile) (pts : List (Pt α))
    (ring : Option (List (Nat × Nat))) :
    line ops zoom fuel set pts ring =
      (lineSegs ops zoom fuel ⟨set, ring, -1, -1, 0, 0⟩ pts).elim (.err .outOfFuel)
        fun s => .ok (lineOut ops s) := by
  unfold line
  cases lineSegs ops zoom fuel ⟨set, ring, -1, -1, 0, 0⟩ pts with
  | none => rfl
  | some s =>
    obtain ⟨set0, ring0, px, py, x, y⟩ := s
    rcases ring0 with _ | _ | ⟨first, t⟩
    · rfl
    · rfl
    · by_cases hc : (ops.toU32 y == first.2) = true
      · simp only [Option.elim, lineOut, List.head?_cons, Option.map_some, hc, if_true]
      · simp only [Option.elim, lineOut, List.head?_cons, Option.map_some, hc, Option.some.injEq,
          Bool.false_eq_true, if_false]

theorem line_ok {ops : Ops α} {zoom fuel : Nat} {set : List Tile} {pts : List (Pt α)}
    {ring : Option (List (Nat × Nat))} {r : List Tile × Option (List (Nat × Nat))}
    (h : line ops zoom fuel set pts ring = .ok r) :
    ∃ s, lineSegs ops zoom fuel ⟨set, ring, -1, -1, 0, 0⟩ pts = some s ∧ r = lineOut ops s := by
  rw [line_eq] at h
  cases hl : lineSegs ops zoom fuel ⟨set, ring, -1, -1, 0, 0⟩ pts with
  | none => rw [hl] at h; cases h
  | some s => rw [hl] at h; exact ⟨s, rfl, (Res.ok.inj h).symm⟩

theorem line_err {ops : Ops α} {zoom fuel : Nat} {set : List Tile} {pts : List (Pt α)}
    {ring : Option (List (Nat × Nat))} {e : CoverErr} (h : line ops zoom fuel set pts ring = .err e) :
    e = .outOfFuel := by
  rw [line_eq] at h
  cases hl : lineSegs ops zoom fuel ⟨set, ring, -1, -1, 0, 0⟩ pts <;> rw [hl] at h <;> cases h
  rfl

theorem line_not_panic (ops : Ops α) (zoom fuel : Nat) (set : List Tile) (pts : List (Pt α))
    (ring : Option (List (Nat × Nat))) : (line ops zoom fuel set pts ring).isPanic = false := by
  rw [line_eq]
  cases lineSegs ops zoom fuel ⟨set, ring, -1, -1, 0, 0⟩ pts <;> rfl

theorem traceRings_eq_loop (ops : Ops α) (zoom fuel : Nat) (rs : List (List (Pt α))) :
    ∀ set inter, traceRings ops zoom fuel set inter rs =
      rs.foldlM (fun (s : List Tile × List (Nat × Nat)) r => (line ops zoom fuel s.1 r (some [])).map
        fun o => (o.1, s.2 ++ ringIntersections (o.2.getD []))) (set, inter) := by
  induction rs with
  | nil => intro set inter; rfl
  | cons r rs ih =>
    intro set inter
    rw [traceRings, List.foldlM_cons]
    cases line ops zoom fuel set r (some []) with
    | ok o => exact ih o.1 _
    | err e => rfl
    | panic w => rfl

theorem traceRings_err {ops : Ops α} {zoom fuel : Nat} {e : CoverErr} {rings : List (List (Pt α))}
    {set : List Tile} {inter : List (Nat × Nat)}
    (h : traceRings ops zoom fuel set inter rings = .err e) : e = .outOfFuel := by
  rw [traceRings_eq_loop] at h
  refine foldlM_res_err (P := fun e => e = .outOfFuel) (fun s r e he => ?_) rings _ h
  cases hl : line ops zoom fuel s.1 r (some []) <;> rw [hl] at he <;> cases he
  exact line_err hl

theorem traceRings_not_panic (ops : Ops α) (zoom fuel : Nat) (rings : List (List (Pt α))) (set : List Tile)
    (inter : List (Nat × Nat)) : (traceRings ops zoom fuel set inter rings).isPanic = false := by
  rw [traceRings_eq_loop]
  exact foldlM_res_np rings
    (fun s r _ => (Res.isPanic_map _ _).trans (line_not_panic ops zoom fuel s.1 r (some []))) _

theorem polygon_not_panic (ops : Ops α) (zoom fuel : Nat) (set : List Tile) (rings : List (List (Pt α))) :
    (polygon ops zoom fuel set rings).isPanic = false := by
  have ht := traceRings_not_panic ops zoom fuel rings set []
  unfold polygon
  split
  · split <;> rfl
  · rfl
  · rename_i w hw; rw [hw] at ht; simp [Res.isPanic] at ht

theorem cover_total' (ops : Ops α) (frac : Pt α → Pt α) (zoom fuel : Nat) (g : Geom α) :
    (cover ops frac zoom fuel g).isPanic = false := by
  induction g using Geom.ind with
  | point p => simp only [cover]; rfl
  | multiPoint ps => simp only [cover]; rfl
  | lineString ps =>
    simp only [cover]
    exact (Res.isPanic_map _ _).trans (line_not_panic ops zoom fuel [] (ps.map frac) none)
  | multiLineString ls =>
    simp only [cover]
    rw [multiLine_eq_loop]
    exact foldlM_res_np _ (fun set l _ => (Res.isPanic_map _ _).trans (line_not_panic ops zoom fuel set l none)) _
  | ring ps =>
    simp only [cover]
    split
    · rfl
    · exact polygon_not_panic ..
  | polygon rs => simp only [cover]; exact polygon_not_panic ..
  | multiPolygon ps =>
    simp only [cover]
    rw [multiPolygon_eq_loop]
    exact foldlM_res_np _ (fun set p _ => polygon_not_panic ops zoom fuel set p) _
  | bound a b =>
    simp only [cover]
    split <;> rfl
  | collection gs ih =>
    rw [collection_eq_loop]
    exact foldlM_res_np _ (fun set g hg => (Res.isPanic_map _ _).trans (ih g hg)) _

theorem ringIntersections_subset (ring : List (Nat × Nat)) (e : Nat × Nat)
    (h : e ∈ ringIntersections ring) : e ∈ ring := by
  simp only [ringIntersections, List.mem_filterMap, List.mem_range] at h
  obtain ⟨i, hi, h⟩ := h
  split at h
  · cases h
    rw [List.getD_eq_getElem?_getD, List.getElem?_eq_getElem hi]
    exact List.getElem_mem hi
  · cases h

theorem fillPairs_mem (zoom : Nat) (l : List (Nat × Nat)) (t : Tile) (h : t ∈ fillPairs zoom l) :
    t.z = zoom ∧ ∃ a ∈ l, ∃ b ∈ l, t.y = a.2 ∧ add32 a.1 1 ≤ t.x ∧ t.x < b.1 := by
  induction l using fillPairs.induct with
  | case1 a b rest ih =>
    rw [fillPairs] at h
    rcases List.mem_append.1 h with h | h
    · simp only [List.mem_map, List.mem_range] at h
      obtain ⟨k, hk, rfl⟩ := h
      refine ⟨rfl, a, List.mem_cons_self .., b, List.mem_cons_of_mem _ (List.mem_cons_self ..), rfl, ?_, ?_⟩
      · show add32 a.1 1 ≤ add32 a.1 1 + k
        omega
      · show add32 a.1 1 + k < b.1
        omega
    · obtain ⟨hz, a', ha', b', hb', h3⟩ := ih h
      exact ⟨hz, a', List.mem_cons_of_mem _ (List.mem_cons_of_mem _ ha'),
        b', List.mem_cons_of_mem _ (List.mem_cons_of_mem _ hb'), h3⟩
  | case2 l hl =>
    rw [fillPairs] at h
    · cases h
    · exact hl

end covers
end Orb.TileCover
