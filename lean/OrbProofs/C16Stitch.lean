/-
  C16 lemmas: the stitching loop (`wrapLoop`, `smartWrap`) by what it builds.  `Conn` is the connection the
  loop inserts between the end of the ring under construction and the next start, `Path` a sequence of input
  pieces joined by connections, `Ring` a path closed by one more; `Shape` is the loop invariant "the result
  is a list of rings, the ring under construction is a path".  Closed rings and vertices follow for any input.
-/
import OrbProofs.C16Sort
import OrbProofs.ListLemmas
import Mathlib.Data.List.Forall2

set_option linter.unusedSectionVars false

namespace Orb.SmartClip
open Orb Orb.Core

variable {α : Type} [Field α] [LinearOrder α] [IsStrictOrderedRing α]

/-- every polygon is one explicitly closed ring -/
def SingleClosed (mp : List (List (List (Pt α)))) : Prop := ∀ pg ∈ mp, ∃ rg, pg = [rg] ∧ ClosedRing rg

theorem singleClosed_ne (mp : List (List (List (Pt α)))) (h : SingleClosed mp) :
    ∀ pg ∈ mp, pg ≠ [] ∧ ∀ rg ∈ pg, ClosedRing rg := by
  intro pg hpg
  obtain ⟨rg, rfl, hrg⟩ := h pg hpg
  exact ⟨by simp, by simpa using hrg⟩

/-- what the loop computes as `rTail` for the next start `p` and the present end `cl` -/
def Conn (box : Bound α) (o : Int) (p cl : Pt α) (w : List (Pt α)) : Prop :=
  (p = cl ∧ w = []) ∨ (p ≠ cl ∧ ∃ r, aroundBound box [p, cl] o = .ok r ∧ w = r.drop 2)


/-- One iteration of the stitching loop: either the final value or the next state and loop index.
    The body is that of the model's `wrapLoop` (Orb/SmartClip.lean) with `Res.bind` written out and must
    follow it; `wrapLoop_succ` is the check that it does. -/
def wrapStep (box : Bound α) (input : List (List (Pt α))) (o : Int) (n : Nat) (st : WrapSt α) (i : Nat) :
    Res String (List (List (List (Pt α))) ⊕ (WrapSt α × Nat)) :=
  if i ≥ 2 * n then .ok (.inl st.result) else
  match st.points[i % n]? with
  | none => .panic "index out of range"
  | some ep =>
    if ep.used then .ok (.inr (st, i+1))
    else if !ep.start then
      if st.current.isEmpty then
        match input[ep.index]? with
        | none => .panic "index out of range"
        | some piece =>
          .ok (.inr ({ st with current := piece, first := ep.index, points := st.points.set (i % n) { ep with used := true } }, i+1))
      else .ok (.inr (st, i+1))
    else if st.current.isEmpty then .ok (.inr (st, i+1))
    else
      match st.current.head?, st.current.getLast? with
      | some cf, some cl =>
        Res.bind (if Core.ptEq ep.point cl then .ok []
            else Res.bind (aroundBound box [ep.point, cl] o) fun r => .ok (r.drop 2) : Res String (List (Pt α)))
          fun rTail =>
          if ep.index == st.first && Core.ptEq ep.point cf then
            .ok (.inr ({ points := st.points.set (i % n) { ep with used := true }, current := [],
                         result := st.result ++ [[st.current ++ rTail]], first := st.first }, 0))
          else
            match input[ep.index]? with
            | none => .panic "index out of range"
            | some piece =>
              if ep.otherEnd ≥ (st.points.set (i % n) { ep with used := true }).length then .panic "index out of range" else
              .ok (.inr ({ points := (st.points.set (i % n) { ep with used := true }).modify ep.otherEnd
                                        fun e => { e with used := true },
                           current := st.current ++ (if rTail.isEmpty then [] else rTail.dropLast) ++ piece,
                           result := st.result, first := st.first }, ep.otherEnd + 1))
      | _, _ => .panic "index out of range"

/-- how the loop goes on after one iteration: with the value, or from the next state and index -/
def wrapCont (box : Bound α) (input : List (List (Pt α))) (o : Int) (n fuel : Nat) :
    List (List (List (Pt α))) ⊕ (WrapSt α × Nat) → Res String (List (List (List (Pt α))))
  | .inl r => .ok r
  | .inr (st, i) => wrapLoop box input o n fuel st i

theorem wrapLoop_succ (box : Bound α) (input : List (List (Pt α))) (o : Int) (n fuel : Nat) (st : WrapSt α) (i : Nat) :
    wrapLoop box input o n (fuel+1) st i = Res.bind (wrapStep box input o n st i) (wrapCont box input o n fuel) := by
  rw [wrapLoop, wrapStep]
  by_cases h1 : i ≥ 2 * n
  · rw [if_pos h1, if_pos h1]; rfl
  · rw [if_neg h1, if_neg h1]
    dsimp only []
    cases h2 : st.points[i % n]? with
    | none => rfl
    | some ep =>
      simp only []
      by_cases h3 : ep.used = true
      · rw [if_pos h3, if_pos h3]; rfl
      · rw [if_neg h3, if_neg h3]
        by_cases h4 : (!ep.start) = true
        · rw [if_pos h4, if_pos h4]
          by_cases h5 : st.current.isEmpty = true
          · rw [if_pos h5, if_pos h5]
            cases h6 : input[ep.index]? <;> rfl
          · rw [if_neg h5, if_neg h5]; rfl
        · rw [if_neg h4, if_neg h4]
          by_cases h5 : st.current.isEmpty = true
          · rw [if_pos h5, if_pos h5]; rfl
          · rw [if_neg h5, if_neg h5]
            cases h6 : st.current.head? with
            | none => rfl
            | some cf =>
              cases h7 : st.current.getLast? with
              | none => rfl
              | some cl =>
                simp only []
                have key : ∀ (x : Res String (List (Pt α))) f g, (∀ t, f t = Res.bind (g t) (wrapCont box input o n fuel)) →
                    (x >>= f) = Res.bind (Res.bind x g) (wrapCont box input o n fuel) := by
                  intro x f g hfg
                  cases x with
                  | ok a => exact hfg a
                  | err e => rfl
                  | panic w => rfl
                refine key _ _ _ ?_
                intro rTail
                by_cases h8 : (ep.index == st.first && Core.ptEq ep.point cf) = true
                · rw [if_pos h8, if_pos h8]; rfl
                · rw [if_neg h8, if_neg h8]
                  cases h9 : input[ep.index]? with
                  | none => rfl
                  | some piece =>
                    simp only []
                    split_ifs <;> rfl


/-- the record with its `used` flag set -/
def usedT (e : Endpoint α) : Endpoint α := { e with used := true }

/-- all the ways one iteration can succeed, each with the test of the loop body that led there -/
theorem wrapStep_cases2 {box : Bound α} {input : List (List (Pt α))} {o : Int} {n : Nat} {st : WrapSt α} {i : Nat}
    {x : List (List (List (Pt α))) ⊕ (WrapSt α × Nat)} (h : wrapStep box input o n st i = .ok x) :
    (2 * n ≤ i ∧ x = .inl st.result) ∨
    (i < 2 * n ∧ ∃ ep, st.points[i % n]? = some ep ∧
      ((x = .inr (st, i+1) ∧ (ep.used = true ∨ (ep.start = false ∧ st.current ≠ []) ∨ (ep.start = true ∧ st.current = []))) ∨
       (ep.used = false ∧ ep.start = false ∧ st.current = [] ∧ ∃ piece, input[ep.index]? = some piece ∧
          x = .inr ({ st with current := piece, first := ep.index, points := st.points.set (i % n) (usedT ep) }, i+1)) ∨
       (ep.used = false ∧ ep.start = true ∧ ∃ cf cl rTail, st.current.head? = some cf ∧ st.current.getLast? = some cl ∧
          ((ep.point = cl ∧ rTail = []) ∨
           (ep.point ≠ cl ∧ ∃ r, aroundBound box [ep.point, cl] o = .ok r ∧ rTail = r.drop 2)) ∧
          ((ep.index = st.first ∧ ep.point = cf ∧
              x = .inr ({ points := st.points.set (i % n) (usedT ep), current := [],
                          result := st.result ++ [[st.current ++ rTail]], first := st.first }, 0)) ∨
           ((ep.index ≠ st.first ∨ ep.point ≠ cf) ∧ ∃ piece, input[ep.index]? = some piece ∧ ep.otherEnd < st.points.length ∧
              x = .inr ({ points := (st.points.set (i % n) (usedT ep)).modify ep.otherEnd usedT,
                          current := st.current ++ (if rTail.isEmpty then [] else rTail.dropLast) ++ piece,
                          result := st.result, first := st.first }, ep.otherEnd + 1)))))) := by
  rw [wrapStep] at h
  by_cases h1 : i ≥ 2 * n
  · rw [if_pos h1] at h
    left; exact ⟨h1, by cases h; rfl⟩
  · rw [if_neg h1] at h
    right
    refine ⟨by omega, ?_⟩
    cases h2 : st.points[i % n]? with
    | none => rw [h2] at h; cases h
    | some ep =>
      rw [h2] at h
      refine ⟨ep, rfl, ?_⟩
      simp only [] at h
      by_cases h3 : ep.used = true
      · rw [if_pos h3] at h; left; cases h; exact ⟨rfl, Or.inl h3⟩
      · rw [if_neg h3] at h
        have hu : ep.used = false := by simpa using h3
        by_cases h4 : (!ep.start) = true
        · rw [if_pos h4] at h
          have hs : ep.start = false := by simpa using h4
          by_cases h5 : st.current.isEmpty = true
          · rw [if_pos h5] at h
            cases h6 : input[ep.index]? with
            | none => rw [h6] at h; cases h
            | some piece =>
              rw [h6] at h
              right; left
              refine ⟨hu, hs, by simpa using h5, piece, rfl, ?_⟩
              cases h; rfl
          · rw [if_neg h5] at h; left; cases h
            exact ⟨rfl, Or.inr (Or.inl ⟨hs, by simpa using h5⟩)⟩
        · rw [if_neg h4] at h
          have hs : ep.start = true := by simpa using h4
          by_cases h5 : st.current.isEmpty = true
          · rw [if_pos h5] at h; left; cases h
            exact ⟨rfl, Or.inr (Or.inr ⟨hs, by simpa using h5⟩)⟩
          · rw [if_neg h5] at h
            cases h6 : st.current.head? with
            | none => rw [h6] at h; cases h7 : st.current.getLast? <;> rw [h7] at h <;> cases h
            | some cf =>
              cases h7 : st.current.getLast? with
              | none => rw [h6, h7] at h; cases h
              | some cl =>
                rw [h6, h7] at h
                simp only [] at h
                right; right
                obtain ⟨rTail, hr, h⟩ := Res.bind_eq_ok h
                refine ⟨hu, hs, cf, cl, rTail, rfl, rfl, ?_, ?_⟩
                · by_cases h8 : Core.ptEq ep.point cl = true
                  · rw [if_pos h8] at hr
                    left; exact ⟨(ptEq_iff _ _).1 h8, by cases hr; rfl⟩
                  · rw [if_neg h8] at hr
                    right
                    obtain ⟨r, hr1, hr2⟩ := Res.bind_eq_ok hr
                    exact ⟨fun hh => h8 ((ptEq_iff _ _).2 hh), r, hr1, by cases hr2; rfl⟩
                · by_cases h8 : (ep.index == st.first && Core.ptEq ep.point cf) = true
                  · rw [if_pos h8] at h
                    have h8' := Bool.and_eq_true_iff.1 h8
                    left; exact ⟨by simpa using h8'.1, (ptEq_iff _ _).1 h8'.2, by cases h; rfl⟩
                  · rw [if_neg h8] at h
                    right
                    refine ⟨?_, ?_⟩
                    · by_cases hi : ep.index = st.first
                      · right; intro hh; exact h8 (Bool.and_eq_true_iff.2 ⟨by simpa using hi, (ptEq_iff _ _).2 hh⟩)
                      · left; exact hi
                    cases h9 : input[ep.index]? with
                    | none => rw [h9] at h; cases h
                    | some piece =>
                      rw [h9] at h
                      simp only [] at h
                      by_cases h10 : ep.otherEnd ≥ (st.points.set (i % n) { ep with used := true }).length
                      · rw [if_pos h10] at h; cases h
                      · rw [if_neg h10] at h
                        refine ⟨piece, rfl, by simpa using h10, ?_⟩
                        cases h; rfl

/-- One successful iteration that goes on, as an elimination rule: to prove `Q` of the next state and
    index it suffices to prove it in the four ways the loop body can go on — skip the endpoint, start a
    ring with the piece of an end, complete the ring at the start of its first piece, append the piece
    of a start.  (Taking the disjunction `wrapStep_cases2` apart with `rcases` at every use is slow: every
    intermediate goal carries the whole statement.) -/
theorem wrapStep_next {box : Bound α} {input : List (List (Pt α))} {o : Int} {n : Nat} {st st' : WrapSt α}
    {i i' : Nat} {Q : WrapSt α → Nat → Prop} (h : wrapStep box input o n st i = .ok (.inr (st', i')))
    (skip : i < 2 * n → ∀ ep, st.points[i % n]? = some ep →
      (ep.used = true ∨ (ep.start = false ∧ st.current ≠ []) ∨ (ep.start = true ∧ st.current = [])) → Q st (i + 1))
    (take : i < 2 * n → ∀ ep piece, st.points[i % n]? = some ep → ep.used = false → ep.start = false →
      st.current = [] → input[ep.index]? = some piece →
      Q { st with current := piece, first := ep.index, points := st.points.set (i % n) (usedT ep) } (i + 1))
    (complete : i < 2 * n → ∀ ep cf cl rTail, st.points[i % n]? = some ep → ep.used = false → ep.start = true →
      st.current.head? = some cf → st.current.getLast? = some cl →
      Conn box o ep.point cl rTail →
      ep.index = st.first → ep.point = cf →
      Q { points := st.points.set (i % n) (usedT ep), current := [],
          result := st.result ++ [[st.current ++ rTail]], first := st.first } 0)
    (append : i < 2 * n → ∀ ep cf cl rTail piece, st.points[i % n]? = some ep → ep.used = false →
      ep.start = true → st.current.head? = some cf → st.current.getLast? = some cl →
      Conn box o ep.point cl rTail →
      (ep.index ≠ st.first ∨ ep.point ≠ cf) → input[ep.index]? = some piece → ep.otherEnd < st.points.length →
      Q { points := (st.points.set (i % n) (usedT ep)).modify ep.otherEnd usedT,
          current := st.current ++ (if rTail.isEmpty then [] else rTail.dropLast) ++ piece,
          result := st.result, first := st.first } (ep.otherEnd + 1)) :
    Q st' i' := by
  rcases wrapStep_cases2 h with ⟨_, hr⟩ | ⟨hi, ep, hep, ⟨hr, hwhy⟩ | ⟨hu, hs, hcur, piece, hpiece, hr⟩ |
    ⟨hu, hs, cf, cl, rTail, hcf, hcl, hrt, ⟨hfirst, hpf, hr⟩ | ⟨hne, piece, hpiece, hoe, hr⟩⟩⟩
  · cases hr
  · cases hr; exact skip hi ep hep hwhy
  · cases hr; exact take hi ep piece hep hu hs hcur hpiece
  · cases hr; exact complete hi ep cf cl rTail hep hu hs hcf hcl hrt hfirst hpf
  · cases hr; exact append hi ep cf cl rTail piece hep hu hs hcf hcl hrt hne hpiece hoe

theorem wrapStep_exit {box : Bound α} {input : List (List (Pt α))} {o : Int} {n : Nat} {st : WrapSt α}
    {i : Nat} {r : List (List (List (Pt α)))} (h : wrapStep box input o n st i = .ok (.inl r)) :
    2 * n ≤ i ∧ r = st.result := by
  rcases wrapStep_cases2 h with ⟨hi, hr⟩ | ⟨_, ep, _, ⟨hr, _⟩ | ⟨_, _, _, _, _, hr⟩ |
    ⟨_, _, _, _, _, _, _, _, ⟨_, _, hr⟩ | ⟨_, _, _, _, hr⟩⟩⟩
  · cases hr; exact ⟨hi, rfl⟩
  all_goals cases hr

/-- an invariant of state and loop index preserved by every iteration holds at the exit -/
theorem wrapLoop_inv2 {box : Bound α} {input : List (List (Pt α))} {o : Int} {n : Nat} (P : WrapSt α → Nat → Prop)
    (hstep : ∀ st i st' i', P st i → wrapStep box input o n st i = .ok (.inr (st', i')) → P st' i') :
    ∀ fuel st i out, wrapLoop box input o n fuel st i = .ok out → P st i →
      ∃ stf jf, P stf jf ∧ 2 * n ≤ jf ∧ out = stf.result := by
  intro fuel
  induction fuel with
  | zero => intro st i out h; rw [wrapLoop] at h; cases h
  | succ fuel ih =>
    intro st i out h hP
    rw [wrapLoop_succ] at h
    obtain ⟨x, hx, h⟩ := Res.bind_eq_ok h
    cases x with
    | inl r =>
      obtain ⟨hi, rfl⟩ := wrapStep_exit hx
      rw [wrapCont] at h
      cases h
      exact ⟨st, i, hP, hi, rfl⟩
    | inr p =>
      obtain ⟨st', i'⟩ := p
      rw [wrapCont] at h
      exact ih st' i' out h (hstep st i st' i' hP hx)

theorem smartWrap_inv {box : Bound α} {input : List (List (Pt α))} {o : Int} {out : List (List (List (Pt α)))}
    (h : smartWrap box input o = .ok out) :
    ∃ pts sorted, mkEndpoints box 0 input = .ok pts ∧ sortE input (o != CCW) pts = .ok sorted ∧
      wrapLoop box input o sorted.length ((2*sorted.length+2)*(2*sorted.length+2))
        { points := sorted, current := [], result := [] } 0 = .ok out := by
  unfold smartWrap at h
  obtain ⟨pts, h1, h⟩ := Res.bind_eq_ok h
  obtain ⟨sorted, h2, h⟩ := Res.bind_eq_ok h
  exact ⟨pts, sorted, h1, h2, h⟩


theorem Conn.shape {box : Bound α} {o : Int} {p cl : Pt α} {w : List (Pt α)} (h : Conn box o p cl w) :
    ∃ ps, (∀ v ∈ ps, ∃ c ∈ ccwOrder, pointFor box c = .ok v) ∧
      ((w = [] ∧ ps = [] ∧ p = cl) ∨ w = ps ++ [p]) := by
  rcases h with ⟨h1, h2⟩ | ⟨hne, r, hr, rfl⟩
  · exact ⟨[], (fun v hv => nomatch hv), Or.inl ⟨h2, rfl, h1⟩⟩
  · obtain ⟨_, _, _, ⟨hfl, _⟩ | ⟨cs, ps, hfa, rfl, _⟩⟩ := aroundBound_inv box _ r o p cl rfl rfl hr
    · exact absurd hfl hne
    · refine ⟨ps, fun v hv => ?_, Or.inr (by simp)⟩
      obtain ⟨c, hc⟩ := forall₂_right (P := fun v => ∃ c, pointFor box c = .ok v) hfa (fun c v h => ⟨c, h⟩) v hv
      exact ⟨c, pointFor_ok_mem box c v hc, hc⟩

/-- a vertex of an input piece or one of the eight `pointFor` points -/
def GoodV (box : Bound α) (input : List (List (Pt α))) (v : Pt α) : Prop :=
  (∃ ls ∈ input, v ∈ ls) ∨ ∃ c ∈ ccwOrder, pointFor box c = .ok v

/-- `cur` consists of the pieces `ms`, in this order, each joined to the next by a connection -/
inductive Path (box : Bound α) (input : List (List (Pt α))) (o : Int) : List Nat → List (Pt α) → Prop
  | one {m : Nat} {piece : List (Pt α)} : input[m]? = some piece → Path box input o [m] piece
  | snoc {ms : List Nat} {cur w piece : List (Pt α)} {cl p : Pt α} {m : Nat} :
      Path box input o ms cur → cur.getLast? = some cl → input[m]? = some piece → piece.head? = some p →
      Conn box o p cl w → Path box input o (ms ++ [m]) (cur ++ w.dropLast ++ piece)

/-- a path closed by a connection back to its first point -/
def Ring (box : Bound α) (input : List (List (Pt α))) (o : Int) (ms : List Nat) (rg : List (Pt α)) : Prop :=
  ∃ cur cf cl w, Path box input o ms cur ∧ cur.head? = some cf ∧ cur.getLast? = some cl ∧
    Conn box o cf cl w ∧ rg = cur ++ w

theorem Path.vertices {box : Bound α} {input : List (List (Pt α))} {o : Int} {ms : List Nat} {cur : List (Pt α)}
    (h : Path box input o ms cur) : ∀ v ∈ cur, GoodV box input v := by
  induction h with
  | one hm => exact fun v hv => Or.inl ⟨_, List.mem_of_getElem? hm, hv⟩
  | snoc _ _ hm _ hc ih =>
    intro v hv
    obtain ⟨ps, hps, hw⟩ := hc.shape
    rcases List.mem_append.1 hv with hv | hv
    · rcases List.mem_append.1 hv with hv | hv
      · exact ih v hv
      · rcases hw with ⟨rfl, _, _⟩ | rfl
        · cases hv
        · rw [List.dropLast_concat] at hv; exact Or.inr (hps v hv)
    · exact Or.inl ⟨_, List.mem_of_getElem? hm, hv⟩

theorem Path.len2 {box : Bound α} {input : List (List (Pt α))} {o : Int} (hp : ∀ ls ∈ input, 2 ≤ ls.length)
    {ms : List Nat} {cur : List (Pt α)} (h : Path box input o ms cur) : 2 ≤ cur.length := by
  cases h with
  | one hm => exact hp _ (List.mem_of_getElem? hm)
  | snoc _ _ hm _ _ =>
    have := hp _ (List.mem_of_getElem? hm)
    simp only [List.length_append]; omega

theorem Ring.closed {box : Bound α} {input : List (List (Pt α))} {o : Int} {ms : List Nat} {rg : List (Pt α)}
    (h : Ring box input o ms rg) : ClosedRing rg := by
  obtain ⟨cur, cf, cl, w, _, hcf, hcl, hc, rfl⟩ := h
  have hne : cur ≠ [] := by rintro rfl; cases hcf
  refine ⟨by simp [hne], ?_⟩
  rw [List.head?_append, hcf, Option.some_or]
  obtain ⟨ps, _, ⟨rfl, _, h1⟩ | rfl⟩ := hc.shape
  · rw [List.append_nil, hcl, h1]
  · rw [← List.append_assoc, List.getLast?_concat]

theorem Ring.vertices {box : Bound α} {input : List (List (Pt α))} {o : Int} {ms : List Nat} {rg : List (Pt α)}
    (h : Ring box input o ms rg) : ∀ v ∈ rg, GoodV box input v := by
  obtain ⟨cur, cf, cl, w, hP, hcf, hcl, hc, rfl⟩ := h
  intro v hv
  rcases List.mem_append.1 hv with hv | hv
  · exact hP.vertices v hv
  · obtain ⟨ps, hps, ⟨rfl, _, _⟩ | rfl⟩ := hc.shape
    · cases hv
    · rcases List.mem_append.1 hv with hv | hv
      · exact Or.inr (hps v hv)
      · rw [List.mem_singleton] at hv; subst hv
        exact hP.vertices _ (List.mem_of_head? hcf)

theorem Path.ne_nil {box : Bound α} {input : List (List (Pt α))} {o : Int} (hp : ∀ ls ∈ input, PieceOK box ls)
    {ms : List Nat} {cur : List (Pt α)} (h : Path box input o ms cur) : ms ≠ [] ∧ cur ≠ [] := by
  have := h.len2 (fun ls hls => (hp ls hls).1)
  refine ⟨?_, List.ne_nil_of_length_pos (by omega)⟩
  cases h <;> simp

theorem Path.last {box : Bound α} {input : List (List (Pt α))} {o : Int} (hp : ∀ ls ∈ input, PieceOK box ls)
    {ms : List Nat} {cur : List (Pt α)} (h : Path box input o ms cur) {cl : Pt α} (hcl : cur.getLast? = some cl) :
    OnBoundary box cl := by
  cases h with
  | one hm => exact (hp _ (List.mem_of_getElem? hm)).2.2 cl hcl
  | @snoc _ _ _ piece _ _ _ _ _ hm _ _ =>
    have hpk := hp _ (List.mem_of_getElem? hm)
    have hne := hpk.ne_nil
    rw [List.getLast?_append, List.getLast?_eq_some_getLast hne, Option.some_or] at hcl
    exact hpk.2.2 cl (by rw [List.getLast?_eq_some_getLast hne]; exact hcl)

theorem Path.head {box : Bound α} {input : List (List (Pt α))} {o : Int} (hp : ∀ ls ∈ input, PieceOK box ls)
    {ms : List Nat} {cur : List (Pt α)} (h : Path box input o ms cur) :
    ∃ m0 ls0, ms.head? = some m0 ∧ input[m0]? = some ls0 ∧ cur.head? = ls0.head? := by
  induction h with
  | @one m piece hm => exact ⟨m, piece, rfl, hm, rfl⟩
  | snoc hP' _ _ _ _ ih =>
    obtain ⟨m0, ls0, h1, h2, h3⟩ := ih
    obtain ⟨hms, hne⟩ := hP'.ne_nil hp
    refine ⟨m0, ls0, ?_, h2, ?_⟩
    · rw [List.head?_append, h1, Option.some_or]
    · rw [List.append_assoc, List.head?_append_of_ne_nil _ hne, h3]

theorem forall_set_usedT {Q : Endpoint α → Prop} (hQ : ∀ e, Q e → Q (usedT e)) {l : List (Endpoint α)} {k : Nat}
    {ep : Endpoint α} (hk : l[k]? = some ep) (h : ∀ e ∈ l, Q e) : ∀ e ∈ l.set k (usedT ep), Q e := by
  intro e he
  rcases List.mem_or_eq_of_mem_set he with he | rfl
  · exact h e he
  · exact hQ _ (h _ (List.mem_of_getElem? hk))

theorem forall_modify_usedT {Q : Endpoint α → Prop} (hQ : ∀ e, Q e → Q (usedT e)) {l : List (Endpoint α)} {k : Nat}
    (h : ∀ e ∈ l, Q e) : ∀ e ∈ l.modify k usedT, Q e := by
  intro e he
  rcases mem_modify usedT l k e he with h' | ⟨y, hy, rfl⟩
  · exact h e h'
  · exact hQ _ (h y hy)

/-- every endpoint record names its piece and the end of it that it stands for -/
def PtsOK (input : List (List (Pt α))) (pts : List (Endpoint α)) : Prop :=
  ∀ e ∈ pts, ∃ ls, input[e.index]? = some ls ∧
    (if e.start then ls.head? = some e.point else ls.getLast? = some e.point)

theorem Static.ptsOK {input : List (List (Pt α))} {pts : List (Endpoint α)} (h : Static input pts) : PtsOK input pts :=
  fun e he => let ⟨k, hk⟩ := List.getElem?_of_mem he; h.piece k e hk

/-- the loop invariant, with the trace explicit: `mss` = the piece indices of the finished rings,
    `ms` = those of the ring under construction -/
structure Shape (box : Bound α) (input : List (List (Pt α))) (o : Int) (mss : List (List Nat)) (ms : List Nat)
    (st : WrapSt α) : Prop where
  pts : PtsOK input st.points
  res : List.Forall₂ (fun ms pg => ∃ rg, pg = [rg] ∧ Ring box input o ms rg) mss st.result
  cur : (ms = [] ∧ st.current = []) ∨ (Path box input o ms st.current ∧ ms.head? = some st.first)

theorem ptsOK_usedT (input : List (List (Pt α))) : ∀ e : Endpoint α,
    (∃ ls, input[e.index]? = some ls ∧ (if e.start then ls.head? = some e.point else ls.getLast? = some e.point)) →
    ∃ ls, input[(usedT e).index]? = some ls ∧
      (if (usedT e).start then ls.head? = some (usedT e).point else ls.getLast? = some (usedT e).point) :=
  fun _ h => h

theorem Shape.path {box : Bound α} {input : List (List (Pt α))} {o : Int} {mss : List (List Nat)} {ms : List Nat}
    {st : WrapSt α} (h : Shape box input o mss ms st) {cf : Pt α} (hcf : st.current.head? = some cf) :
    Path box input o ms st.current ∧ ms.head? = some st.first := by
  rcases h.cur with ⟨_, h0⟩ | h1
  · rw [h0] at hcf; cases hcf
  · exact h1

section arms
variable {box : Bound α} {input : List (List (Pt α))} {o : Int} {mss : List (List Nat)} {ms : List Nat}
  {st : WrapSt α} {k : Nat} {ep : Endpoint α}

theorem Shape.take (hS : Shape box input o mss ms st) (hep : st.points[k]? = some ep) {piece : List (Pt α)}
    (hpiece : input[ep.index]? = some piece) :
    Shape box input o mss [ep.index]
      { st with current := piece, first := ep.index, points := st.points.set k (usedT ep) } :=
  ⟨forall_set_usedT (ptsOK_usedT input) hep hS.pts, hS.res, Or.inr ⟨.one hpiece, rfl⟩⟩

theorem Shape.complete (hS : Shape box input o mss ms st) (hep : st.points[k]? = some ep) {cf cl : Pt α}
    {w : List (Pt α)} (hcf : st.current.head? = some cf) (hcl : st.current.getLast? = some cl)
    (hw : Conn box o ep.point cl w) (hpf : ep.point = cf) :
    Shape box input o (mss ++ [ms]) []
      { points := st.points.set k (usedT ep), current := [], result := st.result ++ [[st.current ++ w]],
        first := st.first } :=
  ⟨forall_set_usedT (ptsOK_usedT input) hep hS.pts,
    List.rel_append hS.res (.cons ⟨_, rfl, st.current, cf, cl, w, (hS.path hcf).1, hcf, hcl, hpf ▸ hw, rfl⟩ .nil),
    Or.inl ⟨rfl, rfl⟩⟩

theorem ite_dropLast {β : Type} (w : List β) : (if w.isEmpty then [] else w.dropLast) = w.dropLast := by
  cases w <;> rfl

theorem Shape.append (hS : Shape box input o mss ms st) (hep : st.points[k]? = some ep) (hs : ep.start = true)
    {cf cl : Pt α} {w piece : List (Pt α)} (hcf : st.current.head? = some cf) (hcl : st.current.getLast? = some cl)
    (hw : Conn box o ep.point cl w) (hpiece : input[ep.index]? = some piece) :
    Shape box input o mss (ms ++ [ep.index])
      { points := (st.points.set k (usedT ep)).modify ep.otherEnd usedT,
        current := st.current ++ (if w.isEmpty then [] else w.dropLast) ++ piece,
        result := st.result, first := st.first } := by
  obtain ⟨ls, hls, hif⟩ := hS.pts ep (List.mem_of_getElem? hep)
  rw [hpiece] at hls; cases hls
  rw [if_pos hs] at hif
  obtain ⟨hP, hfirst⟩ := hS.path hcf
  refine ⟨forall_modify_usedT (ptsOK_usedT input) (forall_set_usedT (ptsOK_usedT input) hep hS.pts), hS.res,
    Or.inr ⟨?_, by rw [List.head?_append, hfirst, Option.some_or]⟩⟩
  show Path box input o _ (st.current ++ (if w.isEmpty then [] else w.dropLast) ++ piece)
  rw [ite_dropLast]
  exact .snoc hP hcl hpiece hif hw

end arms

theorem Shape.step {box : Bound α} {input : List (List (Pt α))} {o : Int} {n : Nat}
    {mss : List (List Nat)} {ms : List Nat} {st st' : WrapSt α} {i i' : Nat}
    (hS : Shape box input o mss ms st) (hx : wrapStep box input o n st i = .ok (.inr (st', i'))) :
    ∃ mss' ms', Shape box input o mss' ms' st' :=
  wrapStep_next (Q := fun st' _ => ∃ mss' ms', Shape box input o mss' ms' st') hx
    (fun _ _ _ _ => ⟨_, _, hS⟩)
    (fun _ _ _ hep _ _ _ hpiece => ⟨_, _, hS.take hep hpiece⟩)
    (fun _ _ _ _ _ hep _ _ hcf hcl hw _ hpf => ⟨_, _, hS.complete hep hcf hcl hw hpf⟩)
    (fun _ _ _ _ _ _ hep _ hs hcf hcl hw _ hpiece _ => ⟨_, _, hS.append hep hs hcf hcl hw hpiece⟩)

/-- what `smartWrap` returns, for any input: single-ring polygons, each ring a closed path of pieces and connections -/
theorem smartWrap_shape {box : Bound α} {input : List (List (Pt α))} {o : Int} {out : List (List (List (Pt α)))}
    (h : smartWrap box input o = .ok out) :
    ∃ mss, List.Forall₂ (fun ms pg => ∃ rg, pg = [rg] ∧ Ring box input o ms rg) mss out := by
  obtain ⟨pts, sorted, h1, h2, h⟩ := smartWrap_inv h
  obtain ⟨stf, _, ⟨mss, _, hS⟩, _, rfl⟩ := wrapLoop_inv2
    (fun st _ => ∃ mss ms, Shape box input o mss ms st)
    (fun st i st' i' ⟨_, _, hS⟩ hx => Shape.step hS hx) _ _ _ _ h
    ⟨[], [], (sorted_slice h1 h2).1.ptsOK, .nil, Or.inl ⟨rfl, rfl⟩⟩
  exact ⟨mss, hS.res⟩

theorem smartWrap_rings_closed (box : Bound α) (input : List (List (Pt α))) (o : Int)
    (out : List (List (List (Pt α)))) (h : smartWrap box input o = .ok out) : SingleClosed out := by
  obtain ⟨mss, hm⟩ := smartWrap_shape h
  exact forall₂_right hm fun _ _ ⟨rg, hpg, hr⟩ => ⟨rg, hpg, hr.closed⟩


theorem smartWrap_vertices (box : Bound α) (input : List (List (Pt α))) (o : Int)
    (out : List (List (List (Pt α)))) (h : smartWrap box input o = .ok out) :
    ∀ pg ∈ out, ∀ rg ∈ pg, ∀ v ∈ rg, (∃ ls ∈ input, v ∈ ls) ∨ ∃ c ∈ ccwOrder, pointFor box c = .ok v := by
  obtain ⟨mss, hm⟩ := smartWrap_shape h
  refine forall₂_right hm ?_
  rintro _ _ ⟨rg, rfl, hr⟩ rg' hrg'
  rw [List.mem_singleton] at hrg'; subst hrg'
  exact hr.vertices


theorem smartWrap_in_box (box : Bound α) (hb : BoxOK box) (input : List (List (Pt α))) (o : Int)
    (out : List (List (List (Pt α)))) (h : smartWrap box input o = .ok out)
    (hin : ∀ ls ∈ input, ∀ v ∈ ls, InBox box v) : ∀ pg ∈ out, ∀ rg ∈ pg, ∀ v ∈ rg, InBox box v := by
  intro pg hpg rg hrg v hv
  rcases smartWrap_vertices box input o out h pg hpg rg hrg v hv with ⟨ls, hls, hvl⟩ | ⟨c, hc, hpc⟩
  · exact hin ls hls v hvl
  · obtain ⟨p, hp1, hp2, _⟩ := pointFor_on_side' box hb c hc
    rw [hp1] at hpc
    cases hpc
    exact hp2.1

end Orb.SmartClip
