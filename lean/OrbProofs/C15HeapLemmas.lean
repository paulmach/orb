/-
  Lemmas for the heap-level part of C15 (`Orb.HeapOps.projectH`): project.Geometry overwrites the
  caller's slices in place.  It writes like one flat loop over the slice headers of its argument
  (`projectH_flat`), so what a cell holds afterwards and the sizes are facts about `projHdrs`; then the
  reading of the returned headers.  Core Lean only.
-/
import OrbProofs.HeapOpsBase
import OrbProofs.C15Pure

set_option linter.unusedSectionVars false

namespace Orb.HeapOps
open Orb Orb.Heap Orb.Core

variable {α : Type}

section loops
variable (f : Pt α → Pt α)

theorem map_iter_zero {β : Type} (g : β → β) (x : Option β) : x.map (iter g 0) = x := by
  cases x <;> rfl

theorem coverCount_nil (a i : Nat) : coverCount [] a i = 0 := rfl

theorem coverCount_cons (h : Hdr) (hs : List Hdr) (a i : Nat) :
    coverCount (h :: hs) a i = (if h.covers a i then 1 else 0) + coverCount hs a i := by
  simp [coverCount, List.countP_cons, Nat.add_comm]

theorem coverCount_append (hs hs' : List Hdr) (a i : Nat) :
    coverCount (hs ++ hs') a i = coverCount hs a i + coverCount hs' a i := by
  simp [coverCount, List.countP_append]

/-- the loop `for i := range s { s[i] = proj(s[i]) }` over `n` cells of array `a` from `i`: `f` once on
    each of them, nothing else touched -/
theorem cell_projLoop (a : Nat) (n i : Nat) (σ : Store α) (b j : Nat) :
    cell (projLoop f a i n σ) b j =
      (cell σ b j).map (iter f (if a = b ∧ i ≤ j ∧ j < i + n then 1 else 0)) := by
  induction n generalizing i σ with
  | zero =>
    have : ¬ (a = b ∧ i ≤ j ∧ j < i + 0) := by omega
    simp only [projLoop, this, if_false, map_iter_zero]
  | succ n ih =>
    simp only [projLoop]
    rw [ih, cell_upd]
    by_cases h1 : a = b ∧ i = j
    · rw [if_pos h1, if_neg (by omega : ¬ (a = b ∧ i + 1 ≤ j ∧ j < i + 1 + n)),
        if_pos (by omega : a = b ∧ i ≤ j ∧ j < i + (n + 1)), map_iter_zero]
      cases cell σ b j <;> rfl
    · rw [if_neg h1]
      by_cases h2 : a = b ∧ i + 1 ≤ j ∧ j < i + 1 + n
      · rw [if_pos h2, if_pos (by omega : a = b ∧ i ≤ j ∧ j < i + (n + 1))]
      · rw [if_neg h2, if_neg (by omega : ¬ (a = b ∧ i ≤ j ∧ j < i + (n + 1)))]

theorem cell_projHdr (σ : Store α) (h : Hdr) (a i : Nat) :
    cell (projHdr f σ h) a i = (cell σ a i).map (iter f (if h.covers a i then 1 else 0)) := by
  unfold projHdr
  rw [cell_projLoop]
  by_cases hc : h.arr = a ∧ h.off ≤ i ∧ i < h.off + h.len
  · simp [hc, (covers_iff h a i).2 hc]
  · have : ¬ (h.covers a i = true) := fun hh => hc ((covers_iff h a i).1 hh)
    simp [hc, this]

theorem cell_projHdrs (hs : List Hdr) (σ : Store α) (a i : Nat) :
    cell (projHdrs f σ hs) a i = (cell σ a i).map (iter f (coverCount hs a i)) := by
  induction hs generalizing σ with
  | nil => simp [projHdrs, coverCount_nil, map_iter_zero]
  | cons h hs ih =>
    simp only [projHdrs]
    rw [ih, cell_projHdr, iter_map, coverCount_cons]

theorem projHdrs_append (σ : Store α) (hs hs' : List Hdr) :
    projHdrs f σ (hs ++ hs') = projHdrs f (projHdrs f σ hs) hs' := by
  induction hs generalizing σ with
  | nil => rfl
  | cons h hs ih => exact ih _

theorem projHdrss_flat (σ : Store α) (hss : List (List Hdr)) :
    projHdrss f σ hss = projHdrs f σ hss.flatten := by
  induction hss generalizing σ with
  | nil => rfl
  | cons hs hss ih => rw [projHdrss, ih, List.flatten_cons, projHdrs_append]

end loops

section project
variable [LT α] [LE α] [DecidableLT α] [DecidableLE α] [Min α] [Max α]

theorem ptsM_pure (f : Pt α → Pt α) (l : List (Pt α)) :
    (Project.ptsM (σ := Unit) (fun p s => (f p, s)) l ()).1 = l.map f :=
  congrArg Prod.fst (Project.ptsM_of_pure f l ())

theorem ptssM_pure (f : Pt α → Pt α) (ls : List (List (Pt α))) :
    (Project.ptssM (σ := Unit) (fun p s => (f p, s)) ls ()).1 = ls.map (·.map f) :=
  congrArg Prod.fst (Project.ptssM_of_pure f ls ())

theorem ptsssM_pure (f : Pt α → Pt α) (ps : List (List (List (Pt α)))) :
    (Project.ptsssM (σ := Unit) (fun p s => (f p, s)) ps ()).1 = ps.map (·.map (·.map f)) :=
  congrArg Prod.fst (Project.ptsssM_of_pure f ps ())

variable (f : Pt α → Pt α)

theorem projectHList_snd (gs : List (SGeom α))
    (ih : ∀ g ∈ gs, ∀ σ : Store α, (projectH σ g f).2 = retS f g) (σ : Store α) :
    (projectHList σ gs f).2 = retSList f gs := by
  induction gs generalizing σ with
  | nil => simp [projectHList, retSList]
  | cons g gs ihl =>
    simp only [projectHList, retSList]
    rw [ih g (by simp), ihl (fun g hg => ih g (List.mem_cons_of_mem _ hg))]

theorem retSList_eq_map (gs : List (SGeom α)) : retSList f gs = gs.map (retS f) := by
  induction gs with
  | nil => rfl
  | cons g gs ih => simp [retSList, ih]

theorem hdrs_retS (g : SGeom α) : hdrs (retS f g) = hdrs g := by
  induction g using SGeom.ind with
  | hc gs ih =>
    simp only [retS, hdrs]
    rw [hdrsList_eq, hdrsList_eq, retSList_eq_map, List.map_map]
    exact congrArg List.flatten (List.map_congr_left ih)
  | _ => simp [retS, hdrs]

theorem length_projLoop (a n i : Nat) (σ : Store α) :
    (projLoop f a i n σ).length = σ.length := by
  induction n generalizing i σ with
  | zero => rfl
  | succ n ih => simp only [projLoop]; rw [ih, length_upd]

theorem length_projHdrs (hs : List Hdr) (σ : Store α) :
    (projHdrs f σ hs).length = σ.length := by
  induction hs generalizing σ with
  | nil => rfl
  | cons h hs ih => simp only [projHdrs]; rw [ih]; exact length_projLoop f _ _ _ σ

theorem projectH_flat (σ : Store α) (g : SGeom α) : (projectH σ g f).1 = projHdrs f σ (hdrs g) := by
  induction g using SGeom.ind generalizing σ with
  | h7 hss => exact projHdrss_flat f σ hss
  | hc gs ih =>
    simp only [projectH, hdrs]
    induction gs generalizing σ with
    | nil => rfl
    | cons g gs ihl =>
      simp only [projectHList, hdrsList]
      rw [ihl (fun g hg => ih g (List.mem_cons_of_mem _ hg)), ih g (by simp), projHdrs_append]
  | _ => rfl

theorem length_eq_of_getElem?_map {β : Type} (l l' : List β) (F : Nat → β → β)
    (h : ∀ i, l'[i]? = (l[i]?).map (F i)) : l'.length = l.length := by
  have hle : ∀ i, l'.length ≤ i ↔ l.length ≤ i := fun i => by
    rw [← List.getElem?_eq_none_iff, ← List.getElem?_eq_none_iff, h i, Option.map_eq_none_iff]
  exact Nat.le_antisymm ((hle _).2 (Nat.le_refl _)) ((hle _).1 (Nat.le_refl _))

theorem coverCount_eq_zero_of_arr (hs : List Hdr) (a i : Nat) (h : ∀ x ∈ hs, x.arr ≠ a) :
    coverCount hs a i = 0 := by
  unfold coverCount
  rw [List.countP_eq_zero]
  intro x hx hc
  exact h x hx ((covers_iff x a i).1 hc).1

theorem coverCount_pos_of_mem (hs : List Hdr) (h : Hdr) (hm : h ∈ hs) (j : Nat) (hj : j < h.len) :
    0 < coverCount hs h.arr (h.off + j) := by
  unfold coverCount
  rw [List.countP_pos_iff]
  exact ⟨h, hm, (covers_iff h _ _).2 ⟨rfl, by omega, by omega⟩⟩

theorem denote_retS (σ σ' : Store α) (g : SGeom α)
    (h : ∀ x ∈ hdrs g, readH σ' x = (readH σ x).map f) :
    denoteS σ' (retS f g) = Project.geometry f (denoteS σ g) := by
  induction g using SGeom.ind with
  | h1 p | h8 lo hi => simp [retS, denoteS, Project.geometry, Project.geometryM]
  | h2 x | h3 x | h5 x =>
    simp [retS, denoteS, Project.geometry, Project.geometryM, ptsM_pure, h x (by simp [hdrs])]
  | h4 hs | h6 hs =>
    simp only [retS, denoteS, Project.geometry, Project.geometryM, ptssM_pure, List.map_map]
    congr 1
    exact List.map_congr_left fun x hx => h x (by simpa [hdrs] using hx)
  | h7 hss =>
    simp only [retS, denoteS, Project.geometry, Project.geometryM, ptsssM_pure, List.map_map]
    congr 1
    apply List.map_congr_left
    intro hs hhs
    simp only [Function.comp, List.map_map]
    exact List.map_congr_left fun x hx => h x (List.mem_flatten.2 ⟨hs, hhs, hx⟩)
  | hc gs ih =>
    simp only [retS, denoteS]
    rw [Project.geometry_collection, denoteSList_eq_map, denoteSList_eq_map, retSList_eq_map, List.map_map, List.map_map]
    congr 1
    apply List.map_congr_left
    intro g hg
    exact ih g hg fun x hx => h x (mem_hdrsList hg hx)

end project

end Orb.HeapOps
