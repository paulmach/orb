/-
  C11 — Quadtree answers every query as a plain list of its contents would.
  PROPERTY THEOREMS about the model `Orb.Quadtree` (quadtree/quadtree.go, quadtree/maxheap.go).

  Coordinates range over an arbitrary ordered field (exact arithmetic); the square root used to
  size the pruning box is only assumed to be an upper bound (`SqrtUp`), so the results do not
  depend on its rounding direction as long as it does not round below.  `Spec` (in
  C11Tree.lean) is the plain-list specification; its boxes are written with explicit
  inequalities (`inBox`), independent of the model's own `Bound.contains`.

  WHAT THE THEOREMS DO NOT COVER.  They are about exact arithmetic with an upper-bound square root.
  The Float twin that the correspondence run samples uses float64 arithmetic and the hardware
  square root, which can round BELOW the true root (`Float.sqrt 3` squared is less than 3), so
  `SqrtUp` does not hold for it: the twin is tied to the Go code bit for bit, and to these theorems
  only by sharing the definitions.  The searches of the code start from the limit
  `math.MaxFloat64`; `*_from_limit_spec` below carry the refinement over to that start for every
  tree whose accepted pointers are nearer than the limit.
-/
import OrbProofs.C11From
import Generated.Writes
import Mathlib.Tactic.Linarith
import Mathlib.Algebra.Order.Field.Rat

namespace Orb.Quadtree
open Orb Orb.Core

section
variable {α : Type} [Add α] [Sub α] [Mul α] [Div α] [OfNat α 2] [LT α] [LE α] [DecidableLT α] [DecidableLE α]
  [Min α] [Max α]

/-- what a call would be if the library squared the limit IN PLACE (`maxDistance[0] *= maxDistance[0]`):
    NOT the model — used only to show that the clause "the limits slice reads after the call what the
    caller stored" can fail and that its failure changes later answers -/
def kNearestCallSquaring (init : Option α) (sqrt : α → α) (q : QT α) (pt : Pt α) (k : Nat) (filter : Ptr α → Bool)
    (maxDistance : List α) : List (Ptr α) × List α :=
  (kNearestFrom init sqrt q pt k filter (limitOf maxDistance),
   match maxDistance with
   | [] => []
   | m :: rest => (m * m) :: rest)

end

/-- four pointers on a line at x = 0, 1, 3, 10 in the tree bound [-16,16]² -/
def lineTree : QT ℚ :=
  [(1, (0 : ℚ)), (2, 1), (3, 3), (4, 10)].foldl (fun q (ip : Nat × ℚ) => (add q ⟨ip.1, ⟨ip.2, 0⟩⟩).1) ⟨⟨⟨-16, -16⟩, ⟨16, 16⟩⟩, .nil⟩

variable {α : Type} [Field α] [LinearOrder α] [IsStrictOrderedRing α]

theorem inv_empty (b : Bound α) : QInv (⟨b, .nil⟩ : QT α) := by
  simp [QInv, Inv]

/-- Adding inside the bound keeps the invariant and adds exactly the pointer; adding outside is
    rejected and changes nothing. -/
theorem add_spec (q : QT α) (p : Ptr α) (h : QInv q) :
    Spec q.bound (contents q.root) (.add p) (.flag (add q p).2) (contents (add q p).1.root) ∧
    QInv (add q p).1 ∧ (add q p).1.bound = q.bound ∧ ((add q p).2 = false → (add q p).1 = q) := by
  unfold add
  have hbox := contains_eq_inBox q.bound p.p
  cases hc : q.bound.contains p.p with
  | false => rw [hc] at hbox; simp [Spec, ← hbox, h]
  | true =>
    rw [hc] at hbox
    simp only [Bool.not_true, Bool.false_eq_true, if_false, Spec, ← hbox, if_true, true_and]
    exact ⟨(ins_added _ _ _).1, (ins_added _ _ _).2 h ((inBox_iff_inCell _ _).1 hbox.symm), by simp⟩

/-- Removal reports whether a match existed and removes exactly one, a closest match. -/
theorem remove_spec (sqrt : α → α) (hs : SqrtUp sqrt) (q : QT α) (pt : Pt α) (eq : Ptr α → Bool) (h : QInv q) :
    Spec q.bound (contents q.root) (.remove pt eq) (.flag (remove sqrt q pt eq).2) (contents (remove sqrt q pt eq).1.root) ∧
    QInv (remove sqrt q pt eq).1 ∧ (remove sqrt q pt eq).1.bound = q.bound := remove_correct sqrt hs q pt eq h

/-- Nearest-point search (optionally filtered): a stored pointer at minimum distance, or none. -/
theorem matching_spec (sqrt : α → α) (hs : SqrtUp sqrt) (q : QT α) (pt : Pt α) (f : Ptr α → Bool) (h : QInv q) :
    Spec q.bound (contents q.root) (.matching pt f) (.ptr (matching sqrt q pt f)) (contents q.root) :=
  matching_correct sqrt hs q pt f h

/-- k-nearest: the k closest accepted pointers strictly within the limit, sorted nearest first. -/
theorem kNearest_spec (sqrt : α → α) (hs : SqrtUp sqrt) (q : QT α) (pt : Pt α) (k : Nat) (f : Ptr α → Bool)
    (md : Option α) (h : QInv q) :
    Spec q.bound (contents q.root) (.kNearest pt k f md) (.ptrs (kNearest sqrt q pt k f md)) (contents q.root) :=
  kNearest_correct sqrt hs q pt k f md h

/-- Bound search: exactly the accepted stored pointers inside the closed box. -/
theorem inBound_spec (q : QT α) (b : Bound α) (f : Ptr α → Bool) (h : QInv q) :
    Spec q.bound (contents q.root) (.inBound b f) (.ptrs (inBound q b f)) (contents q.root) :=
  ⟨List.Perm.refl _, by rw [inBound_eq_visit]; exact inBound_visit b f q.root (rootCell q.bound) h⟩

/-- Removal never grows the tree: the node count does not increase. -/
theorem remove_nodes_le (sqrt : α → α) (q : QT α) (pt : Pt α) (eq : Ptr α → Bool) :
    nodes (remove sqrt q pt eq).1.root ≤ nodes q.root := by
  unfold remove
  split
  · exact le_refl _
  · split
    · exact le_refl _
    · exact (modifyAt_clear_removed _ _).2.1

/-- every operation keeps the invariant and answers as `Spec` allows, so a history may start at any
    tree that satisfies it -/
theorem trace_of_inv (sqrt : α → α) (hs : SqrtUp sqrt) (ops : List (Op α)) :
    ∀ q : QT α, QInv q → Trace sqrt q ops := by
  induction ops with
  | nil => intro q _; trivial
  | cons op rest ih =>
    intro q h
    cases op with
    | add p =>
      obtain ⟨h1, h2, -, -⟩ := add_spec q p h
      exact ⟨h1, ih _ h2⟩
    | remove pt eq =>
      obtain ⟨h1, h2, -⟩ := remove_spec sqrt hs q pt eq h
      exact ⟨h1, ih _ h2⟩
    | matching pt f => exact ⟨matching_spec sqrt hs q pt f h, ih _ h⟩
    | kNearest pt k f md => exact ⟨kNearest_spec sqrt hs q pt k f md h, ih _ h⟩
    | inBound b f => exact ⟨inBound_spec q b f h, ih _ h⟩

/-- FOR ALL FINITE HISTORIES starting from the empty tree (removal before any add, duplicates,
    points on midlines and on the bound included), every answer is one the plain list allows. -/
theorem history_refines (sqrt : α → α) (hs : SqrtUp sqrt) (b : Bound α) (ops : List (Op α)) :
    Trace sqrt ⟨b, .nil⟩ ops :=
  trace_of_inv sqrt hs ops _ (inv_empty b)

/-! ### the vocabulary of `Spec`, made explicit -/

/-- The add clause: a pointer is accepted exactly when its point lies in the closed tree bound —
    stated with the four inequalities, not with the model's own test. -/
theorem add_accepts_iff_in_closed_bound (q : QT α) (p : Ptr α) :
    (add q p).2 = true ↔
      (q.bound.lo.x ≤ p.p.x ∧ p.p.x ≤ q.bound.hi.x ∧ q.bound.lo.y ≤ p.p.y ∧ p.p.y ≤ q.bound.hi.y) := by
  have h : (add q p).2 = q.bound.contains p.p := by
    unfold add; cases q.bound.contains p.p <;> rfl
  rw [h, contains_eq_inBox]; simp [inBox]

/-- The distance limit of k-nearest: the property text says "strictly within the optional distance
    limit" and is silent about a negative limit; the code squares the limit, so a limit `m` means
    "distance `< |m|`" (`s` is any non-negative number whose square is the squared distance). -/
theorem limit_is_absolute (pt : Pt α) (m s : α) (x : Ptr α) (hs : 0 ≤ s) (hss : s * s = distSq x.p pt) :
    within pt (some m) x = true ↔ s < |m| := by
  simp only [within, decide_eq_true_eq, ← hss, ← abs_mul_abs_self m]
  constructor
  · intro h
    by_contra hc
    exact absurd h (not_lt.mpr (mul_self_le_mul_self (abs_nonneg m) (not_lt.mp hc)))
  · intro h
    exact mul_self_lt_mul_self hs h

/-- … so a negative limit acts as the positive one. -/
theorem limit_neg (pt : Pt α) (m : α) (x : Ptr α) : within pt (some (-m)) x = within pt (some m) x := by
  simp [within]

/-! ### the searches as the code starts them (`minDistSquared: math.MaxFloat64`) -/

/-- `Find` / `Matching` started from the limit `M`: the refinement holds whenever every accepted stored
    pointer is nearer than `M` (for float64 and `M = MaxFloat64`: no squared distance overflows). -/
theorem matching_from_limit_spec (M : α) (sqrt : α → α) (hs : SqrtUp sqrt) (q : QT α) (pt : Pt α)
    (f : Ptr α → Bool) (h : QInv q) (hM : ∀ y ∈ contents q.root, f y = true → distSq y.p pt < M) :
    Spec q.bound (contents q.root) (.matching pt f) (.ptr (matchingFrom (some M) sqrt q pt f)) (contents q.root) :=
  matchingFrom_spec' M sqrt hs q pt f h hM

/-- `Remove` started from the limit `M`, under the same hypothesis (the same statement as `removeFrom_spec'`). -/
theorem remove_from_limit_spec (M : α) (sqrt : α → α) (hs : SqrtUp sqrt) (q : QT α) (pt : Pt α)
    (eq : Ptr α → Bool) (h : QInv q) (hM : ∀ y ∈ contents q.root, eq y = true → distSq y.p pt < M) :
    Spec q.bound (contents q.root) (.remove pt eq) (.flag (removeFrom (some M) sqrt q pt eq).2)
      (contents (removeFrom (some M) sqrt q pt eq).1.root) ∧ QInv (removeFrom (some M) sqrt q pt eq).1 :=
  removeFrom_spec' M sqrt hs q pt eq h hM

/-- `KNearest` / `KNearestMatching` started from the limit `M`: the hypothesis is needed only when no `maxDistance`
    is given, an explicit one overwrites the initial limit (the same statement as `kNearestFrom_spec'`). -/
theorem kNearest_from_limit_spec (M : α) (sqrt : α → α) (hs : SqrtUp sqrt) (q : QT α) (pt : Pt α) (k : Nat)
    (f : Ptr α → Bool) (md : Option α) (h : QInv q)
    (hM : md = none → ∀ y ∈ contents q.root, f y = true → distSq y.p pt < M) :
    Spec q.bound (contents q.root) (.kNearest pt k f md) (.ptrs (kNearestFrom (some M) sqrt q pt k f md))
      (contents q.root) := kNearestFrom_spec' M sqrt hs q pt k f md h hM

/-- Outside that hypothesis (props.json lists it under `partial`): a one-pointer tree whose pointer is at squared
    distance `≥ M` — `Find` started from `M` answers nil on a non-empty tree. -/
theorem find_from_limit_skips_far (M : α) (sqrt : α → α) (b : Bound α) (x : Ptr α) (pt : Pt α)
    (hfar : ¬ distSq x.p pt < M) (hin : ¬ miss (rootCell b) b) :
    matchingFrom (some M) sqrt ⟨b, .node (some x) .nil .nil .nil .nil⟩ pt (fun _ => true) = none :=
  matchingFrom_skips_far M sqrt b x pt hfar hin

/-! ### the arguments of a k-nearest call: the distance limit is a value -/

section args
variable {β : Type} [Add β] [Sub β] [Mul β] [Div β] [OfNat β 2] [LT β] [LE β] [DecidableLT β] [DecidableLE β]
  [Min β] [Max β]

/-- The caller's limits slice (`q.KNearest(buf, p, k, lims...)` passes the caller's OWN slice) reads
    after the call exactly what it read before: the model of a call has no write to it.  The
    correspondence run checks the same on the Go code after every k-nearest call (clause
    `argument-mutated limit`), and C19's `caller_arguments_read_only` checks it on the regenerated
    write table. -/
theorem kNearestCall_limits_unchanged (init : Option β) (sqrt : β → β) (q : QT β) (pt : Pt β) (k : Nat)
    (f : Ptr β → Bool) (lims : List β) : (kNearestCall init sqrt q pt k f lims).2 = lims := rfl

/-- Only the first element of the variadic argument is looked at; an empty one means "no limit". -/
theorem kNearestCall_reads_first_only (init : Option β) (sqrt : β → β) (q : QT β) (pt : Pt β) (k : Nat)
    (f : Ptr β → Bool) (m : β) (rest : List β) :
    (kNearestCall init sqrt q pt k f (m :: rest)).1 = kNearestFrom init sqrt q pt k f (some m) ∧
    (kNearestCall init sqrt q pt k f []).1 = kNearestFrom init sqrt q pt k f none := ⟨rfl, rfl⟩

/-- A caller that passes ONE limits slice to any number of successive calls gets from every call
    the answer for the limit it stored, and finds its slice unchanged at the end. -/
theorem kNearestCalls_eq_map (init : Option β) (sqrt : β → β) (q : QT β)
    (cs : List (Pt β × Nat × (Ptr β → Bool))) (lims : List β) :
    (kNearestCalls init sqrt q cs lims).1 = cs.map (fun c => kNearestFrom init sqrt q c.1 c.2.1 c.2.2 (limitOf lims)) ∧
    (kNearestCalls init sqrt q cs lims).2 = lims := by
  induction cs with
  | nil => exact ⟨rfl, rfl⟩
  | cons c rest ih =>
    obtain ⟨pt, k, f⟩ := c
    simp only [kNearestCalls, kNearestCall, List.map_cons]
    exact ⟨by rw [ih.1], ih.2⟩

end args

/-- Every call of such a sequence satisfies the plain-list specification for the stored limit. -/
theorem kNearestCall_spec (sqrt : α → α) (hs : SqrtUp sqrt) (q : QT α) (pt : Pt α) (k : Nat) (f : Ptr α → Bool)
    (lims : List α) (h : QInv q) :
    Spec q.bound (contents q.root) (.kNearest pt k f (limitOf lims))
      (.ptrs (kNearestCall none sqrt q pt k f lims).1) (contents q.root) := by
  have e : (kNearestCall none sqrt q pt k f lims).1 = kNearest sqrt q pt k f (limitOf lims) :=
    kNearestFrom_none sqrt q pt k f (limitOf lims)
  rw [e]
  exact kNearest_spec sqrt hs q pt k f (limitOf lims) h

/-- THE CLAUSE CAN FAIL, and its failure is visible in later answers: were the limit squared in
    place (`maxDistance[0] *= maxDistance[0]`), the caller's slice `[2]` would read `[4]` after the
    first call, and three calls with that one slice on four pointers at distances 0, 1, 3, 10 would
    answer 2, then 3, then 4 pointers — the model answers 2 pointers every time. -/
theorem squaring_in_place_is_visible :
    let call := fun lims => kNearestCallSquaring none (fun x : ℚ => x + 1) lineTree ⟨0, 0⟩ 10 (fun _ => true) lims
    (call [2]).2 = [4] ∧
    ((call [2]).1.map (·.id), (call (call [2]).2).1.map (·.id), (call (call (call [2]).2).2).1.map (·.id)) =
      ([1, 2], [1, 2, 3], [1, 2, 3, 4]) ∧
    ((kNearestCalls none (fun x : ℚ => x + 1) lineTree [(⟨0, 0⟩, 10, fun _ => true), (⟨0, 0⟩, 10, fun _ => true), (⟨0, 0⟩, 10, fun _ => true)] [2]).1.map
      fun l => l.map (·.id)) = [[1, 2], [1, 2], [1, 2]] := by
  decide +kernel

/-! ### facts regenerated from the Go source (factgen's type-checked view of package quadtree) -/

/-- STORED POINTERS ARE NEVER COMPARED: package quadtree contains no `==` / `!=` between two interface
    values (other than with the literal nil) and no `switch` over one.  The model identifies a stored
    `orb.Pointer` by an id and looks at its point only; the Go code can depart from that only by
    comparing Pointer values — which panics for the same uncomparable dynamic type on both sides (a
    value struct with a slice or a map inside, such as `geojson.Feature`) — or by type assertions.
    Regenerated on every run (Generated/Writes.lean `interfaceComparisons`). -/
theorem pointers_never_compared : Generated.Writes.interfaceComparisons = [] := by decide

/-- THE HEAP GROWS ON DEMAND: `maxHeap.Push` appends to the per-call heap (a row of kind `append`
    whose destination is `*h` in the regenerated write table) — it does not reslice inside a
    capacity that `KNearestMatching` chose; the model's `heapPush` is `Array.push` and has no
    capacity.  (/repo commit 7b9021e; with the reslice form `k` beyond the pre-allocation panics.) -/
theorem heap_push_appends :
    (Generated.Writes.writes.any fun w => w.fn == "maxHeap.Push" && w.kind == "append" && w.rootVar == "h") = true := by
  decide

/-- `SqrtUp` is satisfiable over ℚ by any upper bound, e.g. `x ↦ x + 1`. -/
theorem sqrtUp_succ : SqrtUp (fun x : ℚ => x + 1) := by
  intro x hx
  constructor
  · linarith
  · nlinarith

/-- the answers of a history as id lists (`[1]` / `[0]` for a flag, `[]` for nil) -/
def outIds : Out ℚ → List Nat
  | .flag b => [if b then 1 else 0]
  | .ptr none => []
  | .ptr (some p) => [p.id]
  | .ptrs l => l.map (·.id)

def runIds (sqrt : ℚ → ℚ) : QT ℚ → List (Op ℚ) → List (List Nat)
  | _, [] => []
  | q, op :: rest => outIds (step sqrt q op).2 :: runIds sqrt (step sqrt q op).1 rest

/-- A concrete history over ℚ on the tree bound [-10,10]²: removal before any add; adds on both root
    midlines, of a duplicate point, outside the bound, of the SAME pointer twice, of a non-dyadic
    point on the bound; k-nearest with k beyond / a negative limit / k = 0; removal with an `eq`
    accepting several pointers at different distances; filtered find; in-bound with a proper and an
    inverted box; removal of an absent pointer; removal of one of two copies. -/
def exOps : List (Op ℚ) := [
  .remove ⟨0, 0⟩ (fun _ => true),
  .add ⟨1, ⟨0, 0⟩⟩, .add ⟨2, ⟨5, 5⟩⟩, .add ⟨3, ⟨5, 5⟩⟩, .add ⟨4, ⟨11, 0⟩⟩, .add ⟨1, ⟨0, 0⟩⟩,
  .add ⟨5, ⟨1/3, -10⟩⟩,
  .kNearest ⟨1, 1⟩ 2 (fun _ => true) none,
  .kNearest ⟨4, 4⟩ 3 (fun _ => true) (some (-2)),
  .kNearest ⟨4, 4⟩ 0 (fun _ => true) none,
  .remove ⟨4, 4⟩ (fun x => x.id % 2 == 1),
  .matching ⟨4, 4⟩ (fun x => x.id % 2 == 1),
  .inBound ⟨⟨0, 0⟩, ⟨10, 10⟩⟩ (fun _ => true),
  .inBound ⟨⟨10, 10⟩, ⟨0, 0⟩⟩ (fun _ => true),
  .remove ⟨7, 7⟩ (fun x => x.id == 9),
  .remove ⟨0, 0⟩ (fun x => x.id == 1),
  .matching ⟨-3, 2⟩ (fun _ => true)]

/-- … its answers, computed by the model over ℚ with the upper-bound root `x + 1` … -/
theorem example_history_answers :
    runIds (fun x => x + 1) ⟨⟨⟨-10, -10⟩, ⟨10, 10⟩⟩, .nil⟩ exOps =
      [[0], [1], [1], [1], [0], [1], [1], [1, 1], [2, 3], [], [1], [1], [1, 1, 2], [], [0], [1], [1]] := by
  decide +kernel

/-- … and the refinement theorem instantiated on it (every one of these answers is one the plain list
    allows). -/
example : Trace (fun x : ℚ => x + 1) ⟨⟨⟨-10, -10⟩, ⟨10, 10⟩⟩, .nil⟩ exOps :=
  history_refines _ sqrtUp_succ _ exOps

end Orb.Quadtree
