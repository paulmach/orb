/-
  The store layer under the heap-level part of C08: what a sequence of `append`s into a capacity window does to the
  cells (`writeAt`), stores that differ only inside given windows and by new arrays (`Ext`), where a returned slice
  lives (`ResOK`), reading through a header across such a change, and the loop over members (`thread`): what ONE run
  of a member operation promises (`Run`) goes through the loop (`thread_run`).  Nothing here knows what clip computes.
  Core Lean only.
-/
import OrbProofs.HeapOpsBase
import OrbProofs.C06HeapLemmas

namespace Orb.HeapOps
open Orb Orb.Heap Orb.Core

variable {α : Type}

theorem cell_writeAt (a : Nat) (xs : List (Pt α)) (i : Nat) (σ : Store α) (b j : Nat) :
    cell (writeAt a i xs σ) b j =
      if a = b ∧ i ≤ j ∧ j < i + xs.length then (cell σ b j).bind fun _ => xs[j - i]? else cell σ b j := by
  induction xs generalizing i σ with
  | nil =>
    rw [if_neg (by simp)]
    rfl
  | cons x xs ih =>
    simp only [writeAt]
    rw [ih, cell_upd]
    by_cases h1 : a = b ∧ i = j
    · rw [if_pos h1, if_neg (by omega : ¬ (a = b ∧ i + 1 ≤ j ∧ j < i + 1 + xs.length)),
        if_pos (by simp only [List.length_cons]; omega : a = b ∧ i ≤ j ∧ j < i + (x :: xs).length)]
      have : j - i = 0 := by omega
      rw [this]
      cases cell σ b j <;> rfl
    · rw [if_neg h1]
      by_cases h2 : a = b ∧ i + 1 ≤ j ∧ j < i + 1 + xs.length
      · rw [if_pos h2, if_pos (by simp only [List.length_cons]; omega : a = b ∧ i ≤ j ∧ j < i + (x :: xs).length)]
        have : j - i = (j - (i + 1)) + 1 := by omega
        rw [this, List.getElem?_cons_succ]
      · rw [if_neg h2, if_neg (by simp only [List.length_cons]; omega : ¬ (a = b ∧ i ≤ j ∧ j < i + (x :: xs).length))]

theorem cell_writeAt_in (a : Nat) (xs : List (Pt α)) (i : Nat) (σ : Store α) (j : Nat)
    (h1 : i ≤ j) (h2 : j < i + xs.length) (h3 : j < (read σ a).length) :
    cell (writeAt a i xs σ) a j = xs[j - i]? := by
  rw [cell_writeAt, if_pos ⟨rfl, h1, h2⟩]
  unfold cell
  rw [List.getElem?_eq_getElem h3]
  rfl

theorem cell_writeAt_out (a : Nat) (xs : List (Pt α)) (i : Nat) (σ : Store α) (j : Nat)
    (h : ¬ (i ≤ j ∧ j < i + xs.length)) : cell (writeAt a i xs σ) a j = cell σ a j := by
  rw [cell_writeAt, if_neg (fun hh => h hh.2)]

theorem length_writeAt (a : Nat) (xs : List (Pt α)) (i : Nat) (σ : Store α) :
    (writeAt a i xs σ).length = σ.length := by
  induction xs generalizing i σ with
  | nil => rfl
  | cons x xs ih => simp only [writeAt]; rw [ih, length_upd]

theorem read_length_writeAt (a : Nat) (xs : List (Pt α)) (i : Nat) (σ : Store α) (b : Nat) :
    (read (writeAt a i xs σ) b).length = (read σ b).length := by
  induction xs generalizing i σ with
  | nil => rfl
  | cons x xs ih => simp only [writeAt]; rw [ih, read_length_upd]

theorem writeAt_append (a i : Nat) (xs ys : List (Pt α)) (σ : Store α) :
    writeAt a i (xs ++ ys) σ = writeAt a (i + xs.length) ys (writeAt a i xs σ) := by
  induction xs generalizing i σ with
  | nil => rfl
  | cons x xs ih => simp only [List.cons_append, writeAt, List.length_cons, ih]; congr 1; omega

/-- what was appended into `h[:0]` within the array is read back through `h[:n]` -/
theorem readH_writeAt (σ : Store α) (h : Hdr) (xs : List (Pt α))
    (hl : h.off + xs.length ≤ (read σ h.arr).length) :
    readH (writeAt h.arr h.off xs σ) { h with len := xs.length } = xs := by
  apply List.ext_getElem?
  intro k
  rw [getElem?_readH]
  dsimp only
  by_cases hk : k < xs.length
  · rw [if_pos hk, cell_writeAt_in _ _ _ _ _ (by omega) (by omega) (by omega)]
    congr 1; omega
  · rw [if_neg hk, List.getElem?_eq_none (by omega)]

/-- `σ'` is `σ` with writes only inside the windows `W`, plus new arrays -/
structure Ext (W : List Hdr) (σ σ' : Store α) : Prop where
  len : σ.length ≤ σ'.length
  size : ∀ a, a < σ.length → (read σ' a).length = (read σ a).length
  frame : ∀ a i, a < σ.length → (∀ h ∈ W, h.inWin a i = false) → cell σ' a i = cell σ a i

theorem Ext.refl (W : List Hdr) (σ : Store α) : Ext W σ σ :=
  ⟨Nat.le_refl _, fun _ _ => rfl, fun _ _ _ _ => rfl⟩

theorem Ext.mono {W W' : List Hdr} {σ σ' : Store α} (h : Ext W σ σ') (hs : ∀ x ∈ W, x ∈ W') : Ext W' σ σ' :=
  ⟨h.len, h.size, fun a i ha hw => h.frame a i ha fun x hx => hw x (hs x hx)⟩

theorem Ext.trans {W1 W2 : List Hdr} {σ σ1 σ2 : Store α} (h1 : Ext W1 σ σ1) (h2 : Ext W2 σ1 σ2) :
    Ext (W1 ++ W2) σ σ2 :=
  ⟨Nat.le_trans h1.len h2.len,
   fun a ha => by rw [h2.size a (Nat.lt_of_lt_of_le ha h1.len), h1.size a ha],
   fun a i ha hw => by
     rw [h2.frame a i (Nat.lt_of_lt_of_le ha h1.len) fun x hx => hw x (List.mem_append_right _ hx),
       h1.frame a i ha fun x hx => hw x (List.mem_append_left _ hx)]⟩

theorem Ext.trans_same {W : List Hdr} {σ σ1 σ2 : Store α} (h1 : Ext W σ σ1) (h2 : Ext W σ1 σ2) : Ext W σ σ2 :=
  (h1.trans h2).mono fun x hx => by
    rcases List.mem_append.1 hx with h | h <;> exact h

theorem ext_append (W : List Hdr) (σ ext : Store α) : Ext W σ (σ ++ ext) :=
  ⟨by simp, fun a ha => by rw [read_append_lt σ ext ha], fun a i ha _ => by
    unfold cell; rw [read_append_lt σ ext ha]⟩

theorem ext_writeAt (h : Hdr) (i : Nat) (xs : List (Pt α)) (σ : Store α)
    (h1 : h.off ≤ i) (h2 : i + xs.length ≤ h.off + h.cap) : Ext [h] σ (writeAt h.arr i xs σ) :=
  ⟨by rw [length_writeAt]; exact Nat.le_refl _,
   fun a _ => read_length_writeAt _ _ _ _ a,
   fun a j _ hw => by
     rw [cell_writeAt]
     by_cases hc : h.arr = a ∧ i ≤ j ∧ j < i + xs.length
     · have := hw h (by simp)
       have hin : h.inWin a j = true := (inWin_iff h a j).2 ⟨hc.1, by omega, by omega⟩
       rw [hin] at this
       cases this
     · rw [if_neg hc]⟩

/-- where a returned slice lives: a whole new array, or the window of one of the headers `W`
    (same first element, same capacity) -/
def ResOK (W : List Hdr) (σ σ' : Store α) (x : Hdr) : Prop :=
  (σ.length ≤ x.arr ∧ x.arr < σ'.length ∧ x.off = 0 ∧ x.cap = x.len ∧ (read σ' x.arr).length = x.len) ∨
  (∃ h ∈ W, x.arr = h.arr ∧ x.off = h.off ∧ x.cap = h.cap ∧ x.len ≤ h.cap)

theorem ResOK.mono {W W' : List Hdr} {σ σ' : Store α} {x : Hdr} (h : ResOK W σ σ' x) (hs : ∀ y ∈ W, y ∈ W') :
    ResOK W' σ σ' x := by
  rcases h with h | ⟨y, hy, h⟩
  · exact Or.inl h
  · exact Or.inr ⟨y, hs y hy, h⟩

/-- a result of an earlier step is still a good result after a later step -/
theorem ResOK.then {W W2 : List Hdr} {σ σ1 σ2 : Store α} {x : Hdr} (h : ResOK W σ σ1 x) (e : Ext W2 σ1 σ2) :
    ResOK (W ++ W2) σ σ2 x := by
  rcases h with ⟨h1, h2, h3, h4, h5⟩ | ⟨y, hy, h⟩
  · exact Or.inl ⟨h1, Nat.lt_of_lt_of_le h2 e.len, h3, h4, by rw [e.size _ h2, h5]⟩
  · exact Or.inr ⟨y, List.mem_append_left _ hy, h⟩

/-- a result of a later step is a good result of the whole -/
theorem ResOK.after {W W2 : List Hdr} {σ σ1 σ2 : Store α} {x : Hdr} (e : Ext W σ σ1) (h : ResOK W2 σ1 σ2 x) :
    ResOK (W ++ W2) σ σ2 x := by
  rcases h with ⟨h1, h2, h3, h4, h5⟩ | ⟨y, hy, h⟩
  · exact Or.inl ⟨Nat.le_trans e.len h1, h2, h3, h4, h5⟩
  · exact Or.inr ⟨y, List.mem_append_right _ hy, h⟩

theorem resOK_alloc (W : List Hdr) (σ : Store α) (xs : List (Pt α)) :
    ResOK W σ (allocH σ xs).1 (allocH σ xs).2 := by
  refine Or.inl ⟨Nat.le_refl _, by simp [allocH], rfl, rfl, ?_⟩
  simp only [allocH]
  rw [read_append_length]

theorem readH_alloc (σ : Store α) (xs : List (Pt α)) : readH (allocH σ xs).1 (allocH σ xs).2 = xs := by
  simp only [readH, allocH, List.drop_zero]
  rw [read_append_length, List.take_length]

/-- wrote only inside `W`, and every returned slice `xs` is fresh or a `W`-slice -/
def Good (W : List Hdr) (σ σ' : Store α) (xs : List Hdr) : Prop :=
  Ext W σ σ' ∧ ∀ x ∈ xs, ResOK W σ σ' x

theorem Good.refl (W : List Hdr) (σ : Store α) : Good W σ σ [] := ⟨Ext.refl _ _, fun _ h => by cases h⟩

theorem Good.seq {W1 W2 : List Hdr} {σ σ1 σ2 : Store α} {xs1 xs2 : List Hdr}
    (h1 : Good W1 σ σ1 xs1) (h2 : Good W2 σ1 σ2 xs2) : Good (W1 ++ W2) σ σ2 (xs1 ++ xs2) :=
  ⟨h1.1.trans h2.1, fun x hx => by
    rcases List.mem_append.1 hx with h | h
    · exact (h1.2 x h).then h2.1
    · exact ResOK.after h1.1 (h2.2 x h)⟩

theorem Good.mono {W W' : List Hdr} {σ σ' : Store α} {xs : List Hdr} (h : Good W σ σ' xs)
    (hs : ∀ x ∈ W, x ∈ W') : Good W' σ σ' xs :=
  ⟨h.1.mono hs, fun x hx => (h.2 x hx).mono hs⟩

theorem good_alloc (W : List Hdr) (σ : Store α) (xs : List (Pt α)) :
    Good W σ (allocH σ xs).1 [(allocH σ xs).2] :=
  ⟨ext_append _ _ _, fun x hx => by
    rw [List.mem_singleton] at hx
    subst hx
    exact resOK_alloc W σ xs⟩

theorem good_allocs (σ : Store α) (ls : List (List (Pt α))) :
    Good [] σ (allocsH σ ls).1 (allocsH σ ls).2 := by
  induction ls generalizing σ with
  | nil => exact Good.refl _ _
  | cons l ls ih =>
    simp only [allocsH]
    exact (good_alloc [] σ l).seq (ih (allocH σ l).1)

theorem allocsH_fst (σ : Store α) (ls : List (List (Pt α))) : (allocsH σ ls).1 = σ ++ ls := by
  induction ls generalizing σ with
  | nil => simp [allocsH]
  | cons l ls ih => simp [allocsH, ih, allocH]

theorem allocsH_read (σ : Store α) (ls : List (List (Pt α))) :
    (allocsH σ ls).2.map (readH (allocsH σ ls).1) = ls := by
  induction ls generalizing σ with
  | nil => rfl
  | cons l ls ih =>
    simp only [allocsH, List.map_cons]
    rw [ih]
    congr 1
    rw [allocsH_fst]
    simp only [allocH, readH, List.drop_zero, List.append_assoc, List.singleton_append]
    rw [read_append_length, List.take_length]

theorem arr_lt_of_WF (σ : Store α) (x : Hdr) (hw : x.WF σ) (hc : 0 < x.cap) : x.arr < σ.length := by
  apply Nat.lt_of_not_le
  intro hge
  have h2 : x.off + x.cap ≤ 0 := by have := hw.2; rwa [read_of_le hge] at this
  omega

theorem readH_of_ext {W : List Hdr} {σ σ' : Store α} (e : Ext W σ σ') (x : Hdr) (hw : x.WF σ)
    (hd : ∀ h ∈ W, WinDisj h x) : readH σ' x = readH σ x :=
  readH_congr fun k hk => e.frame _ _ (arr_lt_of_WF σ x hw (by have := hw.1; omega)) fun h hh =>
    Bool.eq_false_iff.2 fun hin => hd h hh _ _ ⟨hin, (inWin_iff x _ _).2 ⟨rfl, by omega, by have := hw.1; omega⟩⟩

theorem WF_of_ext {W : List Hdr} {σ σ' : Store α} (e : Ext W σ σ') (x : Hdr) (hw : x.WF σ) : x.WF σ' := by
  refine ⟨hw.1, ?_⟩
  by_cases hlt : x.arr < σ.length
  · rw [e.size _ hlt]; exact hw.2
  · have := hw.2
    rw [read_of_le (Nat.le_of_not_lt hlt)] at this
    exact Nat.le_trans this (Nat.zero_le _)

theorem readH_res_of_ext {W1 W2 : List Hdr} {σ σ1 σ2 : Store α} {x : Hdr}
    (e1 : Ext W1 σ σ1) (hx : ResOK W1 σ σ1 x) (hw1 : ∀ h ∈ W1, h.WF σ) (e : Ext W2 σ1 σ2)
    (hw2 : ∀ h ∈ W2, h.WF σ) (hd : ∀ h1 ∈ W1, ∀ h2 ∈ W2, WinDisj h1 h2) : readH σ2 x = readH σ1 x := by
  refine readH_congr fun k hk => ?_
  rcases hx with ⟨h1, h2, h3, h4, h5⟩ | ⟨y, hy, h1, h2, h3, h4⟩
  · -- a fresh array: the later windows lie in arrays of the first store
    refine e.frame _ _ h2 fun h hh => Bool.eq_false_iff.2 fun hin => ?_
    have hi := (inWin_iff h _ _).1 hin
    have := arr_lt_of_WF σ h (hw2 h hh) (by omega)
    omega
  · -- a slice of the window of `y ∈ W1`, which the later windows avoid
    have hlt : x.arr < σ1.length := by
      rw [h1]
      exact Nat.lt_of_lt_of_le (arr_lt_of_WF σ y (hw1 y hy) (by omega)) e1.len
    exact e.frame _ _ hlt fun h hh => Bool.eq_false_iff.2 fun hin =>
      hd y hy h hh _ _ ⟨(inWin_iff y _ _).2 ⟨h1.symm, by omega, by omega⟩, hin⟩

/-- What one run `σ ⟶ σ'` of a member operation promises.  Its item reads through the headers `R` and may write
    through `W`; `X` are the headers it returned; `P` is its value-level statement.  Unconditionally it wrote only
    inside the windows `W` and `X` is fresh or `W`-slices; if `R` was legal with pairwise disjoint windows, `P`. -/
structure Run (R W X : List Hdr) (σ σ' : Store α) (P : Prop) : Prop where
  good : Good W σ σ' X
  den : (∀ h ∈ R, h.WF σ) → R.Pairwise WinDisj → P

theorem Run.refl (R W : List Hdr) (σ : Store α) {P : Prop} (h : P) : Run R W [] σ σ P :=
  ⟨Good.refl _ _, fun _ _ => h⟩

/-- items processed left to right on the store the previous ones left; `none` results dropped -/
def thread {ι ρ : Type} (step : Store α → ι → Option (Store α × Option ρ)) :
    Store α → List ι → Option (Store α × List ρ)
  | σ, [] => some (σ, [])
  | σ, i :: is => (step σ i).bind fun p => (thread step p.1 is).map fun q => (q.1, p.2.toList ++ q.2)

/-- the headers of an optional step result -/
def optHdrs {ρ : Type} (RH : ρ → List Hdr) (r : Option ρ) : List Hdr :=
  match r with | none => [] | some x => RH x

theorem thread_cons_some {ι ρ : Type} {step : Store α → ι → Option (Store α × Option ρ)} {σ σ' : Store α}
    {i : ι} {is : List ι} {rs : List ρ} (hr : thread step σ (i :: is) = some (σ', rs)) :
    ∃ σ1 r rs2, step σ i = some (σ1, r) ∧ thread step σ1 is = some (σ', rs2) ∧ rs = r.toList ++ rs2 := by
  obtain ⟨⟨σ1, r⟩, h1, hm⟩ := Option.bind_eq_some_iff.1 hr
  obtain ⟨⟨σ2, rs2⟩, h2, e⟩ := Option.map_eq_some_iff.1 hm
  cases e
  exact ⟨σ1, r, rs2, h1, h2, rfl⟩

/-- The value-level counterpart of a loop is `(vs.mapM spec).map (·.filterMap id)`: every item's result, stuck if
    one is, `none` results dropped.  One turn of it: -/
theorem mapM_filterMap_cons {V V' : Type} (spec : V → Option (Option V')) (v : V) (vs : List V) :
    ((v :: vs).mapM spec).map (·.filterMap id) =
      (spec v).bind fun r => ((vs.mapM spec).map (·.filterMap id)).map (r.toList ++ ·) := by
  rw [List.mapM_cons]
  cases spec v with
  | none => rfl
  | some r => cases vs.mapM spec <;> cases r <;> simp

/-- `Run` goes through `thread`.  Items `i` are processed left to right by `step` on the store the
    previous ones left; `val` / `valR` read an item / a result off a store and depend only on what the headers
    `R i` / `RH x` read; `spec` is the value-level step.  The loop then runs like the value-level loop over `spec` on the
    values read off the INITIAL store: later items are not disturbed by the earlier ones' writes
    (`readH_of_ext`), earlier results not by the later ones' (`readH_res_of_ext`). -/
theorem thread_run {ι ρ V V' : Type}
    (step : Store α → ι → Option (Store α × Option ρ))
    (R W : ι → List Hdr) (RH : ρ → List Hdr)
    (val : Store α → ι → V) (valR : Store α → ρ → V') (spec : V → Option (Option V'))
    (is : List ι)
    (hW : ∀ i ∈ is, ∀ h ∈ W i, h ∈ R i)
    (hstep : ∀ i ∈ is, ∀ σ σ' r, step σ i = some (σ', r) →
      Run (R i) (W i) (optHdrs RH r) σ σ' (spec (val σ i) = some (r.map (valR σ'))))
    (hval : ∀ i ∈ is, ∀ σ σ', (∀ h ∈ R i, readH σ' h = readH σ h) → val σ' i = val σ i)
    (hvalR : ∀ x σ σ', (∀ h ∈ RH x, readH σ' h = readH σ h) → valR σ' x = valR σ x)
    (σ σ' : Store α) (rs : List ρ) (hr : thread step σ is = some (σ', rs)) :
    Run (is.map R).flatten (is.map W).flatten (rs.map RH).flatten σ σ'
      (((is.map (val σ)).mapM spec).map (·.filterMap id) = some (rs.map (valR σ'))) := by
  induction is generalizing σ σ' rs with
  | nil =>
    simp only [thread, Option.some.injEq, Prod.mk.injEq] at hr
    rw [← hr.1, ← hr.2]
    exact Run.refl _ _ _ rfl
  | cons i is ih =>
    obtain ⟨σ1, r, rs2, h1, h2, rfl⟩ := thread_cons_some hr
    have s1 := hstep i (by simp) σ σ1 r h1
    have s2 := ih (fun j hj => hW j (List.mem_cons_of_mem _ hj)) (fun j hj => hstep j (List.mem_cons_of_mem _ hj))
      (fun j hj => hval j (List.mem_cons_of_mem _ hj)) σ1 σ' rs2 h2
    have hX : ((r.toList ++ rs2).map RH).flatten = optHdrs RH r ++ (rs2.map RH).flatten := by
      cases r <;> simp [optHdrs]
    simp only [List.map_cons, List.flatten_cons]
    rw [hX]
    refine ⟨s1.good.seq s2.good, fun hwf hpw => ?_⟩
    rw [List.pairwise_append] at hpw
    obtain ⟨hpw1, hpw2, hcross⟩ := hpw
    have hRi : ∀ h ∈ R i, h.WF σ := fun h hh => hwf h (List.mem_append_left _ hh)
    have hRj : ∀ j ∈ is, ∀ h ∈ R j, h ∈ (is.map R).flatten := fun j hj h hh =>
      List.mem_flatten.2 ⟨R j, List.mem_map.2 ⟨j, hj, rfl⟩, hh⟩
    -- later items: still well-formed, and they read what they read before
    have hread : ∀ j ∈ is, ∀ h ∈ R j, readH σ1 h = readH σ h := fun j hj h hh =>
      readH_of_ext s1.good.1 h (hwf h (List.mem_append_right _ (hRj j hj h hh))) fun w hw =>
        hcross w (hW i (by simp) w hw) h (hRj j hj h hh)
    have hmap : is.map (val σ1) = is.map (val σ) :=
      List.map_congr_left fun j hj => hval j (List.mem_cons_of_mem _ hj) σ σ1 (hread j hj)
    have hW2 : ∀ h ∈ (is.map W).flatten, h ∈ (is.map R).flatten := by
      intro h hh
      obtain ⟨l, hl, hhl⟩ := List.mem_flatten.1 hh
      obtain ⟨j, hj, rfl⟩ := List.mem_map.1 hl
      exact hRj j hj h (hW j (List.mem_cons_of_mem _ hj) h hhl)
    rw [mapM_filterMap_cons, s1.den hRi hpw1, ← hmap,
      s2.den (fun h hh => WF_of_ext s1.good.1 h (hwf h (List.mem_append_right _ hh))) hpw2]
    cases r with
    | none => rfl
    | some x =>
      -- the result of item `i` reads in `σ'` what it read in `σ1`
      have : valR σ' x = valR σ1 x := hvalR x σ1 σ' fun h hh =>
        readH_res_of_ext s1.good.1 (s1.good.2 h hh) (fun w hw => hRi w (hW i (by simp) w hw)) s2.good.1
          (fun w hw => hwf w (List.mem_append_right _ (hW2 w hw)))
          fun w hw w' hw' => hcross w (hW i (by simp) w hw) w' (hW2 w' hw')
      simp [this]

end Orb.HeapOps
