/-
  C05 — Decoders never panic and never over-allocate on hostile input  (WKB / EWKB part; the WKT,
  MVT and GeoJSON parts are in OrbProofs/C04.lean, C03.lean, C02.lean).
  PROPERTY THEOREMS about the model `Orb.WKB`, in which every Go slice expression that is not
  covered by a preceding length guard is an explicit `panic` outcome.  The byte-slice decoder is not
  recursive (a member of a multi is decoded by the plain decoder of its type); the stream decoder
  recurses through nested collections only, `MaxCollectionDepth` (regenerated into `Generated.Params`)
  levels at most, and answers `ErrNestingTooDeep` beyond.
-/
import OrbProofs.C01
import OrbProofs.C05AllocByte

namespace Orb.WKB

/-- The one-shot byte decoder returns a value or an error for EVERY byte string: no index or slice
    panic (the re-derived member offsets 21 / 16n+9 / 9+Σ(4+16n) never exceed what was parsed). -/
theorem unmarshal_total (bs : Bytes) : (unmarshal bs).isPanic = false := unmarshal_np bs

/-- The streaming decoder likewise (and it terminates: structural recursion on the counts and on the
    number of collection levels left). -/
theorem decode_total (bs : Bytes) : (decode bs).isPanic = false := (decode_post bs).np

/-- `wkbcommon.Scan` into each of the ten destinations, for every input incl. hex / `\x` framings. -/
theorem scan_total (bnd : BoundFn) (d : Dest) (bs : Bytes) : (scan bnd d bs).isPanic = false := scan_np bnd d bs

/-- `ewkb.Scanner` / `ewkb.ScannerPrefixSRID`. -/
theorem ewkbScan_total (bnd : BoundFn) (pfx : Bool) (d : Dest) (bs : Bytes) :
    (ewkbScan bnd pfx d bs).isPanic = false := by
  unfold ewkbScan
  split
  · split
    · rfl
    · np_step scan_np bnd d _; rfl
  · exact scan_np bnd d bs

/-- `wkb.Scanner` with its retry on `data[4:]`. -/
theorem wkbScan_total (bnd : BoundFn) (d : Dest) (bs : Bytes) : (wkbScan bnd d bs).isPanic = false := by
  unfold wkbScan
  split
  · rfl
  · rename_i hs
    have h5 := scan_hdr_len hs
    np_step (sliceFrom_post _ 4 (by rw [scanBuf_length]; omega)).np
    np_step scan_np bnd d _; rfl
  · rfl
  · rename_i heq
    exact (Res.np_absurd heq (scan_np _ _ _)).elim

/-- Whatever element counts the input claims, a successfully decoded value is no bigger than the
    input: at least 16 bytes were consumed per decoded point AND at least 4 bytes per ring, line,
    polygon and collection member (`memberCount`: every slice element that is not a point, at every
    depth) — empty rings, empty lines and empty collection members included.  So the memory held by
    the result (16 bytes per point, a 24-byte slice header or 16-byte interface per other element, and
    what `append` over-allocates while growing them) is at most proportional to the input length. -/
theorem unmarshal_elems_le (bs : Bytes) (g : G) (s : Nat) (h : unmarshal bs = .ok (g, s)) :
    16 * pointCount g + 4 * memberCount g ≤ bs.length := ((unmarshal_post bs).ok h).2.2

theorem decode_elems_le (bs : Bytes) (g : G) (s : Nat) (h : decode bs = .ok (g, s)) :
    16 * pointCount g + 4 * memberCount g ≤ bs.length := ((decode_post bs).ok h).2.2

/-- `unmarshal_elems_le` without the summand for the members: 16 bytes per decoded point. -/
theorem unmarshal_size_le (bs : Bytes) (g : G) (s : Nat) (h : unmarshal bs = .ok (g, s)) :
    16 * pointCount g ≤ bs.length := Nat.le_trans (Nat.le_add_right _ _) ((unmarshal_post bs).ok h).2.2

/-- `decode_elems_le` without the summand for the members. -/
theorem decode_size_le (bs : Bytes) (g : G) (s : Nat) (h : decode bs = .ok (g, s)) :
    16 * pointCount g ≤ bs.length := Nat.le_trans (Nat.le_add_right _ _) ((decode_post bs).ok h).2.2

/-! ### allocation: the capacities requested by the decoders' own `make` calls

  `decodeAlloc`, `unmarshalAlloc`, `scanDestAlloc` (Orb/WKB.lean, the section on allocation accounting) add up
  the byte size of every `make(T, 0, min(claimed count, cap))` the Go code executes during one call —
  with `MaxPointsAlloc` / `MaxMultiAlloc` (regenerated into `Generated.Params`) exactly where the Go code
  caps — for a decode that SUCCEEDS and for one that FAILS (a failing decode has run the `make` of every
  container that was open when it failed, each possibly at its cap).  Removing a cap from one of the
  accounting functions (`allocCap num cap` ↦ `num`) where the `make` precedes the length check makes the
  theorems below unprovable (the count is an arbitrary 32-bit number).  The correspondence run compares the
  measured TotalAlloc of the three kinds of entry point with these figures. -/

/-- Stream decoder, EVERY byte string, every outcome: at most `allocPerByte` (200) bytes per input byte
    plus `allocFixed` = 164808 = one open MultiPolygon + Polygon + ring, each at its cap, + the 8-byte
    buffer.  (The fixed part is attained: see `decodeAlloc_tight`.) -/
theorem decode_alloc_le (bs : Bytes) : decodeAlloc bs ≤ allocPerByte * bs.length + allocFixed := by
  have := (paid_decodeStream Generated.Params.wkb_MaxCollectionDepth).F bs
  simp only [decodeAlloc, allocPerByte, allocFixed_eq]
  omega

/-- A succeeding stream decode needs no fixed part: every capped `make` was paid for by consumed input. -/
theorem decode_alloc_ok_le (bs : Bytes) (g : G) (s : Nat) (h : decode bs = .ok (g, s)) :
    decodeAlloc bs ≤ allocPerByte * bs.length := by
  rw [decode_eq] at h
  obtain ⟨t, ht, _⟩ := Res.bind_eq_ok h
  have := (paid_decodeStream Generated.Params.wkb_MaxCollectionDepth).S bs t.1 t.2.2
    (by simp only [collMember, ht, Res.bind_ok])
  simp only [decodeAlloc, allocPerByte]
  omega

/-- The clause of the property for the byte-slice decoder.  A named proposition because it was false of the code
    before fix C05-1 (finding C05-wkb-nested-multi-quadratic); `unmarshal_alloc_linear` proves it. -/
def unmarshal_alloc_linear_full : Prop :=
  ∀ bs : Bytes, unmarshalAlloc bs ≤ allocPerByte * bs.length + allocFixed

/-- The byte-slice decoder, EVERY byte string, every outcome: every member of a multi is decoded by the plain
    decoder of its type, a succeeding member is paid for by the bytes the loop skips, a failing one ends the
    loop.  (With members scanned by the coercing `Scan*` functions the bound fails: finding
    C05-wkb-nested-multi-quadratic, family `nestedMultiInput` below.) -/
theorem unmarshal_alloc_linear : unmarshal_alloc_linear_full := by
  intro bs
  have h7 := decode_alloc_le bs
  unfold unmarshalAlloc
  rw [allocFixed_eq] at h7 ⊢
  unfold allocPerByte at h7 ⊢
  split
  · rename_i o typ srid gd hb
    have hl := unmarshalBOT_len hb
    have h4 := unmarshalMultiPointAlloc_le o gd
    have h2 := unmarshalPointsAlloc_le o gd
    have h5 := unmarshalMultiLineStringAlloc_le o gd
    have h3 := unmarshalPolygonAlloc_le o gd
    have h6 := unmarshalMultiPolygonAlloc_le o gd
    exact ite_le (by omega) (ite_le (by omega) (ite_le (by omega) (ite_le (by omega) (ite_le (by omega)
      (ite_le (by omega) (ite_le h7 (by omega)))))))
  · omega

/-- The same bound for `wkbcommon.Scan` into each of the ten destinations (after the hex framing is removed). -/
theorem scanDest_alloc_le (d : Dest) (bs : Bytes) :
    scanDestAlloc d bs ≤ allocPerByte * bs.length + allocFixed := by
  have hu := unmarshal_alloc_linear bs
  have hd := decode_alloc_le bs
  rw [allocFixed_eq] at hu hd ⊢
  unfold allocPerByte at hu hd ⊢
  cases d with
  | any | multiPoint | ring | bound => exact hu
  | collection => exact hd
  | point =>
    exact Nat.le_trans (scanSingleAlloc_lin _ _ _ _ 0 1600 (fun _ _ => Nat.zero_le _)
      (fun o d => by have := unmarshalMultiPointAlloc_le o d; omega) bs) (by omega)
  | lineString | multiLineString =>
    exact Nat.le_trans (scanSingleAlloc_lin _ _ _ _ 1 2400
      (fun o d => by have := unmarshalPointsAlloc_le o d; omega)
      (fun o d => by have := unmarshalMultiLineStringAlloc_le o d; omega) bs) (by omega)
  | polygon | multiPolygon =>
    exact Nat.le_trans (scanSingleAlloc_lin _ _ _ _ 6 4800
      (fun o d => by have := unmarshalPolygonAlloc_le o d; omega)
      (fun o d => by have := unmarshalMultiPolygonAlloc_le o d; omega) bs) (by omega)

/-- The witness family of finding C05-wkb-nested-multi-quadratic: a MultiLineString claiming k+2 members followed
    by k+1 nested one-member MultiLineString headers and one empty line string (9k+27 bytes, `nested_input_length`),
    which a member loop using the coercing scan decodes SUCCESSFULLY after 12·(k+1)·(k+2) bytes of `make` calls,
    is rejected at the first nested header.  (`hk`: the claimed count is written as a 32-bit word.) -/
theorem nested_unmarshal_rejected (k : Nat) (hk : k + 2 < 2 ^ 32) :
    unmarshal (nestedMultiInput Generated.Params.wkb_multiLineStringType Generated.Params.wkb_lineStringType (k + 1))
      = .err .incorrectGeometry := by
  simp +decide only [unmarshal, unmarshalBOT_nested, ↓reduceIte, unmarshalMultiLineString,
    unmarshalMultiF_first_err _ _ _ _ (k + 1) _ _ hk (scanMember_nested k _).1]

/-- On that input the byte decoder has requested the `make` of the outer multi and nothing else. -/
theorem nested_unmarshal_alloc (k : Nat) (hk : k + 2 < 2 ^ 32) :
    unmarshalAlloc (nestedMultiInput Generated.Params.wkb_multiLineStringType Generated.Params.wkb_lineStringType (k + 1))
      = szSlice * allocCap (k + 2) Generated.Params.wkb_MaxMultiAlloc := by
  simp +decide only [unmarshalAlloc, unmarshalBOT_nested, ↓reduceIte, unmarshalMultiLineStringAlloc,
    unmarshalMultiFAlloc_first_err _ _ _ _ _ _ (k + 1) _ _ hk (scanMember_nested k _).1, (scanMember_nested k _).2]
  rfl

theorem nested_input_length (t leaf k : Nat) : (nestedMultiInput t leaf k).length = 9 * k + 18 := by
  simp only [nestedMultiInput, List.length_append, List.length_cons, u32_length, nestHeaders_length]
  omega

/-! ### recursion depth (stack)

  `decodeDepth` / `unmarshalDepth` (Orb/WKB.lean) follow the decoders as the allocation accounting does and
  return the largest number of `Decoder.Decode` activations that are on the Go stack at the same time —
  the only recursion in either decoder — for succeeding and failing decodes. -/

/-- EVERY byte string: at most `MaxCollectionDepth + 1` nested `Decode` calls (it was unbounded, finding
    C05-wkb-deep-nesting-stack-overflow: 9 bytes of input per level, a fatal stack overflow at a few
    million levels). -/
theorem decode_depth_le (bs : Bytes) : decodeDepth bs ≤ Generated.Params.wkb_MaxCollectionDepth + 1 :=
  decodeWithDepth_le _ _ (readCollectionDepthF_le _) bs

/-- The byte-slice decoder reaches the recursive decoder for a collection only; its own functions do
    not recurse at all (`unmarshalMultiF` is not a recursive definition). -/
theorem unmarshal_depth_le (bs : Bytes) : unmarshalDepth bs ≤ Generated.Params.wkb_MaxCollectionDepth + 1 := by
  unfold unmarshalDepth
  split
  · split
    · exact decode_depth_le bs
    · exact Nat.zero_le _
  · exact Nat.zero_le _

/-- What comes back is nested no deeper than the limit (so every recursive consumer of the value —
    `Bound`, `Equal`, the encoders — recurses no deeper either).  The same statement as `decode_depth_ok` of C01. -/
theorem decode_result_depth_le (bs : Bytes) (g : G) (s : Nat) (h : decode bs = .ok (g, s)) :
    collDepth g ≤ Generated.Params.wkb_MaxCollectionDepth := decode_depth_ok bs g s h

/-- The same statement as `unmarshal_depth_ok` of C01. -/
theorem unmarshal_result_depth_le (bs : Bytes) (g : G) (s : Nat) (h : unmarshal bs = .ok (g, s)) :
    collDepth g ≤ Generated.Params.wkb_MaxCollectionDepth := unmarshal_depth_ok bs g s h

/-- Non-vacuity of the depth accounting (computed with two levels allowed): three nested collections
    (`1,7,0,0,0,n,0,0,0`: little endian, type 7 = collection, `n` members) stack three `Decode` calls and are
    refused; two are decoded. -/
theorem depth_witness :
    decodeWithDepth (readCollectionDepthF 2) [1,7,0,0,0,1,0,0,0, 1,7,0,0,0,1,0,0,0, 1,7,0,0,0,0,0,0,0] = 3 ∧
    decodeStream 2 [1,7,0,0,0,1,0,0,0, 1,7,0,0,0,1,0,0,0, 1,7,0,0,0,0,0,0,0] = .err .nestingTooDeep ∧
    decodeStream 2 [1,7,0,0,0,1,0,0,0, 1,7,0,0,0,0,0,0,0] = .ok (.collection [.collection []], 0, []) :=
  ⟨by decide, rfl, rfl⟩

/-- The fixed part of the bound is attained: a 22-byte stream (MultiPolygon, Polygon and ring, each
    claiming 2^32-1 elements) fails with `EOF` after requesting exactly `allocFixed` bytes. -/
theorem decodeAlloc_tight :
    decodeAlloc [1, 6,0,0,0, 255,255,255,255, 1, 3,0,0,0, 255,255,255,255, 255,255,255,255] = allocFixed ∧
    decode [1, 6,0,0,0, 255,255,255,255, 1, 3,0,0,0, 255,255,255,255, 255,255,255,255] = .err .eof :=
  ⟨by decide, rfl⟩

/-- `allocCap`, the capacity the decoders pass to `make`: never above the cap, never above the claimed count. -/
theorem allocCap_le (num cap : Nat) : allocCap num cap ≤ cap ∧ allocCap num cap ≤ num := allocCap_bounds num cap

/-- When a value is returned, re-encoding it and decoding again is stable (from C01). -/
theorem reencode_stable_total (bs : Bytes) (g : G) (s : Nat) (h : unmarshal bs = .ok (g, s)) (o : Order) :
    unmarshal (encGeom o s g) = .ok (g, s) := reencode_stable bs g s h o

/-- Non-vacuity / regression witness: the 12-byte input that used to crash the byte decoder
    (line string claiming 2^28 points: `num*16` wrapped in uint32) is now an error. -/
theorem wrap_regression : unmarshal [1, 2, 0, 0, 0, 0, 0, 0, 0x10, 1, 2, 3] = .err .notWKB := rfl

end Orb.WKB
