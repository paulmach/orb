/-
  C13 — Map tile arithmetic is a consistent quadtree of the mercator square.
  PROPERTY THEOREMS about the models `Orb.Tile` (maptile/tile.go, integer part) and
  `Orb.TileGeo` (Fraction / At / Bound / Center + mercator.ToGeo; second half of this file).

  `V t` is the property's quantifier: a valid tile with zoom 0..30.
  The abstract spec is the ancestor relation of the tile pyramid
  (`ancestorAt u k = (x / 2^k, y / 2^k, z - k)`), tied to the code's `parent`
  by `ancestorAt_eq_iterate_parent`.
-/
import OrbProofs.C13Lemmas
import OrbProofs.C13GeoLemmas

namespace Orb.Tile

/-- `Valid()` decides exactly `x, y < 2^z` (for z ≤ 31; at z ≥ 32 the uint32 shift wraps to 0). -/
theorem valid_iff (t : Tile) (hz : t.z ≤ 31) :
    valid t = true ↔ (t.x < 2^t.z ∧ t.y < 2^t.z) := valid_iff_lt t hz

/-- The abstract ancestor `k` levels up is `Parent()` applied `k` times. -/
theorem ancestorAt_eq_iterate_parent (u : Tile) (hu : V u) (k : Nat) (hk : k ≤ u.z) :
    ancestorAt u k = parentN k u := by
  induction k generalizing u with
  | zero => exact ancestorAt_zero u
  | succ k ih =>
    have hz : u.z ≤ 30 := hu.2.2
    rw [parentN, parent_eq_ancestorAt u (by omega) (by omega),
      ← ih _ (V_ancestorAt u hu 1 (by omega)) (by simp only [ancestorAt]; omega), ancestorAt_add, Nat.add_comm]

/-- The four children of EVERY tile of the quantifier (zoom 30 included) are valid tiles one level
    down whose parent is the tile.  "Valid" is stated as the range condition at the child's own zoom
    `t.z + 1 ≤ 31` together with `Valid() = true` (`V c` would demand `c.z ≤ 30` and so exclude the
    children of zoom-30 tiles). -/
theorem children_valid_parent (t : Tile) (ht : V t) :
    ∀ c ∈ children t, (c.x < 2 ^ c.z ∧ c.y < 2 ^ c.z ∧ c.z ≤ 31) ∧ valid c = true ∧
      c.z = t.z + 1 ∧ parent c = t :=
  forall_children t ht fun _ _ hi hj => child_spec t ht hi hj

/-- Below zoom 30 the children are again tiles of the quantifier. -/
theorem children_valid_parent_V (t : Tile) (ht : V t) (hz : t.z < 30) :
    ∀ c ∈ children t, V c ∧ c.z = t.z + 1 ∧ parent c = t := children_valid_parent' t ht hz

/-- The four children are pairwise distinct. -/
theorem children_distinct (t : Tile) (ht : V t) : (children t).Nodup := by
  rw [children_eq t ht]
  simp [List.Nodup]

/-- …and they are all of the tile's descendants one level down (every zoom 0..30; no validity
    hypothesis on `c` is needed). -/
theorem children_complete (t c : Tile) (ht : V t) (hcz : c.z = t.z + 1)
    (hp : parent c = t) : c ∈ children t := mem_children_of_parent t c ht hcz hp

/-- `Contains` agrees with the ancestor relation.  (`ht` is the property's quantifier; the proof does not use it.) -/
theorem contains_iff_ancestor (t u : Tile) (ht : V t) (hu : V u) :
    contains t u = true ↔ IsAncestor t u := by
  have _ := ht -- (hypothesis not needed: only `u.z < 2^32` is used)
  unfold contains IsAncestor
  by_cases h : u.z < t.z
  · rw [if_pos h]
    constructor
    · intro h'; cases h'
    · intro h'; omega
  · rw [if_neg h, tile_beq_iff, toZoom_up u t.z (by omega) (by have := hu.2.2; omega)]
    constructor
    · intro h'; exact ⟨by omega, h'⟩
    · intro h'; exact h'.2

/-- The quadkey round-trips. -/
theorem quadkey_roundtrip (t : Tile) (ht : V t) : fromQuadkey (quadkey t) t.z = t := by
  obtain ⟨hx, hy, hz⟩ := ht
  obtain ⟨h1, h2⟩ := fromQuadkey_fold_bits (quadkey t) t.z t.z (by omega)
  refine tile_ext (eq_of_low_bits hx fun i => ?_) (eq_of_low_bits hy fun i => ?_) h1
  · rw [fromQuadkey, (h2 i).1, quadkey, (quadkey_fold_bits t t.z (by omega) i).1, ← Bool.and_assoc, Bool.and_self]
  · rw [fromQuadkey, (h2 i).2, quadkey, (quadkey_fold_bits t t.z (by omega) i).2, ← Bool.and_assoc, Bool.and_self]

/-- The quadkey of a valid tile fits in `2·z` bits. -/
theorem quadkey_lt (t : Tile) (ht : V t) : quadkey t < 4 ^ t.z := by
  obtain ⟨hx, hy, hz⟩ := ht
  have e : (4:Nat) ^ t.z = 2 ^ (2 * t.z) := by
    rw [Nat.pow_mul]
  rw [e]
  apply Nat.lt_pow_two_of_testBit
  intro j hj
  unfold quadkey
  rcases Nat.mod_two_eq_zero_or_one j with h | h
  · have ej : j = 2 * (j / 2) := by omega
    rw [ej, (quadkey_fold_bits t t.z (by omega) (j / 2)).1]
    have : ¬ (j / 2 < t.z) := by omega
    simp [this]
  · have ej : j = 2 * (j / 2) + 1 := by omega
    rw [ej, (quadkey_fold_bits t t.z (by omega) (j / 2)).2]
    have : ¬ (j / 2 < t.z) := by omega
    simp [this]

/-- The shared parent is a common ancestor of both tiles … -/
theorem sharedParent_common (t u : Tile) (ht : V t) (hu : V u) :
    IsAncestor (sharedParent t u) t ∧ IsAncestor (sharedParent t u) u :=
  ⟨(sharedParent_glb t u ht hu).1, (sharedParent_glb t u ht hu).2.1⟩

/-- … and the deepest one: every common ancestor is an ancestor of it. -/
theorem sharedParent_deepest (t u a : Tile) (ht : V t) (hu : V u)
    (hat : IsAncestor a t) (hau : IsAncestor a u) : IsAncestor a (sharedParent t u) :=
  (sharedParent_glb t u ht hu).2.2 a hat hau

/-- The range at a deeper zoom is exactly the block of descendants there.  (Of `hu` only `huz` is used.) -/
theorem range_eq_descendants (t u : Tile) (z : Nat) (ht : V t) (hz : t.z ≤ z) (hz' : z ≤ 30)
    (hu : V u) (huz : u.z = z) :
    IsAncestor t u ↔
      ((range t z).1.x ≤ u.x ∧ u.x ≤ (range t z).2.x ∧ (range t z).1.y ≤ u.y ∧ u.y ≤ (range t z).2.y) := by
  have _ := hu -- (hypothesis not needed beyond `huz`)
  have hx := Nat.le_mul_of_pos_right (t.x + 1) (Nat.two_pow_pos (z - t.z))
  have hy := Nat.le_mul_of_pos_right (t.y + 1) (Nat.two_pow_pos (z - t.z))
  rw [range_down t z ht hz hz', isAncestor_iff_block (d := z - t.z) (by omega)]
  simp only
  omega

/-- The range at a shallower zoom is the single ancestor there. -/
theorem range_up (t : Tile) (z : Nat) (ht : V t) (hz : z < t.z) :
    range t z = (ancestorAt t (t.z - z), ancestorAt t (t.z - z)) := by
  unfold range
  rw [if_pos hz, toZoom_up t z (by omega) (by have := ht.2.2; omega)]

/-- `ChildrenInZoomRange` lists exactly the descendants with zoom in `[zs, ze]`, each once. -/
theorem childrenInZoomRange_spec (t : Tile) (zs ze : Nat) (ht : V t) (h1 : t.z ≤ zs) (h2 : zs ≤ ze) (h3 : ze ≤ 30) :
    ∃ l, childrenInZoomRange t zs ze = some l ∧ l.Nodup ∧
      ∀ u, u ∈ l ↔ (V u ∧ zs ≤ u.z ∧ u.z ≤ ze ∧ IsAncestor t u) := by
  have hz30 : t.z ≤ 30 := ht.2.2
  obtain ⟨hn, hm⟩ := levels_spec t ht (zs - t.z) (ze - t.z + 1 - (zs - t.z)) (by omega)
  refine ⟨_, ?_, hn, fun u => (hm u).trans ?_⟩
  · unfold childrenInZoomRange
    rw [if_neg (fun h => h h2), if_neg (fun h => h h1)]
    simp only
    rw [sub32_eq h1 (by omega), sub32_eq (by omega) (by omega)]
  · rw [Nat.add_sub_cancel' h1]
    exact and_congr_right fun _ => and_congr_right fun _ => and_congr_left fun _ => by omega

/-- Non-vacuity: a concrete valid tile and a concrete strict descendant. -/
example : V ⟨5, 9, 4⟩ ∧ IsAncestor ⟨5, 9, 4⟩ ⟨21, 38, 6⟩ ∧ contains ⟨5, 9, 4⟩ ⟨21, 38, 6⟩ = true := by
  refine ⟨by decide, ?_, by decide⟩
  exact ⟨by decide, by decide⟩

/-- Non-vacuity at the deepest zoom of the quantifier: the last tile of zoom 30 is in `V`, and its
    last child (zoom 31, coordinates `2^31 − 1`) is accepted by `Valid()` and has it as parent. -/
example : V ⟨2 ^ 30 - 1, 2 ^ 30 - 1, 30⟩ ∧
    (⟨2 ^ 31 - 1, 2 ^ 31 - 1, 31⟩ : Tile) ∈ children ⟨2 ^ 30 - 1, 2 ^ 30 - 1, 30⟩ ∧
    valid ⟨2 ^ 31 - 1, 2 ^ 31 - 1, 31⟩ = true ∧
    parent ⟨2 ^ 31 - 1, 2 ^ 31 - 1, 31⟩ = ⟨2 ^ 30 - 1, 2 ^ 30 - 1, 30⟩ := by
  have hV : V ⟨2 ^ 30 - 1, 2 ^ 30 - 1, 30⟩ := by decide
  have hm : (⟨2 ^ 31 - 1, 2 ^ 31 - 1, 31⟩ : Tile) ∈ children ⟨2 ^ 30 - 1, 2 ^ 30 - 1, 30⟩ := by
    rw [children_eq _ hV]; simp
  obtain ⟨_, hv, _, hp⟩ := children_valid_parent _ hV _ hm
  exact ⟨hV, hm, hv, hp⟩

end Orb.Tile

/-! ## Geography: `At`, `Bound`, `Center`

  The model `Orb.TileGeo` takes the transcendental maps and the conversions as parameters of an environment `E`
  (fields described at `Orb.TileGeo.Env`).  The theorems hold over every ordered field under named hypotheses on
  `E` — `CastExact`, `FloorSpec`, `LatMaxNonneg`, `LatOfStrictAnti`, `MercYAntitone`, `MercYLatOf`, `LatOfMercY`,
  `ClampInside` — each defined, with what it says of the code, at the head of `C13GeoLemmas.lean`
  (`LatOfStrictAnti` is used by `center_maps_back_partial`, `children_midlines_inside` and
  `children_cells_partition` only).

  They are facts of real analysis about the Gudermannian pair, NOT proved here and NOT true of
  float64 `sin/log/atan/exp` to the last bit; the float-level agreement of the code with this model
  (same arithmetic on top of Go's own libm values) is what the correspondence run checks.
-/

namespace Orb.TileGeo
open Orb Orb.Tile

/-- Neighbouring tiles share their edge coordinates, in ANY carrier (no field, no order axioms — in particular
    `Float`): given `float64(x+1) = float64(x) + 1` (likewise for `y`), that adding / subtracting the zero buffer
    leaves THESE two sums unchanged and that the y clamps are inactive, both sides are the SAME term
    `360*(v/maxtiles − 0.5)` resp. `latOf(v/maxtiles)` of the same `v`: the shared edges agree bit-for-bit in
    float64 and not just up to rounding.  Every hypothesis is POINTWISE in the tile: the global forms
    (`∀ n, ofNat (n+1) = ofNat n + 1`, `∀ a, a + 0 = a`) are false of float64 (at `n = 2^53 + 1`, resp. bitwise at
    `a = −0.0`), the pointwise ones are true of it for every tile with coordinates below `2^53` — the driver
    evaluates them bit for bit on every `nbr` case (`Driver.C13.floatHypFails`). -/
theorem neighbours_share_edges_any {β : Type} [Add β] [Sub β] [Mul β] [Div β] [Neg β] [LT β] [DecidableLT β]
    [OfNat β 0] [OfNat β 1] [OfNat β 2] [OfNat β 90] [OfNat β 180] [OfNat β 360]
    (E : Env β) (t : Tile)
    (hsuccx : E.ofNat (t.x + 1) = E.ofNat t.x + 1)
    (hsuccy : E.ofNat (t.y + 1) = E.ofNat t.y + 1)
    (hadd0x : E.ofNat t.x + 1 + 0 = E.ofNat t.x + 1)
    (hadd0y : E.ofNat t.y + 1 + 0 = E.ofNat t.y + 1)
    (hsub0x : E.ofNat t.x + 1 - 0 = E.ofNat t.x + 1)
    (hsub0y : E.ofNat t.y + 1 - 0 = E.ofNat t.y + 1)
    (hnoclampN : ¬ (maxTiles32 E t.z < E.ofNat t.y + 1))
    (hnoclamp0 : ¬ (E.ofNat t.y + 1 < 0)) :
    (bound E t 0).max.x = (bound E ⟨t.x + 1, t.y, t.z⟩ 0).min.x ∧
    (bound E t 0).min.y = (bound E ⟨t.x, t.y + 1, t.z⟩ 0).max.y := by
  constructor
  · simp only [bound, toGeo, hsuccx, hadd0x, hsub0x]
  · simp only [bound, toGeo, hsuccy, hadd0y, hsub0y, if_neg hnoclampN, if_neg hnoclamp0]

/-- Non-vacuity of the pointwise form where a global one would be vacuous: in `satEnv` (carrier `Int`,
    `ofNat n = min n 2^53`) the global successor law is FALSE, yet every tile with `x < 2^53` inside the
    pyramid satisfies the hypotheses of `neighbours_share_edges_any`. -/
theorem satEnv_neighbours :
    (¬ ∀ n : Nat, satEnv.ofNat (n + 1) = satEnv.ofNat n + 1) ∧
    ∀ t : Tile, t.x < 2 ^ 53 → t.y + 1 ≤ 2 ^ t.z → t.z ≤ 31 →
      (bound satEnv t 0).max.x = (bound satEnv ⟨t.x + 1, t.y, t.z⟩ 0).min.x ∧
      (bound satEnv t 0).min.y = (bound satEnv ⟨t.x, t.y + 1, t.z⟩ 0).max.y := by
  refine ⟨fun h => ?_, fun t hx hy hz => ?_⟩
  · have := h (2 ^ 53)
    simp only [satEnv] at this
    omega
  · have h31 : 2 ^ t.z ≤ 2 ^ 31 := Nat.pow_le_pow_right (by decide) hz
    have hm : maxTiles32 satEnv t.z = ((2 ^ t.z : Nat) : Int) := by
      simp only [maxTiles32, satEnv, shl32_one_pow hz]
      congr 1
      omega
    apply neighbours_share_edges_any satEnv t
    · simp only [satEnv]; omega
    · simp only [satEnv]; omega
    · exact Int.add_zero _
    · exact Int.add_zero _
    · exact Int.sub_zero _
    · exact Int.sub_zero _
    · rw [hm]; simp only [satEnv]; omega
    · simp only [satEnv]; omega

section geo
variable {α : Type} [Field α] [LinearOrder α] [IsStrictOrderedRing α]

/-- The tile found for a longitude in `[−180, 180]` and ANY latitude (clamped beyond ±latMax) is
    valid.  `lon = 180` gives the fraction `2^z` and relies on the last-column clamp (fix 440399b). -/
theorem at_valid (E : Env α) (hc : CastExact E) (hf : FloorSpec E)
    (hanti : MercYAntitone E) (h1 : MercYLatOf E) (h2 : LatOfMercY E) (hin : ClampInside E)
    (ll : Pt α) (z : Nat) (hz : z ≤ 31) (hlo : -180 ≤ ll.x) (hhi : ll.x ≤ 180) :
    (at_ E ll z).x < 2 ^ z ∧ (at_ E ll z).y < 2 ^ z ∧ (at_ E ll z).z = z := by
  refine ⟨(at_x_spec E hc hf ll hz hlo hhi).1, ?_, rfl⟩
  by_cases hs : ll.y < -E.latMax
  · rw [at_y_south E hc hf ll hz hs]
    exact Nat.sub_lt (Nat.two_pow_pos z) Nat.one_pos
  · by_cases hn : E.latMax < ll.y
    · rw [at_y_north E hf ll z hs hn]
      exact Nat.two_pow_pos z
    · exact (at_y_spec E hc hf ll hz (not_lt.1 hs) (not_lt.1 hn)
        (mercY_range E hanti h1 h2 hin _ (not_lt.1 hs) (not_lt.1 hn))).1

/-- The column found for the antimeridian is the last one: the fraction is `2^z`, `uint32` gives `2^z` and the
    last-column clamp of `At` brings the column back to `2^z − 1`. -/
theorem at_antimeridian_last_column (E : Env α) (hc : CastExact E) (hf : FloorSpec E) (ll : Pt α)
    (z : Nat) (hz : z ≤ 31) (h180 : ll.x = 180) : (at_ E ll z).x = 2 ^ z - 1 := by
  have hfx : (fraction E ll z).x = ((2 ^ z : Nat) : α) := by
    rw [fraction_x E hc ll hz, h180, natCast_two_pow]; norm_num
  have hmin : min (2 ^ z) (2 ^ z - 1) = 2 ^ z - 1 := Nat.min_eq_right (Nat.sub_le _ _)
  rw [at_x_eq E hc ll hz (2 ^ z) (by rw [hfx]; exact hf _ _ (le_refl _) (lt_add_one _))
    (by rw [hmin, hfx]; exact Nat.cast_le.2 (Nat.sub_le _ _)), hmin]

/-- For a longitude in `[−180, 180)` and an unclamped latitude the bound of the found tile contains
    the point — in the half-open sense (`InCell`: west/north edges included, east/south excluded),
    which is what makes the tile unique.  (`hlat` is not used by the proof.) -/
theorem at_bound_contains (E : Env α) (hc : CastExact E) (hf : FloorSpec E)
    (hlat : LatOfStrictAnti E) (hanti : MercYAntitone E) (h1 : MercYLatOf E) (h2 : LatOfMercY E)
    (hin : ClampInside E)
    (ll : Pt α) (z : Nat) (hz : z ≤ 31) (hlo : -180 ≤ ll.x) (hhi : ll.x < 180)
    (hlatlo : -E.latMax ≤ ll.y) (hlathi : ll.y ≤ E.latMax) :
    InCell (bound E (at_ E ll z) 0) ll := by
  have _ := hlat -- (hypothesis not needed: `MercYAntitone` and the two inverse laws give the order link)
  obtain ⟨hyv, hyl, hyu⟩ :=
    at_y_spec E hc hf ll hz hlatlo hlathi (mercY_range E hanti h1 h2 hin _ hlatlo hlathi)
  obtain ⟨hxl, hxu⟩ := (at_x_spec E hc hf ll hz hlo hhi.le).2 hhi
  rw [← fraction_y_mid E hc ll hz hlatlo hlathi] at hyl hyu
  exact (inCell_iff_fraction E hc hanti h1 h2 (at_ E ll z) hz hyv ll hlatlo hlathi).2 ⟨hxl, hxu, hyl, hyu⟩

/-- … hence also in the closed sense of `orb.Bound.Contains`, and in that sense on the WHOLE closed
    range of longitudes the property quantifies over, the antimeridian `lon = 180` included: there the
    fraction is `2^z`, the last-column clamp of `At` (fix 440399b) applies and the point lies on the east
    edge of the last column.  (`hlat` only goes to `at_bound_contains`.) -/
theorem at_bound_contains_closed (E : Env α) (hc : CastExact E) (hf : FloorSpec E)
    (hlat : LatOfStrictAnti E) (hanti : MercYAntitone E) (h1 : MercYLatOf E) (h2 : LatOfMercY E)
    (hin : ClampInside E)
    (ll : Pt α) (z : Nat) (hz : z ≤ 31) (hlo : -180 ≤ ll.x) (hhi : ll.x ≤ 180)
    (hlatlo : -E.latMax ≤ ll.y) (hlathi : ll.y ≤ E.latMax) :
    InBound (bound E (at_ E ll z) 0) ll := by
  rcases lt_or_eq_of_le hhi with hlt | h180
  · obtain ⟨a, b, c, d⟩ := at_bound_contains E hc hf hlat hanti h1 h2 hin ll z hz hlo hlt hlatlo hlathi
    exact ⟨a, b.le, c.le, d⟩
  · -- the antimeridian: the point lies on the east edge of the last column
    obtain ⟨hyv, hyl, hyu⟩ :=
      at_y_spec E hc hf ll hz hlatlo hlathi (mercY_range E hanti h1 h2 hin _ hlatlo hlathi)
    obtain ⟨r1, r2⟩ := (row_iff E hanti h1 h2 hyv hlatlo hlathi).2 ⟨hyl, hyu⟩
    rw [bound_valid E hc (at_ E ll z) hz hyv, show (at_ E ll z).z = z from rfl,
      at_antimeridian_last_column E hc hf ll z hz h180, natCast_two_pow_pred]
    refine ⟨?_, ?_, r1.le, r2⟩
    · rw [h180, ← lonAt_top z]; exact (lonAt_lt z (sub_one_lt _)).le
    · rw [h180, sub_add_cancel, lonAt_top]

/-- Latitudes beyond the clamp are snapped to the last row (south) / row 0 (north). -/
theorem at_clamped_row (E : Env α) (hc : CastExact E) (hf : FloorSpec E) (hm : LatMaxNonneg E)
    (ll : Pt α) (z : Nat) (hz : z ≤ 31) :
    (ll.y < -E.latMax → (at_ E ll z).y = 2 ^ z - 1) ∧ (E.latMax < ll.y → (at_ E ll z).y = 0) :=
  ⟨at_y_south E hc hf ll hz, fun hn => at_y_north E hf ll z (fun hs => by
    have : 0 ≤ E.latMax := hm
    linarith) hn⟩

/-- The centre of a valid tile maps back to the tile — PROVIDED the centre latitude is within the
    clamp (`_partial`: the full statement below is false, known finding C13-polar-clamp-center). -/
theorem center_maps_back_partial (E : Env α) (hc : CastExact E) (hf : FloorSpec E)
    (hlat : LatOfStrictAnti E) (hanti : MercYAntitone E) (h1 : MercYLatOf E) (h2 : LatOfMercY E)
    (t : Tile) (hz : t.z ≤ 31) (hx : t.x < 2 ^ t.z) (hy : t.y < 2 ^ t.z)
    (hclo : -E.latMax ≤ (center E t).y) (hchi : (center E t).y ≤ E.latMax) :
    at_ E (center E t) t.z = t := by
  -- the parallels of the two row edges are distinct, the centre latitude is their mean
  have hstrict := latAt_lt E hlat t.z (lt_add_one (t.y : α))
  apply at_eq_of_inCell E hc hf hanti h1 h2 t hz hx hy _ hclo hchi
  rw [bound_valid E hc t hz hy, center_valid E hc t hz hy]
  exact ⟨(lonAt_lt _ (lt_add_half _)).le, lonAt_lt _ (add_half_lt _), left_lt_add_div_two.2 hstrict,
    (add_div_two_lt_right.2 hstrict).le⟩

/-- FULL statement of "the centre of a tile maps back to that tile": every valid tile, no side
    condition on the centre latitude.  It is FALSE for the code as it is — known finding
    C13-polar-clamp-center — see `center_polar_rows_fail` and `center_maps_back_full_fails`. -/
def center_maps_back_full (E : Env α) : Prop :=
  ∀ t : Tile, t.z ≤ 30 → t.x < 2 ^ t.z → t.y < 2 ^ t.z → at_ E (center E t) t.z = t

/-- The polar rows: a tile whose centre latitude is beyond the clamp and that is not in the edge
    row does NOT map back.  For the real projection such rows exist from zoom 18 on, between 85.0511
    and 85.05112878 (e.g. tile (950460,1,21), replayed by `./check C13`). -/
theorem center_polar_rows_fail (E : Env α) (hc : CastExact E) (hf : FloorSpec E) (hm : LatMaxNonneg E)
    (t : Tile) (hz : t.z ≤ 31) :
    (E.latMax < (center E t).y → t.y ≠ 0 → at_ E (center E t) t.z ≠ t) ∧
    ((center E t).y < -E.latMax → t.y ≠ 2 ^ t.z - 1 → at_ E (center E t) t.z ≠ t) := by
  obtain ⟨hs, hn⟩ := at_clamped_row E hc hf hm (center E t) t.z hz
  exact ⟨fun h hy he => hy (by rw [← hn h, he]), fun h hy he => hy (by rw [← hs h, he])⟩

/-- Witness: an environment with ALL the named hypotheses in which `center_maps_back_full` fails. -/
theorem center_maps_back_full_fails :
    ∃ E : Env ℚ, (CastExact E ∧ FloorSpec E ∧ LatMaxNonneg E ∧ LatOfStrictAnti E ∧
      MercYAntitone E ∧ MercYLatOf E ∧ LatOfMercY E ∧ ClampInside E) ∧ ¬ center_maps_back_full E := by
  refine ⟨toyEnv, toyEnv_hyps, fun hfull => ?_⟩
  obtain ⟨hc, hf, hm, -⟩ := toyEnv_hyps
  have hlat : toyEnv.latMax < (center toyEnv ⟨0, 1, 6⟩).y := by
    rw [center_valid toyEnv hc ⟨0, 1, 6⟩ (by decide) (by decide)]; simp only [toyEnv, latAt]; norm_num
  exact (center_polar_rows_fail toyEnv hc hf hm ⟨0, 1, 6⟩ (by decide)).1 hlat (by decide)
    (hfull ⟨0, 1, 6⟩ (by decide) (by decide) (by decide))

/-- In an ordered field with exact casts, for every tile inside the pyramid: the east edge of `t` IS the west edge of
    its right neighbour and the south edge of `t` IS the north edge of the tile below. -/
theorem neighbours_share_edges (E : Env α) (hc : CastExact E) (t : Tile) (hz : t.z ≤ 31)
    (hy : t.y + 1 ≤ 2 ^ t.z) :
    (bound E t 0).max.x = (bound E ⟨t.x + 1, t.y, t.z⟩ 0).min.x ∧
    (bound E t 0).min.y = (bound E ⟨t.x, t.y + 1, t.z⟩ 0).max.y := by
  apply neighbours_share_edges_any E t
  · rw [hc, hc, Nat.cast_succ]
  · rw [hc, hc, Nat.cast_succ]
  · exact add_zero _
  · exact add_zero _
  · exact sub_zero _
  · exact sub_zero _
  · rw [maxTiles32_eq E hc hz, hc]
    exact not_lt.mpr (natCast_succ_le_two_pow hy)
  · rw [hc]
    exact not_lt.mpr (add_nonneg (Nat.cast_nonneg _) zero_le_one)

/-- The children's bounds tile the parent's bound: their outer edges ARE the parent's edges and their
    inner edges ARE the parent's midlines `midLon t` / `midLat E t` (uses `x/2^z = (2x)/2^(z+1)`;
    in float64 that identity is exact too, divisions by powers of two being exact). -/
theorem children_bounds_tile_parent (E : Env α) (hc : CastExact E) (t : Tile) (hz : t.z ≤ 30)
    (hx : t.x < 2 ^ t.z) (hy : t.y < 2 ^ t.z) :
    (children t).map (fun c => bound E c 0) =
      let b := bound E t 0
      let mx : α := midLon t
      let my : α := midLat E t
      [ ⟨⟨b.min.x, my⟩, ⟨mx, b.max.y⟩⟩,
        ⟨⟨mx, my⟩, ⟨b.max.x, b.max.y⟩⟩,
        ⟨⟨mx, b.min.y⟩, ⟨b.max.x, my⟩⟩,
        ⟨⟨b.min.x, b.min.y⟩, ⟨mx, my⟩⟩ ] := by
  have b := bound_child E hc t hz hy
  have h0 : ((0 : Nat) : α) = 2 * 0 := by rw [Nat.cast_zero, mul_zero]
  have h1 : ((1 : Nat) : α) = 2 * (1 / 2) := by rw [Nat.cast_one, mul_one_div_cancel two_ne_zero]
  have e : ∀ a : α, a + 1 / 2 + 1 / 2 = a + 1 := fun a => by rw [add_assoc, add_halves]
  have b00 : bound E ⟨2 * t.x, 2 * t.y, t.z + 1⟩ 0 = _ := b 0 0 (by omega) 0 0 h0 h0
  have b10 : bound E ⟨2 * t.x + 1, 2 * t.y, t.z + 1⟩ 0 = _ := b 1 0 (by omega) _ 0 h1 h0
  have b01 : bound E ⟨2 * t.x, 2 * t.y + 1, t.z + 1⟩ 0 = _ := b 0 1 (by omega) 0 _ h0 h1
  rw [Tile.children_eq t ⟨hx, hy, hz⟩, bound_valid E hc t (by omega) hy]
  simp only [List.map, b00, b10, b 1 1 (by omega) _ _ h1 h1, b01, midLon_eq, midLat_eq, add_zero, e]

/-- … with the midlines strictly inside, … -/
theorem children_midlines_inside (E : Env α) (hc : CastExact E) (hlat : LatOfStrictAnti E) (t : Tile)
    (hz : t.z ≤ 31) (hy : t.y < 2 ^ t.z) :
    (bound E t 0).min.x < midLon t ∧ midLon t < (bound E t 0).max.x ∧
    (bound E t 0).min.y < midLat E t ∧ midLat E t < (bound E t 0).max.y := by
  rw [bound_valid E hc t hz hy]
  exact ⟨lonAt_lt _ (lt_add_half _), lonAt_lt _ (add_half_lt _), latAt_lt E hlat _ (add_half_lt _),
    latAt_lt E hlat _ (lt_add_half _)⟩

/-- … so that, pointwise, the four child cells partition the parent cell: a point is in the parent's
    cell iff it is in some child's cell, and never in two of them. -/
theorem children_cells_partition (E : Env α) (hc : CastExact E) (hlat : LatOfStrictAnti E)
    (t : Tile) (hz : t.z ≤ 30) (hx : t.x < 2 ^ t.z) (hy : t.y < 2 ^ t.z) (p : Pt α) :
    (InCell (bound E t 0) p ↔ ∃ c ∈ children t, InCell (bound E c 0) p) ∧
    (children t).Pairwise (fun a b => ¬ (InCell (bound E a 0) p ∧ InCell (bound E b 0) p)) := by
  have hcb := children_bounds_tile_parent E hc t hz hx hy
  obtain ⟨m1, m2, m3, m4⟩ := children_midlines_inside E hc hlat t (by omega) hy
  rw [children_eq t ⟨hx, hy, hz⟩] at hcb ⊢
  simp only [List.map, List.cons.injEq, and_true] at hcb
  obtain ⟨hb0, hb1, hb2, hb3⟩ := hcb
  constructor
  · simp only [List.mem_cons, List.not_mem_nil, or_false, exists_eq_or_imp, exists_eq_left]
    rw [hb0, hb1, hb2, hb3]
    unfold InCell
    simp only
    constructor
    · rintro ⟨h1, h2, h3, h4⟩
      by_cases hxm : p.x < midLon t <;> by_cases hym : midLat E t < p.y
      · exact Or.inl ⟨h1, hxm, hym, h4⟩
      · exact Or.inr (Or.inr (Or.inr ⟨h1, hxm, h3, not_lt.mp hym⟩))
      · exact Or.inr (Or.inl ⟨not_lt.mp hxm, h2, hym, h4⟩)
      · exact Or.inr (Or.inr (Or.inl ⟨not_lt.mp hxm, h2, h3, not_lt.mp hym⟩))
    · rintro (⟨h1, h2, h3, h4⟩ | ⟨h1, h2, h3, h4⟩ | ⟨h1, h2, h3, h4⟩ | ⟨h1, h2, h3, h4⟩)
      · exact ⟨h1, h2.trans m2, m3.trans h3, h4⟩
      · exact ⟨m1.le.trans h1, h2, m3.trans h3, h4⟩
      · exact ⟨m1.le.trans h1, h2, h3, h4.trans m4.le⟩
      · exact ⟨h1, h2.trans m2, h3, h4.trans m4.le⟩
  · simp only [List.pairwise_cons, List.mem_cons, List.not_mem_nil, or_false, forall_eq_or_imp,
      forall_eq, List.Pairwise.nil, and_true, false_imp_iff, implies_true]
    rw [hb0, hb1, hb2, hb3]
    unfold InCell
    simp only
    -- two cells differ in the side of the mid-meridian or of the mid-parallel
    exact ⟨⟨fun ⟨a, c⟩ => absurd a.2.1 (not_lt.2 c.1), fun ⟨a, c⟩ => absurd a.2.1 (not_lt.2 c.1),
        fun ⟨a, c⟩ => absurd a.2.2.1 (not_lt.2 c.2.2.2)⟩,
      ⟨fun ⟨a, c⟩ => absurd a.2.2.1 (not_lt.2 c.2.2.2), fun ⟨a, c⟩ => absurd c.2.1 (not_lt.2 a.1)⟩,
      fun ⟨a, c⟩ => absurd c.2.1 (not_lt.2 a.1)⟩

end geo

/-- Non-vacuity: the named hypotheses are jointly satisfiable (`toyEnv`, an affine pair over ℚ), and
    in that environment the antimeridian point (180, 0) at zoom 3 lands in the last column
    (fraction 8 → clamp → 7), row 4. -/
example :
    (CastExact toyEnv ∧ FloorSpec toyEnv ∧ LatMaxNonneg toyEnv ∧ LatOfStrictAnti toyEnv ∧
      MercYAntitone toyEnv ∧ MercYLatOf toyEnv ∧ LatOfMercY toyEnv ∧ ClampInside toyEnv) ∧
    at_ toyEnv ⟨180, 0⟩ 3 = ⟨7, 4, 3⟩ := by
  refine ⟨toyEnv_hyps, ?_⟩
  exact at_toy_example

/-- Non-vacuity of the closed containment AT the antimeridian: in `toyEnv` the point (180, 0) lies in
    the closed bound of the tile found for it at zoom 3 (the last column, whose east edge is 180). -/
example : InBound (bound toyEnv (at_ toyEnv ⟨180, 0⟩ 3) 0) (⟨180, 0⟩ : Pt ℚ) := by
  obtain ⟨hc, hf, _, hlat, hanti, h1, h2, hin⟩ := toyEnv_hyps
  exact at_bound_contains_closed toyEnv hc hf hlat hanti h1 h2 hin ⟨180, 0⟩ 3 (by decide)
    (by norm_num) (le_refl _) (by simp only [toyEnv]; norm_num) (by simp only [toyEnv]; norm_num)

end Orb.TileGeo
