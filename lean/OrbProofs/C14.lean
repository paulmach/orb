/-
  C14 — Tile covers contain every tile the geometry touches; merging keeps area.
  Property theorems about the model `Orb.TileCover` (maptile/tilecover: helpers.go, line_string.go, polygon.go,
  merge.go) on the tile arithmetic of C13 (`Orb.Tile`).  Covers of points, bounds, collections and
  multi-geometries: any number type, so also the Float twin.  `MergeUp`: for EVERY enumeration order of the Go map
  that visits every key (`Orders.Fair`; every permutation qualifies).  The DDA, line strings, polygon boundaries
  and the vertex bound: exact arithmetic (ordered field with floor); floating-point rounding of the accumulated
  `tMax` is NOT covered (it is what the bit-exact Float twin and the executable property with its 1e-6-tile margin
  are for).  The polygon INTERIOR clause is stated here (`polygon_interior_full : Prop`) and proved in
  `OrbProofs.C14Fill`, which imports this file.  Where a theorem here is one line, its proof stands under the
  primed or lemma name it cites, in `C14Cover`, `C14Unions`, `C14Merge` or `C14Dda`.
-/
import OrbProofs.C14Merge
import OrbProofs.C14Unions
import Mathlib.Data.Rat.Floor

set_option linter.unusedSectionVars false

namespace Orb.TileCover
open Orb Orb.Tile

section covers
variable {α : Type} [Add α] [Sub α] [Div α] [Neg α] [OfNat α 0] [OfNat α 1] [LT α] [DecidableLT α] [BEq α]

/-- The cover of a point is its tile. -/
theorem cover_point (ops : Ops α) (frac : Pt α → Pt α) (zoom fuel : Nat) (p : Pt α) :
    cover ops frac zoom fuel (.point p) = .ok [tileAt ops p.x (frac p) zoom] := by
  simp only [cover]

/-- `maptile.At` below `Fraction`: truncate both coordinates, clamp the column to the last one, then step
    back one column when the longitude lies west of that column's west edge
    `360*(x/2^zoom - 0.5)` (fix 190fad1: `lon/360 + 0.5` is rounded and can land on the edge). -/
theorem tileAt_spec (ops : Ops α) (lon : α) (f : Pt α) (zoom : Nat) (hz : zoom ≤ 31) :
    tileAt ops lon f zoom =
      (let x := Nat.min (ops.toU32 f.x) (2 ^ zoom - 1)
       ⟨if 0 < x ∧ lon < ops.westEdge x (2 ^ zoom) then x - 1 else x, ops.toU32 f.y, zoom⟩) := by
  have hp : 0 < 2 ^ zoom := Nat.pow_pos (by omega)
  have hx : (if 2 ^ zoom ≠ 0 ∧ ops.toU32 f.x ≥ 2 ^ zoom then 2 ^ zoom - 1 else ops.toU32 f.x)
      = Nat.min (ops.toU32 f.x) (2 ^ zoom - 1) := by
    show _ = min _ _
    rw [Nat.min_def]
    split <;> split <;> omega
  simp only [tileAt, shl32_one_pow hz, hx]
  apply tile_ext <;> simp only []
  by_cases h : 0 < Nat.min (ops.toU32 f.x) (2 ^ zoom - 1) ∧
      lon < ops.westEdge (Nat.min (ops.toU32 f.x) (2 ^ zoom - 1)) (2 ^ zoom)
  · rw [if_pos h, if_pos ⟨by omega, h.1, h.2⟩]
  · rw [if_neg h, if_neg (fun h' => h ⟨h'.2.1, h'.2.2⟩)]

/-- The step-back keeps the column consistent with `Tile.Bound()`: a positive result column that was not
    stepped back has its west edge at or west of the longitude (`¬ lon < edge`); otherwise the result is
    the column just west of an edge that the longitude lies west of. -/
theorem tileAt_column (ops : Ops α) (lon : α) (f : Pt α) (zoom : Nat) (hz : zoom ≤ 31) :
    let x := Nat.min (ops.toU32 f.x) (2 ^ zoom - 1)
    let t := tileAt ops lon f zoom
    (t.x = x ∧ (0 < x → ¬ lon < ops.westEdge x (2 ^ zoom))) ∨
    (t.x + 1 = x ∧ lon < ops.westEdge x (2 ^ zoom)) := by
  intro x t
  have ht : t = _ := tileAt_spec ops lon f zoom hz
  by_cases h : 0 < x ∧ lon < ops.westEdge x (2 ^ zoom)
  · right
    refine ⟨?_, h.2⟩
    rw [ht]; simp only []
    rw [if_pos h]; omega
  · left
    refine ⟨?_, fun h0 hl => h ⟨h0, hl⟩⟩
    rw [ht]; simp only []
    rw [if_neg h]

/-- The cover of a multi-point is the set of its points' tiles. -/
theorem cover_multiPoint (ops : Ops α) (frac : Pt α → Pt α) (zoom fuel : Nat) (ps : List (Pt α)) :
    ∃ S, cover ops frac zoom fuel (.multiPoint ps) = .ok S ∧
      ∀ t, t ∈ S ↔ ∃ p ∈ ps, t = tileAt ops p.x (frac p) zoom := by
  refine ⟨ps.map fun p => tileAt ops p.x (frac p) zoom, by simp only [cover], ?_⟩
  intro t
  simp only [List.mem_map]
  constructor
  · rintro ⟨p, hp, rfl⟩; exact ⟨p, hp, rfl⟩
  · rintro ⟨p, hp, rfl⟩; exact ⟨p, hp, rfl⟩

/-- The cover of a bound is the rectangular range between the corner tiles (nothing for an empty bound). -/
theorem cover_bound_rect (ops : Ops α) (frac : Pt α → Pt α) (zoom fuel : Nat) (a b : Pt α) :
    ∃ S, cover ops frac zoom fuel (.bound a b) = .ok S ∧
      ∀ t, t ∈ S ↔ (¬ (b.x < a.x ∨ b.y < a.y) ∧ t.z = zoom ∧
        (tileAt ops a.x (frac a) zoom).x ≤ t.x ∧ t.x ≤ (tileAt ops b.x (frac b) zoom).x ∧
        (tileAt ops b.x (frac b) zoom).y ≤ t.y ∧ t.y ≤ (tileAt ops a.x (frac a) zoom).y) := by
  by_cases h : b.x < a.x ∨ b.y < a.y
  · refine ⟨[], by simp only [cover, if_pos h], ?_⟩
    intro t
    simp [h]
  · refine ⟨coverRect (tileAt ops a.x (frac a) zoom) (tileAt ops b.x (frac b) zoom) zoom, by simp only [cover, if_neg h], ?_⟩
    intro t
    rw [mem_coverRect]
    simp [h]

/-- The cover of a collection whose members all have covers is their union. -/
theorem cover_collection_union (ops : Ops α) (frac : Pt α → Pt α) (zoom fuel : Nat) (gs : List (Geom α))
    (hs : ∀ g ∈ gs, ∃ s, cover ops frac zoom fuel g = .ok s) :
    ∃ S, cover ops frac zoom fuel (.collection gs) = .ok S ∧
      ∀ t, t ∈ S ↔ ∃ g ∈ gs, ∃ s, cover ops frac zoom fuel g = .ok s ∧ t ∈ s :=
  cover_collection_union' ops frac zoom fuel gs hs

/-- … and otherwise the outcome of the first member without a cover. -/
theorem cover_collection_error (ops : Ops α) (frac : Pt α → Pt α) (zoom fuel : Nat)
    (gs₁ : List (Geom α)) (g : Geom α) (gs₂ : List (Geom α))
    (hs : ∀ g ∈ gs₁, ∃ s, cover ops frac zoom fuel g = .ok s)
    (hg : (cover ops frac zoom fuel g).isOk = false) :
    cover ops frac zoom fuel (.collection (gs₁ ++ g :: gs₂)) = cover ops frac zoom fuel g :=
  cover_collection_error' ops frac zoom fuel gs₁ g gs₂ hs hg

/-- Totality: `tilecover.Geometry` panics on no geometry value (empty ring traces included). -/
theorem cover_total (ops : Ops α) (frac : Pt α → Pt α) (zoom fuel : Nat) (g : Geom α) :
    (cover ops frac zoom fuel g).isPanic = false :=
  cover_total' ops frac zoom fuel g

/-- A polygon cover contains everything its boundary traces put into the set. -/
theorem polygon_contains_boundary_cover (ops : Ops α) (zoom fuel : Nat) (set : List Tile)
    (rings : List (List (Pt α))) (S : List Tile) (h : polygon ops zoom fuel set rings = .ok S) :
    ∃ set' inter, traceRings ops zoom fuel set [] rings = .ok (set', inter) ∧ ∀ t ∈ set', t ∈ S := by
  obtain ⟨set', inter, heq, -, rfl⟩ := polygon_ok h
  exact ⟨set', inter, heq, fun t ht => List.mem_append_right _ ht⟩

/-- Every tile of a polygon cover is a traced tile, or was filled on the row of a traced tile strictly
    between two traced tiles: the cover stays inside the tile-space bound of the boundary trace.
    The only hypothesis is that no INTERSECTION ENTRY OF THIS INPUT sits in the last `uint32` column
    (`for x := I[i].x + 1; …` would wrap there); the entries are themselves traced tiles. -/
theorem polygon_within_trace_bound (ops : Ops α) (zoom fuel : Nat)
    (rings : List (List (Pt α))) (S : List Tile) (h : polygon ops zoom fuel [] rings = .ok S) :
    ∃ set' inter, traceRings ops zoom fuel [] [] rings = .ok (set', inter) ∧
      (∀ e ∈ inter, (⟨e.1, e.2, zoom⟩ : Tile) ∈ set') ∧
      ((∀ e ∈ inter, e.1 + 1 < 2 ^ 32) →
        ∀ t ∈ S, t ∈ set' ∨
          ∃ a b, a ∈ set' ∧ b ∈ set' ∧ t.z = zoom ∧ t.y = a.y ∧ a.x < t.x ∧ t.x < b.x) :=
  polygon_within_trace_bound' ops zoom fuel rings S h

/-- `line` only adds tiles to the set it is handed, and what it adds (and the ring trace it returns)
    does not depend on that set. -/
theorem line_adds_only (ops : Ops α) (zoom fuel : Nat) (set : List Tile) (pts : List (Pt α))
    (ring : Option (List (Nat × Nat))) :
    line ops zoom fuel set pts ring =
      (line ops zoom fuel [] pts ring).map (fun r => (r.1 ++ set, r.2)) :=
  line_nil_append ops zoom fuel set pts ring

/-- … and so does `polygon`. -/
theorem polygon_adds_only (ops : Ops α) (zoom fuel : Nat) (set : List Tile) (rings : List (List (Pt α))) :
    polygon ops zoom fuel set rings = (polygon ops zoom fuel [] rings).map (· ++ set) :=
  polygon_nil_append ops zoom fuel set rings

/-- The cover of a multi-line-string whose members all have covers is the union of their covers. -/
theorem cover_multiLineString_union (ops : Ops α) (frac : Pt α → Pt α) (zoom fuel : Nat)
    (ls : List (List (Pt α)))
    (hs : ∀ l ∈ ls, ∃ s, cover ops frac zoom fuel (.lineString l) = .ok s) :
    ∃ S, cover ops frac zoom fuel (.multiLineString ls) = .ok S ∧
      ∀ t, t ∈ S ↔ ∃ l ∈ ls, ∃ s, cover ops frac zoom fuel (.lineString l) = .ok s ∧ t ∈ s :=
  cover_multiLineString_union' ops frac zoom fuel ls hs

/-- … and otherwise the outcome of the first member without a cover (only the model's fuel artefact:
    `tilecover.LineString` has no error return). -/
theorem cover_multiLineString_error (ops : Ops α) (frac : Pt α → Pt α) (zoom fuel : Nat)
    (ls₁ : List (List (Pt α))) (l : List (Pt α)) (ls₂ : List (List (Pt α)))
    (hs : ∀ l' ∈ ls₁, ∃ s, cover ops frac zoom fuel (.lineString l') = .ok s)
    (hl : (cover ops frac zoom fuel (.lineString l)).isOk = false) :
    cover ops frac zoom fuel (.multiLineString (ls₁ ++ l :: ls₂)) = cover ops frac zoom fuel (.lineString l) :=
  cover_multiLineString_error' ops frac zoom fuel ls₁ l ls₂ hs hl

/-- The cover of a multi-polygon whose members all have covers is the union of their covers. -/
theorem cover_multiPolygon_union (ops : Ops α) (frac : Pt α → Pt α) (zoom fuel : Nat)
    (ps : List (List (List (Pt α))))
    (hs : ∀ p ∈ ps, ∃ s, cover ops frac zoom fuel (.polygon p) = .ok s) :
    ∃ S, cover ops frac zoom fuel (.multiPolygon ps) = .ok S ∧
      ∀ t, t ∈ S ↔ ∃ p ∈ ps, ∃ s, cover ops frac zoom fuel (.polygon p) = .ok s ∧ t ∈ s :=
  cover_multiPolygon_union' ops frac zoom fuel ps hs

/-- … and otherwise the outcome of the first member without a cover (`ErrUnevenIntersections`:
    `MultiPolygon`'s `return nil, err`). -/
theorem cover_multiPolygon_error (ops : Ops α) (frac : Pt α → Pt α) (zoom fuel : Nat)
    (ps₁ : List (List (List (Pt α)))) (p : List (List (Pt α))) (ps₂ : List (List (List (Pt α))))
    (hs : ∀ p' ∈ ps₁, ∃ s, cover ops frac zoom fuel (.polygon p') = .ok s)
    (hp : (cover ops frac zoom fuel (.polygon p)).isOk = false) :
    cover ops frac zoom fuel (.multiPolygon (ps₁ ++ p :: ps₂)) = cover ops frac zoom fuel (.polygon p) :=
  cover_multiPolygon_error' ops frac zoom fuel ps₁ p ps₂ hs hp

end covers

/-- Every permutation of the keys is a fair enumeration order. -/
theorem fair_of_perm (o : Orders) (h1 : ∀ l, (o.first l).Perm l) (h2 : ∀ z l, (o.level z l).Perm l) : o.Fair :=
  ⟨fun l _ ht => (h1 l).mem_iff.2 ht, fun z l _ ht => (h2 z l).mem_iff.2 ht⟩

/-- One level of `MergeUp`, whatever the order in which the (mutated) map is enumerated: every entry ends
    `false`, the tiles of incomplete quads go to `merged`, the parents of complete quads to `parentSet` (to
    `merged` on the last level). -/
theorem level_step_spec (l : List Tile) (m : TMap) (z : Nat) (hz : 0 < z)
    (hm : ∀ t, m.get t = true → V t ∧ t.z = z) (hl : ∀ t, m.get t = true → t ∈ l)
    (toMerged : Bool) (merged0 : List Tile) (parents0 : TMap) :
    (∀ t, (l.foldl (stepTile none toMerged) ⟨m, merged0, parents0⟩).set.get t = false) ∧
    (∀ t, t ∈ (l.foldl (stepTile none toMerged) ⟨m, merged0, parents0⟩).merged ↔
      (t ∈ merged0 ∨ (m.get t = true ∧ ¬ QuadIn m t) ∨
        (toMerged = true ∧ ∃ c, m.get c = true ∧ QuadIn m c ∧ parent c = t))) ∧
    (∀ t, (l.foldl (stepTile none toMerged) ⟨m, merged0, parents0⟩).parents.get t = true ↔
      (parents0.get t = true ∨
        (toMerged = false ∧ ∃ c, m.get c = true ∧ QuadIn m c ∧ parent c = t))) :=
  let ⟨h1, h2, h3, _⟩ := level_fold_spec hz toMerged l ⟨m, merged0, parents0⟩ hm hl _ rfl
  ⟨h1, h2, h3⟩

/-- Closed form of `MergeUp` on a same-zoom set, for every fair enumeration order: a tile is in the
    result iff its zoom is between the target and the input zoom, all its descendants at the input zoom
    are in the input, and it is at the target zoom or its parent is not so filled.  `hmin` is the property's
    precondition; the proof (`mergeUp_closed`) does not use it, and the two theorems below only pass it on. -/
theorem mergeUp_closed_form (o : Orders) (ho : o.Fair) (m : TMap) (zoom min : Nat)
    (hm : ∀ t, m.get t = true → V t ∧ t.z = zoom) (hmin : min ≤ zoom) (t : Tile) :
    (mergeUp o m min).get t = true ↔
      (min ≤ t.z ∧ t.z ≤ zoom ∧ Full m zoom t ∧ (t.z = min ∨ ¬ Full m zoom (parent t))) :=
  mergeUp_closed o ho m zoom min hm t

/-- The result does not depend on the enumeration order of the Go map. -/
theorem mergeUp_order_irrelevant (o₁ o₂ : Orders) (h₁ : o₁.Fair) (h₂ : o₂.Fair) (m : TMap) (zoom min : Nat)
    (hm : ∀ t, m.get t = true → V t ∧ t.z = zoom) (hmin : min ≤ zoom) (t : Tile) :
    (mergeUp o₁ m min).get t = (mergeUp o₂ m min).get t := by
  rw [Bool.eq_iff_iff, mergeUp_closed_form o₁ h₁ m zoom min hm hmin t,
    mergeUp_closed_form o₂ h₂ m zoom min hm hmin t]

/-- The property's merge clause: for a same-zoom input, any enumeration order, target `min ≤ zoom`:
    (1) result tiles are pairwise non-overlapping, (2) none is shallower than the target (or deeper than
    the input), (3) the descendants of the result at the input zoom are exactly the input (same area),
    (4) no complete sibling quad is left above the target. -/
theorem mergeUp_spec (o : Orders) (ho : o.Fair) (m : TMap) (zoom min : Nat)
    (hm : ∀ t, m.get t = true → V t ∧ t.z = zoom) (hmin : min ≤ zoom) :
    (∀ a b, (mergeUp o m min).get a = true → (mergeUp o m min).get b = true → IsAncestor a b → a = b) ∧
    (∀ t, (mergeUp o m min).get t = true → min ≤ t.z ∧ t.z ≤ zoom) ∧
    (∀ s, s.z = zoom → (m.get s = true ↔ ∃ t, (mergeUp o m min).get t = true ∧ IsAncestor t s)) ∧
    (∀ t, (mergeUp o m min).get t = true → min < t.z → ¬ ∀ s ∈ siblings t, (mergeUp o m min).get s = true) := by
  have cf := mergeUp_closed_form o ho m zoom min hm hmin
  refine ⟨?_, ?_, ?_, ?_⟩
  · intro a b ha hb hanc
    obtain ⟨a1, a2, a3, a4⟩ := (cf a).1 ha
    obtain ⟨b1, b2, b3, b4⟩ := (cf b).1 hb
    by_cases hz : a.z = b.z
    · obtain ⟨_, e⟩ := hanc
      have : b.z - a.z = 0 := by omega
      rw [this, ancestorAt_zero] at e
      exact e
    · exfalso
      have hle := hanc.1
      obtain ⟨hVb, _⟩ := full_V hm b3 b2
      have pz := (parent_V hVb (by omega)).2.1
      have hnf : ¬ Full m zoom (parent b) := b4.resolve_left (by omega)
      have hpb := isAncestor_parent (c := b) (by omega) (by have := hVb.2.2; omega)
      exact hnf (full_mono (isAncestor_restrict hanc hpb (by omega)) a3)
  · intro t ht
    obtain ⟨a, b, _⟩ := (cf t).1 ht
    exact ⟨a, b⟩
  · intro s hs
    constructor
    · intro hg
      have hfs : Full m zoom s := (full_at_zoom m zoom s hs).2 hg
      have key : ∀ j u, IsAncestor u s → Full m zoom u → min ≤ u.z → u.z ≤ zoom → u.z - min = j →
          ∃ t, (mergeUp o m min).get t = true ∧ IsAncestor t s := by
        intro j
        induction j with
        | zero =>
          intro u h1 h2 h3 h4 h5
          exact ⟨u, (cf u).2 ⟨h3, h4, h2, Or.inl (by omega)⟩, h1⟩
        | succ j ih =>
          intro u h1 h2 h3 h4 h5
          by_cases hp : Full m zoom (parent u)
          · obtain ⟨hV, _⟩ := full_V hm h2 h4
            have pz := (parent_V hV (by omega)).2.1
            have hpu := isAncestor_parent (c := u) (by omega) (by have := hV.2.2; omega)
            exact ih (parent u) (isAncestor_trans hpu h1) hp (by omega) (by omega) (by omega)
          · exact ⟨u, (cf u).2 ⟨h3, h4, h2, Or.inr hp⟩, h1⟩
      exact key (s.z - min) s (isAncestor_refl s) hfs (by omega) (by omega) rfl
    · rintro ⟨t, ht, hanc⟩
      exact ((cf t).1 ht).2.2.1 s hs hanc
  · intro t ht hlt hall
    obtain ⟨a, b, c, d⟩ := (cf t).1 ht
    obtain ⟨hV, h30⟩ := full_V hm c b
    apply d.resolve_left (by omega)
    rw [full_parent_iff h30 hV (by omega) b]
    intro s hs
    exact ((cf s).1 (hall s hs)).2.2.1

section dda
variable {K : Type} [Field K] [LinearOrder K] [IsStrictOrderedRing K] [FloorRing K]

/-- The tiles one segment puts into the set form a chain of 4-neighbours that starts at ⌊start⌋ and ends
    in a tile whose closed square contains `stop` (it is ⌊stop⌋ unless `stop` lies on the far edge). -/
theorem dda_connected (zoom fuel : Nat) (a b : Pt K) (ha : 0 ≤ a.x ∧ 0 ≤ a.y) (hb : 0 ≤ b.x ∧ 0 ≤ b.y)
    (hab : a ≠ b) (s : LState K)
    (h : segment (opsK K) zoom fuel ⟨[], none, -1, -1, 0, 0⟩ a b = some s) :
    ∃ cells : List Tile, s.set = cells.reverse ∧
      cells.head? = some ⟨⌊a.x⌋.toNat, ⌊a.y⌋.toNat, zoom⟩ ∧
      List.IsChain Adj4 cells ∧
      ∃ c, cells.getLast? = some c ∧ (c.x : K) ≤ b.x ∧ b.x ≤ (c.x : K) + 1 ∧ (c.y : K) ≤ b.y ∧ b.y ≤ (c.y : K) + 1 := by
  obtain ⟨l, htr, hset⟩ := segment_init_set ha hb hab h
  refine ⟨_, hset, rfl, htr.adj4 zoom, tileOf zoom (lastOf (⟨cellOf a, 0⟩ : PC K) l).c, ?_,
    htr.stop_at⟩
  rw [List.getLast?_map, getLast?_eq_lastOf]; rfl

/-- The DDA loop terminates: fuel proportional to the tile distance of the end points suffices. -/
theorem dda_terminates (zoom fuel : Nat) (a b : Pt K) (s : LState K)
    (hf : (⌊b.x⌋ - ⌊a.x⌋).natAbs + (⌊b.y⌋ - ⌊a.y⌋).natAbs + 2 ≤ fuel) :
    (segment (opsK K) zoom fuel s a b).isSome = true :=
  segment_terminates zoom fuel a b s hf

/-- Soundness of the DDA: every tile of a segment's cover meets the segment (closed square). -/
theorem dda_sound (zoom fuel : Nat) (a b : Pt K) (s : LState K)
    (hax : 0 ≤ a.x) (hay : 0 ≤ a.y) (hbx : 0 ≤ b.x) (hby : 0 ≤ b.y)
    (h : segment (opsK K) zoom fuel ⟨[], none, -1, -1, 0, 0⟩ a b = some s) :
    ∀ c ∈ s.set, ∃ t : K, 0 ≤ t ∧ t ≤ 1 ∧
      (c.x : K) ≤ a.x + t * (b.x - a.x) ∧ a.x + t * (b.x - a.x) ≤ (c.x : K) + 1 ∧
      (c.y : K) ≤ a.y + t * (b.y - a.y) ∧ a.y + t * (b.y - a.y) ≤ (c.y : K) + 1 := by
  by_cases hab : a = b
  · subst hab
    rw [segment_degenerate] at h
    cases h
    exact fun c hc => nomatch hc
  · obtain ⟨l, htr, hset⟩ := segment_init_set ⟨hax, hay⟩ ⟨hbx, hby⟩ hab h
    intro c hc
    rw [hset, List.mem_reverse, List.mem_map] at hc
    obtain ⟨v, hv, rfl⟩ := hc
    exact ⟨v.τ, htr.sound v hv⟩

/-- Completeness of the DDA: every tile whose open square a (non-degenerate) segment enters is in the
    segment's cover. -/
theorem dda_complete (zoom fuel : Nat) (a b : Pt K) (s : LState K)
    (hax : 0 ≤ a.x) (hay : 0 ≤ a.y) (hbx : 0 ≤ b.x) (hby : 0 ≤ b.y) (hab : a ≠ b)
    (h : segment (opsK K) zoom fuel ⟨[], none, -1, -1, 0, 0⟩ a b = some s) :
    ∀ (i j : Nat) (t : K), 0 ≤ t → t ≤ 1 →
      (i : K) < a.x + t * (b.x - a.x) → a.x + t * (b.x - a.x) < (i : K) + 1 →
      (j : K) < a.y + t * (b.y - a.y) → a.y + t * (b.y - a.y) < (j : K) + 1 →
      (⟨i, j, zoom⟩ : Tile) ∈ s.set := by
  obtain ⟨l, htr, hset⟩ := segment_init_set ⟨hax, hay⟩ ⟨hbx, hby⟩ hab h
  intro i j t h0 h1 e1 e2 e3 e4
  obtain ⟨v, hv, hin⟩ := htr.covers (t := t) h0 h1
  rw [hset, List.mem_reverse, List.mem_map]
  exact ⟨v, hv, by rw [eq_of_inSq_open hin e1 e2 e3 e4]; rfl⟩

/-- In exact arithmetic the cover of a line string is sound and complete segment by segment ("exactly the
    tiles the line passes through", up to tiles that are only touched on their boundary). -/
theorem lineString_cover_exact (frac : Pt K → Pt K) (zoom fuel : Nat) (ps : List (Pt K))
    (hnn : ∀ p ∈ ps, 0 ≤ (frac p).x ∧ 0 ≤ (frac p).y) (S : List Tile)
    (h : cover (opsK K) frac zoom fuel (.lineString ps) = .ok S) :
    (∀ c ∈ S, c.z = zoom ∧ ∃ e ∈ (ps.map frac).zip ((ps.map frac).drop 1), ∃ t : K, 0 ≤ t ∧ t ≤ 1 ∧
        (c.x : K) ≤ e.1.x + t * (e.2.x - e.1.x) ∧ e.1.x + t * (e.2.x - e.1.x) ≤ (c.x : K) + 1 ∧
        (c.y : K) ≤ e.1.y + t * (e.2.y - e.1.y) ∧ e.1.y + t * (e.2.y - e.1.y) ≤ (c.y : K) + 1) ∧
    (∀ e ∈ (ps.map frac).zip ((ps.map frac).drop 1), e.1 ≠ e.2 → ∀ (i j : Nat) (t : K), 0 ≤ t → t ≤ 1 →
        (i : K) < e.1.x + t * (e.2.x - e.1.x) → e.1.x + t * (e.2.x - e.1.x) < (i : K) + 1 →
        (j : K) < e.1.y + t * (e.2.y - e.1.y) → e.1.y + t * (e.2.y - e.1.y) < (j : K) + 1 →
        (⟨i, j, zoom⟩ : Tile) ∈ S) := by
  obtain ⟨r, hl, rfl⟩ := (cover_lineString_ok_iff (opsK K) frac zoom fuel ps S).1 h
  obtain ⟨A, _, C⟩ := line_geo zoom fuel [] (ps.map frac) none
    (fun p hp => (List.mem_map.mp hp).elim fun q hq => hq.2 ▸ hnn q hq.1) r hl
  exact ⟨fun c hc => (A c hc).resolve_left List.not_mem_nil, C⟩

/-- With fuel proportional to the longest segment (in tiles) the cover of a line string is defined
    (the fuel of the model's DDA loop is not a restriction).  For polygons: `polygon_closed_ok` in `C14Fill`. -/
theorem lineString_cover_ok (frac : Pt K → Pt K) (zoom fuel : Nat) (ps : List (Pt K))
    (hf : ∀ e ∈ (ps.map frac).zip ((ps.map frac).drop 1),
      (⌊e.2.x⌋ - ⌊e.1.x⌋).natAbs + (⌊e.2.y⌋ - ⌊e.1.y⌋).natAbs + 2 ≤ fuel) :
    ∃ S, cover (opsK K) frac zoom fuel (.lineString ps) = .ok S := by
  obtain ⟨res, hres⟩ := line_ok_of_fuel zoom fuel [] (ps.map frac) none hf
  exact ⟨res.1, by rw [cover, hres]; rfl⟩

/-- The exact cover of a multi-line-string is sound and complete segment by segment, over all members. -/
theorem multiLineString_cover_exact (frac : Pt K → Pt K) (zoom fuel : Nat) (ls : List (List (Pt K)))
    (hnn : ∀ l ∈ ls, ∀ p ∈ l, 0 ≤ (frac p).x ∧ 0 ≤ (frac p).y) (S : List Tile)
    (h : cover (opsK K) frac zoom fuel (.multiLineString ls) = .ok S) :
    (∀ c ∈ S, c.z = zoom ∧ ∃ l ∈ ls, ∃ e ∈ (l.map frac).zip ((l.map frac).drop 1), ∃ t : K, 0 ≤ t ∧ t ≤ 1 ∧
        (c.x : K) ≤ e.1.x + t * (e.2.x - e.1.x) ∧ e.1.x + t * (e.2.x - e.1.x) ≤ (c.x : K) + 1 ∧
        (c.y : K) ≤ e.1.y + t * (e.2.y - e.1.y) ∧ e.1.y + t * (e.2.y - e.1.y) ≤ (c.y : K) + 1) ∧
    (∀ l ∈ ls, ∀ e ∈ (l.map frac).zip ((l.map frac).drop 1), e.1 ≠ e.2 →
      ∀ (i j : Nat) (t : K), 0 ≤ t → t ≤ 1 →
        (i : K) < e.1.x + t * (e.2.x - e.1.x) → e.1.x + t * (e.2.x - e.1.x) < (i : K) + 1 →
        (j : K) < e.1.y + t * (e.2.y - e.1.y) → e.1.y + t * (e.2.y - e.1.y) < (j : K) + 1 →
        (⟨i, j, zoom⟩ : Tile) ∈ S) :=
  multiLineString_cover_exact' frac zoom fuel ls hnn S h

/-- **Polygon boundary completeness** ("every tile whose interior meets the polygon's boundary"): in exact
    arithmetic, every tile whose open square an edge of any ring (outer or hole, closed or not) enters is
    in the polygon's cover, whatever set the cover started from. -/
theorem polygon_boundary_complete (zoom fuel : Nat) (set : List Tile) (rings : List (List (Pt K)))
    (S : List Tile) (hnn : ∀ r ∈ rings, ∀ p ∈ r, 0 ≤ p.x ∧ 0 ≤ p.y)
    (h : polygon (opsK K) zoom fuel set rings = .ok S) :
    ∀ r ∈ rings, ∀ e ∈ r.zip (r.drop 1), e.1 ≠ e.2 → ∀ (i j : Nat) (t : K), 0 ≤ t → t ≤ 1 →
      (i : K) < e.1.x + t * (e.2.x - e.1.x) → e.1.x + t * (e.2.x - e.1.x) < (i : K) + 1 →
      (j : K) < e.1.y + t * (e.2.y - e.1.y) → e.1.y + t * (e.2.y - e.1.y) < (j : K) + 1 →
      (⟨i, j, zoom⟩ : Tile) ∈ S :=
  polygon_boundary_complete' zoom fuel set rings S hnn h

/-- … and the same for every member of a multi-polygon (the starting set is kept as well). -/
theorem multiPolygon_boundary_complete (zoom fuel : Nat) (ps : List (List (List (Pt K))))
    (set S : List Tile) (hnn : ∀ pg ∈ ps, ∀ r ∈ pg, ∀ p ∈ r, 0 ≤ p.x ∧ 0 ≤ p.y)
    (h : multiPolygon (opsK K) zoom fuel set ps = .ok S) :
    (∀ c ∈ set, c ∈ S) ∧
    ∀ pg ∈ ps, ∀ r ∈ pg, ∀ e ∈ r.zip (r.drop 1), e.1 ≠ e.2 → ∀ (i j : Nat) (t : K), 0 ≤ t → t ≤ 1 →
      (i : K) < e.1.x + t * (e.2.x - e.1.x) → e.1.x + t * (e.2.x - e.1.x) < (i : K) + 1 →
      (j : K) < e.1.y + t * (e.2.y - e.1.y) → e.1.y + t * (e.2.y - e.1.y) < (j : K) + 1 →
      (⟨i, j, zoom⟩ : Tile) ∈ S :=
  multiPolygon_boundary_complete' zoom fuel ps set S hnn h

/-- **No tile outside the polygon's tile-space bound**: in exact arithmetic, if all vertices of all rings
    lie in the box `[x0, x1] × [y0, y1]` of the non-negative quadrant (with `x1` below the last `uint32`
    column — at zoom ≤ 31 every `x1 ≤ 2^zoom` qualifies), every tile of the cover has the cover's zoom
    and its closed square meets the box. -/
theorem polygon_within_vertex_bound (zoom fuel : Nat) (rings : List (List (Pt K))) (S : List Tile)
    (x0 x1 y0 y1 : K) (hnn : ∀ r ∈ rings, ∀ p ∈ r, 0 ≤ p.x ∧ 0 ≤ p.y)
    (hbox : ∀ r ∈ rings, ∀ p ∈ r, x0 ≤ p.x ∧ p.x ≤ x1 ∧ y0 ≤ p.y ∧ p.y ≤ y1)
    (hx1 : x1 + 1 < 2 ^ 32)
    (h : polygon (opsK K) zoom fuel [] rings = .ok S) :
    ∀ t ∈ S, t.z = zoom ∧ x0 ≤ (t.x : K) + 1 ∧ (t.x : K) ≤ x1 ∧ y0 ≤ (t.y : K) + 1 ∧ (t.y : K) ≤ y1 :=
  polygon_within_vertex_bound' zoom fuel rings S x0 x1 y0 y1 hnn hbox hx1 h

end dda

/-- The polygon interior claim: in exact arithmetic, for a polygon whose rings are closed (first vertex =
    last), every tile whose open square contains a point that the even-odd rule puts inside the polygon
    is in the cover; "inside" is the crossing-number parity of the horizontal ray from `q`.
    Proved as `polygon_interior_full_holds` in `OrbProofs.C14Fill`, which imports this file
    (`polygon_interior_cover` there is the same statement without the general-position hypothesis).
    On the implementation's outputs the executable property measures it as well (exact even-odd test of
    sample points of every candidate tile). -/
def polygon_interior_full : Prop :=
  ∀ (K : Type) [Field K] [LinearOrder K] [IsStrictOrderedRing K] [FloorRing K]
    (zoom fuel : Nat) (rings : List (List (Pt K))) (S : List Tile),
    (∀ r ∈ rings, r.head? = r.getLast? ∧ ∀ p ∈ r, 0 ≤ p.x ∧ 0 ≤ p.y) →
    polygon (opsK K) zoom fuel [] rings = .ok S →
    ∀ (i j : Nat) (q : Pt K), (i : K) < q.x → q.x < (i : K) + 1 → (j : K) < q.y → q.y < (j : K) + 1 →
      (∀ r ∈ rings, ∀ p ∈ r, p.y ≠ q.y) →
      ((rings.flatMap fun r => (r.zip (r.drop 1)).filter fun e =>
          decide ((e.1.y > q.y) ≠ (e.2.y > q.y)) &&
          decide (q.x < e.1.x + (q.y - e.1.y) * (e.2.x - e.1.x) / (e.2.y - e.1.y))).length % 2 = 1) →
      (⟨i, j, zoom⟩ : Tile) ∈ S

/-- Non-vacuity of `cover_multiLineString_union` / `multiLineString_cover_exact`: the two line strings
    `(0,0) (2,1)` and `(4,4) (4,6)` (tile space, zoom 3) have covers, so the multi-line-string has their
    union as its cover, and the tile `(1, 0)` — entered by the first at `t = 3/4` — is in it. -/
example : ∃ S, cover (opsK ℚ) id 3 20
      (.multiLineString [[(⟨0, 0⟩ : Pt ℚ), ⟨2, 1⟩], [⟨4, 4⟩, ⟨4, 6⟩]]) = .ok S ∧
    (∀ t, t ∈ S ↔ ∃ l ∈ [[(⟨0, 0⟩ : Pt ℚ), ⟨2, 1⟩], [⟨4, 4⟩, ⟨4, 6⟩]],
      ∃ s, cover (opsK ℚ) id 3 20 (.lineString l) = .ok s ∧ t ∈ s) ∧
    (⟨1, 0, 3⟩ : Tile) ∈ S := by
  have hs : ∀ l ∈ [[(⟨0, 0⟩ : Pt ℚ), ⟨2, 1⟩], [⟨4, 4⟩, ⟨4, 6⟩]],
      ∃ s, cover (opsK ℚ) id 3 20 (.lineString l) = .ok s := by
    intro l hl
    apply lineString_cover_ok
    intro e he
    simp only [List.mem_cons, List.not_mem_nil, or_false] at hl
    rcases hl with rfl | rfl <;>
      simp only [List.map_id_fun, id_eq, List.drop_succ_cons, List.drop_zero, List.zip_cons_cons,
        List.zip_nil_right, List.mem_cons, List.not_mem_nil, or_false] at he <;>
      subst he <;> norm_num
  obtain ⟨S, hS, hmem⟩ := cover_multiLineString_union (opsK ℚ) id 3 20 _ hs
  refine ⟨S, hS, hmem, ?_⟩
  have hnn : ∀ l ∈ [[(⟨0, 0⟩ : Pt ℚ), ⟨2, 1⟩], [⟨4, 4⟩, ⟨4, 6⟩]], ∀ p ∈ l,
      0 ≤ (id p).x ∧ 0 ≤ (id p).y := by
    intro l hl p hp
    simp only [List.mem_cons, List.not_mem_nil, or_false] at hl
    rcases hl with rfl | rfl <;>
      simp only [List.mem_cons, List.not_mem_nil, or_false] at hp <;>
      rcases hp with rfl | rfl <;> norm_num
  exact (multiLineString_cover_exact id 3 20 _ hnn S hS).2 [⟨0, 0⟩, ⟨2, 1⟩] (by simp)
    (⟨0, 0⟩, ⟨2, 1⟩) (by simp) (by simp) 1 0 (3 / 4) (by norm_num) (by norm_num)
    (by norm_num) (by norm_num) (by norm_num) (by norm_num)

/-- Non-vacuity: a complete quad at zoom 2 plus one more tile satisfies the hypotheses of `mergeUp_spec`;
    merged to zoom 0 and to zoom 1 with two different enumeration orders the quad becomes its parent and
    the lone tile stays. -/
example :
    let m : TMap := TMap.ofTiles [⟨0, 0, 2⟩, ⟨1, 0, 2⟩, ⟨1, 1, 2⟩, ⟨0, 1, 2⟩, ⟨2, 0, 2⟩]
    (∀ t, m.get t = true → V t ∧ t.z = 2) ∧
    (mergeUp ⟨id, fun _ l => l⟩ m 0).trues = [⟨0, 0, 1⟩, ⟨2, 0, 2⟩] ∧
    (mergeUp ⟨List.reverse, fun _ l => l.reverse⟩ m 1).trues = [⟨0, 0, 1⟩, ⟨2, 0, 2⟩] ∧
    m.get ⟨1, 1, 2⟩ = true ∧ m.get ⟨3, 0, 2⟩ = false := by
  refine ⟨?_, by decide, by decide, by decide, by decide⟩
  intro t h
  have hk := TMap.mem_keys_of_get h
  have : t ∈ [(⟨0, 0, 2⟩ : Tile), ⟨1, 0, 2⟩, ⟨1, 1, 2⟩, ⟨0, 1, 2⟩, ⟨2, 0, 2⟩] := by
    simpa [TMap.ofTiles, TMap.set, TMap.keys] using hk
  simp only [List.mem_cons, List.not_mem_nil, or_false] at this
  rcases this with rfl | rfl | rfl | rfl | rfl <;> decide

end Orb.TileCover
