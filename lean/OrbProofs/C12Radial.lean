/-
  C12 lemmas: Radial.  The selection of the scan is a function on points (`radKeep`: from the last kept point,
  keep the next one farther away than the threshold); `radFold_spec` shows that the in-place scan over a stretch
  of the slice computes it, and `radial_eq` that a run returns the first point, the selection from the points
  in between, and the last point.  What a run guarantees (`radial_spec`) are list facts about `radKeep`.
-/
import OrbProofs.C12Basic

namespace Orb.Simplify
open Orb

section radial
variable {α : Type} [LT α] [DecidableLT α]

/-- the selection of the radial scan as a function on points: from the last kept point `c`, keep the next
    point farther away than `t` -/
def radKeep (df : Pt α → Pt α → α) (t : α) : Pt α → List (Pt α) → List (Pt α)
  | _, [] => []
  | c, x :: xs => if t < df c x then x :: radKeep df t x xs else radKeep df t c xs

theorem radKeep_sublist (df : Pt α → Pt α → α) (t : α) (c : Pt α) (xs : List (Pt α)) :
    (radKeep df t c xs).Sublist xs := by
  induction xs generalizing c with
  | nil => exact List.Sublist.refl _
  | cons x xs ih =>
    rw [radKeep]; split
    · exact (ih x).cons_cons x
    · exact (ih c).cons x

theorem radKeep_spacing (df : Pt α → Pt α → α) (t : α) (c : Pt α) (xs : List (Pt α)) (a b : Pt α)
    (h : Adjacent (c :: radKeep df t c xs) a b) : t < df a b := by
  induction xs generalizing c with
  | nil =>
    rw [radKeep] at h
    obtain ⟨l1, l2, h⟩ := h
    have := congrArg List.length h
    simp only [List.length_cons, List.length_append, List.length_nil] at this; omega
  | cons x xs ih =>
    rw [radKeep] at h; split at h
    · rename_i hlt
      rcases adjacent_cons h with ⟨rfl, rfl⟩ | h
      · exact hlt
      · exact ih x h
    · exact ih c h

variable [OfNat α 0]

/-- the scan over a stretch `xs` of untouched points: `W` is what lies before it (the kept points in its first
    `count` places, the last kept point `c` at `current`), `rest` what lies behind -/
theorem radFold_spec (df : Pt α → Pt α → α) (t : α) : ∀ (xs W rest : List (Pt α)) (count current : Nat) (c : Pt α),
    count ≤ current + 1 → current < W.length → W.getD current ⟨0, 0⟩ = c →
    ∃ W' count' current',
      (List.range' W.length xs.length).foldl (radialStep df t) ⟨W ++ xs ++ rest, count, current⟩ =
        ⟨W' ++ rest, count', current'⟩ ∧
      W'.length = W.length + xs.length ∧ count' ≤ current' + 1 ∧ current' < W'.length ∧
      W'.take count' = W.take count ++ radKeep df t c xs := by
  intro xs
  induction xs with
  | nil =>
    intro W rest count current c h1 h2 _
    exact ⟨W, count, current, by simp, by simp, h1, h2, by simp [radKeep]⟩
  | cons x xs ih =>
    intro W rest count current c h1 h2 h3
    have hcur : (W ++ x :: xs ++ rest).getD current ⟨0, 0⟩ = c := by
      rw [← h3]; simp [List.getD_eq_getElem?_getD, List.getElem?_append_left h2]
    have hx : (W ++ x :: xs ++ rest).getD W.length ⟨0, 0⟩ = x := by
      simp [List.getD_eq_getElem?_getD]
    rw [List.length_cons, List.range'_succ, List.foldl_cons, radKeep]
    unfold radialStep
    simp only [hcur, hx]
    by_cases hlt : t < df c x
    · rw [if_pos hlt, if_pos hlt]
      have hl : count < (W ++ [x]).length := by simp; omega
      obtain ⟨W', count', current', e, l, a, b, tk⟩ := ih ((W ++ [x]).set count x) rest (count + 1) W.length x
        (by omega) (by simp) (by
          simp only [List.getD_eq_getElem?_getD, List.getElem?_set]
          split <;> simp)
      refine ⟨W', count', current', ?_, by simp at l; omega, a, b, ?_⟩
      · rw [← e]
        simp only [List.length_set, List.length_append, List.length_singleton]
        congr 2
        rw [show W ++ x :: xs ++ rest = (W ++ [x]) ++ (xs ++ rest) by simp, List.set_append_left _ _ hl]
        simp
      · rw [tk, take_succ_set _ _ _ hl, List.take_append_of_le_length (by omega)]
        simp
    · rw [if_neg hlt, if_neg hlt]
      obtain ⟨W', count', current', e, l, a, b, tk⟩ := ih (W ++ [x]) rest count current c h1 (by simp; omega)
        (by rw [← h3]; simp [List.getD_eq_getElem?_getD, List.getElem?_append_left h2])
      refine ⟨W', count', current', ?_, by simp at l; omega, a, b, ?_⟩
      · rw [show W ++ x :: xs ++ rest = W ++ [x] ++ xs ++ rest by simp,
          show W.length + 1 = (W ++ [x]).length by simp]
        exact e
      · rw [tk, List.take_append_of_le_length (by omega)]

/-- Radial on a line of at least two points: the first point, the greedy selection from the points in
    between, and the last point (kept by the scan or put back by the final step: either way once) -/
theorem radial_eq (df : Pt α → Pt α → α) (t : α) (a b : Pt α) (mid : List (Pt α)) :
    radialSimplify df t (a :: (mid ++ [b])) = .ok (a :: (radKeep df t a mid ++ [b])) := by
  obtain ⟨W, count, current, e, l, h1, h2, tk⟩ := radFold_spec df t mid [a] [b] 1 0 a (by omega) (by simp) rfl
  simp only [List.length_singleton] at e l
  have hc : count ≤ W.length := by omega
  have hl : count < (W ++ [b]).length := by simp; omega
  have hn : (a :: (mid ++ [b])).length = mid.length + 2 := by simp
  unfold radialSimplify
  simp only [hn, show mid.length + 2 - 1 = mid.length + 1 from rfl]
  rw [List.range'_concat, List.foldl_append, List.foldl_cons,
    List.foldl_nil, show (a :: (mid ++ [b])) = [a] ++ mid ++ [b] by simp, e]
  have key : ((W ++ [b]).set count b).take (count + 1) = a :: (radKeep df t a mid ++ [b]) := by
    rw [take_succ_set _ _ _ hl, List.take_append_of_le_length hc, tk]; simp
  have hb : (W ++ [b]).getD (1 + 1 * mid.length) ⟨0, 0⟩ = b := by
    simp [List.getD_eq_getElem?_getD, l, Nat.add_comm]
  rw [if_neg (by omega)]
  unfold radialStep
  simp only [hb]
  split
  · rw [if_neg (by simp; omega)]; simp only; rw [key]
  · rw [if_pos (by simp; omega)]
    simp only
    rw [show mid.length + 1 = 1 + 1 * mid.length by omega, hb, key]

theorem radial_eq_one (df : Pt α → Pt α → α) (t : α) (a : Pt α) : radialSimplify df t [a] = .ok [a] := rfl

theorem radial_spec (df : Pt α → Pt α → α) (t : α) (ls out : List (Pt α))
    (h : radialSimplify df t ls = .ok out) :
    ValidLine ls out ∧ ∀ a b, Adjacent out.dropLast a b → t < df a b := by
  cases ls with
  | nil => simp [radialSimplify] at h
  | cons a rest =>
    rcases List.eq_nil_or_concat rest with rfl | ⟨mid, b, rfl⟩
    · rw [radial_eq_one] at h; cases h
      exact ⟨ValidLine.refl _, fun x y hxy => absurd hxy (adjacent_dropLast_short [a] (by simp) x y)⟩
    · rw [List.concat_eq_append] at h ⊢
      rw [radial_eq] at h; cases h
      refine ⟨⟨((radKeep_sublist df t a mid).append (List.Sublist.refl [b])).cons_cons a, ⟨rfl, by
        rw [show a :: (radKeep df t a mid ++ [b]) = (a :: radKeep df t a mid) ++ [b] from rfl,
          show a :: (mid ++ [b]) = (a :: mid) ++ [b] from rfl, List.getLast?_concat, List.getLast?_concat]⟩⟩, ?_⟩
      intro x y hxy
      rw [show a :: (radKeep df t a mid ++ [b]) = (a :: radKeep df t a mid) ++ [b] from rfl, List.dropLast_concat] at hxy
      exact radKeep_spacing df t a mid x y hxy

theorem radialSimplify_isOk (df : Pt α → Pt α → α) (t : α) (ls : List (Pt α)) (h : ls ≠ []) :
    (radialSimplify df t ls).isOk = true := by
  obtain ⟨a, rest, rfl⟩ := List.exists_cons_of_ne_nil h
  rcases List.eq_nil_or_concat rest with rfl | ⟨mid, b, rfl⟩
  · rfl
  · rw [List.concat_eq_append, radial_eq]; rfl

end radial

end Orb.Simplify
