/-
  C15 — NON-VACUITY over ℝ.  The theorems of OrbProofs.C15 about the mercator closed forms and the
  tile projection take named hypotheses on the opaque functions `sin log atan exp tan floor` of
  `MFn α`.  Here `MFn` is instantiated with Mathlib's real functions (`Real.sin`, `Real.log`,
  `Real.arctan`, `Real.exp`, `Real.tan`, `Int.floor`, exact constants), every one of those hypotheses
  is PROVED, and the conditional theorems become unconditional statements about the model over ℝ —
  up to `real_tile_roundtrip`: the conclusion of `tile_roundtrip_full` with exact libm, for every pixel whose
  centre lies in the world square (another quantifier than that definition's: no `Z ≤ 22`, no buffer range).
  (With float64 libm the same statement is MEASURED.)
-/
import OrbProofs.C15
import Mathlib.Analysis.SpecialFunctions.Trigonometric.Arctan
import Mathlib.Analysis.SpecialFunctions.Log.Basic
import Mathlib.Analysis.Complex.ExponentialBounds

namespace Orb.Project
open Orb Orb.Core

/-- `MFn` with exact real functions and exact constants -/
noncomputable def realMFn : MFn ℝ where
  sin := Real.sin
  log := Real.log
  atan := Real.arctan
  exp := Real.exp
  tan := Real.tan
  floor := fun x => ((⌊x⌋ : ℤ) : ℝ)
  max := max
  min := min
  ofNat := fun n => (n : ℝ)
  pi := Real.pi
  twoPi := 2 * Real.pi
  piHalf := Real.pi / 2
  d180pi := 180 / Real.pi
  R := 6378137
  rPi := 6378137 * Real.pi
  rPi180 := 6378137 * Real.pi / 180
  c9999 := 9999 / 10000

theorem real_floor_spec : ∀ (x : ℝ) (n : ℤ), (n : ℝ) ≤ x → x < (n : ℝ) + 1 → realMFn.floor x = (n : ℝ) := by
  intro x n h1 h2
  show ((⌊x⌋ : ℤ) : ℝ) = n
  rw [Int.floor_eq_iff.2 ⟨h1, h2⟩]

theorem real_ofNat : ∀ n : Nat, realMFn.ofNat n = (n : ℝ) := fun _ => rfl

/-- the clamp of `WGS84.ToMercator` to ±Rπ does nothing inside that range -/
theorem real_clamp_id {a y : ℝ} (h : -a ≤ y ∧ y ≤ a) : max (-a) (min y a) = y := by
  rw [min_eq_left h.2, max_eq_right h.1]

/-- mercator → WGS84 → mercator, all hypotheses of `merc_roundtrip_rev_partial` discharged -/
theorem real_merc_roundtrip_rev (p : Pt ℝ) (hy : -(6378137 * Real.pi) ≤ p.y ∧ p.y ≤ 6378137 * Real.pi) :
    wgs84ToMercator realMFn (mercatorToWGS84 realMFn p) = p := by
  exact merc_roundtrip_rev_partial realMFn p Real.pi_ne_zero (by norm_num [realMFn]) rfl rfl rfl rfl
    Real.tan_arctan Real.log_exp (real_clamp_id hy)

/-- WGS84 → mercator → WGS84, all hypotheses of `merc_roundtrip_partial` discharged; the clamp is
    inactive exactly when the mercator y stays within ±Rπ -/
theorem real_merc_roundtrip (g : Pt ℝ) (hlat : -90 < g.y ∧ g.y < 90)
    (hy : -(6378137 * Real.pi) ≤ Real.log (Real.tan ((90 + g.y) * Real.pi / 360)) * 6378137 ∧
          Real.log (Real.tan ((90 + g.y) * Real.pi / 360)) * 6378137 ≤ 6378137 * Real.pi) :
    mercatorToWGS84 realMFn (wgs84ToMercator realMFn g) = g := by
  exact merc_roundtrip_partial realMFn g Real.pi_pos (by norm_num [realMFn]) rfl rfl rfl rfl
    (fun t ht => Real.exp_log ht)
    (fun θ h0 h1 => Real.tan_pos_of_pos_of_lt_pi_div_two h0 h1)
    (fun θ h0 h1 => Real.arctan_tan (lt_trans (neg_neg_of_pos (half_pos Real.pi_pos)) h0) h1) hlat
    (real_clamp_id hy)

/-- a concrete point: the equator (the hypotheses of `real_merc_roundtrip` are satisfiable) -/
example : mercatorToWGS84 realMFn (wgs84ToMercator realMFn ⟨12, 0⟩) = ⟨12, 0⟩ := by
  apply real_merc_roundtrip ⟨12, 0⟩ (by norm_num)
  have h : (90 + (0 : ℝ)) * Real.pi / 360 = Real.pi / 4 := by ring
  simp only [h, Real.tan_pi_div_four, Real.log_one, zero_mul]
  constructor <;> linarith [Real.pi_pos]

/-- `sin(2·atan(eᵗ) − π/2) = (e²ᵗ − 1)/(e²ᵗ + 1)` (= tanh t) -/
theorem real_gd_sin (t : ℝ) :
    Real.sin (2 * Real.arctan (Real.exp t) - Real.pi / 2) = (Real.exp t ^ 2 - 1) / (Real.exp t ^ 2 + 1) := by
  have hpos : (0 : ℝ) < 1 + Real.exp t ^ 2 := by positivity
  rw [Real.sin_sub_pi_div_two, Real.cos_two_mul, Real.cos_sq_arctan]
  field_simp
  ring

/-- the Gudermannian identity that `planar_geo_roundtrip_partial` assumes of the opaque functions -/
theorem real_gudermannian (t : ℝ) :
    Real.log ((1 + Real.sin (2 * Real.arctan (Real.exp t) - Real.pi / 2)) /
              (1 - Real.sin (2 * Real.arctan (Real.exp t) - Real.pi / 2))) = 2 * t := by
  have hE : (0 : ℝ) < Real.exp t := Real.exp_pos t
  have hpos : (0 : ℝ) < Real.exp t ^ 2 + 1 := by positivity
  rw [real_gd_sin]
  have : (1 + (Real.exp t ^ 2 - 1) / (Real.exp t ^ 2 + 1)) / (1 - (Real.exp t ^ 2 - 1) / (Real.exp t ^ 2 + 1))
      = Real.exp t ^ 2 := by
    field_simp
    ring
  rw [this, Real.log_pow, Real.log_exp]
  push_cast
  ring

/-- `19999 = (1 + 0.9999)/(1 − 0.9999)` is the value of `e^{2t}` at which `tanh t = 0.9999`;
    `e^π ≤ e⁴ ≤ 3⁴ = 81` stays well below its root. -/
theorem real_exp_sq_le (t : ℝ) (ht : t ≤ Real.pi) : Real.exp t ^ 2 ≤ 19999 := by
  have h4 : t ≤ 4 := le_trans ht Real.pi_le_four
  have h1 : Real.exp t ≤ Real.exp 4 := Real.exp_le_exp.2 h4
  have h2 : Real.exp 4 = Real.exp 1 ^ 4 := by
    rw [← Real.exp_nat_mul]; norm_num
  have h3 : Real.exp 1 ^ 4 ≤ 3 ^ 4 := pow_le_pow_left₀ (Real.exp_pos 1).le Real.exp_one_lt_three.le 4
  have h5 : Real.exp t ≤ 81 := by rw [h2] at h1; linarith [h3]
  calc Real.exp t ^ 2 ≤ 81 ^ 2 := pow_le_pow_left₀ (Real.exp_pos t).le h5 2
    _ ≤ 19999 := by norm_num

/-- Inside the world square the ±0.9999 clamp of `toPlanar` never fires: for |t| ≤ π,
    |sin(2·atan(eᵗ) − π/2)| = |tanh t| ≤ tanh π < 0.9999. -/
theorem real_clamp_inactive (t : ℝ) (h1 : -Real.pi ≤ t) (h2 : t ≤ Real.pi) :
    ¬ Real.sin (2 * Real.arctan (Real.exp t) - Real.pi / 2) < -(9999 / 10000) ∧
    ¬ 9999 / 10000 < Real.sin (2 * Real.arctan (Real.exp t) - Real.pi / 2) := by
  have hpos : (0 : ℝ) < Real.exp t ^ 2 + 1 := by positivity
  have hup := real_exp_sq_le t h2
  have hlo := real_exp_sq_le (-t) (by linarith)
  have hinv : Real.exp (-t) ^ 2 * Real.exp t ^ 2 = 1 := by
    rw [← mul_pow, ← Real.exp_add]; simp
  have hE2 : 0 < Real.exp t ^ 2 := by positivity
  have hlo' : 1 ≤ 19999 * Real.exp t ^ 2 := by
    rw [← hinv]; exact mul_le_mul_of_nonneg_right hlo hE2.le
  rw [real_gd_sin]
  constructor
  · rw [not_lt, le_div_iff₀ hpos]
    linarith
  · rw [not_lt, div_le_iff₀ hpos]
    linarith

/-- The ±0.9999 clamp never fires at the argument `π − 2π·(y/m)` that `ToGeo` forms for `0 ≤ y ≤ m`. -/
theorem real_clamp_inactive_world {y m : ℝ} (hm : 0 < m) (h0 : 0 ≤ y) (h1 : y ≤ m) :
    ¬ Real.sin (2 * Real.arctan (Real.exp (Real.pi - 2 * Real.pi * (y / m))) - Real.pi / 2) < -(9999 / 10000) ∧
    ¬ 9999 / 10000 < Real.sin (2 * Real.arctan (Real.exp (Real.pi - 2 * Real.pi * (y / m))) - Real.pi / 2) := by
  have h2pi : (0 : ℝ) ≤ 2 * Real.pi := by positivity
  have hu0 := mul_nonneg h2pi (div_nonneg h0 hm.le)
  have hu1 := mul_le_mul_of_nonneg_left ((div_le_one hm).2 h1) h2pi
  exact real_clamp_inactive _ (by linarith) (by linarith)

/-- `ToPlanar (ToGeo p) = p` over ℝ for every point of the world square at every level < 64 -/
theorem real_planar_geo_roundtrip (z : Nat) (hz : z < 64) (p : Pt ℝ)
    (h0 : 0 ≤ p.y) (h1 : p.y ≤ maxTiles realMFn z) :
    toPlanar realMFn z (toGeo realMFn z p) = p := by
  have hm := maxTiles_pos realMFn real_ofNat z hz
  exact planar_geo_roundtrip_partial realMFn z p Real.pi_ne_zero hm.ne' rfl rfl real_gudermannian
    (real_clamp_inactive_world hm h0 h1)

/-- Over ℝ (exact libm) `mvt.newProjection` — power-of-two path, extent 0, and every other extent —
    returns exactly the same integers for every pixel whose centre lies in the world square.
    This is the conclusion of `tile_roundtrip_full` away from the polar buffer, with every hypothesis of
    `newProjection_roundtrip_exact` discharged: the hypotheses are jointly satisfiable. -/
theorem real_tile_roundtrip (X Y Z extent : Nat) (hlev : projLevel Z extent < 64) (i j : ℤ)
    (h0 : 0 ≤ (pixelCentre X Y extent i j : Pt ℝ).y)
    (h1 : (pixelCentre X Y extent i j : Pt ℝ).y ≤ maxTiles realMFn (projLevel Z extent)) :
    (newProjection realMFn X Y Z extent).toTile ((newProjection realMFn X Y Z extent).toWGS84 ⟨(i : ℝ), (j : ℝ)⟩)
      = ⟨(i : ℝ), (j : ℝ)⟩ := by
  have hm := maxTiles_pos realMFn real_ofNat _ hlev
  exact newProjection_roundtrip_exact realMFn real_floor_spec real_ofNat X Y Z extent hlev i j
    Real.pi_ne_zero rfl rfl real_gudermannian (real_clamp_inactive_world hm h0 h1)

/-- the package's own test case, over ℝ: pixel (2048, 2048) of tile (1,1,2), extent 4096 -/
example : (newProjection realMFn 1 1 2 4096).toTile ((newProjection realMFn 1 1 2 4096).toWGS84 ⟨((2048 : ℤ) : ℝ), ((2048 : ℤ) : ℝ)⟩)
    = ⟨((2048 : ℤ) : ℝ), ((2048 : ℤ) : ℝ)⟩ := by
  have hl : projLevel 2 4096 = 14 := projLevel_two_pow 2 12 (by norm_num)
  have hc : (pixelCentre 1 1 4096 2048 2048 : Pt ℝ) = ⟨2048 + 1 * 2 ^ 12 + 1 / 2, 2048 + 1 * 2 ^ 12 + 1 / 2⟩ := by
    have := pixelCentre_two_pow (α := ℝ) 1 1 12 (by norm_num) (by norm_num) (by norm_num) 2048 2048
    simpa using this
  apply real_tile_roundtrip 1 1 2 4096 (by rw [hl]; norm_num) 2048 2048
  · rw [hc]; norm_num
  · rw [hc, hl, maxTiles_eq realMFn real_ofNat 14 (by norm_num)]; norm_num

end Orb.Project
