/-
  C08: every vertex of the clipped ring lies on a segment of the (implicitly closed) input chain or is a corner
  of the box (`ring_vertices_on_chain`; without the corner alternative the statement is false:
  OrbProofs/C08Counter.lean), and it lies in the convex hull of the input vertices (`ring_vertices_in_hull`).
  The invariant carried through a pass: consecutive vertices lie on one input segment or on one line of the box.
  "Every edge is related" is the telescoping theorem of C08Pass for the monoid `(Prop, ∧, True)`.
-/
import OrbProofs.C08Ring

namespace Orb.Clip.C08
open Orb Orb.EvenOdd Orb.Contains Orb.Clip.C08R Generated.Params
open Orb.Core

set_option linter.unusedSectionVars false

variable {α : Type} [Field α] [LinearOrder α] [IsStrictOrderedRing α]

/-- what the chain invariant needs from a pass: `E` relates consecutive vertices, `L` is the clip line, `V` the
    vertex predicate; that the intersection point is on the line is part of the clamp (`Clamp.ixL`) -/
structure PassHyp (ins : Pt α → Bool) (ix : Pt α → Pt α → Pt α) (E : Pt α → Pt α → Prop)
    (L V : Pt α → Prop) : Prop where
  sub : ∀ a b u w, E a b → OnSeg a b u → OnSeg a b w → E u w
  line : ∀ u w, L u → L w → E u w
  ixseg : ∀ a b, ins a ≠ ins b → OnSeg a b (ix a b)
  ixV : ∀ a b, E a b → ins a ≠ ins b → V (ix a b)

section pass
variable {ins : Pt α → Bool} {ix : Pt α → Pt α → Pt α} {π : Pt α → Pt α} {E : Pt α → Pt α → Prop} {L V : Pt α → Prop}

theorem telHyp_and (line : ∀ u w, L u → L w → E u w) : TelHyp And True L E :=
  ⟨fun _ _ _ => propext and_assoc, fun _ _ => propext and_comm, fun _ => true_and _,
    fun u v w hu hv hw => by simp [line u v hu hv, line v w hv hw, line u w hu hw],
    fun u hu => eq_true (line u u hu hu)⟩

theorem pull_rel (H : PassHyp ins ix E L V) (A : Clamp ins ix π L) {a b : Pt α} (h : E a b) :
    pullM And ins ix π E a b := by
  unfold pullM; split_ifs with hs
  · cases ha : ins a
    · exact H.line _ _ (A.pout a ha) (A.pout b (hs ▸ ha))
    · rw [A.pin a ha, A.pin b (hs ▸ ha)]; exact h
  · cases ha : ins a
    · have hb : ins b = true := by cases hb : ins b <;> simp_all
      rw [A.pin b hb]
      exact ⟨H.line _ _ (A.pout a ha) (A.ixL a b hs), H.sub a b _ _ h (H.ixseg a b hs) (onSeg_right _ _)⟩
    · have hb : ins b = false := by cases hb : ins b <;> simp_all
      rw [A.pin a ha]
      exact ⟨H.sub a b _ _ h (onSeg_left _ _) (H.ixseg a b hs), H.line _ _ (A.ixL a b hs) (A.pout b hb)⟩

theorem pass_cyc_rel (H : PassHyp ins ix E L V) (A : Clamp ins ix π L) (f : Pt α) (t : List (Pt α))
    (hE : ∀ se ∈ edges (f :: t), E se.1 se.2) :
    ∀ se ∈ edges (passL ins ix (lastD' f t) (f :: t)), E se.1 se.2 := by
  rw [← prodE_and, pass_cyc_tel A (telHyp_and H.line) f t, prodE_and]
  exact fun se hse => pull_rel H A (hE se hse)

theorem passL_rel (H : PassHyp ins ix E L V) (A : Clamp ins ix π L) (l : List (Pt α)) (prev u : Pt α)
    (hl : Link ins L u prev) (hE : ∀ se ∈ chain (prev :: l), E se.1 se.2) :
    ∀ se ∈ chain (u :: passL ins ix prev l), E se.1 se.2 := by
  have := passL_tel A (telHyp_and H.line) l prev u hl
  rw [← prodE_and]
  refine (this.mpr ⟨?_, (prodE_and _ _).2 fun se hse => pull_rel H A (hE se hse)⟩).1
  unfold gap; split_ifs with hi
  exact H.line _ _ (hl.2 (by simpa using hi)) (A.pout _ (by simpa using hi))

theorem passL_V (H : PassHyp ins ix E L V) (l : List (Pt α)) (prev : Pt α)
    (hE : ∀ se ∈ chain (prev :: l), E se.1 se.2) (hV : ∀ v ∈ l, V v) : ∀ v ∈ passL ins ix prev l, V v := by
  intro v hv
  obtain ⟨a, b, hab, h⟩ := mem_passL hv
  rcases h with ⟨rfl, _⟩ | ⟨rfl, hne⟩
  · exact hV _ (mem_chain_snd hab)
  · exact H.ixV a b (hE _ hab) hne

end pass

/-- the segments of the implicitly closed chain: the closing pair, then the consecutive pairs (the list
    `Contains.edges`: `cycSegs_eq_edges`) -/
def cycSegs : List (Pt α) → List (Pt α × Pt α)
  | [] => []
  | f :: t => ((f :: t).getLast?.getD f, f) :: segsOf (f :: t)

/-- a corner of the box -/
def IsCorner (box : Bound α) (v : Pt α) : Prop :=
  (v.x = box.lo.x ∨ v.x = box.hi.x) ∧ (v.y = box.lo.y ∨ v.y = box.hi.y)

/-- both points on one of the four lines of the box -/
def OnBoxLine (box : Bound α) (a b : Pt α) : Prop :=
  (a.x = box.lo.x ∧ b.x = box.lo.x) ∨ (a.x = box.hi.x ∧ b.x = box.hi.x) ∨
  (a.y = box.lo.y ∧ b.y = box.lo.y) ∨ (a.y = box.hi.y ∧ b.y = box.hi.y)

/-- edge relation: a piece of an input segment, or a piece of a box line -/
def ERel (box : Bound α) (S : List (Pt α × Pt α)) (a b : Pt α) : Prop :=
  (∃ s ∈ S, OnSeg s.1 s.2 a ∧ OnSeg s.1 s.2 b) ∨ OnBoxLine box a b

/-- vertex predicate: on an input segment, or a box corner -/
def VRel (box : Bound α) (S : List (Pt α × Pt α)) (v : Pt α) : Prop :=
  (∃ s ∈ S, OnSeg s.1 s.2 v) ∨ IsCorner box v

theorem ERel_sub (box : Bound α) (S : List (Pt α × Pt α)) (a b u w : Pt α) (h : ERel box S a b)
    (hu : OnSeg a b u) (hw : OnSeg a b w) : ERel box S u w := by
  rcases h with ⟨s, hs, ha, hb⟩ | h
  · exact Or.inl ⟨s, hs, ha.sub hb hu, ha.sub hb hw⟩
  · right
    rcases h with ⟨h1, h2⟩ | ⟨h1, h2⟩ | ⟨h1, h2⟩ | ⟨h1, h2⟩
    · exact Or.inl ⟨conv_x_eq _ _ _ _ h1 h2 hu, conv_x_eq _ _ _ _ h1 h2 hw⟩
    · exact Or.inr (Or.inl ⟨conv_x_eq _ _ _ _ h1 h2 hu, conv_x_eq _ _ _ _ h1 h2 hw⟩)
    · exact Or.inr (Or.inr (Or.inl ⟨conv_y_eq _ _ _ _ h1 h2 hu, conv_y_eq _ _ _ _ h1 h2 hw⟩))
    · exact Or.inr (Or.inr (Or.inr ⟨conv_y_eq _ _ _ _ h1 h2 hu, conv_y_eq _ _ _ _ h1 h2 hw⟩))

theorem VRel_refl (box : Bound α) (S : List (Pt α × Pt α)) (v : Pt α) (h : VRel box S v) : ERel box S v v := by
  rcases h with ⟨s, hs, hv⟩ | ⟨h | h, _⟩
  · exact Or.inl ⟨s, hs, hv, hv⟩
  · exact Or.inr (Or.inl ⟨h, h⟩)
  · exact Or.inr (Or.inr (Or.inl ⟨h, h⟩))

theorem onBoxLine_of_exc (box : Bound α) {k : Nat} (hk : Edge k) {u w : Pt α} (hu : exc box k u = 0)
    (hw : exc box k w = 0) : OnBoxLine box u w := by
  rcases hk with rfl | rfl | rfl | rfl <;> simp only [exc_8, exc_4, exc_2, exc_1, sub_eq_zero] at hu hw
  · exact Or.inr (Or.inr (Or.inr ⟨hu, hw⟩))
  · exact Or.inr (Or.inr (Or.inl ⟨hu.symm, hw.symm⟩))
  · exact Or.inr (Or.inl ⟨hu, hw⟩)
  · exact Or.inl ⟨hu.symm, hw.symm⟩

/-- an edge is vertical or horizontal: its line is one of the two lines of the box of that direction, and its excess
    depends on that coordinate only -/
theorem edge_axis (box : Bound α) {k : Nat} (hk : Edge k) :
    ((∀ v : Pt α, exc box k v = 0 → v.x = box.lo.x ∨ v.x = box.hi.x) ∧
      ∀ a b : Pt α, a.x = b.x → exc box k a = exc box k b) ∨
    ((∀ v : Pt α, exc box k v = 0 → v.y = box.lo.y ∨ v.y = box.hi.y) ∧
      ∀ a b : Pt α, a.y = b.y → exc box k a = exc box k b) := by
  rcases hk with rfl | rfl | rfl | rfl
  · exact Or.inr ⟨fun v h => Or.inr (sub_eq_zero.1 h), fun a b h => by rw [exc_8, exc_8, h]⟩
  · exact Or.inr ⟨fun v h => Or.inl (sub_eq_zero.1 h).symm, fun a b h => by rw [exc_4, exc_4, h]⟩
  · exact Or.inl ⟨fun v h => Or.inr (sub_eq_zero.1 h), fun a b h => by rw [exc_2, exc_2, h]⟩
  · exact Or.inl ⟨fun v h => Or.inl (sub_eq_zero.1 h).symm, fun a b h => by rw [exc_1, exc_1, h]⟩

theorem passHyp_K (box : Bound α) (S : List (Pt α × Pt α)) {k : Nat} (hk : Edge k) :
    PassHyp (insK box k) (Orb.Clip.cross box k) (ERel box S) (fun v => exc box k v = 0) (VRel box S) where
  sub := ERel_sub box S
  line := fun u w hu hw => Or.inr (onBoxLine_of_exc box hk hu hw)
  ixseg := fun a b hne => (cross_onSeg box hk a b (insK_ne hne)).1
  ixV := by
    intro a b hE hne
    obtain ⟨hseg, hz⟩ := cross_onSeg box hk a b (insK_ne hne)
    rcases hE with ⟨s, hs, ha, hb'⟩ | h
    · exact Or.inl ⟨s, hs, ha.sub hb' hseg⟩
    · -- an edge along a box line is cut only by a perpendicular line, and then the cut point is a corner
      have hd : exc box k a ≠ exc box k b := fun he => by
        rcases insK_ne hne with ⟨h1, h2⟩ | ⟨h1, h2⟩ <;> rw [he] at h1 <;> linarith
      right
      rcases edge_axis box hk with ⟨hx, hcx⟩ | ⟨hy, hcy⟩
      · rcases h with ⟨h1, h2⟩ | ⟨h1, h2⟩ | ⟨h1, h2⟩ | ⟨h1, h2⟩
        · exact absurd (hcx a b (h1.trans h2.symm)) hd
        · exact absurd (hcx a b (h1.trans h2.symm)) hd
        · exact ⟨hx _ hz, Or.inl (conv_y_eq _ _ _ _ h1 h2 hseg)⟩
        · exact ⟨hx _ hz, Or.inr (conv_y_eq _ _ _ _ h1 h2 hseg)⟩
      · rcases h with ⟨h1, h2⟩ | ⟨h1, h2⟩ | ⟨h1, h2⟩ | ⟨h1, h2⟩
        · exact ⟨Or.inl (conv_x_eq _ _ _ _ h1 h2 hseg), hy _ hz⟩
        · exact ⟨Or.inr (conv_x_eq _ _ _ _ h1 h2 hseg), hy _ hz⟩
        · exact absurd (hcy a b (h1.trans h2.symm)) hd
        · exact absurd (hcy a b (h1.trans h2.symm)) hd

/-- the invariant of the vertex list through `ring`: every vertex is on an input segment or a corner, and every edge
    of the cycle (of the open chain, when the ring does not count as closed) is `ERel`-related -/
def Inv (box : Bound α) (S : List (Pt α × Pt α)) (ic : Bool) (l : List (Pt α)) : Prop :=
  (∀ v ∈ l, VRel box S v) ∧ ∀ se ∈ (if ic = true then edges l else chain l), ERel box S se.1 se.2

theorem passC_inv (box : Bound α) (hb : BoxOK box) (S : List (Pt α × Pt α)) (ic : Bool) {k : Nat} (hk : Edge k)
    (l : List (Pt α)) (hl : Inv box S ic l) : Inv box S ic (passC (insB box k) (ixB box k) ic l) := by
  rw [ixB_eq_cross box hk, insK_eq_bit box hb hk]
  have H := passHyp_K box S hk
  have A := clamp_K box hk
  cases l with
  | nil => exact hl
  | cons f t =>
    obtain ⟨hV, hE⟩ := hl
    cases ic with
    | true =>
      simp only [if_true] at hE ⊢
      have hE' : ∀ se ∈ chain (lastD' f t :: f :: t), ERel box S se.1 se.2 := by rwa [edges_cons] at hE
      exact ⟨passL_V H _ _ hE' hV, pass_cyc_rel H A f t hE⟩
    | false =>
      -- the pass starts with `prev` = the first vertex: a degenerate first edge
      simp only [Bool.false_eq_true, if_false] at hE ⊢
      have hE' : ∀ se ∈ chain (f :: f :: t), ERel box S se.1 se.2 := by
        rw [chain_cons_cons]
        exact List.forall_mem_cons.2 ⟨VRel_refl box S f (hV f List.mem_cons_self), hE⟩
      refine ⟨passL_V H _ _ hE' hV, fun se hse => ?_⟩
      refine passL_rel H A (f :: t) f (projK box k f) ⟨A.pin f, A.pout f⟩ hE' se ?_
      change se ∈ chain (passL (insK box k) (Orb.Clip.cross box k) f (f :: t)) at hse
      cases ho : passL (insK box k) (Orb.Clip.cross box k) f (f :: t) with
      | nil => rw [ho] at hse; exact absurd hse (by simp [chain])
      | cons w r => rw [ho] at hse; rw [chain_cons_cons]; exact List.mem_cons_of_mem _ hse

theorem cycSegs_eq_edges (l : List (Pt α)) : cycSegs l = edges l := by
  cases l with
  | nil => rfl
  | cons f t => rw [edges_cons, cycSegs, getLast?_getD_eq, chain_eq_segsOf]

theorem inv_init (box : Bound α) (ic : Bool) (inp : List (Pt α)) : Inv box (cycSegs inp) ic inp := by
  refine ⟨fun v hv => ?_, fun se hse => Or.inl ⟨se, ?_, onSeg_left _ _, onSeg_right _ _⟩⟩
  · cases inp with
    | nil => cases hv
    | cons f t =>
      obtain ⟨a, ha⟩ := exists_chain_snd (f :: t) (lastD' f t) v hv
      exact Or.inl ⟨(a, v), by rwa [cycSegs_eq_edges, edges_eq_chain], onSeg_right _ _⟩
  · rw [cycSegs_eq_edges]
    cases ic with
    | true => exact hse
    | false =>
      cases inp with
      | nil => exact hse
      | cons f t => rw [edges_cons]; exact List.mem_cons_of_mem _ hse

/-- Every vertex of the clipped ring lies on a segment of the (implicitly closed) input chain, or is a
    corner of the box.  (`Clip.ring_vertices_on_chain` in C08.lean is the same statement and cites this one.) -/
theorem ring_vertices_on_chain (box : Bound α) (hb : BoxOK box) (inp out : List (Pt α))
    (h : ring box inp = some out) :
    ∀ v ∈ out, (∃ s ∈ cycSegs inp, OnSeg s.1 s.2 v) ∨ IsCorner box v := by
  obtain rfl := Option.some.inj ((ring_eq box inp).symm.trans h)
  intro v hv
  exact (passes_ind box _ inp (fun _ l => Inv box (cycSegs inp) (closedB inp) l) (inv_init box _ inp)
    fun k hk l hl => passC_inv box hb _ _ hk l hl).1 v (mem_closeL hv)

/-- Every vertex of the clipped ring lies in the convex hull of the input vertices (it inherits every
    convex property all input vertices share).  (Again as `Clip.ring_vertices_in_hull` in C08.lean.) -/
theorem ring_vertices_in_hull (box : Bound α) (inp out : List (Pt α)) (h : ring box inp = some out)
    (C : Pt α → Prop) (hC : Conv C) (hin : ∀ v ∈ inp, C v) : ∀ v ∈ out, C v := by
  obtain ⟨o, ho, hP⟩ := ring_spec box inp hC hin
  cases ho.symm.trans h
  exact fun v hv => (hP v hv).2

end Orb.Clip.C08
