/-
  C07 — the second entry point `clip.MultiLineString` (model `Orb.Clip.multiLineString`) and the
  degenerate inputs of `line` (no vertex, one vertex).

  `multiLineString` clips every member with `line` (same option) and concatenates the results in
  member order (`multiLineString_eq`: it is `mls.flatMap (stitch box o)`, for any arithmetic); everything proved
  about `line` therefore transfers member by member.
-/
import OrbProofs.C07Lemmas

set_option linter.unusedSectionVars false

namespace Orb.Clip
open Orb Orb.Core

variable {α : Type} [Field α] [LinearOrder α] [IsStrictOrderedRing α]

theorem clip_no_vertex' (box : Bound α) (isOpen : Bool) : line box isOpen [] = some [] := rfl

/-- a one-vertex line string has no segment: the loop body never runs and nothing is returned, even
    when the vertex is inside the box (so "a line wholly inside is returned as is" needs two vertices) -/
theorem clip_one_vertex' (box : Bound α) (isOpen : Bool) (p : Pt α) : line box isOpen [p] = some [] := rfl

/-- `outs` are the results of `line` on the members, member by member -/
def MemberResults (box : Bound α) (isOpen : Bool) (mls : List (List (Pt α))) (outs : List (List (List (Pt α)))) : Prop :=
  List.Forall₂ (fun ls o => line box isOpen ls = some o) mls outs

section any
variable {β : Type} [Add β] [Sub β] [Mul β] [Div β] [LT β] [LE β] [DecidableLT β] [DecidableLE β] [BEq β]
  [Min β] [Max β]

theorem forall₂_line_iff (box : Bound β) (isOpen : Bool) (mls : List (List (Pt β))) (outs : List (List (List (Pt β)))) :
    List.Forall₂ (fun ls o => line box isOpen ls = some o) mls outs ↔ outs = mls.map (stitch box isOpen) := by
  induction mls generalizing outs with
  | nil => cases outs <;> simp
  | cons ls rest ih =>
    cases outs with
    | nil => simp
    | cons o outs =>
      rw [List.forall₂_cons, ih, line_eq_stitch, List.map_cons, List.cons.injEq, Option.some.injEq, eq_comm]

end any

/-- CONCATENATION: `multiLineString` returns `out` iff every member is clipped by `line` (same option)
    and `out` is the concatenation of the member results in member order.  (No hypothesis on the box.) -/
theorem mls_concat_iff' (box : Bound α) (isOpen : Bool) (mls : List (List (Pt α))) (out : List (List (Pt α))) :
    multiLineString box isOpen mls = some out ↔
      ∃ outs, MemberResults box isOpen mls outs ∧ out = outs.flatten := by
  rw [multiLineString_eq, Option.some.injEq, List.flatMap_def]
  exact ⟨fun h => ⟨_, (forall₂_line_iff box isOpen mls _).2 rfl, h.symm⟩,
    fun ⟨outs, h1, h2⟩ => by rw [h2, (forall₂_line_iff box isOpen mls outs).1 h1]⟩

set_option linter.unusedVariables false in
/-- (`hb` is not used by the proof: `line` never fails, whatever the box) -/
theorem memberResults_total (box : Bound α) (hb : BoxOK box) (isOpen : Bool) (mls : List (List (Pt α))) :
    ∃ outs, MemberResults box isOpen mls outs :=
  ⟨_, (forall₂_line_iff box isOpen mls _).2 rfl⟩

/-- `multiLineString` never gets stuck, and its value is the concatenation of the member results.  (`hb` is only handed
    to `memberResults_total`, which does not use it.) -/
theorem mls_concat' (box : Bound α) (hb : BoxOK box) (isOpen : Bool) (mls : List (List (Pt α))) :
    ∃ outs, MemberResults box isOpen mls outs ∧ multiLineString box isOpen mls = some outs.flatten := by
  obtain ⟨outs, ho⟩ := memberResults_total box hb isOpen mls
  exact ⟨outs, ho, (mls_concat_iff' box isOpen mls _).2 ⟨outs, ho, rfl⟩⟩

/-- the two entry points agree on a single line string -/
theorem mls_singleton' (box : Bound α) (isOpen : Bool) (ls : List (Pt α)) :
    multiLineString box isOpen [ls] = line box isOpen ls := by
  rw [multiLineString_eq, line_eq_stitch, List.flatMap_singleton]

/-- membership in the concatenation: a piece of the result is a piece of some member's result -/
theorem memberResults_piece {box : Bound α} {isOpen : Bool} {mls : List (List (Pt α))}
    {outs : List (List (List (Pt α)))} (ho : MemberResults box isOpen mls outs) {piece : List (Pt α)} :
    piece ∈ outs.flatten ↔ ∃ ls o, ls ∈ mls ∧ line box isOpen ls = some o ∧ piece ∈ o := by
  rw [(forall₂_line_iff box isOpen mls outs).1 ho, ← List.flatMap_def, List.mem_flatMap]
  exact ⟨fun ⟨ls, h1, h2⟩ => ⟨ls, _, h1, line_eq_stitch box isOpen ls, h2⟩,
    fun ⟨ls, o, h1, h2, h3⟩ => ⟨ls, h1, by rw [line_eq_stitch] at h2; exact Option.some.inj h2 ▸ h3⟩⟩

/-- Every output vertex is inside the closed box (both modes). -/
theorem mls_vertices_in_box' (box : Bound α) (hb : BoxOK box) (isOpen : Bool) (mls : List (List (Pt α)))
    (out : List (List (Pt α))) (h : multiLineString box isOpen mls = some out) :
    ∀ piece ∈ out, ∀ v ∈ piece, InBox box v := by
  obtain ⟨outs, ho, rfl⟩ := (mls_concat_iff' box isOpen mls out).1 h
  intro piece hp v hv
  obtain ⟨ls, o, _, hl, hpo⟩ := (memberResults_piece ho).1 hp
  exact clip_vertices_in_box' box hb isOpen ls o hl piece hpo v hv

/-- SOUND AND COMPLETE, closed mode: the pieces together are exactly the points of the members lying
    in the closed box. -/
theorem mls_exact' (box : Bound α) (hb : BoxOK box) (mls : List (List (Pt α))) (out : List (List (Pt α)))
    (h : multiLineString box false mls = some out) :
    ∀ q, OnPieces out q ↔ ((∃ ls ∈ mls, OnPath ls q) ∧ InBox box q) := by
  obtain ⟨outs, ho, rfl⟩ := (mls_concat_iff' box false mls out).1 h
  intro q
  constructor
  · rintro ⟨piece, hp, hq⟩
    obtain ⟨ls, o, hls, hl, hpo⟩ := (memberResults_piece ho).1 hp
    obtain ⟨h1, h2⟩ := (clip_exact' box hb ls o hl q).1 ⟨piece, hpo, hq⟩
    exact ⟨⟨ls, hls, h1⟩, h2⟩
  · rintro ⟨⟨ls, hls, hq⟩, hin⟩
    obtain ⟨o, hl⟩ := line_total_any' box false ls
    obtain ⟨piece, hpo, hq'⟩ := (clip_exact' box hb ls o hl q).2 ⟨hq, hin⟩
    exact ⟨piece, (memberResults_piece ho).2 ⟨ls, o, hls, hl, hpo⟩, hq'⟩

/-- Open mode, soundness: the interior of every piece segment is strictly inside the box. -/
theorem mls_open_interior' (box : Bound α) (hb : BoxOK box) (mls : List (List (Pt α))) (out : List (List (Pt α)))
    (h : multiLineString box true mls = some out) :
    ∀ piece ∈ out, ∀ s ∈ segsOf piece, ∀ t, 0 < t → t < 1 → s.1 ≠ s.2 → InOpenBox box (lerp s.1 s.2 t) := by
  obtain ⟨outs, ho, rfl⟩ := (mls_concat_iff' box true mls out).1 h
  intro piece hp
  obtain ⟨ls, o, _, hl, hpo⟩ := (memberResults_piece ho).1 hp
  exact clip_open_interior' box hb ls o hl piece hpo

/-- Open mode, completeness: every point of a member strictly inside the box is on a piece. -/
theorem mls_open_complete' (box : Bound α) (hb : BoxOK box) (mls : List (List (Pt α))) (out : List (List (Pt α)))
    (h : multiLineString box true mls = some out) :
    ∀ ls ∈ mls, ∀ q, OnPath ls q → InOpenBox box q → OnPieces out q := by
  obtain ⟨outs, ho, rfl⟩ := (mls_concat_iff' box true mls out).1 h
  intro ls hls q hq hin
  obtain ⟨o, hl⟩ := line_total_any' box true ls
  obtain ⟨piece, hpo, hq'⟩ := clip_open_complete' box hb ls o hl q hq hin
  exact ⟨piece, (memberResults_piece ho).2 ⟨ls, o, hls, hl, hpo⟩, hq'⟩

/-- Non-vacuity of the open-mode split on the second entry point: a member that never leaves the closed
    box but touches its boundary is split there (and is NOT returned as it is). -/
theorem mls_open_split_witness' :
    multiLineString (⟨⟨0, 0⟩, ⟨2, 2⟩⟩ : Bound ℚ) true [[⟨1, 1⟩, ⟨2, 1⟩, ⟨1, 3/2⟩]] =
      some [[⟨1, 1⟩, ⟨2, 1⟩], [⟨2, 1⟩, ⟨1, 3/2⟩]] := by
  decide +kernel

end Orb.Clip
