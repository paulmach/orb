/-
  C10, area and centroid: the spec-side vocabulary (`ringArea`, `fanTris`, `ConvexRing`, `NestedHoles`) and what each
  loop of planar/area.go computes, as a closed form.  A loop over consecutive pairs or over members adds to each
  component of a triple, so it is a triple of sums; the area of a ring is a sum over the edges of the closed chain.
  The shoelace sums `cyc`, `chain`, `fan`, `lastD` are those of C06Lemmas.
-/
import Orb.Planar
import Orb.EvenOdd
import OrbProofs.C06Lemmas
import OrbProofs.C10DistLemmas
import Orb.LoopForms
import Mathlib.Algebra.Order.Field.Basic
import Mathlib.Algebra.Order.Group.Abs
import Mathlib.Algebra.BigOperators.Ring.List
import Mathlib.Algebra.Order.BigOperators.Group.List
import Mathlib.Tactic.Ring
import Mathlib.Tactic.Linarith
import Mathlib.Tactic.FieldSimp
import Mathlib.Tactic.SplitIfs

set_option linter.unusedSectionVars false

namespace Orb.Planar
open Orb Orb.Core

/-- the (signed) area `ringCentroidArea` reports -/
def ringArea {α : Type} [Add α] [Sub α] [Mul α] [Div α] [OfNat α 0] [OfNat α 2] [OfNat α 6] [BEq α]
    (r : List (Pt α)) : α := (ringCentroidArea r).2

/-- the fan triangles `(o, p, q)` over consecutive pairs of `rest`: (centroid, signed area) -/
def fanTris {α : Type} [Add α] [Sub α] [Mul α] [Div α] [OfNat α 2] [OfNat α 3] (o : Pt α) :
    List (Pt α) → List (Pt α × α)
  | p :: q :: t =>
    (⟨(o.x + p.x + q.x) / 3, (o.y + p.y + q.y) / 3⟩, ((p.x - o.x) * (q.y - o.y) - (q.x - o.x) * (p.y - o.y)) / 2) ::
      fanTris o (q :: t)
  | _ => []

/-- convex in the edge-side sense: every vertex lies on one and the same side of every edge of the closed chain -/
def ConvexRing {α : Type} [Sub α] [Mul α] [OfNat α 0] [LE α] (r : List (Pt α)) : Prop :=
  (∀ e ∈ EvenOdd.edges r, ∀ v ∈ r, 0 ≤ EvenOdd.cross e.1 e.2 v) ∨
  (∀ e ∈ EvenOdd.edges r, ∀ v ∈ r, EvenOdd.cross e.1 e.2 v ≤ 0)

/-- holes nested in the outer ring's even-odd region, with pairwise disjoint interiors -/
def NestedHoles {α : Type} [Sub α] [Mul α] [OfNat α 0] [LT α] [LE α] [DecidableLT α] [DecidableLE α]
    (o : List (Pt α)) (hs : List (List (Pt α))) : Prop :=
  (∀ h ∈ hs, ∀ p, EvenOdd.inside h p = true → EvenOdd.inside o p = true) ∧
  hs.Pairwise fun h k => ∀ p, ¬ ((EvenOdd.inside h p = true ∧ EvenOdd.onBoundary h p = false) ∧
                                   (EvenOdd.inside k p = true ∧ EvenOdd.onBoundary k p = false))


section areaLoops
variable {α : Type} [Field α] [LinearOrder α] [IsStrictOrderedRing α]

theorem fabs_eq_abs (a : α) : fabs a = |a| := by
  unfold fabs
  split_ifs with h
  · exact (abs_of_neg h).symm
  · exact (abs_of_nonneg (not_lt.1 h)).symm

/-- x-moment accumulated by `ringLoop` -/
def fanX (o : Pt α) : List (Pt α) → α
  | p :: q :: t => (p.x + q.x - 2 * o.x) * ((p.x - o.x) * (q.y - o.y) - (q.x - o.x) * (p.y - o.y)) + fanX o (q :: t)
  | _ => 0

/-- y-moment accumulated by `ringLoop` -/
def fanY (o : Pt α) : List (Pt α) → α
  | p :: q :: t => (p.y + q.y - 2 * o.y) * ((p.x - o.x) * (q.y - o.y) - (q.x - o.x) * (p.y - o.y)) + fanY o (q :: t)
  | _ => 0

theorem ringLoop_eq (o : Pt α) (l : List (Pt α)) (cx cy ar : α) :
    ringLoop o l (cx, cy, ar) = (cx + fanX o l, cy + fanY o l, ar + fan o l) := by
  induction l generalizing cx cy ar with
  | nil => simp [ringLoop, fanX, fanY, fan]
  | cons p t ih =>
    cases t with
    | nil => simp [ringLoop, fanX, fanY, fan]
    | cons q t =>
      rw [ringLoop, ih, fanX, fanY, fan]
      simp only [Prod.mk.injEq]
      refine ⟨by ring, by ring, by ring⟩

theorem ringCentroidArea_cons (o : Pt α) (rest : List (Pt α)) :
    ringCentroidArea (o :: rest) =
      if fan o rest = 0 then (o, 0) else
        (⟨fanX o rest / (6 * (fan o rest / 2)) + o.x, fanY o rest / (6 * (fan o rest / 2)) + o.y⟩, fan o rest / 2) := by
  simp only [ringCentroidArea, ringLoop_eq, zero_add, beq_iff_eq]

theorem ringArea_cons (o : Pt α) (rest : List (Pt α)) : ringArea (o :: rest) = fan o rest / 2 := by
  rw [ringArea, ringCentroidArea_cons]
  split_ifs with h
  · simp [h]
  · rfl

theorem ringArea_nil : ringArea ([] : List (Pt α)) = 0 := by
  simp [ringArea, ringCentroidArea]

theorem ringArea_eq_edgeSum (r : List (Pt α)) : ringArea r = Contains.edgeSumOf cross r / 2 := by
  cases r with
  | nil => rw [ringArea_nil]; exact (zero_div _).symm
  | cons o rest => rw [ringArea_cons, fan_eq_cyc, cyc_eq]

theorem foldl_add3 {β : Type} (f g h : β → α) (l : List β) (a b c : α) :
    l.foldl (fun (s : α × α × α) x => (s.1 + f x, s.2.1 + g x, s.2.2 + h x)) (a, b, c) =
      (a + (l.map f).sum, b + (l.map g).sum, c + (l.map h).sum) := by
  induction l generalizing a b c with
  | nil => simp
  | cons x t ih => simp only [List.foldl_cons, ih, List.map_cons, List.sum_cons, add_assoc]

theorem foldl_add3_zero {β : Type} (f g h : β → α) (l : List β) :
    l.foldl (fun (s : α × α × α) x => (s.1 + f x, s.2.1 + g x, s.2.2 + h x)) (0, 0, 0) =
      ((l.map f).sum, (l.map g).sum, (l.map h).sum) := by
  rw [foldl_add3, zero_add, zero_add, zero_add]

theorem polygonCentroidArea_cons (sqrt : α → α) (o : List (Pt α)) (hs : List (List (Pt α))) :
    polygonCentroidArea sqrt (o :: hs) =
      if |ringArea o| - (hs.map fun h => |ringArea h|).sum = 0 then (lineFallback sqrt o, 0) else
        (⟨(|ringArea o| * (ringCentroidArea o).1.x - (hs.map fun h => (ringCentroidArea h).1.x * |ringArea h|).sum) /
            (|ringArea o| - (hs.map fun h => |ringArea h|).sum),
          (|ringArea o| * (ringCentroidArea o).1.y - (hs.map fun h => (ringCentroidArea h).1.y * |ringArea h|).sum) /
            (|ringArea o| - (hs.map fun h => |ringArea h|).sum)⟩,
         |ringArea o| - (hs.map fun h => |ringArea h|).sum) := by
  cases hs with
  | nil =>
    simp only [polygonCentroidArea, fabs_eq_abs, beq_iff_eq, List.map_nil, List.sum_nil, sub_zero, ringArea]
    split_ifs with h
    · rfl
    · rw [mul_div_cancel_left₀ _ h, mul_div_cancel_left₀ _ h]
  | cons h t =>
    simp only [polygonCentroidArea, fabs_eq_abs]
    rw [foldl_add3_zero]
    simp only [beq_iff_eq, ringArea]
    rfl

theorem finishWeighted_snd (s : α × α × α) : (finishWeighted s).2 = s.2.2 := by
  unfold finishWeighted
  split_ifs with h
  · rw [beq_iff_eq] at h; exact h.symm
  · rfl

theorem finishWeighted_of_ne (s : α × α × α) (h : s.2.2 ≠ 0) :
    finishWeighted s = (⟨s.1 / s.2.2, s.2.1 / s.2.2⟩, s.2.2) := by
  simp only [finishWeighted, beq_iff_eq, if_neg h]

theorem finishWeighted_of_eq (s : α × α × α) (h : s.2.2 = 0) : finishWeighted s = (⟨0, 0⟩, 0) := by
  simp only [finishWeighted, beq_iff_eq, if_pos h]

theorem multiPolygonCentroidArea_eq (sqrt : α → α) (mp : List (List (List (Pt α)))) :
    multiPolygonCentroidArea sqrt mp = finishWeighted
      ((mp.map fun p => (polygonCentroidArea sqrt p).1.x * (polygonCentroidArea sqrt p).2).sum,
       (mp.map fun p => (polygonCentroidArea sqrt p).1.y * (polygonCentroidArea sqrt p).2).sum,
       (mp.map fun p => (polygonCentroidArea sqrt p).2).sum) :=
  congrArg finishWeighted (foldl_add3_zero _ _ _ mp)

theorem caCollLoop_foldl (sqrt : α → α) (mx : Int) (gs : List (Geom α)) (t : α × α × α) :
    centroidArea.collLoop sqrt mx gs t = gs.foldl (fun t g =>
      if dimensions g != mx then t else
        let ca := centroidArea sqrt g
        (t.1 + ca.1.x * ca.2, t.2.1 + ca.1.y * ca.2, t.2.2 + ca.2)) t :=
  accLoop_eq_foldl (centroidArea.collLoop sqrt mx) _ (fun _ => rfl)
    (fun g gs t => by rw [centroidArea.collLoop]; split_ifs <;> rfl) gs t

theorem centroidArea_collection (sqrt : α → α) (gs : List (Geom α)) :
    centroidArea sqrt (.collection gs) = finishWeighted
      (((gs.filter fun g => dimensions g == maxDim gs).map fun g => (centroidArea sqrt g).1.x * area sqrt g).sum,
       ((gs.filter fun g => dimensions g == maxDim gs).map fun g => (centroidArea sqrt g).1.y * area sqrt g).sum,
       ((gs.filter fun g => dimensions g == maxDim gs).map (area sqrt)).sum) := by
  rw [centroidArea, caCollLoop_foldl, ← foldl_add3_zero, List.foldl_filter]
  refine congrArg finishWeighted (List.foldl_ext _ _ _ fun t g _ => ?_)
  by_cases h : dimensions g = maxDim gs <;> simp [h, area]

theorem dimsMax_ge (gs : List (Geom α)) (m : Int) :
    m ≤ dimensions.dimsMax gs m ∧ ∀ g ∈ gs, dimensions g ≤ dimensions.dimsMax gs m := by
  induction gs generalizing m with
  | nil => exact ⟨le_rfl, nofun⟩
  | cons g' t ih =>
    rw [dimensions.dimsMax]
    obtain ⟨h1, h2⟩ := ih (if m < dimensions g' then dimensions g' else m)
    refine ⟨le_trans ?_ h1, fun g hg => ?_⟩
    · split_ifs with h <;> omega
    · rcases List.mem_cons.1 hg with rfl | hg
      · refine le_trans ?_ h1
        split_ifs with h <;> omega
      · exact h2 g hg

theorem dimsMax_ge_mem (gs : List (Geom α)) (m : Int) (g : Geom α) (hg : g ∈ gs) :
    dimensions g ≤ dimensions.dimsMax gs m :=
  (dimsMax_ge gs m).2 g hg

end areaLoops

section centroidLoops
variable {α : Type} [Field α] [LinearOrder α] [IsStrictOrderedRing α]

/-- with `X` a moment and `F` the fan sum: `ringCentroidArea`'s quotient (left) is moment over weight of the fan
    triangles (right, `fanTris_sums`) -/
theorem fan_div_add (X F c : α) (hF : F ≠ 0) : X / (6 * (F / 2)) + c = (X + 3 * c * F) / 6 / (F / 2) := by
  field_simp
  ring

theorem fanTris_sums (o : Pt α) (rest : List (Pt α)) :
    ((fanTris o rest).map (·.2)).sum = fan o rest / 2 ∧
    ((fanTris o rest).map fun ta => ta.1.x * ta.2).sum = (fanX o rest + 3 * o.x * fan o rest) / 6 ∧
    ((fanTris o rest).map fun ta => ta.1.y * ta.2).sum = (fanY o rest + 3 * o.y * fan o rest) / 6 := by
  induction rest with
  | nil => simp [fanTris, fan, fanX, fanY]
  | cons p t ih =>
    cases t with
    | nil => simp [fanTris, fan, fanX, fanY]
    | cons q t =>
      obtain ⟨hw, hx, hy⟩ := ih
      rw [fanTris, List.map_cons, List.map_cons, List.map_cons, List.sum_cons, List.sum_cons, List.sum_cons, hw, hx, hy,
        fan, fanX, fanY]
      exact ⟨by ring, by ring, by ring⟩

theorem multiPoint_foldl (ps : List (Pt α)) (a b : α) :
    ps.foldl (fun (s : α × α) p => (s.1 + p.x, s.2 + p.y)) (a, b) =
      (a + (ps.map (·.x)).sum, b + (ps.map (·.y)).sum) := by
  induction ps generalizing a b with
  | nil => simp
  | cons p t ih =>
    rw [List.foldl_cons, ih]
    simp only [List.map_cons, List.sum_cons, Prod.mk.injEq]
    exact ⟨by ring, by ring⟩

/-- `sqrt (dist2 ab.1 ab.2)` written out coordinate by coordinate, as `line_centroid_weighted` and
    `polygon_degenerate_centroid` (C10.lean) write their `len` -/
def segLen (sqrt : α → α) (ab : Pt α × Pt α) : α :=
  sqrt ((ab.1.x - ab.2.x) * (ab.1.x - ab.2.x) + (ab.1.y - ab.2.y) * (ab.1.y - ab.2.y))

/-- one turn of `lineCentroidLoop` -/
def lineStep (sqrt : α → α) (o : Pt α) (t : α × α × α) (e : Pt α × Pt α) : α × α × α :=
  let p1 : Pt α := ⟨e.1.x - o.x, e.1.y - o.y⟩
  let p2 : Pt α := ⟨e.2.x - o.x, e.2.y - o.y⟩
  let d := distance sqrt p1 p2
  (t.1 + (p1.x + p2.x) / 2 * d, t.2.1 + (p1.y + p2.y) / 2 * d, t.2.2 + d)

theorem lineCentroidLoop_foldl (sqrt : α → α) (o : Pt α) (l : List (Pt α)) (t : α × α × α) :
    lineCentroidLoop sqrt o l t = (pairs l).foldl (lineStep sqrt o) t :=
  LoopForms.pairLoop_foldl (lineCentroidLoop sqrt o) (fun t a b => lineStep sqrt o t (a, b)) (fun _ => rfl)
    (fun _ _ => rfl) (fun _ _ _ _ => rfl) l t

theorem lineCentroidLoop_eq (sqrt : α → α) (o a : Pt α) (t : List (Pt α)) (px py dist : α) :
    lineCentroidLoop sqrt o (a :: t) (px, py, dist) =
      (px + (((a :: t).zip t).map fun ab => ((ab.1.x + ab.2.x) / 2 - o.x) * segLen sqrt ab).sum,
       py + (((a :: t).zip t).map fun ab => ((ab.1.y + ab.2.y) / 2 - o.y) * segLen sqrt ab).sum,
       dist + (((a :: t).zip t).map (segLen sqrt)).sum) := by
  have e : ∀ ab : Pt α × Pt α, distance sqrt ⟨ab.1.x - o.x, ab.1.y - o.y⟩ ⟨ab.2.x - o.x, ab.2.y - o.y⟩ = segLen sqrt ab :=
    fun ab => congrArg sqrt (by ring)
  rw [lineCentroidLoop_foldl, ← foldl_add3]
  refine List.foldl_ext _ _ _ fun s ab _ => ?_
  simp only [lineStep, e, Prod.mk.injEq, add_right_inj, and_true]
  exact ⟨by ring, by ring⟩

theorem sum_shift {β : Type} (l : List β) (m w : β → α) (c : α) :
    (l.map fun b => (m b - c) * w b).sum = (l.map fun b => m b * w b).sum - c * (l.map w).sum := by
  simp only [sub_mul]
  rw [Contains.sum_map_sub, List.sum_map_mul_left]

theorem wmean_bound {β : Type} (l : List β) (t w : β → α) (lo hi : α)
    (hw : (∀ b ∈ l, 0 ≤ w b) ∨ (∀ b ∈ l, w b ≤ 0)) (ht : ∀ b ∈ l, lo ≤ t b ∧ t b ≤ hi)
    (hW : (l.map w).sum ≠ 0) :
    lo ≤ (l.map fun b => t b * w b).sum / (l.map w).sum ∧ (l.map fun b => t b * w b).sum / (l.map w).sum ≤ hi := by
  have hneg : ∀ f : β → α, (l.map fun b => -f b).sum = -(l.map f).sum := fun f => by
    simpa only [neg_one_mul] using List.sum_map_mul_left l f (-1)
  -- negating every weight changes neither the mean nor the hypotheses
  wlog h0 : ∀ b ∈ l, 0 ≤ w b generalizing w
  · have hw' : ∀ b ∈ l, 0 ≤ -w b := fun b hb => neg_nonneg.2 (hw.resolve_left h0 b hb)
    simpa only [mul_neg, hneg, neg_div_neg_eq] using
      this (fun b => -w b) (Or.inl hw') (by rwa [hneg, neg_ne_zero]) hw'
  have hpos : 0 < (l.map w).sum := lt_of_le_of_ne (List.sum_nonneg (List.forall_mem_map.2 h0)) hW.symm
  rw [le_div_iff₀ hpos, div_le_iff₀ hpos, ← List.sum_map_mul_left, ← List.sum_map_mul_left]
  exact ⟨List.sum_le_sum fun b hb => mul_le_mul_of_nonneg_right (ht b hb).1 (h0 b hb),
    List.sum_le_sum fun b hb => mul_le_mul_of_nonneg_right (ht b hb).2 (h0 b hb)⟩

theorem mean3_mem {lo hi a b c : α} (ha : lo ≤ a ∧ a ≤ hi) (hb : lo ≤ b ∧ b ≤ hi) (hc : lo ≤ c ∧ c ≤ hi) :
    lo ≤ (a + b + c) / 3 ∧ (a + b + c) / 3 ≤ hi := by
  have h3 : (0 : α) < 3 := by norm_num
  rw [le_div_iff₀ h3, div_le_iff₀ h3]
  constructor <;> linarith only [ha.1, ha.2, hb.1, hb.2, hc.1, hc.2]

theorem mem_fanTris (o : Pt α) (rest : List (Pt α)) (ta : Pt α × α) (h : ta ∈ fanTris o rest) :
    ∃ p q, (p, q) ∈ (o :: rest).zip rest ∧
      ta = (⟨(o.x + p.x + q.x) / 3, (o.y + p.y + q.y) / 3⟩, ((p.x - o.x) * (q.y - o.y) - (q.x - o.x) * (p.y - o.y)) / 2) := by
  -- the head of the zipped list plays no part: generalised for the induction
  suffices ∀ x : Pt α, ∃ p q, (p, q) ∈ (x :: rest).zip rest ∧
      ta = (⟨(o.x + p.x + q.x) / 3, (o.y + p.y + q.y) / 3⟩, ((p.x - o.x) * (q.y - o.y) - (q.x - o.x) * (p.y - o.y)) / 2) from
    this o
  intro x
  induction rest generalizing x with
  | nil => simp [fanTris] at h
  | cons p t ih =>
    cases t with
    | nil => simp [fanTris] at h
    | cons q t =>
      rw [fanTris, List.mem_cons] at h
      rcases h with h | h
      · exact ⟨p, q, by simp, h⟩
      · obtain ⟨p', q', hm, e⟩ := ih h p
        exact ⟨p', q', by rw [List.zip_cons_cons]; exact List.mem_cons_of_mem _ hm, e⟩

theorem mls_foldl (sqrt : α → α) (mls : List (List (Pt α))) (s : MLSAcc α) :
    mls.foldl (mlsStep sqrt) s =
      { px := s.px + ((mls.filterMap (lineStringCentroidDist sqrt)).map fun cd => cd.1.x * cd.2).sum,
        py := s.py + ((mls.filterMap (lineStringCentroidDist sqrt)).map fun cd => cd.1.y * cd.2).sum,
        fx := s.fx + ((mls.filterMap (lineStringCentroidDist sqrt)).map (·.1.x)).sum,
        fy := s.fy + ((mls.filterMap (lineStringCentroidDist sqrt)).map (·.1.y)).sum,
        dist := s.dist + ((mls.filterMap (lineStringCentroidDist sqrt)).map (·.2)).sum,
        valid := s.valid + (mls.filterMap (lineStringCentroidDist sqrt)).length } := by
  induction mls generalizing s with
  | nil => simp
  | cons l t ih =>
    rw [List.foldl_cons, ih]
    cases h : lineStringCentroidDist sqrt l with
    | none => simp [mlsStep, h]
    | some cd =>
      obtain ⟨c, d⟩ := cd
      simp only [mlsStep, h, List.filterMap_cons, List.map_cons, List.sum_cons, List.length_cons]
      congr 1 <;> ring

theorem multiLineStringCentroid_eq (sqrt : α → α) (mls : List (List (Pt α))) :
    multiLineStringCentroid sqrt mls =
      if (mls.filterMap (lineStringCentroidDist sqrt)).length = 0 then ⟨0, 0⟩
      else if ((mls.filterMap (lineStringCentroidDist sqrt)).map (·.2)).sum = 0 then
        ⟨((mls.filterMap (lineStringCentroidDist sqrt)).map (·.1.x)).sum / ((mls.filterMap (lineStringCentroidDist sqrt)).length : α),
         ((mls.filterMap (lineStringCentroidDist sqrt)).map (·.1.y)).sum / ((mls.filterMap (lineStringCentroidDist sqrt)).length : α)⟩
      else
        ⟨((mls.filterMap (lineStringCentroidDist sqrt)).map fun cd => cd.1.x * cd.2).sum /
            ((mls.filterMap (lineStringCentroidDist sqrt)).map (·.2)).sum,
         ((mls.filterMap (lineStringCentroidDist sqrt)).map fun cd => cd.1.y * cd.2).sum /
            ((mls.filterMap (lineStringCentroidDist sqrt)).map (·.2)).sum⟩ := by
  cases mls with
  | nil => rfl
  | cons l t => simp only [multiLineStringCentroid, mls_foldl, zero_add, beq_iff_eq]

end centroidLoops

end Orb.Planar
