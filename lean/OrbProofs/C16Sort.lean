/-
  C16 lemmas: the endpoint order (`before`, `lessE`, `swapE`, `sortE`), and the totality of
  `aroundBound`, which sorts its two ends with it.  Nothing rests on the slice being sorted.  What the
  stitching loop needs of it is `Static` (which piece and end a record stands for, the two ends of a piece
  linked, every end there once); `Swap` renames the slots by a transposition (`swapE_getElem?_linked`) and
  `Static` survives any such renaming (`Static.conj`), so the sort hands it through whatever `Less` answers
  (`sortE_inv`, `sorted_slice`) and returns because under it `Less` answers (`sortE_tot`).
-/
import OrbProofs.C16Tables
import Mathlib.Data.List.Basic
import Mathlib.Data.List.Nodup
import Mathlib.Data.List.Range
import Mathlib.Data.List.ProdSigma
import Mathlib.Logic.Equiv.Basic

set_option linter.unusedSectionVars false

namespace Orb.SmartClip
open Orb Orb.Core
open Orb.Res (ok_ite ok_bind)

variable {α : Type} [Field α] [LinearOrder α] [IsStrictOrderedRing α]

/-- what `Less` needs of an endpoint: it lies on a side and its piece has two points -/
def EpOK (mls : List (List (Pt α))) (e : Endpoint α) : Prop :=
  (1 ≤ e.side ∧ e.side ≤ 4) ∧ ∃ ls, mls[e.index]? = some ls ∧ 2 ≤ ls.length

/-- `OtherEnd` links the two ends of one piece -/
def LinksOK (eps : List (Endpoint α)) : Prop :=
  ∀ (k : Nat) (e : Endpoint α), eps[k]? = some e → ∃ e' : Endpoint α, eps[e.otherEnd]? = some e' ∧ e'.otherEnd = k ∧ e'.index = e.index ∧ e'.start = !e.start

/-- what the loop needs to know about the endpoint slice, whatever the `used` flags -/
structure Static (input : List (List (Pt α))) (pts : List (Endpoint α)) : Prop where
  len : pts.length = 2 * input.length
  links : LinksOK pts
  piece : ∀ (k : Nat) (e : Endpoint α), pts[k]? = some e → ∃ ls : List (Pt α), input[e.index]? = some ls ∧
    (if e.start then ls.head? = some e.point else ls.getLast? = some e.point)
  uniq : ∀ (j j' : Nat) (e e' : Endpoint α), pts[j]? = some e → pts[j']? = some e' → e.index = e'.index →
    e.start = e'.start → j = j'
  ex : ∀ m, m < input.length → ∃ (j : Nat) (e : Endpoint α), pts[j]? = some e ∧ e.index = m ∧ e.start = false

theorem Static.partner {input : List (List (Pt α))} {pts : List (Endpoint α)} (h : Static input pts)
    {k : Nat} {e : Endpoint α} (hk : pts[k]? = some e) :
    ∃ e', pts[e.otherEnd]? = some e' ∧ e'.otherEnd = k ∧ e'.index = e.index ∧ e'.start = !e.start ∧
      e.otherEnd ≠ k ∧ e.otherEnd < pts.length := by
  obtain ⟨e', h1, h2, h3, h4⟩ := h.links k e hk
  refine ⟨e', h1, h2, h3, h4, ?_, (List.getElem?_eq_some_iff.1 h1).1⟩
  intro hh
  rw [hh, hk] at h1
  cases h1
  cases hs : e.start <;> simp [hs] at h4

theorem Static.slot_iff {input : List (List (Pt α))} {pts : List (Endpoint α)} (hS : Static input pts) {j k : Nat}
    {e ep : Endpoint α} (hj : pts[j]? = some e) (hk : pts[k]? = some ep) :
    j = k ↔ e.index = ep.index ∧ e.start = ep.start :=
  ⟨fun h => by subst h; rw [hj] at hk; cases hk; exact ⟨rfl, rfl⟩, fun h => hS.uniq _ _ _ _ hj hk h.1 h.2⟩

/-- the same statement as `ptEq_iff` (C16Tables) -/
theorem ptEqB_iff (p q : Pt α) : Core.ptEq p q = true ↔ p = q := ptEq_iff p q

theorem pointSide_range' (box : Bound α) (p : Pt α) :
    (1 ≤ pointSide box p ∧ pointSide box p ≤ 4) ∨ pointSide box p = notOnSide := by
  unfold pointSide
  split_ifs <;> simp

theorem pointSide_onBoundary (box : Bound α) (p : Pt α) (h : OnBoundary box p) :
    1 ≤ pointSide box p ∧ pointSide box p ≤ 4 :=
  (pointSide_range' box p).resolve_right fun e => (pointSide_eq_notOnSide_iff box p).1 e h.2

theorem bitCodeOpen_onBoundary' (box : Bound α) (p : Pt α) (h : OnBoundary box p) : bitCodeOpen box p ≠ 0 := by
  -- code 0 means strictly between the box lines on both axes
  rw [bitCodeOpen_code4, Ne, Clip.code4_eq_zero]
  simp only [decide_eq_false_iff_not, not_le, ge_iff_le]
  rintro ⟨h1, h2, h3, h4⟩
  rcases h.2 with h | h | h | h
  · exact absurd h.le (not_le.2 h1)
  · exact absurd h.ge (not_le.2 h2)
  · exact absurd h.le (not_le.2 h3)
  · exact absurd h.ge (not_le.2 h4)

theorem before_ok (mls : List (List (Pt α))) (e : Endpoint α) (h : EpOK mls e) :
    ∃ p, before mls e = .ok p := by
  obtain ⟨_, ls, hls, h2⟩ := h
  unfold before
  rw [hls]
  simp only
  split_ifs with hs hlt
  · have : 1 < ls.length := by omega
    rw [List.getElem?_eq_getElem this]
    exact ⟨_, rfl⟩
  · omega
  · have : ls.length - 2 < ls.length := by omega
    rw [List.getElem?_eq_getElem this]
    exact ⟨_, rfl⟩

/-- `Less` answers as soon as both `Before` calls do and the first endpoint lies on a side: every
    other branch of the comparison is a plain value.  (Branch by branch with `ok_ite`: `split_ifs` on
    the whole comparison is slow.) -/
theorem lessE_ok_of_before {mls : List (List (Pt α))} {a b : Endpoint α} {pa pb : Pt α}
    (ha : before mls a = .ok pa) (hb : before mls b = .ok pb) (hs : 1 ≤ a.side ∧ a.side ≤ 4) :
    ∃ r, lessE mls a b = .ok r := by
  unfold lessE
  rw [ha, hb]
  refine ok_ite ⟨_, rfl⟩ fun _ => ok_ite ⟨_, rfl⟩ fun _ => ?_
  refine ok_ite (ok_ite ⟨_, rfl⟩ fun _ => ⟨_, rfl⟩) fun c1 => ?_
  refine ok_ite (ok_ite ⟨_, rfl⟩ fun _ => ⟨_, rfl⟩) fun c2 => ?_
  refine ok_ite (ok_ite ⟨_, rfl⟩ fun _ => ⟨_, rfl⟩) fun c3 => ?_
  refine ok_ite (ok_ite ⟨_, rfl⟩ fun _ => ⟨_, rfl⟩) fun c4 => ?_
  simp only [beq_iff_eq] at c1 c2 c3 c4
  omega

theorem lessE_ok_of_epOK (mls : List (List (Pt α))) (a b : Endpoint α) (ha : EpOK mls a) (hb : EpOK mls b) :
    ∃ r, lessE mls a b = .ok r := by
  obtain ⟨pa, hpa⟩ := before_ok mls a ha
  obtain ⟨pb, hpb⟩ := before_ok mls b hb
  exact lessE_ok_of_before hpa hpb ha.1

/-- the `panic("unreachable")` at the end of `Less`: reached when neither endpoint lies on a side of the box -/
theorem lessE_unreachable' (mls : List (List (Pt α))) (a b : Endpoint α)
    (h : a.side = notOnSide ∧ b.side = notOnSide) : lessE mls a b = .panic "unreachable" := by
  unfold lessE
  simp [h.1, h.2, notOnSide]


theorem swapE_length (eps : List (Endpoint α)) (i j : Nat) : (swapE eps i j).length = eps.length := by
  unfold swapE
  split
  · simp only
    split <;> simp
  · rfl

/-- what `Swap(i, j)` does to the record that sits in slot `k` before the exchange -/
def updE (i j oa ob k : Nat) (e : Endpoint α) : Endpoint α :=
  if ob = k then { e with otherEnd := i } else if oa = k then { e with otherEnd := j } else e

theorem swapE_getElem? (eps : List (Endpoint α)) (i j : Nat) (hi : i < eps.length) (hj : j < eps.length) (k : Nat) :
    (swapE eps i j)[k]? =
      (eps[Equiv.swap i j k]?).map (updE i j eps[i].otherEnd eps[j].otherEnd (Equiv.swap i j k)) := by
  unfold swapE
  rw [List.getElem?_eq_getElem hi, List.getElem?_eq_getElem hj]
  simp only
  generalize he2 : List.modify (List.modify eps eps[i].otherEnd fun e => { e with otherEnd := j }) eps[j].otherEnd
    (fun e => { e with otherEnd := i }) = e2
  have hk2 : ∀ k, e2[k]? = (eps[k]?).map (updE i j eps[i].otherEnd eps[j].otherEnd k) := by
    intro k
    rw [← he2, List.getElem?_modify, List.getElem?_modify]
    cases eps[k]? with
    | none => rfl
    | some e =>
      simp only [Option.map_eq_map, Option.map_some, Option.some.injEq]
      unfold updE
      split_ifs <;> rfl
  have hl : e2.length = eps.length := by rw [← he2]; simp
  have hi2 : i < e2.length := by omega
  have hj2 : j < e2.length := by omega
  rw [List.getElem?_eq_getElem hi2, List.getElem?_eq_getElem hj2]
  simp only
  rw [List.getElem?_set, List.getElem?_set]
  simp only [List.length_set]
  rw [Equiv.swap_comm, Equiv.swap_apply_def]
  by_cases h1 : k = j
  · subst h1
    simp only [if_true, hi2, hj2, ← hk2]
    rw [List.getElem?_eq_getElem hi2]
  · by_cases h2 : k = i
    · subst h2
      have : ¬ j = k := fun h => h1 h.symm
      simp only [this, if_false, if_true, hi2, ← hk2, h1]
      rw [List.getElem?_eq_getElem hj2]
    · have h1' : ¬ j = k := fun h => h1 h.symm
      have h2' : ¬ i = k := fun h => h2 h.symm
      simp only [h1, h2, h1', h2', if_false, hk2]

theorem forall_swapE {Q : Endpoint α → Prop} (hQ : ∀ e o, Q e → Q { e with otherEnd := o }) {eps : List (Endpoint α)}
    {i j : Nat} (hi : i < eps.length) (hj : j < eps.length) (h : ∀ e ∈ eps, Q e) : ∀ e ∈ swapE eps i j, Q e := by
  intro e he
  obtain ⟨k, hk⟩ := List.getElem?_of_mem he
  rw [swapE_getElem? eps i j hi hj] at hk
  cases h0 : eps[Equiv.swap i j k]? with
  | none => rw [h0] at hk; cases hk
  | some e0 =>
    rw [h0] at hk; cases hk
    unfold updE
    split_ifs
    · exact hQ _ _ (h e0 (List.mem_of_getElem? h0))
    · exact hQ _ _ (h e0 (List.mem_of_getElem? h0))
    · exact h e0 (List.mem_of_getElem? h0)

/-- On a linked slice `Swap(i, j)` is conjugation by the transposition of `i` and `j`: the records of the
    two slots change places and every link is renamed.  (The two writes `eps[eps[i].OtherEnd].OtherEnd = j`,
    `eps[eps[j].OtherEnd].OtherEnd = i` rename exactly the links to `i` and `j`, because a slot is linked to
    from its partner only.) -/
theorem swapE_getElem?_linked (eps : List (Endpoint α)) (i j : Nat) (hi : i < eps.length) (hj : j < eps.length)
    (h : LinksOK eps) (k : Nat) :
    (swapE eps i j)[k]? = (eps[Equiv.swap i j k]?).map fun e => { e with otherEnd := Equiv.swap i j e.otherEnd } := by
  rw [swapE_getElem? eps i j hi hj]
  cases hk0 : eps[Equiv.swap i j k]? with
  | none => rfl
  | some e0 =>
    obtain ⟨a', ha1, ha2, -, -⟩ := h i eps[i] (List.getElem?_eq_getElem hi)
    obtain ⟨b', hb1, hb2, -, -⟩ := h j eps[j] (List.getElem?_eq_getElem hj)
    obtain ⟨e0', h1, h2, -, -⟩ := h _ e0 hk0
    simp only [Option.map_some, Option.some.injEq]
    unfold updE
    split_ifs with c1 c2
    · rw [c1, hk0] at hb1; cases hb1
      simp [hb2]
    · rw [c2, hk0] at ha1; cases ha1
      simp [ha2]
    · have n1 : e0.otherEnd ≠ i := fun hc => c2 (by
        rw [hc, List.getElem?_eq_getElem hi] at h1; cases h1; exact h2)
      have n2 : e0.otherEnd ≠ j := fun hc => c1 (by
        rw [hc, List.getElem?_eq_getElem hj] at h1; cases h1; exact h2)
      simp [Equiv.swap_apply_of_ne_of_ne n1 n2]

/-- `Static` does not depend on how the slots are numbered: it survives a renaming of the slots by an involution. -/
theorem Static.conj {input : List (List (Pt α))} {pts pts' : List (Endpoint α)} (σ : Nat → Nat) (hσ : ∀ k, σ (σ k) = k)
    (hlen : pts'.length = pts.length)
    (h : ∀ k, pts'[k]? = (pts[σ k]?).map fun e => { e with otherEnd := σ e.otherEnd })
    (hS : Static input pts) : Static input pts' := by
  have back : ∀ {k e}, pts'[k]? = some e → ∃ e0, pts[σ k]? = some e0 ∧ e = { e0 with otherEnd := σ e0.otherEnd } := by
    intro k e hk
    rw [h] at hk
    cases h0 : pts[σ k]? with
    | none => rw [h0] at hk; cases hk
    | some e0 => rw [h0] at hk; exact ⟨e0, rfl, by cases hk; rfl⟩
  refine ⟨hlen.trans hS.len, ?_, ?_, ?_, ?_⟩
  · intro k e hk
    obtain ⟨e0, h0, rfl⟩ := back hk
    obtain ⟨e1, h1, h2, h3, h4⟩ := hS.links _ e0 h0
    refine ⟨{ e1 with otherEnd := σ e1.otherEnd }, ?_, ?_, h3, h4⟩
    · show pts'[σ e0.otherEnd]? = _
      rw [h, hσ, h1]; rfl
    · show σ e1.otherEnd = k
      rw [h2, hσ]
  · intro k e hk
    obtain ⟨e0, h0, rfl⟩ := back hk
    exact hS.piece _ e0 h0
  · intro j j' e e' hj hj' hi hs
    obtain ⟨e0, h0, rfl⟩ := back hj
    obtain ⟨e0', h0', rfl⟩ := back hj'
    rw [← hσ j, hS.uniq _ _ _ _ h0 h0' hi hs, hσ]
  · intro m hm
    obtain ⟨j, e, hj, hi, hs⟩ := hS.ex m hm
    exact ⟨σ j, { e with otherEnd := σ e.otherEnd }, by rw [h, hσ, hj]; rfl, hi, hs⟩

/-- the endpoint slice as the stitching loop needs it at its start: `Static`, no endpoint used, every side as
    `pointSide` says -/
def Slice (box : Bound α) (input : List (List (Pt α))) (pts : List (Endpoint α)) : Prop :=
  Static input pts ∧ ∀ e ∈ pts, e.used = false ∧ e.side = pointSide box e.point

theorem Slice.swap {box : Bound α} {input : List (List (Pt α))} {pts : List (Endpoint α)} {i j : Nat}
    (h : Slice box input pts) (hi : i < pts.length) (hj : j < pts.length) :
    Slice box input (swapE pts i j) :=
  ⟨Static.conj (Equiv.swap i j) (Equiv.swap_apply_self i j) (swapE_length ..) (swapE_getElem?_linked pts i j hi hj h.1.links) h.1,
    forall_swapE (fun _ _ h => h) hi hj h.2⟩

theorem lessIdx_ok_lt {mls : List (List (Pt α))} {rev : Bool} {eps : List (Endpoint α)} {i j : Nat} {b : Bool}
    (h : lessIdx mls rev eps i j = .ok b) : i < eps.length ∧ j < eps.length := by
  unfold lessIdx at h
  split at h
  · rename_i a b ha hb
    exact ⟨(List.getElem?_eq_some_iff.mp ha).1, (List.getElem?_eq_some_iff.mp hb).1⟩
  · cases h

theorem sortInner_inv (P : List (Endpoint α) → Prop)
    (hP : ∀ eps i j, i < eps.length → j < eps.length → P eps → P (swapE eps i j))
    (mls : List (List (Pt α))) (rev : Bool) :
    ∀ (j : Nat) (eps eps' : List (Endpoint α)), sortInner mls rev j eps = .ok eps' → P eps → P eps' := by
  intro j
  induction j with
  | zero =>
    intro eps eps' h hp
    simp only [sortInner, Res.ok.injEq] at h
    exact h ▸ hp
  | succ j ih =>
    intro eps eps' h hp
    simp only [sortInner] at h
    obtain ⟨b, hb, h⟩ := Res.bind_eq_ok h
    obtain ⟨h1, h2⟩ := lessIdx_ok_lt hb
    cases b with
    | true =>
      simp only [if_true] at h
      exact ih _ _ h (hP _ _ _ h1 h2 hp)
    | false =>
      simp only [Bool.false_eq_true, if_false, pure, Res.ok.injEq] at h
      exact h ▸ hp

theorem sortE_inv (P : List (Endpoint α) → Prop)
    (hP : ∀ eps i j, i < eps.length → j < eps.length → P eps → P (swapE eps i j))
    (mls : List (List (Pt α))) (rev : Bool) (eps eps' : List (Endpoint α))
    (h : sortE mls rev eps = .ok eps') (hp : P eps) : P eps' := by
  unfold sortE at h
  exact foldlM_res_inv P _ _ _ _ (fun a i _ b hab => sortInner_inv P hP mls rev i a b hab) h hp

theorem lessIdx_ok (mls : List (List (Pt α))) (rev : Bool) (eps : List (Endpoint α)) (i j : Nat)
    (hi : i < eps.length) (hj : j < eps.length) (h : ∀ e ∈ eps, EpOK mls e) :
    ∃ b, lessIdx mls rev eps i j = .ok b := by
  unfold lessIdx
  rw [List.getElem?_eq_getElem hi, List.getElem?_eq_getElem hj]
  simp only
  split_ifs
  · exact lessE_ok_of_epOK _ _ _ (h _ (List.getElem_mem _)) (h _ (List.getElem_mem _))
  · exact lessE_ok_of_epOK _ _ _ (h _ (List.getElem_mem _)) (h _ (List.getElem_mem _))

theorem sortInner_tot {mls : List (List (Pt α))} {rev : Bool} (P : List (Endpoint α) → Prop)
    (hP : ∀ eps i j, i < eps.length → j < eps.length → P eps → P (swapE eps i j))
    (hL : ∀ eps, P eps → ∀ e ∈ eps, EpOK mls e) :
    ∀ (j : Nat) (eps : List (Endpoint α)), j < eps.length → P eps →
      ∃ eps', sortInner mls rev j eps = .ok eps' ∧ P eps' ∧ eps'.length = eps.length := by
  intro j
  induction j with
  | zero => intro eps _ h; exact ⟨_, rfl, h, rfl⟩
  | succ j ih =>
    intro eps hj h
    obtain ⟨b, hb⟩ := lessIdx_ok mls rev eps (j+1) j hj (by omega) (hL eps h)
    simp only [sortInner, hb, res_ok_bind]
    cases b with
    | true =>
      obtain ⟨eps', h1, h2, h3⟩ := ih (swapE eps (j+1) j) (by rw [swapE_length]; omega) (hP _ _ _ hj (by omega) h)
      exact ⟨eps', h1, h2, h3.trans (swapE_length ..)⟩
    | false => exact ⟨_, rfl, h, rfl⟩

theorem sortE_tot {mls : List (List (Pt α))} {rev : Bool} (P : List (Endpoint α) → Prop)
    (hP : ∀ eps i j, i < eps.length → j < eps.length → P eps → P (swapE eps i j))
    (hL : ∀ eps, P eps → ∀ e ∈ eps, EpOK mls e) (eps : List (Endpoint α)) (h : P eps) :
    ∃ eps', sortE mls rev eps = .ok eps' ∧ P eps' := by
  obtain ⟨out, ho, hP', -⟩ := foldlM_res_tot (fun l : List (Endpoint α) => P l ∧ l.length = eps.length)
    (fun e i => sortInner mls rev i e) (List.range' 1 (eps.length - 1)) eps ⟨h, rfl⟩ fun a ⟨ha, hal⟩ i hi => by
      obtain ⟨b, h1, h2, h3⟩ := sortInner_tot P hP hL i a (by rw [List.mem_range'_1] at hi; omega) ha
      exact ⟨b, h1, h2, h3.trans hal⟩
  exact ⟨out, ho, hP'⟩

/-- the two endpoint records of piece `r` with index `k`: its start, then its end (none for an empty piece) -/
def pieceEnds (box : Bound α) (r : List (Pt α)) (k : Nat) : List (Endpoint α) :=
  match r.head?, r.getLast? with
  | some f, some l =>
    [{ point := f, start := true, used := false, side := pointSide box f, index := k, otherEnd := 2*k+1 },
     { point := l, start := false, used := false, side := pointSide box l, index := k, otherEnd := 2*k }]
  | _, _ => []

/-- the endpoint slice before sorting -/
def endsOf (box : Bound α) (i : Nat) (input : List (List (Pt α))) : List (Endpoint α) :=
  (input.zipIdx i).flatMap fun p => pieceEnds box p.1 p.2

theorem mkEndpoints_iff {box : Bound α} : ∀ (input : List (List (Pt α))) (i : Nat) (eps : List (Endpoint α)),
    mkEndpoints box i input = .ok eps ↔ (∀ r ∈ input, r ≠ []) ∧ eps = endsOf box i input := by
  intro input
  induction input with
  | nil =>
    intro i eps
    exact ⟨fun h => ⟨nofun, by cases h; rfl⟩, fun h => by rw [h.2]; rfl⟩
  | cons r rest ih =>
    intro i eps
    rw [mkEndpoints, endsOf, List.zipIdx_cons, List.flatMap_cons, pieceEnds]
    cases r with
    | nil => exact ⟨nofun, fun h => absurd rfl (h.1 [] List.mem_cons_self)⟩
    | cons f t =>
      obtain ⟨l, hl⟩ : ∃ l, (f :: t).getLast? = some l := ⟨_, List.getLast?_eq_some_getLast (List.cons_ne_nil f t)⟩
      simp only [List.head?_cons, hl, List.forall_mem_cons, ne_eq, reduceCtorEq, not_false_eq_true, true_and]
      constructor
      · intro h
        obtain ⟨tl, htl, h⟩ := Res.bind_eq_ok h
        obtain ⟨hne, rfl⟩ := (ih (i+1) tl).1 htl
        cases h
        exact ⟨hne, rfl⟩
      · rintro ⟨hne, rfl⟩
        rw [(ih (i+1) _).2 ⟨hne, rfl⟩]
        rfl

theorem pieceEnds_of_ne {box : Bound α} {r : List (Pt α)} (hr : r ≠ []) (k : Nat) : ∃ f l,
    r.head? = some f ∧ r.getLast? = some l ∧ pieceEnds box r k =
      [{ point := f, start := true, used := false, side := pointSide box f, index := k, otherEnd := 2*k+1 },
       { point := l, start := false, used := false, side := pointSide box l, index := k, otherEnd := 2*k }] := by
  cases r with
  | nil => exact absurd rfl hr
  | cons f t =>
    refine ⟨f, _, rfl, List.getLast?_eq_some_getLast (List.cons_ne_nil f t), ?_⟩
    rw [pieceEnds, List.getLast?_eq_some_getLast (List.cons_ne_nil f t)]
    rfl

theorem mem_endsOf {box : Bound α} {input : List (List (Pt α))} (hne : ∀ r ∈ input, r ≠ []) {e : Endpoint α}
    (he : e ∈ endsOf box 0 input) : e.used = false ∧ e.side = pointSide box e.point ∧
      ∃ ls, input[e.index]? = some ls ∧ (if e.start then ls.head? = some e.point else ls.getLast? = some e.point) := by
  obtain ⟨⟨r, k⟩, hp, he⟩ := List.mem_flatMap.1 he
  have hr : input[k]? = some r := List.mem_zipIdx_iff_getElem?.1 hp
  obtain ⟨f, l, hf, hl, hE⟩ := pieceEnds_of_ne (box := box) (hne r (List.mem_of_getElem? hr)) k
  rw [hE] at he
  simp only [List.mem_cons, List.not_mem_nil, or_false] at he
  rcases he with rfl | rfl
  · exact ⟨rfl, rfl, r, hr, hf⟩
  · exact ⟨rfl, rfl, r, hr, hl⟩

/-- which end of which piece a record stands for -/
def keyOf (e : Endpoint α) : Nat × Bool := (e.index, e.start)

theorem endsOf_keys {box : Bound α} {input : List (List (Pt α))} (hne : ∀ r ∈ input, r ≠ []) (i : Nat) :
    (endsOf box i input).map keyOf = List.range' i input.length ×ˢ [true, false] := by
  show _ = (List.range' i input.length).flatMap fun m => [true, false].map (Prod.mk m)
  rw [← List.zipIdx_map_snd i input, List.flatMap_map, endsOf, List.map_flatMap]
  refine List.flatMap_congr fun p hp => ?_
  obtain ⟨f, l, _, _, hE⟩ := pieceEnds_of_ne (box := box) (hne p.1 (by rw [(List.mem_zipIdx hp).2.2]; exact List.getElem_mem _)) p.2
  rw [hE]; rfl

theorem endsOf_length {box : Bound α} {input : List (List (Pt α))} (hne : ∀ r ∈ input, r ≠ []) (i : Nat) :
    (endsOf box i input).length = 2 * input.length := by
  rw [← List.length_map (f := keyOf), endsOf_keys hne i, List.length_product, List.length_range', Nat.mul_comm]
  rfl

theorem endsOf_concat (box : Bound α) (input : List (List (Pt α))) (r : List (Pt α)) :
    endsOf box 0 (input ++ [r]) = endsOf box 0 input ++ pieceEnds box r input.length := by
  simp [endsOf, List.zipIdx_append, List.flatMap_append]

theorem LinksOK.concat {pts : List (Endpoint α)} (h : LinksOK pts) {a b : Endpoint α}
    (ha : a.otherEnd = pts.length + 1) (hb : b.otherEnd = pts.length) (hi : b.index = a.index)
    (hs : b.start = !a.start) : LinksOK (pts ++ [a, b]) := by
  have h0 : (pts ++ [a, b])[pts.length]? = some a := by simp
  have h1 : (pts ++ [a, b])[pts.length + 1]? = some b := by simp
  intro k e hk
  rcases Nat.lt_or_ge k pts.length with hlt | hge
  · rw [List.getElem?_append_left hlt] at hk
    obtain ⟨e', h1, h2⟩ := h k e hk
    exact ⟨e', by rw [List.getElem?_append_left (List.getElem?_eq_some_iff.1 h1).1]; exact h1, h2⟩
  · obtain ⟨d, rfl⟩ := Nat.exists_eq_add_of_le hge
    match d with
    | 0 => cases h0.symm.trans hk; exact ⟨b, ha ▸ h1, hb, hi, hs⟩
    | 1 => cases h1.symm.trans hk; exact ⟨a, hb ▸ h0, ha, hi.symm, by rw [hs]; simp⟩
    | d + 2 => simp at hk

theorem endsOf_links {box : Bound α} {input : List (List (Pt α))} (hne : ∀ r ∈ input, r ≠ []) :
    LinksOK (endsOf box 0 input) := by
  induction input using List.reverseRecOn with
  | nil => intro k e hk; cases hk
  | append_singleton input r ih =>
    have hne' : ∀ x ∈ input, x ≠ [] := fun x hx => hne x (List.mem_append_left _ hx)
    obtain ⟨f, l, _, _, hE⟩ := pieceEnds_of_ne (box := box) (hne r (by simp)) input.length
    have hlen := endsOf_length (box := box) hne' 0
    rw [endsOf_concat, hE]
    exact (ih hne').concat (by rw [hlen]) (by rw [hlen]) rfl rfl

theorem endsOf_slice {box : Bound α} {input : List (List (Pt α))} (hne : ∀ r ∈ input, r ≠ []) :
    Slice box input (endsOf box 0 input) := by
  have hnd : ((endsOf box 0 input).map keyOf).Nodup := by
    rw [endsOf_keys hne]; exact (List.nodup_range' 1).product (by decide)
  refine ⟨⟨endsOf_length hne 0, endsOf_links hne, fun k e hk => (mem_endsOf hne (List.mem_of_getElem? hk)).2.2, ?_, ?_⟩,
    fun e he => ⟨(mem_endsOf hne he).1, (mem_endsOf hne he).2.1⟩⟩
  · intro j j' e e' hj hj' hi hs
    refine (List.getElem?_inj (by rw [List.length_map]; exact (List.getElem?_eq_some_iff.1 hj).1) hnd).1 ?_
    rw [List.getElem?_map, List.getElem?_map, hj, hj']
    exact congrArg some (Prod.ext hi hs)
  · intro m hm
    have : (m, false) ∈ (endsOf box 0 input).map keyOf := by
      rw [endsOf_keys hne, List.mem_product, List.mem_range'_1]
      exact ⟨by omega, by simp⟩
    obtain ⟨e, he, hk⟩ := List.mem_map.1 this
    obtain ⟨j, hj⟩ := List.getElem?_of_mem he
    exact ⟨j, e, hj, congrArg Prod.fst hk, congrArg Prod.snd hk⟩

theorem sorted_slice {box : Bound α} {input : List (List (Pt α))} {rev : Bool} {pts sorted : List (Endpoint α)}
    (h1 : mkEndpoints box 0 input = .ok pts) (h2 : sortE input rev pts = .ok sorted) : Slice box input sorted := by
  obtain ⟨hne, rfl⟩ := (mkEndpoints_iff input 0 pts).1 h1
  exact sortE_inv (Slice box input) (fun _ _ _ hi hj h => h.swap hi hj) input rev _ sorted h2 (endsOf_slice hne)

/-- the comparison of the two ends in `aroundBound` is a sort of two endpoints of the one piece `inp` -/
theorem aroundEarly_ok (box : Bound α) (inp : List (Pt α)) (o : Int) (f l : Pt α) (h2 : 2 ≤ inp.length)
    (hfb : OnBoundary box f) (hlb : OnBoundary box l) : ∃ e, aroundEarly box inp o f l = .ok e := by
  unfold aroundEarly
  refine ok_ite (ok_bind ((sortE_tot (mls := [inp]) (rev := o != CCW) (fun l => ∀ e ∈ l, EpOK [inp] e)
      (fun _ _ _ hi hj h => forall_swapE (fun _ _ h => h) hi hj h) (fun _ h => h) _ ?_).imp fun _ h => h.1)
    fun s _ => by cases s <;> exact ⟨_, rfl⟩) fun _ => ⟨_, rfl⟩
  intro e he
  simp only [List.mem_cons, List.not_mem_nil, or_false] at he
  rcases he with rfl | rfl
  · exact ⟨pointSide_onBoundary box f hfb, inp, rfl, h2⟩
  · exact ⟨pointSide_onBoundary box l hlb, inp, rfl, h2⟩

theorem aroundBound_total' (box : Bound α) (inp : List (Pt α)) (o : Int) (f l : Pt α)
    (ho : o = CW ∨ o = CCW) (h2 : 2 ≤ inp.length)
    (hf : inp.head? = some f) (hl : inp.getLast? = some l) (hfb : OnBoundary box f) (hlb : OnBoundary box l) :
    ∃ out, aroundBound box inp o = .ok out := by
  have h0 := Int.natCast_ne_zero.2 (bitCodeOpen_onBoundary' box f hfb)
  have h1 := Int.natCast_ne_zero.2 (bitCodeOpen_onBoundary' box l hlb)
  rw [aroundBound_unfold box inp o f l hf hl ho,
    if_neg (by simp only [Bool.or_eq_true, beq_iff_eq, not_or]; exact ⟨h0, h1⟩)]
  refine ok_bind (aroundEarly_ok box inp o f l h2 hfb hlb) fun e _ =>
    ok_ite (ok_ite ⟨_, rfl⟩ fun _ => ⟨_, rfl⟩) fun _ => ?_
  -- the walk round the table from the code of `l` to the code of `f` ends within the fuel
  obtain ⟨c, cs, hc, hcs, _, _, hmem, _⟩ := walkOK_elim (walk_table o (by rcases ho with rfl | rfl <;> simp) _
    ((bitCodeOpen_mem box f).resolve_left h0) _ ((bitCodeOpen_mem box l).resolve_left h1))
  rw [hc, res_ok_bind]
  exact ok_bind (aroundLoop_complete box (nexts o) _ 16 c inp cs hcs hmem) fun _ _ => ⟨_, rfl⟩

end Orb.SmartClip
