/-
  The sixteen region codes of clip/clip.go as a table: `code4`, the code as a function of the four comparisons that
  `bitCode` and `bitCodeOpen` make, the number of set bits `bitCount`, and the facts about codes below 16 that the
  proofs of the two loops and of smartclip's walk round the box use, each by evaluation of the table.  Nothing is
  assumed of the coordinate type.
-/
import Orb.Clip
import Mathlib.Tactic.ByContra

set_option linter.unusedSectionVars false

namespace Orb.Clip
open Orb Orb.Core Generated.Params

variable {α : Type} [Add α] [Sub α] [Mul α] [Div α] [LT α] [LE α] [DecidableLT α] [DecidableLE α] [BEq α]
  [Min α] [Max α]

/-- number of bits among the four edge bits -/
def bitCount (c : Nat) : Nat := c % 2 + c / 2 % 2 + c / 4 % 2 + c / 8 % 2

/-- a region code as a function of the four comparisons, in the order `bitCode` makes them -/
def code4 (l r b t : Bool) : Nat :=
  (if l then 1 else if r then 2 else 0) ||| (if b then 4 else if t then 8 else 0)

theorem bitCode_eq_code4 (box : Bound α) (p : Pt α) :
    bitCode box p = code4 (decide (p.x < box.lo.x)) (decide (p.x > box.hi.x))
      (decide (p.y < box.lo.y)) (decide (p.y > box.hi.y)) := by
  simp only [bitCode, code4, decide_eq_true_eq, clip_codeLeft, clip_codeRight, clip_codeBottom, clip_codeTop]

theorem bitCodeOpen_eq_code4 (box : Bound α) (p : Pt α) :
    bitCodeOpen box p = code4 (decide (p.x ≤ box.lo.x)) (decide (p.x ≥ box.hi.x))
      (decide (p.y ≤ box.lo.y)) (decide (p.y ≥ box.hi.y)) := by
  simp only [bitCodeOpen, code4, decide_eq_true_eq, clip_codeLeft, clip_codeRight, clip_codeBottom,
    clip_codeTop]

theorem code4_lt16 : ∀ l r b t, code4 l r b t < 16 := by decide

/-- at most one bit per axis -/
theorem bitCount_code4_le : ∀ l r b t, bitCount (code4 l r b t) ≤ 2 := by decide

/-- which comparison sets which bit: the second test of an axis is only made when the first fails -/
theorem code4_bits : ∀ l r b t,
    (code4 l r b t &&& 1 ≠ 0 ↔ l = true) ∧ (code4 l r b t &&& 2 ≠ 0 ↔ l = false ∧ r = true) ∧
    (code4 l r b t &&& 4 ≠ 0 ↔ b = true) ∧ (code4 l r b t &&& 8 ≠ 0 ↔ b = false ∧ t = true) := by decide

theorem code4_eq_zero : ∀ l r b t,
    code4 l r b t = 0 ↔ l = false ∧ r = false ∧ b = false ∧ t = false := by decide

theorem bitCode_lt16 (box : Bound α) (p : Pt α) : bitCode box p < 16 :=
  bitCode_eq_code4 box p ▸ code4_lt16 _ _ _ _

theorem bitCodeOpen_lt16 (box : Bound α) (p : Pt α) : bitCodeOpen box p < 16 :=
  bitCodeOpen_eq_code4 box p ▸ code4_lt16 _ _ _ _

theorem bitCount_bitCode_le (box : Bound α) (p : Pt α) : bitCount (bitCode box p) ≤ 2 :=
  bitCode_eq_code4 box p ▸ bitCount_code4_le _ _ _ _

theorem bitCount_bitCodeOpen_le (box : Bound α) (p : Pt α) : bitCount (bitCodeOpen box p) ≤ 2 :=
  bitCodeOpen_eq_code4 box p ▸ bitCount_code4_le _ _ _ _

/-- below the fuel of 8 rounds that `lineStep` gives the inner loop -/
theorem bitCount_lt_eight (c : Nat) : bitCount c < 8 := by
  unfold bitCount; omega

theorem bitCount_or_le : ∀ c < 16, ∀ c' < 16, bitCount (c ||| c') ≤ bitCount c + bitCount c' := by decide

theorem bitCount_or_gt : ∀ c < 16, ∀ c' < 16, c ≠ 0 → c &&& c' = 0 → bitCount c' < bitCount (c ||| c') := by
  decide

theorem bitCount_eq_zero : ∀ c < 16, bitCount c = 0 → c = 0 := by decide

theorem bits_first : ∀ c < 16, c ≠ 0 →
    c &&& 8 ≠ 0 ∨ (c &&& 8 = 0 ∧ c &&& 4 ≠ 0) ∨ (c &&& 8 = 0 ∧ c &&& 4 = 0 ∧ c &&& 2 ≠ 0) ∨
      (c &&& 8 = 0 ∧ c &&& 4 = 0 ∧ c &&& 2 = 0 ∧ c &&& 1 ≠ 0) := by decide

theorem and_eq_zero_iff_bits : ∀ c < 16, ∀ c' < 16,
    (c &&& c' = 0 ↔ ∀ k ∈ [8, 4, 2, 1], c &&& k = 0 ∨ c' &&& k = 0) := by decide

theorem bits_common (c : Nat) (hc : c < 16) (c' : Nat) (hc' : c' < 16) (h : c &&& c' ≠ 0) :
    ∃ k ∈ [8, 4, 2, 1], c &&& k ≠ 0 ∧ c' &&& k ≠ 0 := by
  by_contra hn
  refine h ((and_eq_zero_iff_bits c hc c' hc').2 fun k hk => ?_)
  by_contra hk'
  exact hn ⟨k, hk, not_or.1 hk'⟩

theorem and_ne_zero_of_bits (c : Nat) (hc : c < 16) (c' : Nat) (hc' : c' < 16) (k : Nat) (hk : k ∈ [8, 4, 2, 1])
    (h : c &&& k ≠ 0) (h' : c' &&& k ≠ 0) : c &&& c' ≠ 0 :=
  fun h0 => ((and_eq_zero_iff_bits c hc c' hc').1 h0 k hk).elim h h'

theorem bits_disj (c : Nat) (hc : c < 16) (c' : Nat) (hc' : c' < 16) (h : c &&& c' = 0) (k : Nat)
    (hk : k ∈ [8, 4, 2, 1]) (hck : c &&& k ≠ 0) : c' &&& k = 0 :=
  by_contra fun h' => and_ne_zero_of_bits c hc c' hc' k hk hck h' h

theorem bitCount_lt_of_bits : ∀ c < 16, ∀ d < 16, (∀ j ∈ [8, 4, 2, 1], c &&& j ≠ 0 → d &&& j ≠ 0) →
    c ≠ d → bitCount c < bitCount d := by decide

end Orb.Clip
