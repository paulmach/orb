/-
  C16 lemmas: what `smartclip` relies on from the open-bound line clipper `Clip.line box true`
  (model of clip/clip.go): it never gets stuck, every piece has at least two points inside the closed
  box, starts on the boundary unless it starts at a first vertex strictly inside, and ends on the
  boundary unless it ends at a last vertex strictly inside (`LineSpec`).  Read off the relation
  `Clip.Pieces` between the vertex list and the pieces (OrbProofs/ClipLoop.lean): a piece starts where a
  segment is accepted whose predecessor was rejected or left the box, and such a start has a region code,
  hence lies on an edge line.

  `LE` is the namespace of smartclip's own copies of the line-clipping vocabulary: its box predicates and `LE.OnEdge`
  (OrbProofs/C16Tables.lean) and `LE.lerp`, `LE.OnSeg` below have the bodies of their `Orb.Clip` namesakes (`LE.OnEdge`
  that of `Clip.OnEdgeValue`), so the lemmas of C07 apply to them as they stand, by unfolding.
-/
import OrbProofs.C16Tables
import OrbProofs.C07Lemmas

set_option linter.unusedSectionVars false

namespace Orb.SmartClip
open Orb Orb.Core

variable {α : Type} [Field α] [LinearOrder α] [IsStrictOrderedRing α]

namespace LE
open Orb.Clip (bitCode intersect segLoopU push lineStep line LineSt code)

def lerp (a b : Pt α) (t : α) : Pt α := ⟨a.x + t * (b.x - a.x), a.y + t * (b.y - a.y)⟩

def OnSeg (a b q : Pt α) : Prop := ∃ t, 0 ≤ t ∧ t ≤ 1 ∧ q = lerp a b t

theorem lerp_eq_clip (a b : Pt α) (t : α) : lerp a b t = Clip.lerp a b t := rfl

theorem onSeg_iff_clip {a b q : Pt α} : OnSeg a b q ↔ Clip.OnSeg a b q := Iff.rfl

@[simp] theorem lerp_x (a b : Pt α) (t : α) : (lerp a b t).x = a.x + t * (b.x - a.x) := rfl
@[simp] theorem lerp_y (a b : Pt α) (t : α) : (lerp a b t).y = a.y + t * (b.y - a.y) := rfl

theorem inBox_of_onSeg {box : Bound α} {a b q : Pt α} (ha : InBox box a) (hb : InBox box b)
    (hq : OnSeg a b q) : InBox box q :=
  Clip.inBox_of_onSeg ha hb hq

theorem onBoundary_of {box : Bound α} {p : Pt α} (h1 : InBox box p) (h2 : OnEdge box p) :
    OnBoundary box p := ⟨h1, h2⟩

/-- the two ends of an accepted part, open bound: each lies on the boundary or is the vertex itself, strictly inside
    (a far vertex ON the boundary is kept as it is by the own-intersection arm: it is on the boundary all the same) -/
theorem clipPart_open_ends {box : Bound α} (hb : BoxOK box) {a b a' b' : Pt α}
    (h : Clip.clipPart box true a b = some (a', b')) :
    (OnBoundary box a' ∨ (a' = a ∧ InOpenBox box a)) ∧ (OnBoundary box b' ∨ (b' = b ∧ InOpenBox box b)) := by
  obtain ⟨h1, -, h3, -⟩ := Clip.clipPart_ends h
  obtain ⟨m1, m2⟩ := Clip.clipSeg_moved_ends hb true (show Clip.clipSeg box true (a, b) = some (a', b') from h)
  have key := Clip.clipSeg_param hb true a b
  rw [show Clip.clipSeg box true (a, b) = Clip.clipPart box true a b from rfl, h] at key
  obtain ⟨s, e, -, -, -, hu, k1, k2, -⟩ := key
  obtain ⟨rfl, rfl⟩ := Prod.mk.inj hu
  constructor
  · by_cases hA : Clip.bitCodeOpen box a = 0
    · exact Or.inr ⟨h1 hA, Clip.bitCodeOpen_eq_zero_iff.1 hA⟩
    · exact Or.inl ⟨k1, m1 hA⟩
  · by_cases hB : Clip.bitCodeOpen box b = 0
    · exact Or.inr ⟨h3 hB, Clip.bitCodeOpen_eq_zero_iff.1 hB⟩
    · exact Or.inl ⟨k2, m2 hB⟩

/-- where the pieces start and end: on the boundary, but for the first piece starting at a first vertex strictly
    inside and the last piece ending at a last vertex strictly inside; and a last vertex strictly inside does end the
    last piece -/
theorem pieces_ends {box : Bound α} (hb : BoxOK box) {inp : List (Pt α)} {out : List (List (Pt α))}
    (h : Clip.Pieces box true inp out) :
    (∀ k piece, out[k]? = some piece → ∀ p, piece.head? = some p →
      OnBoundary box p ∨ (k = 0 ∧ inp.head? = some p ∧ InOpenBox box p)) ∧
    (∀ k piece, out[k]? = some piece → ∀ p, piece.getLast? = some p →
      OnBoundary box p ∨ (k + 1 = out.length ∧ inp.getLast? = some p ∧ InOpenBox box p)) ∧
    (2 ≤ inp.length → ∀ p, inp.getLast? = some p → InOpenBox box p →
      ∃ piece, out.getLast? = some piece ∧ piece.getLast? = some p) := by
  have notIn : ∀ {b : Pt α}, Clip.codeAt box true b ≠ 0 → ¬ InOpenBox box b :=
    fun hB hin => hB (Clip.bitCodeOpen_eq_zero_iff.2 hin)
  induction h with
  | nil => exact ⟨fun k _ hk => by simp at hk, fun k _ hk => by simp at hk, fun h2 => absurd h2 (by simp)⟩
  | one a => exact ⟨fun k _ hk => by simp at hk, fun k _ hk => by simp at hk, fun h2 => absurd h2 (by simp)⟩
  | @reject a b rest ps _ _ hB _ ih =>
    obtain ⟨i1, i2, i3⟩ := ih
    refine ⟨fun k piece hk p hp => Or.inl ?_, fun k piece hk p hp => ?_, fun _ p hp hin => ?_⟩
    · exact (i1 k piece hk p hp).elim id fun h => absurd (Option.some.inj h.2.1 ▸ h.2.2) (notIn hB)
    · rw [List.getLast?_cons_cons]; exact i2 k piece hk p hp
    · rw [List.getLast?_cons_cons] at hp
      cases rest with
      | nil => obtain rfl : b = p := Option.some.inj hp; exact absurd hin (notIn hB)
      | cons c rest => exact i3 (by simp) p hp hin
  | @leave a b a' b' rest ps hcs hB _ ih =>
    obtain ⟨i1, i2, i3⟩ := ih
    obtain ⟨e1, e2⟩ := clipPart_open_ends hb hcs
    refine ⟨fun k piece hk p hp => ?_, fun k piece hk p hp => ?_, fun _ p hp hin => ?_⟩
    · cases k with
      | zero =>
        obtain rfl := Option.some.inj hk
        obtain rfl := Option.some.inj hp
        exact e1.elim Or.inl fun h => Or.inr ⟨rfl, by rw [h.1]; rfl, h.1 ▸ h.2⟩
      | succ k =>
        exact Or.inl ((i1 k piece hk p hp).elim id fun h => absurd (Option.some.inj h.2.1 ▸ h.2.2) (notIn hB))
    · rw [List.getLast?_cons_cons]
      cases k with
      | zero =>
        obtain rfl := Option.some.inj hk
        obtain rfl := Option.some.inj hp
        exact Or.inl (e2.elim id fun h => absurd (h.1 ▸ h.2) (h.1 ▸ notIn hB))
      | succ k => exact (i2 k piece hk p hp).imp_right fun h => ⟨by simp [h.1], h.2⟩
    · rw [List.getLast?_cons_cons] at hp
      cases rest with
      | nil => obtain rfl : b = p := Option.some.inj hp; exact absurd hin (notIn hB)
      | cons c rest =>
        obtain ⟨piece, h1, h2⟩ := i3 (by simp) p hp hin
        exact ⟨piece, by rw [List.getLast?_cons, h1]; rfl, h2⟩
  | @stop a b a' hcs hE =>
    obtain ⟨e1, -⟩ := clipPart_open_ends hb hcs
    have hin : InOpenBox box b := Clip.bitCodeOpen_eq_zero_iff.1 hE
    refine ⟨fun k piece hk p hp => ?_, fun k piece hk p hp => ?_, fun _ p hp _ => ⟨_, rfl, hp⟩⟩
    · cases k with
      | zero =>
        obtain rfl := Option.some.inj hk
        obtain rfl := Option.some.inj hp
        exact e1.elim Or.inl fun h => Or.inr ⟨rfl, by rw [h.1]; rfl, h.1 ▸ h.2⟩
      | succ k => simp at hk
    · cases k with
      | zero =>
        obtain rfl := Option.some.inj hk
        obtain rfl := Option.some.inj hp
        exact Or.inr ⟨rfl, rfl, hin⟩
      | succ k => simp at hk
  | @runOn a b a' c rest piece ps hcs hE _ ih =>
    obtain ⟨i1, i2, i3⟩ := ih
    obtain ⟨e1, -⟩ := clipPart_open_ends hb hcs
    refine ⟨fun k pc hk p hp => ?_, fun k pc hk p hp => ?_, fun _ p hp hin => ?_⟩
    · cases k with
      | zero =>
        obtain rfl := Option.some.inj hk
        obtain rfl := Option.some.inj hp
        exact e1.elim Or.inl fun h => Or.inr ⟨rfl, by rw [h.1]; rfl, h.1 ▸ h.2⟩
      | succ k => exact Or.inl ((i1 (k + 1) pc hk p hp).elim id fun h => absurd h.1 (Nat.succ_ne_zero k))
    · rw [List.getLast?_cons_cons]
      cases k with
      | zero =>
        obtain rfl := Option.some.inj hk
        rw [List.getLast?_cons_cons] at hp
        exact i2 0 (b :: piece) rfl p hp
      | succ k => exact i2 (k + 1) pc hk p hp
    · rw [List.getLast?_cons_cons] at hp
      obtain ⟨pc, h1, h2⟩ := i3 (by simp) p hp hin
      cases ps with
      | nil =>
        obtain rfl : b :: piece = pc := Option.some.inj h1
        exact ⟨a' :: b :: piece, rfl, by rw [List.getLast?_cons_cons]; exact h2⟩
      | cons q ps => exact ⟨pc, by rw [List.getLast?_cons_cons] at h1 ⊢; exact h1, h2⟩

/-- a first vertex strictly inside has code 0: its segment is accepted and the accepted part starts with it -/
theorem pieces_first {box : Bound α} {inp : List (Pt α)} {out : List (List (Pt α))}
    (h : Clip.Pieces box true inp out) (h2 : 2 ≤ inp.length) {p : Pt α} (hp : inp.head? = some p)
    (hin : InOpenBox box p) : ∃ piece, out[0]? = some piece ∧ piece.head? = some p := by
  have hc : ∀ {a : Pt α}, a = p → Clip.codeAt box true a = 0 := fun h => h ▸ Clip.bitCodeOpen_eq_zero_iff.2 hin
  have e1 : ∀ {a b a' b' : Pt α}, a = p → Clip.clipPart box true a b = some (a', b') → a' = p :=
    fun ha hcs => ((Clip.clipPart_ends hcs).1 (hc ha)).trans ha
  cases h with
  | nil => cases hp
  | one a => exact absurd h2 (Nat.lt_irrefl 1)
  | reject _ hA _ _ => exact absurd (hc (Option.some.inj hp)) hA
  | leave hcs _ _ => exact ⟨_, rfl, by rw [e1 (Option.some.inj hp) hcs]; rfl⟩
  | stop hcs _ => exact ⟨_, rfl, by rw [e1 (Option.some.inj hp) hcs]; rfl⟩
  | runOn hcs _ _ => exact ⟨_, rfl, by rw [e1 (Option.some.inj hp) hcs]; rfl⟩

end LE

/-- smartclip's `bitCodeOpen` is clip's -/
theorem bitCodeOpen_eq_clip' (box : Bound α) (p : Pt α) : bitCodeOpen box p = Clip.bitCodeOpen box p := by
  unfold bitCodeOpen Clip.bitCodeOpen
  simp only [Generated.Params.clip_codeLeft, Generated.Params.clip_codeRight,
    Generated.Params.clip_codeBottom, Generated.Params.clip_codeTop]

theorem line_spec' (box : Bound α) (hb : BoxOK box) : LineSpec box := by
  intro inp
  obtain ⟨out, h1, hP⟩ := Clip.line_pieces box true inp
  obtain ⟨f1, f2, f3⟩ := LE.pieces_ends hb hP
  exact ⟨out, h1, Clip.pieces_len hP, Clip.clip_vertices_in_box' box hb true _ out h1, f1, f2,
    fun h2 _ hp hin => LE.pieces_first hP h2 hp hin, f3⟩

end Orb.SmartClip
