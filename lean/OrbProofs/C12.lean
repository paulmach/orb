/-
  C12 — Simplifiers only drop vertices, keep endpoints, and honour their bound.
  PROPERTY THEOREMS about the model `Orb.Simplify` (simplify/douglas_peucker.go, radial.go,
  visvalingam.go, helpers.go, planar.DistanceSquared / DistanceFromSegmentSquared).

  Two strengths:
  * section `anyArithmetic`: the coordinate type is ARBITRARY (only the operations the code uses, no
    laws) — these theorems therefore also hold for the `Float` instantiation that the driver
    compares bit-for-bit with the Go code: subsequence in order, end points kept, closed stays closed,
    radial spacing, Visvalingam minimum count and keep-N exactness; helpers.go (what `Polygon`, `MultiPolygon`,
    the generic `Simplify` keep and drop, no panic for a total simplifier), Orb/SimplifyExt and the mvt layers.
  * section `orderedField`: coordinates in a linear ordered field (exact arithmetic): termination /
    no panic, Douglas-Peucker = its recursive definition, error bound (with `distSegSq` shown to be the
    exact squared point–segment distance), idempotence, nesting; the Visvalingam heap invariant under
    Push/Pop/Update, pop-min, totality and nesting.
-/
import OrbProofs.C12DP
import OrbProofs.C12Radial
import OrbProofs.C12Vis
import OrbProofs.C12Entry
import OrbProofs.ResForall
import OrbProofs.C10DistLemmas
import Orb.SimplifyFast

namespace Orb.Simplify
open Orb

section anyArithmetic
variable {α : Type} [Add α] [Sub α] [Mul α] [Div α] [Neg α] [LT α] [LE α] [DecidableLT α] [DecidableLE α] [BEq α] [OfNat α 0] [OfNat α 1] [OfNat α 2]

/-! ### Douglas-Peucker -/

/-- The result is the list of the input vertices at the masked indices: strictly increasing, in range. -/
theorem dp_kept_indices (t : α) (ls out : List (Pt α)) (h : dpSimplify t ls = .ok out) :
    ∃ idx, (dpMask distSegSq t ls).map maskIdx = some idx ∧ idx.Pairwise (· < ·) ∧ (∀ i ∈ idx, i < ls.length) ∧
      out = idx.filterMap (fun i => ls[i]?) := by
  obtain ⟨idx, h1, hk⟩ := dpWith_kept distSegSq t ls out h
  exact ⟨idx, h1, hk.pw, hk.lt, hk.eq⟩
theorem dp_subseq_in_order (t : α) (ls out : List (Pt α)) (h : dpSimplify t ls = .ok out) :
    out.Sublist ls :=
  let ⟨_, _, hk⟩ := dpWith_kept distSegSq t ls out h
  hk.validLine.1

theorem dp_endpoints_kept (t : α) (ls out : List (Pt α)) (h : dpSimplify t ls = .ok out) :
    EndsKept ls out :=
  let ⟨_, _, hk⟩ := dpWith_kept distSegSq t ls out h
  hk.validLine.2

theorem dp_closed_stays_closed (t : α) (ls out : List (Pt α)) (h : dpSimplify t ls = .ok out) (hc : Closed ls) :
    Closed out := (dp_endpoints_kept t ls out h).closed hc

/-- The compiled driver runs Douglas-Peucker with the vertex list held in an array (`dpSA`,
    Orb/SimplifyFast.lean; the `csimp` lemma `dpS_eq_dpSA` substitutes it for `dpS` in compiled code, so that
    vertex lists of thousands of vertices with the deepest nesting are compared in milliseconds): it is
    the model `dpS`, on every input, in every arithmetic. -/
theorem dp_array_twin (t : α) (ls : List (Pt α)) (area : Bool) : dpSA t ls area = dpS t ls area := by
  rw [dpS_eq_dpSA]

/-! ### Radial (any distance function) -/

theorem radial_subseq_in_order (df : Pt α → Pt α → α) (t : α) (ls out : List (Pt α))
    (h : radialSimplify df t ls = .ok out) : out.Sublist ls :=
  (radial_spec df t ls out h).1.1

theorem radial_endpoints_kept (df : Pt α → Pt α → α) (t : α) (ls out : List (Pt α))
    (h : radialSimplify df t ls = .ok out) : EndsKept ls out :=
  (radial_spec df t ls out h).1.2

theorem radial_closed_stays_closed (df : Pt α → Pt α → α) (t : α) (ls out : List (Pt α))
    (h : radialSimplify df t ls = .ok out) (hc : Closed ls) : Closed out :=
  (radial_endpoints_kept df t ls out h).closed hc

/-- Consecutive kept vertices are farther apart than the threshold, except possibly the last one. -/
theorem radial_spacing (df : Pt α → Pt α → α) (t : α) (ls out : List (Pt α))
    (h : radialSimplify df t ls = .ok out) : ∀ a b, Adjacent out.dropLast a b → t < df a b :=
  (radial_spec df t ls out h).2

/-- Radial never panics on a non-empty line (and never loops). -/
theorem radial_total (df : Pt α → Pt α → α) (t : α) (ls : List (Pt α)) (h : ls ≠ []) :
    ∃ out, radialSimplify df t ls = .ok out := (Res.isOk_iff _).1 (radialSimplify_isOk df t ls h)
/-! ### Visvalingam -/

theorem vis_subseq_in_order (thr : Option α) (toKeep : Nat) (ls out : List (Pt α)) (area : Bool)
    (h : visSimplify thr toKeep ls area = .ok out) : out.Sublist ls := (Vis.visSimplify_ok thr toKeep ls out area h).1.1

theorem vis_endpoints_kept (thr : Option α) (toKeep : Nat) (ls out : List (Pt α)) (area : Bool)
    (h : visSimplify thr toKeep ls area = .ok out) : EndsKept ls out := (Vis.visSimplify_ok thr toKeep ls out area h).1.2

theorem vis_closed_stays_closed (thr : Option α) (toKeep : Nat) (ls out : List (Pt α)) (area : Bool)
    (h : visSimplify thr toKeep ls area = .ok out) (hc : Closed ls) : Closed out :=
  (vis_endpoints_kept thr toKeep ls out area h).closed hc

/-- Never below the requested / default minimum count (2 lines, 3 open rings, 4 closed rings),
    nor below the input length when that is smaller. -/
theorem vis_min_count (thr : Option α) (toKeep : Nat) (ls out : List (Pt α)) (area : Bool)
    (h : visSimplify thr toKeep ls area = .ok out) :
    min ls.length (visToKeep toKeep ls area) ≤ out.length := (Vis.visSimplify_ok thr toKeep ls out area h).2.1

/-- The default minimum counts, exactly: 2 for a line, 4 for a CLOSED ring, 3 for an open ring (a ring
    is closed iff Go's `ls[0] == ls[len(ls)-1]`); a requested count is taken as it is.  (`visToKeep` is
    only reached with 2 or more vertices; for the empty list only "3 or 4" can be said, `0 == 0` not
    being a law of an arbitrary arithmetic.) -/
theorem vis_default_counts (ls : List (Pt α)) :
    visToKeep 0 ls false = 2 ∧
    (ls ≠ [] → (Closed ls → visToKeep 0 ls true = 4) ∧ (¬ Closed ls → visToKeep 0 ls true = 3)) ∧
    (visToKeep 0 ls true = 3 ∨ visToKeep 0 ls true = 4) ∧
    ∀ k, k ≠ 0 → ∀ area, visToKeep k ls area = k := by
  refine ⟨by simp [visToKeep, visDefaultLine], fun hne => ?_, ?_, fun k hk area => by simp [visToKeep, hk]⟩
  · have hc := closed_iff_ptEq ls hne
    constructor
    · intro h
      unfold visToKeep
      rw [if_pos rfl, if_pos rfl, if_pos (hc.1 h)]; rfl
    · intro h
      unfold visToKeep
      rw [if_pos rfl, if_pos rfl, if_neg (fun h' => h (hc.2 h'))]; rfl
  · simp only [visToKeep, visDefaultClosedRing, visDefaultOpenRing]
    split_ifs <;> simp

/-- keep-N (`VisvalingamKeep`, threshold `+Inf`) returns exactly N vertices when the input is longer. -/
theorem vis_keep_exact (toKeep : Nat) (ls out : List (Pt α)) (area : Bool)
    (h : visSimplify none toKeep ls area = .ok out) (hk : visToKeep toKeep ls area < ls.length) :
    out.length = visToKeep toKeep ls area := (Vis.visSimplify_ok none toKeep ls out area h).2.2 rfl hk
/-! ### the same clauses at the typed entry points (`lineString s ls = runSimplify s ls false`,
    `ring s r = runSimplify s r true`: `runSimplify` returns inputs of ≤ 2 points untouched) -/

theorem radial_spacing_run (df : Pt α → Pt α → α) (t : α) (ls out : List (Pt α)) (area : Bool)
    (h : runSimplify (radialS df t) ls area = .ok out) :
    ∀ a b, Adjacent out.dropLast a b → t < df a b := by
  rcases runSimplify_cases _ ls out area h with ⟨hl, rfl⟩ | ⟨_, hs⟩
  · intro a b hab
    exact absurd hab (adjacent_dropLast_short _ hl a b)
  · exact radial_spacing df t ls out hs
theorem vis_min_count_run (thr : Option α) (toKeep : Nat) (ls out : List (Pt α)) (area : Bool)
    (h : runSimplify (visS thr toKeep) ls area = .ok out) :
    min ls.length (visToKeep toKeep ls area) ≤ out.length := by
  rcases runSimplify_cases _ ls out area h with ⟨_, rfl⟩ | ⟨_, hs⟩
  · exact Nat.min_le_left _ _
  · exact vis_min_count thr toKeep ls out area hs

/-- keep-N at the entry point, for every N ≥ 2 (N = 1 on a 2-point line is returned untouched) -/
theorem vis_keep_exact_run (toKeep : Nat) (ls out : List (Pt α)) (area : Bool)
    (h : runSimplify (visS none toKeep) ls area = .ok out) (h2 : 2 ≤ visToKeep toKeep ls area)
    (hk : visToKeep toKeep ls area < ls.length) :
    out.length = visToKeep toKeep ls area := by
  rcases runSimplify_cases _ ls out area h with ⟨hl, _⟩ | ⟨_, hs⟩
  · omega
  · exact vis_keep_exact toKeep ls out area hs hk

/-- `Ring` with the default count: a closed ring never goes below 4 vertices, an open one never below 3 -/
theorem vis_ring_default_min (thr : Option α) (ls out : List (Pt α)) (h : ring (visS thr 0) ls = .ok out) :
    (Closed ls → min ls.length 4 ≤ out.length) ∧ (¬ Closed ls → min ls.length 3 ≤ out.length) := by
  have hm := vis_min_count_run thr 0 ls out true h
  by_cases hne : ls = []
  · subst hne; simp
  · obtain ⟨h4, h3⟩ := (vis_default_counts ls).2.1 hne
    constructor
    · intro hc; rw [h4 hc] at hm; exact hm
    · intro hc; rw [h3 hc] at hm; exact hm

/-- `LineString` with the default count: never below 2 vertices -/
theorem vis_line_default_min (thr : Option α) (ls out : List (Pt α)) (h : lineString (visS thr 0) ls = .ok out) :
    min ls.length 2 ≤ out.length := by
  have hm := vis_min_count_run thr 0 ls out false h
  rw [(vis_default_counts ls).1] at hm
  exact hm
/-! ### helpers.go -/

theorem dpS_good (t : α) : GoodS (dpS t) := fun ls _ out h =>
  ⟨dp_subseq_in_order t ls out h, dp_endpoints_kept t ls out h⟩

theorem radialS_good (df : Pt α → Pt α → α) (t : α) : GoodS (radialS df t) := fun ls _ out h =>
  ⟨radial_subseq_in_order df t ls out h, radial_endpoints_kept df t ls out h⟩

theorem visS_good (thr : Option α) (toKeep : Nat) : GoodS (visS thr toKeep) := fun ls area out h =>
  (Vis.visSimplify_ok thr toKeep ls out area h).1

/-- `MultiLineString` runs every line. -/
theorem multiLineString_exact (s : Simplifier α) (mls out : List (List (Pt α))) (h : multiLineString s mls = .ok out) :
    List.Forall₂ (fun l l' => runSimplify s l false = .ok l') mls out := by
  rw [multiLineString_eq] at h
  exact (C20M.resMapM_ok_iff _ _ _).1 h

/-- `Polygon`, exactly: EVERY ring is run; the output is the results of the first ring and of every
    later ring that still has more than 2 points, in order (kept ⇔ i = 0 ∨ 2 < len). -/
theorem polygon_exact (s : Simplifier α) (p out : List (List (Pt α))) (h : polygon s p = .ok out) :
    ∃ rs, List.Forall₂ (fun r r' => runSimplify s r true = .ok r') p rs ∧ out = keepRings rs := by
  rw [polygon_eq] at h
  obtain ⟨rs, hrs, rfl⟩ := Res.map_eq_ok h
  exact ⟨rs, (C20M.resMapM_ok_iff _ _ _).1 hrs, rfl⟩

/-- `MultiPolygon`, exactly: EVERY polygon is run; the output is the results that have a first ring of
    more than 2 points, in order. -/
theorem multiPolygon_exact (s : Simplifier α) (mp out : List (List (List (Pt α)))) (h : multiPolygon s mp = .ok out) :
    ∃ ps, List.Forall₂ (fun p p' => polygon s p = .ok p') mp ps ∧ out = keepPolys ps := by
  rw [multiPolygon_eq] at h
  obtain ⟨ps, hps, rfl⟩ := Res.map_eq_ok h
  exact ⟨ps, (C20M.resMapM_ok_iff _ _ _).1 hps, rfl⟩

/-- `LineString` / `Ring` (through `runSimplify`): a subsequence in order with the end points kept. -/
theorem lineString_good (s : Simplifier α) (hs : GoodS s) (ls out : List (Pt α)) (h : lineString s ls = .ok out) :
    ValidLine ls out := runSimplify_good s hs ls out false h
theorem ring_good (s : Simplifier α) (hs : GoodS s) (ls out : List (Pt α)) (h : ring s ls = .ok out) :
    ValidLine ls out := runSimplify_good s hs ls out true h

/-- `MultiLineString`: member by member. -/
theorem multiLineString_good (s : Simplifier α) (hs : GoodS s) (mls out : List (List (Pt α)))
    (h : multiLineString s mls = .ok out) : List.Forall₂ ValidLine mls out :=
  (multiLineString_exact s mls out h).imp fun _ _ hl => runSimplify_good s hs _ _ false hl

/-- `Polygon`: the outer ring is always kept; the other rings are kept in order or dropped, and
    every surviving inner ring has more than 2 points. -/
theorem polygon_good (s : Simplifier α) (hs : GoodS s) (p out : List (List (Pt α))) (h : polygon s p = .ok out) :
    ValidPolygon p out := by
  obtain ⟨rs, hrs, rfl⟩ := polygon_exact s p out h
  cases hrs.imp (fun _ _ hr => runSimplify_good s hs _ _ true hr) with
  | nil => exact ⟨[], List.Sublist.refl _, List.Forall₂.nil, rfl, by simp [keepRings]⟩
  | cons h0 ht =>
    obtain ⟨k, hk1, hk2⟩ := forall₂_filter_right (fun r : List (Pt α) => decide (2 < r.length)) ht
    exact ⟨_ :: k, hk1.cons_cons _, List.Forall₂.cons h0 hk2, rfl,
      fun r hr => ((mem_keepRings_tail _ r _).1 hr).2⟩

/-- `MultiPolygon`: polygons are kept in order or dropped; every survivor's outer ring has more than 2 points. -/
theorem multiPolygon_good (s : Simplifier α) (hs : GoodS s) (mp out : List (List (List (Pt α))))
    (h : multiPolygon s mp = .ok out) :
    ∃ kept, kept.Sublist mp ∧ List.Forall₂ ValidPolygon kept out ∧
      ∀ pg ∈ out, ∃ r0 rs, pg = r0 :: rs ∧ 2 < r0.length := by
  obtain ⟨ps, hps, rfl⟩ := multiPolygon_exact s mp out h
  obtain ⟨k, hk1, hk2⟩ : ∃ k, k.Sublist mp ∧ List.Forall₂ ValidPolygon k (keepPolys ps) :=
    forall₂_filter_right _ (hps.imp fun _ _ hp => polygon_good s hs _ _ hp)
  refine ⟨k, hk1, hk2, fun pg hpg => ?_⟩
  have hq := (List.mem_filter.1 hpg).2
  cases pg with
  | nil => simp at hq
  | cons r0 rs => exact ⟨r0, rs, rfl, by simpa using hq⟩
/-- member-wise `polygon s p = .ok p'` unfolded: a row of `RunRel` ring results per polygon, and `p'` their `keepRings` -/
theorem forall₂_polygon (s : Simplifier α) (hs : GoodS s) (mp ps : List (List (List (Pt α))))
    (h : List.Forall₂ (fun p p' => polygon s p = .ok p') mp ps) :
    ∃ pss, List.Forall₂ (List.Forall₂ (RunRel s true)) mp pss ∧ ps = pss.map keepRings := by
  induction h with
  | nil => exact ⟨[], List.Forall₂.nil, rfl⟩
  | cons h1 _ ih =>
    obtain ⟨pss, h2, h3⟩ := ih
    obtain ⟨rs, hr1, hr2⟩ := polygon_exact s _ _ h1
    exact ⟨rs :: pss, List.Forall₂.cons (hr1.imp fun _ _ hr => ⟨hr, runSimplify_good s hs _ _ true hr⟩) h2,
      by simp [hr2, h3]⟩

/-- The generic `Simplify` on every kind and any collection depth: input and result are related member by
    member as `ValidOut` says, each member vertex list being `runSimplify`'s result and a valid
    simplification of its input (`RunRel`); empty results come back as nil interfaces. -/
theorem simplifyG_good (s : Simplifier α) (hs : GoodS s) (g : Geom α) (o : OGeom α) (h : simplifyG s g = .ok o) :
    ValidOut (RunRel s) g o := by
  have run : ∀ {area l l'}, runSimplify s l area = .ok l' → RunRel s area l l' :=
    fun hl => ⟨hl, runSimplify_good s hs _ _ _ hl⟩
  revert g o h
  apply Geom.ind
  · intro p o h
    simp only [simplifyG] at h; injection h with h; subst h; exact ValidOut.point p
  · intro ps o h
    simp only [simplifyG] at h; injection h with h; subst h; exact ValidOut.multiPoint ps
  · intro ls o h
    rw [simplifyG, wrapLen_eq_map] at h
    obtain ⟨l, hl, rfl⟩ := Res.map_eq_ok h
    exact ValidOut.lineString ls l (run hl)
  · intro mls o h
    rw [simplifyG, wrapLen_eq_map] at h
    obtain ⟨l, hl, rfl⟩ := Res.map_eq_ok h
    exact ValidOut.multiLineString mls l ((multiLineString_exact s mls l hl).imp fun _ _ => run)
  · intro r o h
    rw [simplifyG, wrapLen_eq_map] at h
    obtain ⟨l, hl, rfl⟩ := Res.map_eq_ok h
    exact ValidOut.ring r l (run hl)
  · intro p o h
    rw [simplifyG, wrapLen_eq_map] at h
    obtain ⟨l, hl, rfl⟩ := Res.map_eq_ok h
    obtain ⟨rs, hr1, rfl⟩ := polygon_exact s p l hl
    exact ValidOut.polygon p rs (hr1.imp fun _ _ => run)
  · intro mp o h
    rw [simplifyG, wrapLen_eq_map] at h
    obtain ⟨l, hl, rfl⟩ := Res.map_eq_ok h
    obtain ⟨ps, hp1, rfl⟩ := multiPolygon_exact s mp l hl
    obtain ⟨pss, hq1, rfl⟩ := forall₂_polygon s hs mp ps hp1
    exact ValidOut.multiPolygon mp pss hq1
  · intro a b o h
    simp only [simplifyG] at h; injection h with h; subst h; exact ValidOut.bound a b
  · intro gs ih o h
    rw [simplifyG_collection] at h
    obtain ⟨k, hk, rfl⟩ := Res.map_eq_ok h
    obtain ⟨l, hl, rfl⟩ := (C20M.resFilterM_ok_iff _ _ _ _).1 hk
    obtain ⟨h1, h2⟩ := List.forall₂_iff_zip.1 hl
    exact ValidOut.collection gs l h1 fun p hp => ih p.1 (List.of_mem_zip hp).1 p.2 (h2 hp)

/-- The generic `Simplify` is the typed method followed by the "empty ⇒ nil interface" rule. -/
theorem wrappers_agree (s : Simplifier α) :
    (∀ l, simplifyG s (.lineString l) = wrapLen .lineString (lineString s l)) ∧
    (∀ l, simplifyG s (.multiLineString l) = wrapLen .multiLineString (multiLineString s l)) ∧
    (∀ l, simplifyG s (.ring l) = wrapLen .ring (ring s l)) ∧
    (∀ l, simplifyG s (.polygon l) = wrapLen .polygon (polygon s l)) ∧
    (∀ l, simplifyG s (.multiPolygon l) = wrapLen .multiPolygon (multiPolygon s l)) ∧
    (∀ l, simplifyG s (.collection l) =
      match collection s l with
      | .ok m => if m.length = 0 then .ok .nil else .ok (.coll m)
      | .err e => .err e
      | .panic w => .panic w) := by
  refine ⟨?_, ?_, ?_, ?_, ?_, ?_⟩
  · intro l; simp only [simplifyG]
  · intro l; simp only [simplifyG]
  · intro l; simp only [simplifyG]
  · intro l; simp only [simplifyG]
  · intro l; simp only [simplifyG]
  · intro l; simp only [simplifyG, collection]; cases simplifyG.go s l <;> rfl

/-- No panic (and no non-termination) through the generic entry point, for EVERY value — every geometry
    kind, any collection depth, empty and degenerate members, nil interface and typed nil slices —
    provided the simplifier itself is total on inputs of more than 2 points (it is never called on
    shorter ones). -/
theorem simplify_total (s : Simplifier α) (hs : ∀ ls area, 2 < ls.length → (s ls area).isOk = true)
    (v : GVal α) : (simplifyV s v).isOk = true := by
  cases v with
  | nilIface => rfl
  | nilSlice k => rfl
  | val g => exact simplifyG_isOk s hs g

/-- Radial, through the generic entry point: total for every value and EVERY arithmetic (hence also in float64). -/
theorem radial_simplify_total (df : Pt α → Pt α → α) (t : α) (v : GVal α) :
    (simplifyV (radialS df t) v).isOk = true :=
  simplify_total _ (fun ls _ hl => radialSimplify_isOk df t ls (by rintro rfl; simp at hl)) v

/-! ### Orb/SimplifyExt.lean: what the driver runs beyond Orb/Simplify.lean -/

/-- The parametrised Visvalingam (end-item area, `math.Max`, and the guard
    `if current.previous == nil || current.next == nil { continue }`: a popped end item is skipped) at the
    model's parameters is the model wherever the model does not panic. -/
theorem visSimplifyP_eq (thr : Option α) (toKeep : Nat) (ls : List (Pt α)) (area : Bool) (res : R (List (Pt α)))
    (h : visSimplify thr toKeep ls area = res) (hnp : ∀ w, res ≠ .panic w) :
    visSimplifyP none aMax thr toKeep ls area = res := by
  have hi : visInitP (none : Option α) ls = visInit ls := rfl
  unfold visSimplify at h
  unfold visSimplifyP
  by_cases h1 : ls.length ≤ 1
  · rw [if_pos h1] at h ⊢; exact h
  · rw [if_neg h1] at h ⊢
    by_cases h2 : ls.length ≤ visToKeep toKeep ls area
    · simp only [h2, if_true] at h ⊢; exact h
    · simp only [h2, if_false] at h ⊢
      unfold visKept at h
      unfold visKeptP
      rw [hi]
      dsimp only at h ⊢
      -- a panic of the model's loop would be the result `res`
      have hnp' : ∀ w, visLoop ls (Option.map (fun x => x * 2) thr) (visToKeep toKeep ls area) (ls.length + 1)
          (visInit ls) 0 ≠ .panic w := by
        intro w hw
        rw [hw] at h
        exact hnp w h.symm
      rw [visLoopP_eq ls _ _ _ _ _ _ rfl hnp']
      -- the two `match`es on the loop's outcome are different auxiliary definitions
      generalize visLoop ls _ _ _ _ 0 = r at h ⊢
      cases r <;> exact h

/-- Values with nil members: a non-collection member goes through `simplifyG`. -/
theorem simplifyO_geom (s : Simplifier α) (g : Geom α) : simplifyO s (.geom g) = simplifyG s g := by
  simp only [simplifyO]

/-- A collection without nil members is `simplifyG`'s collection (both drop the members whose
    result is a nil interface). -/
theorem simplifyO_coll_geoms (s : Simplifier α) (gs : List (Geom α)) :
    simplifyO s (.coll (gs.map .geom)) = simplifyG s (.collection gs) := by
  simp only [simplifyO, simplifyG, simplifyO_go_geoms]
  cases simplifyG.go s gs <;> rfl

/-- No panic with nil members (nil interfaces, nil multi points) at any depth. -/
theorem simplifyO_total (s : Simplifier α) (hs : ∀ ls area, 2 < ls.length → (s ls area).isOk = true)
    (v : OGeom α) : (simplifyO s v).isOk = true := by
  revert v
  apply OGeom.ind
  · simp only [simplifyO]; rfl
  · intro g; simp only [simplifyO]; exact simplifyG_isOk s hs g
  · intro gs ih
    rw [simplifyO_coll, Res.isOk_map]; exact C20M.resFilterM_isOk _ _ _ ih

/-- `mvt.Layer.Simplify`: the kept features are exactly those whose result is not a nil interface, in
    order, each with its own result. -/
theorem layerSimplify_exact {β : Type} (s : Simplifier α) (fs out : List (β × OGeom α))
    (h : layerSimplify s fs = .ok out) :
    ∃ gs, List.Forall₂ (fun f g' => simplifyO s f.2 = .ok g') fs gs ∧
      out = ((fs.map Prod.fst).zip gs).filter (fun p => !p.2.isNil) := by
  rw [layerSimplify_eq] at h
  obtain ⟨ys, hys, rfl⟩ := (C20M.resFilterM_ok_iff _ _ _ _).1 h
  clear h
  have key : List.Forall₂ (fun f g' => simplifyO s f.2 = .ok g') fs (ys.map Prod.snd) ∧
      ys = (fs.map Prod.fst).zip (ys.map Prod.snd) := by
    induction hys with
    | nil => exact ⟨.nil, rfl⟩
    | cons h1 _ ih =>
      obtain ⟨g', hs, rfl⟩ := Res.map_eq_ok h1
      exact ⟨.cons hs ih.1, by simp [← ih.2]⟩
  exact ⟨_, key.1, by rw [← key.2]⟩
theorem layerSimplify_total {β : Type} (s : Simplifier α)
    (hs : ∀ ls area, 2 < ls.length → (s ls area).isOk = true) (fs : List (β × OGeom α)) : (layerSimplify s fs).isOk = true := by
  rw [layerSimplify_eq]
  refine C20M.resFilterM_isOk _ _ _ fun f _ => ?_
  obtain ⟨g', hg'⟩ := (Res.isOk_iff _).1 (simplifyO_total s hs f.2)
  rw [hg']; rfl

/-- `mvt.Layers.Simplify` does not panic. -/
theorem layersSimplify_total {β : Type} (s : Simplifier α)
    (hs : ∀ ls area, 2 < ls.length → (s ls area).isOk = true) (ls : List (List (β × OGeom α))) :
    (layersSimplify s ls).isOk = true := by
  rw [layersSimplify_eq]
  exact C20M.resMapM_isOk _ _ fun l _ => layerSimplify_total s hs l
end anyArithmetic

section orderedField
variable {α : Type} [Field α] [LinearOrder α] [IsStrictOrderedRing α]

/-! ### the distance used by Douglas-Peucker is the exact squared point–segment distance -/

/-- planar/distance_from.go has the same code twice; the nearest-point theory is that of `Orb.Planar` (C10). -/
theorem distSegSq_eq_planar (a b p : Pt α) : distSegSq a b p = Planar.segmentDistanceFromSquared a b p := rfl

theorem distSegSq_le (a b p : Pt α) (s : α) (h0 : 0 ≤ s) (h1 : s ≤ 1) :
    distSegSq a b p ≤ distSq p ⟨a.x + s * (b.x - a.x), a.y + s * (b.y - a.y)⟩ :=
  ((distSegSq_eq_planar a b p).trans (Planar.segdist_eq a b p)).trans_le (Planar.nearT_le a b p s h0 h1)

theorem distSegSq_attained (a b p : Pt α) :
    ∃ s, 0 ≤ s ∧ s ≤ 1 ∧ distSegSq a b p = distSq p ⟨a.x + s * (b.x - a.x), a.y + s * (b.y - a.y)⟩ :=
  ⟨_, (Planar.nearT_mem a b p).1, (Planar.nearT_mem a b p).2,
    (distSegSq_eq_planar a b p).trans (Planar.segdist_eq a b p)⟩

/-! ### Douglas-Peucker in exact arithmetic -/

/-- The work-list loop terminates within its fuel and does not panic on a non-empty line. -/
theorem dp_total (t : α) (ls : List (Pt α)) (h : ls ≠ []) : ∃ out, dpSimplify t ls = .ok out := dpWith_total distSegSq ls t h

/-- The explicit stack computes the recursive definition. -/
theorem dp_eq_recursive (t : α) (ls : List (Pt α)) (h : 2 ≤ ls.length) :
    (dpMask distSegSq t ls).map maskIdx =
      some (0 :: dpRec distSegSq ls (t * t) ls.length 0 (ls.length - 1) ++ [ls.length - 1]) := by
  rw [dpMask_idx distSegSq ls t h, dpR_eq distSegSq ls (t * t) (mul_self_nonneg t) ls.length 0 _ (by omega) (by omega)]

/-- Every input vertex lying between two consecutive kept vertices is within the threshold of the
    segment joining them (squared: `≤ t*t`, with `distSegSq` the exact squared distance, above). -/
theorem dp_error_bound (t : α) (ls : List (Pt α)) (idx : List Nat)
    (h : (dpMask distSegSq t ls).map maskIdx = some idx) :
    ∀ i j, Adjacent idx i j → ∀ k, i < k → k < j → ∀ a b p, ls[i]? = some a → ls[j]? = some b → ls[k]? = some p →
      distSegSq a b p ≤ t * t := dpWith_within distSegSq ls t idx h

/-- Simplifying a simplified line again changes nothing. -/
theorem dp_idempotent (t : α) (ls out : List (Pt α)) (h : dpSimplify t ls = .ok out) :
    dpSimplify t out = .ok out := dpWith_idem distSegSq ls t out h

/-- A larger threshold never keeps a vertex a smaller one dropped. -/
theorem dp_nested (t₁ t₂ : α) (h0 : 0 ≤ t₁) (h12 : t₁ ≤ t₂) (ls o₁ o₂ : List (Pt α))
    (h₁ : dpSimplify t₁ ls = .ok o₁) (h₂ : dpSimplify t₂ ls = .ok o₂) : o₂.Sublist o₁ :=
  dpWith_nested distSegSq ls t₁ t₂ h0 h12 o₁ o₂ h₁ h₂
/-! ### Douglas-Peucker and Visvalingam at the typed entry points -/

theorem dp_error_bound_run (t : α) (ls out : List (Pt α)) (area : Bool)
    (h : runSimplify (dpS t) ls area = .ok out) :
    ∃ idx : List Nat, idx.Pairwise (· < ·) ∧ (∀ i ∈ idx, i < ls.length) ∧
      out = idx.filterMap (fun i => ls[i]?) ∧
      ∀ i j, Adjacent idx i j → ∀ k, i < k → k < j → ∀ a b p,
        ls[i]? = some a → ls[j]? = some b → ls[k]? = some p → distSegSq a b p ≤ t * t := by
  rcases runSimplify_cases _ ls out area h with ⟨-, rfl⟩ | ⟨_, hs⟩
  · -- untouched: every index is kept, and nothing lies strictly between consecutive numbers
    exact ⟨List.range out.length, List.pairwise_lt_range, fun i hi => List.mem_range.1 hi,
      (range_filterMap_getElem out).symm, fun i j hadj k hik hkj => by have := adjacent_range hadj; omega⟩
  · obtain ⟨idx, h1, h2, h3, h4⟩ := dp_kept_indices t ls out hs
    exact ⟨idx, h2, h3, h4, dp_error_bound t ls idx h1⟩
theorem dp_idempotent_run (t : α) (ls out : List (Pt α)) (area : Bool)
    (h : runSimplify (dpS t) ls area = .ok out) : runSimplify (dpS t) out area = .ok out := by
  rcases runSimplify_cases _ ls out area h with ⟨hl, rfl⟩ | ⟨_, hs⟩
  · exact h
  · unfold runSimplify
    split
    · rfl
    · exact dp_idempotent t ls out hs
theorem dp_nested_run (t₁ t₂ : α) (h0 : 0 ≤ t₁) (h12 : t₁ ≤ t₂) (ls o₁ o₂ : List (Pt α)) (area : Bool)
    (h₁ : runSimplify (dpS t₁) ls area = .ok o₁) (h₂ : runSimplify (dpS t₂) ls area = .ok o₂) :
    o₂.Sublist o₁ := by
  rcases runSimplify_cases₂ _ _ ls o₁ o₂ area h₁ h₂ with ⟨rfl, rfl⟩ | ⟨hs₁, hs₂⟩
  · exact List.Sublist.refl _
  · exact dp_nested t₁ t₂ h0 h12 ls o₁ o₂ hs₁ hs₂
/-! ### Visvalingam: the hand-rolled heap -/

/-- `Push` keeps the invariant (every item knows its heap position; parents are not larger) and adds the item. -/
theorem push_heapInv (st : VS α) (id : Nat) (h : HeapInv st) (hid : id < st.items.size) (hnew : id ∉ st.heap.toList) :
    HeapInv (push st id) ∧ (push st id).heap.toList.Perm (id :: st.heap.toList) ∧
      ∀ j, (push st id).area j = st.area j := by
  obtain ⟨hi, hp, _, ha⟩ := VH.push_idx st id h.1 hid hnew
  exact ⟨⟨hi, VH.push_ord st id h.2 hid⟩, hp, ha⟩

/-- `Pop` keeps the invariant, removes exactly the returned item, and that item has minimum area. -/
theorem pop_heapInv (st : VS α) (h : HeapInv st) (hne : 0 < st.heap.size) :
    HeapInv (pop st).2 ∧ st.heap.toList.Perm ((pop st).1 :: (pop st).2.heap.toList) ∧
      (∀ j, (pop st).2.area j = st.area j) ∧
      ∀ id ∈ st.heap.toList, aLe (st.area (pop st).1) (st.area id) = true := by
  obtain ⟨hi, hp, _, ha⟩ := VH.pop_idx st h.1 hne
  obtain ⟨ho, hm⟩ := VH.pop_ord st h.2 hne
  exact ⟨⟨hi, ho⟩, hp, ha, hm⟩

/-- `Update` keeps the invariant and the contents, and sets the item's area. -/
theorem update_heapInv (st : VS α) (id : Nat) (a : Option α) (h : HeapInv st) (hin : id ∈ st.heap.toList) :
    HeapInv (update st id a) ∧ (update st id a).heap.toList.Perm st.heap.toList ∧
      (update st id a).area id = a ∧ ∀ j, j ≠ id → (update st id a).area j = st.area j := by
  obtain ⟨hi, hp, _, ha, hb⟩ := VH.update_idx st id a h.1 hin
  exact ⟨⟨hi, VH.update_ord st id a h hin⟩, hp, ha, hb⟩

/-- With a minimum count of 0 (defaults) or ≥ 2 Visvalingam neither panics nor runs out of fuel. -/
theorem vis_total (thr : Option α) (toKeep : Nat) (hk : toKeep = 0 ∨ 2 ≤ toKeep) (ls : List (Pt α)) (area : Bool) :
    ∃ out, visSimplify thr toKeep ls area = .ok out := (Res.isOk_iff _).1 (visSimplify_isOk thr toKeep hk ls area)

/-- A larger threshold (and a not larger minimum count) never keeps a vertex the smaller one dropped. -/
theorem vis_nested (thr₁ thr₂ : Option α) (k₁ k₂ : Nat) (ls o₁ o₂ : List (Pt α)) (area : Bool)
    (ht : aLe thr₁ thr₂ = true) (hk : visToKeep k₂ ls area ≤ visToKeep k₁ ls area)
    (h₁ : visSimplify thr₁ k₁ ls area = .ok o₁) (h₂ : visSimplify thr₂ k₂ ls area = .ok o₂) :
    o₂.Sublist o₁ :=
  Vis.visSimplify_nested thr₁ thr₂ k₁ k₂ ls o₁ o₂ area (aLt_double_mono ht) hk h₁ h₂
theorem vis_nested_run (thr₁ thr₂ : Option α) (k₁ k₂ : Nat) (ls o₁ o₂ : List (Pt α)) (area : Bool)
    (ht : aLe thr₁ thr₂ = true) (hk : visToKeep k₂ ls area ≤ visToKeep k₁ ls area)
    (h₁ : runSimplify (visS thr₁ k₁) ls area = .ok o₁) (h₂ : runSimplify (visS thr₂ k₂) ls area = .ok o₂) :
    o₂.Sublist o₁ := by
  rcases runSimplify_cases₂ _ _ ls o₁ o₂ area h₁ h₂ with ⟨rfl, rfl⟩ | ⟨hs₁, hs₂⟩
  · exact List.Sublist.refl _
  · exact vis_nested thr₁ thr₂ k₁ k₂ ls o₁ o₂ area ht hk hs₁ hs₂

/-- Over an ordered field the model never panics (`vis_total`), so the parametrised Visvalingam, guard
    included, IS the model there. -/
theorem vis_twin_is_model (thr : Option α) (toKeep : Nat) (hk : toKeep = 0 ∨ 2 ≤ toKeep) (ls : List (Pt α)) (area : Bool) :
    visSimplifyP none aMax thr toKeep ls area = visSimplify thr toKeep ls area := by
  obtain ⟨out, ho⟩ := vis_total thr toKeep hk ls area
  rw [visSimplifyP_eq thr toKeep ls area _ ho (by intro w hw; cases hw), ho]

/-! ### no panic, no non-termination: every value through `Simplify`, for each simplifier -/

theorem dp_simplify_total (t : α) (v : GVal α) : (simplifyV (dpS t) v).isOk = true :=
  simplify_total _ (fun ls _ hl => (Res.isOk_iff _).2 (dp_total t ls (by rintro rfl; simp at hl))) v

theorem vis_simplify_total (thr : Option α) (toKeep : Nat) (hk : toKeep = 0 ∨ 2 ≤ toKeep) (v : GVal α) :
    (simplifyV (visS thr toKeep) v).isOk = true :=
  simplify_total _ (fun ls area _ => visSimplify_isOk thr toKeep hk ls area) v

end orderedField

/-- Non-vacuity: concrete runs of the three simplifiers that drop some vertices, a closed ring, and
    a polygon without rings inside a multi-polygon (dropped). -/
example :
    visSimplify (some (1 : Int)) 0 [⟨0, 0⟩, ⟨1, 3⟩, ⟨2, 0⟩, ⟨3, 0⟩, ⟨4, 0⟩] false = .ok [⟨0, 0⟩, ⟨1, 3⟩, ⟨2, 0⟩, ⟨4, 0⟩] ∧
    radialSimplify distSq (4 : Int) [⟨0, 0⟩, ⟨1, 0⟩, ⟨3, 0⟩, ⟨4, 0⟩] = .ok [⟨0, 0⟩, ⟨3, 0⟩, ⟨4, 0⟩] ∧
    multiPolygon (dpS (1 : Int)) [[]] = .ok [] := by decide

/-- Non-vacuity of the exact statements: the default counts on a closed and on an open ring; a polygon
    whose FIRST hole collapses (and is dropped) while the second survives; keep-2 on a closed ring. -/
example :
    visToKeep 0 [(⟨0, 0⟩ : Pt Int), ⟨1, 0⟩, ⟨0, 0⟩] true = 4 ∧ visToKeep 0 [(⟨0, 0⟩ : Pt Int), ⟨1, 0⟩, ⟨2, 0⟩] true = 3 ∧
    polygon (dpS (1 : Int)) [[⟨0, 0⟩, ⟨9, 0⟩, ⟨9, 9⟩, ⟨0, 0⟩], [⟨1, 1⟩, ⟨2, 1⟩, ⟨1, 1⟩], [⟨3, 1⟩, ⟨6, 1⟩, ⟨6, 4⟩, ⟨3, 1⟩]] =
      .ok [[⟨0, 0⟩, ⟨9, 0⟩, ⟨9, 9⟩, ⟨0, 0⟩], [⟨3, 1⟩, ⟨6, 1⟩, ⟨6, 4⟩, ⟨3, 1⟩]] ∧
    ring (visS (none : Option Int) 2) [⟨0, 0⟩, ⟨4, 0⟩, ⟨4, 4⟩, ⟨0, 4⟩, ⟨0, 0⟩] = .ok [⟨0, 0⟩, ⟨0, 0⟩] := by decide

end Orb.Simplify
