/-
  The segment `a b` in parameters: `lerp a b t`, `OnSeg`, and the box predicates of the clipping proofs.  What the
  proofs about a cut, a clamp or a crossing need of it are facts about an affine function of one variable on an
  interval: it stays between its end values (`affine_between`), it changes sign at one parameter with a known sign on
  each side (`affine_cross`; `param_mid`: it takes every value between its end values), and a change of sign has a
  parameter (`sign_change_param`).  The `lerp`s of planar, resample and smartclip and the point `(segX, segY)` of
  tilecover unfold to the same expression.
-/
import Orb.Core
import Mathlib.Algebra.Order.Field.Basic
import Mathlib.Tactic.Linarith
import Mathlib.Tactic.Ring

set_option linter.unusedSectionVars false

namespace Orb

section affine
variable {α : Type} [Field α] [LinearOrder α] [IsStrictOrderedRing α]

theorem affine_between {x d lo hi τ τ' t : α} (h1 : τ ≤ t) (h2 : t ≤ τ')
    (a1 : lo ≤ x + τ * d) (a2 : x + τ * d ≤ hi) (b1 : lo ≤ x + τ' * d) (b2 : x + τ' * d ≤ hi) :
    lo ≤ x + t * d ∧ x + t * d ≤ hi := by
  rcases le_total 0 d with hd | hd
  · exact ⟨a1.trans (add_le_add_right (mul_le_mul_of_nonneg_right h1 hd) x),
      (add_le_add_right (mul_le_mul_of_nonneg_right h2 hd) x).trans b2⟩
  · exact ⟨b1.trans (add_le_add_right (mul_le_mul_of_nonpos_right h2 hd) x),
      (add_le_add_right (mul_le_mul_of_nonpos_right h1 hd) x).trans a2⟩

theorem lerp1_between (a b t : α) (h0 : 0 ≤ t) (h1 : t ≤ 1) : min a b ≤ a + t * (b - a) ∧ a + t * (b - a) ≤ max a b :=
  affine_between (τ := 0) (τ' := 1) h0 h1 (by rw [zero_mul, add_zero]; exact min_le_left a b)
    (by rw [zero_mul, add_zero]; exact le_max_left a b) (by rw [one_mul, add_sub_cancel]; exact min_le_right a b)
    (by rw [one_mul, add_sub_cancel]; exact le_max_right a b)

theorem param_between {s e t : α} (hse : s ≤ e) (h0 : 0 ≤ t) (h1 : t ≤ 1) :
    s ≤ s + t * (e - s) ∧ s + t * (e - s) ≤ e := by
  have h := lerp1_between s e t h0 h1
  rwa [min_eq_left hse, max_eq_right hse] at h

/-- `lerp1_between` with the order of the two end values resolved -/
theorem between_lerp (a b t : α) (h0 : 0 ≤ t) (h1 : t ≤ 1) :
    (a ≤ a + t * (b - a) ∧ a + t * (b - a) ≤ b) ∨ (b ≤ a + t * (b - a) ∧ a + t * (b - a) ≤ a) := by
  have h := lerp1_between a b t h0 h1
  rcases le_total a b with hab | hab
  · rw [min_eq_left hab, max_eq_right hab] at h; exact Or.inl h
  · rw [min_eq_right hab, max_eq_left hab] at h; exact Or.inr h

/-- the converse of `param_between`: a parameter between `s` and `e` is `s + u * (e - s)` for a `u` between 0 and 1 -/
theorem between_param {s e t : α} (hst : s ≤ t) (hte : t ≤ e) : ∃ u, 0 ≤ u ∧ u ≤ 1 ∧ t = s + u * (e - s) := by
  rcases eq_or_lt_of_le (le_trans hst hte) with hse | hse
  · exact ⟨0, le_refl _, zero_le_one, by rw [zero_mul, add_zero]; exact le_antisymm (hse ▸ hte) hst⟩
  · have hpos : 0 < e - s := sub_pos.2 hse
    refine ⟨(t - s) / (e - s), div_nonneg (sub_nonneg.2 hst) hpos.le, ?_, ?_⟩
    · rw [div_le_one hpos]; linarith
    · rw [div_mul_cancel₀ _ hpos.ne', add_sub_cancel]

theorem convex_nonneg {u v t : α} (h0 : 0 ≤ t) (h1 : t ≤ 1) (hu : 0 ≤ u) (hv : 0 ≤ v) :
    0 ≤ (1 - t) * u + t * v :=
  add_nonneg (mul_nonneg (sub_nonneg.2 h1) hu) (mul_nonneg h0 hv)

theorem convex_nonpos {u v t : α} (h0 : 0 ≤ t) (h1 : t ≤ 1) (hu : u ≤ 0) (hv : v ≤ 0) :
    (1 - t) * u + t * v ≤ 0 :=
  add_nonpos (mul_nonpos_of_nonneg_of_nonpos (sub_nonneg.2 h1) hu) (mul_nonpos_of_nonneg_of_nonpos h0 hv)

theorem convex_pos {u v t : α} (h0 : 0 ≤ t) (h1 : t ≤ 1) (hu : 0 < u) (hv : 0 < v) :
    0 < (1 - t) * u + t * v := by
  rcases h0.eq_or_lt with rfl | h0
  · rwa [sub_zero, one_mul, zero_mul, add_zero]
  · exact add_pos_of_nonneg_of_pos (mul_nonneg (sub_nonneg.2 h1) hu.le) (mul_pos h0 hv)

theorem convex_eq_zero {u v t : α} (h0 : 0 < t) (h1 : t < 1) (hu : u ≤ 0) (hv : v ≤ 0)
    (h : 0 ≤ (1 - t) * u + t * v) : u = 0 ∧ v = 0 := by
  have p1 : (1 - t) * u ≤ 0 := mul_nonpos_of_nonneg_of_nonpos (sub_pos.2 h1).le hu
  have p2 : t * v ≤ 0 := mul_nonpos_of_nonneg_of_nonpos h0.le hv
  exact ⟨(mul_eq_zero.1 (le_antisymm p1 (h.trans (add_le_of_nonpos_right p2)))).resolve_left (sub_pos.2 h1).ne',
    (mul_eq_zero.1 (le_antisymm p2 (h.trans (add_le_of_nonpos_left p1)))).resolve_left h0.ne'⟩

/-- `t ↦ (1 - t) * u + t * v` with `u ≥ 0 ≥ v` vanishes at `T = u / (u - v)`, is positive before and
    non-positive after (for `u = v = 0` too, where `T = 0`) -/
theorem affine_cross {u v : α} (hu : 0 ≤ u) (hv : v ≤ 0) :
    0 ≤ u / (u - v) ∧ u / (u - v) ≤ 1 ∧ (1 - u / (u - v)) * u + u / (u - v) * v = 0 ∧
    (∀ t, 0 ≤ t → t < u / (u - v) → 0 < (1 - t) * u + t * v) ∧
    (∀ t, u / (u - v) < t → t ≤ 1 → (1 - t) * u + t * v ≤ 0) ∧
    (v < 0 → ∀ t, u / (u - v) < t → (1 - t) * u + t * v < 0) := by
  rcases eq_or_lt_of_le (sub_nonneg.2 (hv.trans hu)) with hd | hd
  · obtain rfl : v = u := (sub_eq_zero.1 hd.symm).symm
    obtain rfl : v = 0 := le_antisymm hv hu
    simp only [sub_self, div_zero, mul_zero, add_zero, le_refl, zero_le_one, lt_irrefl, true_and,
      implies_true, and_true, false_imp_iff]
    exact fun t h0 h1 => absurd h1 (not_lt.2 h0)
  · have hT : u / (u - v) * (u - v) = u := div_mul_cancel₀ _ hd.ne'
    have key : ∀ t, (1 - t) * u + t * v = (u / (u - v) - t) * (u - v) := fun t => by
      rw [sub_mul (u / (u - v)), hT]; ring
    refine ⟨div_nonneg hu hd.le, (div_le_one hd).2 ((le_sub_self_iff u).2 hv), ?_, ?_, ?_, ?_⟩
    · rw [key, sub_self, zero_mul]
    · intro t _ ht; rw [key]; exact mul_pos (sub_pos.2 ht) hd
    · intro t ht _; rw [key]; exact (mul_neg_of_neg_of_pos (sub_neg.2 ht) hd).le
    · intro _ t ht; rw [key]; exact mul_neg_of_neg_of_pos (sub_neg.2 ht) hd

/-- the mirror image: `u ≤ 0 ≤ v`, non-negative after `T`, positive when `v` is -/
theorem affine_cross_up {u v : α} (hu : u ≤ 0) (hv : 0 ≤ v) :
    0 ≤ u / (u - v) ∧ u / (u - v) ≤ 1 ∧ (1 - u / (u - v)) * u + u / (u - v) * v = 0 ∧
    (∀ t, u / (u - v) < t → t ≤ 1 → 0 ≤ (1 - t) * u + t * v) ∧
    (0 < v → ∀ t, u / (u - v) < t → 0 < (1 - t) * u + t * v) := by
  obtain ⟨h0, h1, hz, -, hle, hlt⟩ := affine_cross (neg_nonneg.2 hu) (neg_nonpos.2 hv)
  have e : -u / (-u - -v) = u / (u - v) := by rw [← neg_sub', neg_div_neg_eq]
  have key : ∀ t, (1 - t) * -u + t * -v = -((1 - t) * u + t * v) := fun t => by ring
  simp only [e, key, neg_eq_zero, neg_nonpos, neg_neg_iff_pos] at h0 h1 hz hle hlt
  exact ⟨h0, h1, hz, hle, hlt⟩

theorem param_mid {a b c : α} (hc : (a ≤ c ∧ c ≤ b) ∨ (b ≤ c ∧ c ≤ a)) :
    0 ≤ (c - a) / (b - a) ∧ (c - a) / (b - a) ≤ 1 ∧ a + (c - a) / (b - a) * (b - a) = c := by
  have key : ∀ t, (1 - t) * (c - a) + t * (c - b) = 0 → a + t * (b - a) = c := fun t h => by
    rw [← sub_eq_zero, ← neg_eq_zero, ← h]; ring
  have e : c - a - (c - b) = b - a := sub_sub_sub_cancel_left _ _ _
  rcases hc with ⟨h1, h2⟩ | ⟨h1, h2⟩
  · obtain ⟨t0, t1, hz, -⟩ := affine_cross (sub_nonneg.2 h1) (sub_nonpos.2 h2)
    rw [e] at t0 t1 hz
    exact ⟨t0, t1, key _ hz⟩
  · obtain ⟨t0, t1, hz, -⟩ := affine_cross_up (sub_nonpos.2 h2) (sub_nonneg.2 h1)
    rw [e] at t0 t1 hz
    exact ⟨t0, t1, key _ hz⟩

theorem sign_change_param {y d q τ τ' : α} (hτ : τ ≤ τ')
    (hne : decide (q < y + τ * d) ≠ decide (q < y + τ' * d)) :
    d ≠ 0 ∧ τ ≤ (q - y) / d ∧ (q - y) / d ≤ τ' := by
  by_cases h1 : q < y + τ * d
  · have h2 : ¬ q < y + τ' * d := fun h2 => hne (by simp only [h1, h2])
    have hd : d < 0 := neg_of_mul_neg_right (by linarith : (τ' - τ) * d < 0) (sub_nonneg.2 hτ)
    exact ⟨hd.ne, (le_div_iff_of_neg hd).2 (sub_lt_iff_lt_add'.2 h1).le,
      (div_le_iff_of_neg hd).2 (le_sub_iff_add_le'.2 (not_lt.1 h2))⟩
  · have h2 : q < y + τ' * d := by_contra fun h2 => hne (by simp only [h1, h2])
    have hd : 0 < d := pos_of_mul_pos_right (by linarith : 0 < (τ' - τ) * d) (sub_nonneg.2 hτ)
    exact ⟨hd.ne', (le_div_iff₀ hd).2 (le_sub_iff_add_le'.2 (not_lt.1 h1)),
      (div_le_iff₀ hd).2 (sub_lt_iff_lt_add'.2 h2).le⟩

end affine

namespace Clip
open Orb.Core

variable {α : Type} [Field α] [LinearOrder α] [IsStrictOrderedRing α]

/-- the box has positive width and height (the property's quantifier) -/
def BoxOK (box : Bound α) : Prop := box.lo.x < box.hi.x ∧ box.lo.y < box.hi.y

/-- closed-box membership -/
def InBox (box : Bound α) (p : Pt α) : Prop :=
  box.lo.x ≤ p.x ∧ p.x ≤ box.hi.x ∧ box.lo.y ≤ p.y ∧ p.y ≤ box.hi.y

/-- open-box membership -/
def InOpenBox (box : Bound α) (p : Pt α) : Prop :=
  box.lo.x < p.x ∧ p.x < box.hi.x ∧ box.lo.y < p.y ∧ p.y < box.hi.y

/-- both ends of the edge lie in one of the four closed outer half-planes of the box
    (left, right, bottom, top).  A predicate of the C16 region proofs; it stands here, below both
    OrbProofs/C16RegionGeom.lean and OrbProofs/C16RegionWrap.lean, which use it. -/
def C16R.SameSide (box : Bound α) (s e : Pt α) : Prop :=
  (s.x ≤ box.lo.x ∧ e.x ≤ box.lo.x) ∨ (box.hi.x ≤ s.x ∧ box.hi.x ≤ e.x) ∨
  (s.y ≤ box.lo.y ∧ e.y ≤ box.lo.y) ∨ (box.hi.y ≤ s.y ∧ box.hi.y ≤ e.y)

/-- the point at parameter `t` of the segment `a b` -/
def lerp (a b : Pt α) (t : α) : Pt α := ⟨a.x + t * (b.x - a.x), a.y + t * (b.y - a.y)⟩

/-- `q` lies on the closed segment `a b` -/
def OnSeg (a b q : Pt α) : Prop := ∃ t, 0 ≤ t ∧ t ≤ 1 ∧ q = lerp a b t

theorem pt_eq {p q : Pt α} (hx : p.x = q.x) (hy : p.y = q.y) : p = q := by
  cases p; cases q; simp_all

theorem lerp_zero (a b : Pt α) : lerp a b 0 = a := by
  apply pt_eq <;> simp [lerp]

theorem lerp_one (a b : Pt α) : lerp a b 1 = b := by
  apply pt_eq <;> simp [lerp]

theorem lerp_lerp (a b : Pt α) (s e t : α) :
    lerp (lerp a b s) (lerp a b e) t = lerp a b (s + t * (e - s)) := by
  apply pt_eq <;> simp only [lerp] <;> ring

theorem onSeg_left (a b : Pt α) : OnSeg a b a := ⟨0, le_refl _, zero_le_one, (lerp_zero a b).symm⟩
theorem onSeg_right (a b : Pt α) : OnSeg a b b := ⟨1, zero_le_one, le_refl _, (lerp_one a b).symm⟩

theorem onSeg_lerp (a b : Pt α) {t : α} (h0 : 0 ≤ t) (h1 : t ≤ 1) : OnSeg a b (lerp a b t) :=
  ⟨t, h0, h1, rfl⟩

theorem OnSeg.sub {a b a' b' q : Pt α} (ha : OnSeg a b a') (hb : OnSeg a b b')
    (hq : OnSeg a' b' q) : OnSeg a b q := by
  obtain ⟨s, hs0, hs1, rfl⟩ := ha
  obtain ⟨e, he0, he1, rfl⟩ := hb
  obtain ⟨t, ht0, ht1, rfl⟩ := hq
  refine ⟨s + t * (e - s), ?_, ?_, lerp_lerp a b s e t⟩
  · have := convex_nonneg ht0 ht1 hs0 he0
    linarith
  · have := convex_nonneg ht0 ht1 (sub_nonneg.2 hs1) (sub_nonneg.2 he1)
    linarith

theorem onSeg_between (a b : Pt α) {s e t : α} (hst : s ≤ t) (hte : t ≤ e) :
    OnSeg (lerp a b s) (lerp a b e) (lerp a b t) := by
  obtain ⟨u, h0, h1, rfl⟩ := between_param hst hte
  exact ⟨u, h0, h1, (lerp_lerp a b s e u).symm⟩

theorem OnSeg.symm {a b i : Pt α} (h : OnSeg a b i) : OnSeg b a i :=
  OnSeg.sub (onSeg_right b a) (onSeg_left b a) h

theorem OnSeg_split {a b i : Pt α} (h : OnSeg a b i) (q : Pt α) :
    OnSeg a b q ↔ (OnSeg a i q ∨ OnSeg i b q) := by
  constructor
  · intro hq
    obtain ⟨t, t0, t1, rfl⟩ := h
    obtain ⟨s, s0, s1, rfl⟩ := hq
    rcases le_total s t with hst | hst
    · left
      have := onSeg_between a b (s := 0) (e := t) (t := s) s0 hst
      rwa [lerp_zero] at this
    · right
      have := onSeg_between a b (s := t) (e := 1) (t := s) hst s1
      rwa [lerp_one] at this
  · rintro (hq | hq)
    · exact OnSeg.sub (onSeg_left a b) h hq
    · exact OnSeg.sub h (onSeg_right a b) hq

/-- a point `i` before `x` on the segment `a b`: `x` is on the rest `i b` -/
theorem onSeg_after {a b x i : Pt α} (hx : OnSeg a b x) (hi : OnSeg a x i) : OnSeg i b x := by
  obtain ⟨T, T0, T1, rfl⟩ := hx
  obtain ⟨s, s0, s1, rfl⟩ := hi
  have e : lerp a (lerp a b T) s = lerp a b (0 + s * (T - 0)) := by
    have := lerp_lerp a b 0 T s
    rwa [lerp_zero] at this
  have := onSeg_between a b (s := 0 + s * (T - 0)) (e := 1) (t := T)
    (by rw [zero_add, sub_zero]; exact mul_le_of_le_one_left T0 s1) T1
  rwa [lerp_one, ← e] at this

theorem onSeg_before {a b x i : Pt α} (hx : OnSeg a b x) (hi : OnSeg x b i) : OnSeg a i x :=
  (onSeg_after hx.symm hi.symm).symm

theorem lerp_swap (a b : Pt α) (t : α) : lerp a b t = lerp b a (1 - t) := by
  apply pt_eq <;> simp only [lerp] <;> ring

/-- a point of a segment lies in the bounding box of its ends -/
theorem OnSeg.bounds {a b v : Pt α} (h : OnSeg a b v) :
    min a.x b.x ≤ v.x ∧ v.x ≤ max a.x b.x ∧ min a.y b.y ≤ v.y ∧ v.y ≤ max a.y b.y := by
  obtain ⟨t, h0, h1, rfl⟩ := h
  exact ⟨(lerp1_between _ _ t h0 h1).1, (lerp1_between _ _ t h0 h1).2, (lerp1_between _ _ t h0 h1).1,
    (lerp1_between _ _ t h0 h1).2⟩

end Clip

end Orb
