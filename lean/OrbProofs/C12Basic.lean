/-
  Spec-side vocabulary of C12 (`EndsKept`, `Closed`, `Adjacent`, `ValidLine`, `GoodS`, `ValidPolygon`, the heap
  invariant `HeapIdx` / `HeapOrd` of the Visvalingam queue) and the list facts under it: `Adjacent` as the library's
  infix, index lists as sublists of `range`, the in-place compaction loop, and `KeptAt`, the shape of every
  simplifier's result.
-/
import Orb.Simplify
import Mathlib.Algebra.Order.Field.Basic

namespace Orb.Simplify
open Orb

/-- first and last element kept -/
def EndsKept {β : Type} (inp out : List β) : Prop := out.head? = inp.head? ∧ out.getLast? = inp.getLast?

/-- Go's `ls[0] == ls[len(ls)-1]` -/
def Closed {α : Type} [BEq α] (l : List (Pt α)) : Prop :=
  ∃ a b, l.head? = some a ∧ l.getLast? = some b ∧ Core.ptEq a b = true

/-- `a` is immediately followed by `b` in `l` -/
def Adjacent {β : Type} (l : List β) (a b : β) : Prop := ∃ l1 l2, l = l1 ++ a :: b :: l2

/-- what every simplifier guarantees for one vertex list -/
def ValidLine {β : Type} (inp out : List β) : Prop := out.Sublist inp ∧ EndsKept inp out

/-- a simplifier all of whose successful results are valid -/
def GoodS {α : Type} (s : Simplifier α) : Prop := ∀ ls area out, s ls area = .ok out → ValidLine ls out

/-- result of `polygon`: some rings kept in order (the outer one always), each simplified validly;
    inner rings that survive have more than 2 points -/
def ValidPolygon {α : Type} (p out : List (List (Pt α))) : Prop :=
  ∃ kept, kept.Sublist p ∧ List.Forall₂ ValidLine kept out ∧ kept.head? = p.head? ∧ ∀ r ∈ out.tail, 2 < r.length

section heapdefs
variable {α : Type} [LT α] [LE α] [DecidableLT α] [DecidableLE α]

/-- every heap slot holds a valid item id and that item's `index` field is the slot -/
def HeapIdx (st : VS α) : Prop :=
  ∀ i, i < st.heap.size → st.heap.getD i 0 < st.items.size ∧ (st.get (st.heap.getD i 0)).index = i

/-- parents are not larger than children (`up := ((i+1)>>1)-1`): a min-heap; `Orb.Quadtree.HeapOrd` of the same name
    is quadtree's max-heap -/
def HeapOrd (st : VS α) : Prop :=
  ∀ i, 0 < i → i < st.heap.size →
    aLe (st.area (st.heap.getD (((i + 1) >>> 1) - 1) 0)) (st.area (st.heap.getD i 0)) = true

def HeapInv (st : VS α) : Prop := HeapIdx st ∧ HeapOrd st

end heapdefs

theorem ValidLine.refl {β : Type} (ls : List β) : ValidLine ls ls := ⟨List.Sublist.refl _, rfl, rfl⟩

theorem EndsKept.closed {α : Type} [BEq α] {ls out : List (Pt α)} (h : EndsKept ls out) (hc : Closed ls) :
    Closed out := by
  obtain ⟨a, b, ha, hb, hab⟩ := hc
  exact ⟨a, b, h.1.trans ha, h.2.trans hb, hab⟩

section closed
variable {α : Type} [BEq α] [OfNat α 0]

theorem closed_iff_ptEq (ls : List (Pt α)) (hne : ls ≠ []) :
    Closed ls ↔ Core.ptEq (ls.getD 0 ⟨0, 0⟩) (ls.getD (ls.length - 1) ⟨0, 0⟩) = true := by
  have hpos : 0 < ls.length := List.length_pos_iff.2 hne
  have hh : ls.head? = some (ls.getD 0 ⟨0, 0⟩) := by
    cases ls with
    | nil => exact absurd rfl hne
    | cons a t => simp
  have hl : ls.getLast? = some (ls.getD (ls.length - 1) ⟨0, 0⟩) := by
    rw [List.getLast?_eq_getElem?]
    rw [List.getD_eq_getElem?_getD, List.getElem?_eq_getElem (by omega)]
    simp
  constructor
  · rintro ⟨a, b, ha, hb, hab⟩
    rw [hh] at ha; rw [hl] at hb
    injection ha with ha; injection hb with hb
    rw [ha, hb]; exact hab
  · intro h
    exact ⟨_, _, hh, hl, h⟩

end closed

theorem adjacent_iff_infix {β : Type} {l : List β} {a b : β} : Adjacent l a b ↔ [a, b] <:+: l :=
  ⟨fun ⟨s, t, h⟩ => ⟨s, t, by simp [h]⟩, fun ⟨s, t, h⟩ => ⟨s, t, by simp [← h]⟩⟩

theorem adjacent_split {β : Type} {A B : List β} {m i j : β} (h : Adjacent (A ++ m :: B) i j) :
    Adjacent (A ++ [m]) i j ∨ Adjacent (m :: B) i j := by
  induction A with
  | nil => exact Or.inr h
  | cons x A ih =>
    rcases List.infix_cons_iff.1 (adjacent_iff_infix.1 h) with hp | hi
    · left
      cases A with
      | nil => exact ⟨[], [], by simpa [List.cons_prefix_cons, eq_comm] using hp⟩
      | cons y A => exact ⟨[], A ++ [m], by simpa [List.cons_prefix_cons, eq_comm] using hp⟩
    · rcases ih (adjacent_iff_infix.2 hi) with ⟨s, t, e⟩ | h'
      · exact Or.inl ⟨x :: s, t, by simp [e]⟩
      · exact Or.inr h'

theorem adjacent_pair {β : Type} {s e i j : β} (h : Adjacent [s, e] i j) : i = s ∧ j = e := by
  simpa using (adjacent_iff_infix.1 h).eq_of_length rfl

theorem adjacent_cons {β : Type} {c x a b : β} {l : List β} (h : Adjacent (c :: x :: l) a b) :
    (a = c ∧ b = x) ∨ Adjacent (x :: l) a b := by
  rcases List.infix_cons_iff.1 (adjacent_iff_infix.1 h) with h | h
  · left; simpa [List.cons_prefix_cons] using h
  · exact Or.inr (adjacent_iff_infix.2 h)

theorem adjacent_dropLast_short {β : Type} (l : List β) (hl : l.length ≤ 2) (a b : β) :
    ¬ Adjacent l.dropLast a b := fun h => by
  have := (adjacent_iff_infix.1 h).length_le
  simp at this; omega

theorem adjacent_range {n i j : Nat} (h : Adjacent (List.range n) i j) : j = i + 1 := by
  obtain ⟨l1, l2, h⟩ := h
  have hi : (List.range n)[l1.length]? = some i := by rw [h]; simp
  have hj : (List.range n)[l1.length + 1]? = some j := by rw [h]; simp
  obtain ⟨_, hi⟩ := List.getElem?_eq_some_iff.1 hi
  obtain ⟨_, hj⟩ := List.getElem?_eq_some_iff.1 hj
  simp at hi hj; omega

theorem map_getD_eq_filterMap {β : Type} (ls : List β) (K : List Nat) (z : β)
    (h : ∀ k ∈ K, k < ls.length) :
    K.map (fun k => ls.getD k z) = K.filterMap (fun i => ls[i]?) := by
  induction K with
  | nil => rfl
  | cons k K ih =>
    have hk : k < ls.length := h k (by simp)
    have hv : ls[k]? = some ls[k] := List.getElem?_eq_getElem hk
    rw [List.filterMap_cons_some hv, List.map_cons, ih (fun j hj => h j (by simp [hj]))]
    simp [List.getD_eq_getElem?_getD, hv]

theorem range_filterMap_getElem {β : Type} (l : List β) :
    (List.range l.length).filterMap (fun i => l[i]?) = l := by
  induction l with
  | nil => rfl
  | cons a l ih =>
    rw [List.length_cons, List.range_succ_eq_map, List.filterMap_cons, List.filterMap_map]
    simpa [Function.comp_def] using ih

/-- A list of indices is strictly increasing and in range iff it is a sublist of `range`; reading a list at such
    indices gives a sublist, since reading it at all of `range` gives the list. -/
theorem filterMap_getElem?_sublist {β : Type} (ls : List β) (idxs : List Nat)
    (hs : idxs.Sublist (List.range ls.length)) : (idxs.filterMap (fun i => ls[i]?)).Sublist ls := by
  have := hs.filterMap (fun i => ls[i]?)
  rwa [range_filterMap_getElem] at this

theorem filterMap_getElem?_length {β : Type} (ls : List β) (idxs : List Nat) (hr : ∀ i ∈ idxs, i < ls.length) :
    (idxs.filterMap (fun i => ls[i]?)).length = idxs.length := by
  induction idxs with
  | nil => rfl
  | cons i t ih =>
    have hi : i < ls.length := hr i List.mem_cons_self
    rw [List.filterMap_cons, List.getElem?_eq_getElem hi]
    simp only [List.length_cons]
    rw [ih (fun j hj => hr j (List.mem_cons_of_mem _ hj))]

theorem take_succ_set {β : Type} (L : List β) (c : Nat) (v : β) (h : c < L.length) :
    (L.set c v).take (c + 1) = L.take c ++ [v] := by
  rw [List.take_add_one, List.take_set_of_le (Nat.le_refl _)]
  simp [h]

/-- the loop of `compact` started in the middle: state `(cur, c)`, remaining indices `rest` -/
theorem compact_aux {β : Type} (ls : List β) :
    ∀ (rest : List Nat) (cur : List β) (c : Nat), rest.Pairwise (· < ·) →
      (∀ i ∈ rest, c ≤ i ∧ i < ls.length) → cur.length = ls.length →
      (∀ j, c ≤ j → cur[j]? = ls[j]?) →
      let r := rest.foldl (fun (acc : List β × Nat) i =>
        match acc.1[i]? with
        | some v => (acc.1.set acc.2 v, acc.2 + 1)
        | none => acc) (cur, c)
      r.1.take r.2 = cur.take c ++ rest.filterMap (fun i => ls[i]?) := by
  intro rest
  induction rest with
  | nil => intro cur c _ _ _ _; simp
  | cons i rest ih =>
    intro cur c hp hr hl ht
    rw [List.pairwise_cons] at hp
    obtain ⟨hci, hil⟩ := hr i (by simp)
    have hv : ls[i]? = some ls[i] := List.getElem?_eq_getElem hil
    have hcv : cur[i]? = some ls[i] := by rw [ht i hci, hv]
    simp only [List.foldl_cons, hcv]
    rw [List.filterMap_cons_some hv]
    have hc : c < cur.length := by omega
    have := ih (cur.set c ls[i]) (c + 1) hp.2
      (fun j hj => ⟨by have := hp.1 j hj; omega, (hr j (by simp [hj])).2⟩)
      (by simp [hl])
      (fun j hj => by rw [List.getElem?_set_ne (by omega)]; exact ht j (by omega))
    simp only at this
    rw [this]
    rw [take_succ_set _ _ _ hc]; simp

/-- no read ever sees an earlier write -/
theorem compact_eq_filterMap {β : Type} (ls : List β) (idxs : List Nat) (hs : idxs.Sublist (List.range ls.length)) :
    compact ls idxs = idxs.filterMap (fun i => ls[i]?) := by
  have := compact_aux ls idxs ls 0 (List.pairwise_lt_range.sublist hs)
    (fun i hi => ⟨Nat.zero_le _, List.mem_range.1 (hs.subset hi)⟩) rfl (fun _ _ => rfl)
  simp only [List.take_zero, List.nil_append] at this
  exact this

theorem compact_sublist {β : Type} (ls : List β) (idxs : List Nat) (hs : idxs.Sublist (List.range ls.length)) :
    (compact ls idxs).Sublist ls :=
  compact_eq_filterMap ls idxs hs ▸ filterMap_getElem?_sublist ls idxs hs

/-- `out` is `ls` read at the strictly increasing in-range indices `K`, which start at `0` and end at
    the last index -/
structure KeptAt {β : Type} (ls : List β) (K : List Nat) (out : List β) : Prop where
  sub : K.Sublist (List.range ls.length)
  hd : K.head? = some 0
  lst : K.getLast? = some (ls.length - 1)
  eq : out = K.filterMap (fun i => ls[i]?)

namespace KeptAt
variable {β : Type} {ls out : List β} {K : List Nat}

theorem pw (h : KeptAt ls K out) : K.Pairwise (· < ·) := List.pairwise_lt_range.sublist h.sub

theorem lt (h : KeptAt ls K out) : ∀ k ∈ K, k < ls.length := fun _ hk => List.mem_range.1 (h.sub.subset hk)

theorem length_eq (h : KeptAt ls K out) : out.length = K.length := by
  rw [h.eq, filterMap_getElem?_length ls K h.lt]

theorem validLine (h : KeptAt ls K out) : ValidLine ls out := by
  have hpos : 0 < ls.length := h.lt 0 (List.mem_of_head? h.hd)
  refine ⟨h.eq ▸ filterMap_getElem?_sublist ls K h.sub, ?_, ?_⟩
  · obtain ⟨t, rfl⟩ : ∃ t, K = 0 :: t := by
      cases K with
      | nil => exact absurd h.hd (by simp)
      | cons i t => exact ⟨t, by rw [Option.some.inj h.hd]⟩
    rw [h.eq, List.filterMap_cons, List.getElem?_eq_getElem hpos]
    simp [List.head?_eq_getElem?]
  · obtain ⟨ys, rfl⟩ := List.getLast?_eq_some_iff.1 h.lst
    rw [h.eq, List.filterMap_append, List.filterMap_cons, List.getElem?_eq_getElem (by omega)]
    simp [List.getLast?_eq_getElem?]

end KeptAt

theorem compact_kept {β : Type} (ls : List β) (idxs : List Nat)
    (hs : idxs.Sublist (List.range ls.length)) (h0 : idxs[0]? = some 0)
    (hl : idxs[idxs.length - 1]? = some (ls.length - 1)) : KeptAt ls idxs (compact ls idxs) :=
  ⟨hs, by rw [List.head?_eq_getElem?]; exact h0, by rw [List.getLast?_eq_getElem?]; exact hl,
    compact_eq_filterMap ls idxs hs⟩

end Orb.Simplify
