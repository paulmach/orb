/-
  Lemmas for the integer half of C13 (`Orb.Tile`): under `V t` no uint32 operation of the code wraps, so every
  function has a closed form on naturals; the rest is about the ancestor relation `ancestorAt` / `IsAncestor`.
  Core Lean only (no Mathlib).
-/
import Orb.Tile

namespace Orb.Tile

theorem tile_beq_iff (t u : Tile) : (t == u) = true ↔ t = u := by
  cases t; cases u
  simp [BEq.beq, instBEqTile.beq]

theorem tile_ext {a b : Tile} (hx : a.x = b.x) (hy : a.y = b.y) (hz : a.z = b.z) : a = b := by
  cases a; cases b; simp_all

theorem two_pow_le_two_pow_30 {z : Nat} (h : z ≤ 30) : 2 ^ z ≤ 2 ^ 30 :=
  Nat.pow_le_pow_right (by decide) h

theorem shl32_eq {a s : Nat} (h : a * 2 ^ s < 2 ^ 32) : shl32 a s = a * 2 ^ s := by
  unfold shl32 W32
  rw [Nat.shiftLeft_eq]
  exact Nat.mod_eq_of_lt h

theorem shr32_eq (a s : Nat) : shr32 a s = a / 2 ^ s := by
  unfold shr32
  exact Nat.shiftRight_eq_div_pow a s

theorem sub32_eq {a b : Nat} (h : b ≤ a) (ha : a < 2 ^ 32) : sub32 a b = a - b := by
  unfold sub32 W32
  rw [Nat.mod_eq_of_lt (Nat.lt_of_le_of_lt h ha), Nat.add_comm, Nat.add_sub_assoc h, Nat.add_mod_left,
    Nat.mod_eq_of_lt (Nat.lt_of_le_of_lt (Nat.sub_le a b) ha)]

theorem add32_eq {a b : Nat} (h : a + b < 2 ^ 32) : add32 a b = a + b := Nat.mod_eq_of_lt h

/-- `x << 1` -/
theorem shl32_one {x : Nat} (h : x < 2 ^ 31) : shl32 x 1 = 2 * x := by
  rw [shl32_eq] <;> omega

theorem div_lt_two_pow {x a b : Nat} (h : x < 2 ^ (a + b)) : x / 2 ^ b < 2 ^ a := by
  rw [Nat.div_lt_iff_lt_mul (Nat.two_pow_pos b), ← Nat.pow_add]
  exact h

theorem succ_mul_le_two_pow {x a b : Nat} (h : x < 2 ^ a) : (x + 1) * 2 ^ b ≤ 2 ^ (a + b) := by
  rw [Nat.pow_add]
  exact Nat.mul_le_mul_right _ h

/-- Zoom ≤ 30 keeps the block of descendants `[x·2^d, (x+1)·2^d)` of a coordinate at or below `2^30`: the uint32
    shifts and `± 1` of the code cannot wrap on it. -/
theorem block_le {x z d : Nat} (hx : x < 2 ^ z) (hd : z + d ≤ 30) : (x + 1) * 2 ^ d ≤ 2 ^ 30 :=
  Nat.le_trans (succ_mul_le_two_pow hx) (two_pow_le_two_pow_30 hd)

theorem shl32_block {x d : Nat} (h : (x + 1) * 2 ^ d ≤ 2 ^ 30) : shl32 x d = x * 2 ^ d := by
  rw [Nat.add_one_mul] at h
  exact shl32_eq (Nat.lt_of_le_of_lt (Nat.le_add_right _ _) (Nat.lt_of_le_of_lt h (by decide)))

theorem shl32_succ_block {x d : Nat} (h : (x + 1) * 2 ^ d ≤ 2 ^ 30) : shl32 (add32 x 1) d = (x + 1) * 2 ^ d := by
  have := Nat.le_mul_of_pos_right (x + 1) (Nat.two_pow_pos d)
  rw [add32_eq (by omega), shl32_eq (by omega)]

theorem sub32_block_last {x d : Nat} (h : (x + 1) * 2 ^ d ≤ 2 ^ 30) :
    sub32 ((x + 1) * 2 ^ d) 1 = (x + 1) * 2 ^ d - 1 := by
  have := Nat.le_mul_of_pos_right (x + 1) (Nat.two_pow_pos d)
  exact sub32_eq (by omega) (by omega)

theorem add32_block {x d : Nat} (h : (x + 1) * 2 ^ d ≤ 2 ^ 30) : add32 (x * 2 ^ d) (2 ^ d) - x * 2 ^ d = 2 ^ d := by
  rw [Nat.add_one_mul] at h
  rw [add32_eq (Nat.lt_of_le_of_lt h (by decide)), Nat.add_sub_cancel_left]

theorem add_lt_block {x d i : Nat} (hi : i < 2 ^ d) : x * 2 ^ d + i < (x + 1) * 2 ^ d := by
  rw [Nat.add_one_mul]; exact Nat.add_lt_add_left hi _

theorem block_div {x d i : Nat} (hi : i < 2 ^ d) : (x * 2 ^ d + i) / 2 ^ d = x := by
  rw [Nat.add_comm, Nat.add_mul_div_right _ _ (Nat.two_pow_pos d), Nat.div_eq_of_lt hi, Nat.zero_add]

/-- `1 << z` -/
theorem shl32_one_pow {z : Nat} (hz : z ≤ 31) : shl32 1 z = 2 ^ z := by
  rw [shl32_eq] <;> rw [Nat.one_mul]
  exact Nat.pow_lt_pow_right (by decide) (by omega)

theorem valid_iff_lt (t : Tile) (hz : t.z ≤ 31) :
    valid t = true ↔ (t.x < 2^t.z ∧ t.y < 2^t.z) := by
  simp [valid, shl32_one_pow hz]

theorem parent_eq (t : Tile) (h : 0 < t.z) (h' : t.z < 2 ^ 32) :
    parent t = ⟨t.x / 2, t.y / 2, t.z - 1⟩ := by
  unfold parent
  rw [if_neg (by omega), shr32_eq, shr32_eq, sub32_eq (by omega) h']

/-- `parent_eq` with the right side read as the ancestor one level up -/
theorem parent_eq_ancestorAt (t : Tile) (h : 0 < t.z) (h' : t.z < 2 ^ 32) : parent t = ancestorAt t 1 :=
  parent_eq t h h'

theorem parent_z (t : Tile) (h : 0 < t.z) (h' : t.z < 2 ^ 32) : (parent t).z = t.z - 1 :=
  congrArg Tile.z (parent_eq t h h')

theorem V_ancestorAt (t : Tile) (ht : V t) (k : Nat) (hk : k ≤ t.z) : V (ancestorAt t k) := by
  obtain ⟨hx, hy, hz⟩ := ht
  have e : t.z = (t.z - k) + k := by omega
  rw [e] at hx hy
  exact ⟨div_lt_two_pow hx, div_lt_two_pow hy, by simp only [ancestorAt]; omega⟩

theorem children_eq (t : Tile) (ht : V t) :
    children t = [ ⟨2 * t.x, 2 * t.y, t.z + 1⟩, ⟨2 * t.x + 1, 2 * t.y, t.z + 1⟩,
      ⟨2 * t.x + 1, 2 * t.y + 1, t.z + 1⟩, ⟨2 * t.x, 2 * t.y + 1, t.z + 1⟩ ] := by
  obtain ⟨hx, hy, hz⟩ := ht
  have := two_pow_le_two_pow_30 hz
  unfold children
  rw [shl32_one (by omega), shl32_one (by omega), add32_eq (by omega), add32_eq (by omega),
    add32_eq (by omega)]

theorem child_spec (t : Tile) (ht : V t) {i j : Nat} (hi : i ≤ 1) (hj : j ≤ 1) :
    let c : Tile := ⟨2 * t.x + i, 2 * t.y + j, t.z + 1⟩
    (c.x < 2 ^ c.z ∧ c.y < 2 ^ c.z ∧ c.z ≤ 31) ∧ valid c = true ∧ c.z = t.z + 1 ∧ parent c = t := by
  obtain ⟨x, y, z⟩ := t
  obtain ⟨hx, hy, hz⟩ := ht
  simp only at hx hy hz ⊢
  have hv : 2 * x + i < 2 ^ (z + 1) ∧ 2 * y + j < 2 ^ (z + 1) := by rw [Nat.pow_succ]; omega
  refine ⟨⟨hv.1, hv.2, by omega⟩, (valid_iff_lt _ (by simp only; omega)).2 hv, ?_⟩
  rw [parent_eq _ (Nat.succ_pos z) (show z + 1 < 2 ^ 32 by omega)]
  simp only [Nat.add_sub_cancel, Tile.mk.injEq, and_true, true_and]
  omega

theorem forall_children (t : Tile) (ht : V t) {P : Tile → Prop}
    (h : ∀ i j, i ≤ 1 → j ≤ 1 → P ⟨2 * t.x + i, 2 * t.y + j, t.z + 1⟩) : ∀ c ∈ children t, P c := by
  rw [children_eq t ht]
  intro c hc
  simp only [List.mem_cons, List.not_mem_nil, or_false] at hc
  rcases hc with rfl | rfl | rfl | rfl
  · exact h 0 0 (by decide) (by decide)
  · exact h 1 0 (by decide) (by decide)
  · exact h 1 1 (by decide) (by decide)
  · exact h 0 1 (by decide) (by decide)

theorem children_valid_parent' (t : Tile) (ht : V t) (hz : t.z < 30) :
    ∀ c ∈ children t, V c ∧ c.z = t.z + 1 ∧ parent c = t :=
  forall_children t ht fun _ _ hi hj =>
    have ⟨⟨hx, hy, _⟩, _, hcz, hp⟩ := child_spec t ht hi hj
    ⟨⟨hx, hy, Nat.succ_le_of_lt hz⟩, hcz, hp⟩

theorem mem_children_of_parent (t c : Tile) (ht : V t) (hcz : c.z = t.z + 1)
    (hp : parent c = t) : c ∈ children t := by
  have hz30 : t.z ≤ 30 := ht.2.2
  rw [children_eq t ht]
  rw [parent_eq c (by omega) (by omega)] at hp
  subst hp
  cases c with
  | mk x y z =>
  simp only at hcz
  simp only [List.mem_cons, List.not_mem_nil, or_false, Tile.mk.injEq]
  omega

theorem parent_V {t : Tile} (ht : V t) (hz : 0 < t.z) :
    V (parent t) ∧ (parent t).z + 1 = t.z ∧ (parent t).z < 30 := by
  have h30 := ht.2.2
  have hpz := parent_z t hz (by omega)
  exact ⟨parent_eq_ancestorAt t hz (by omega) ▸ V_ancestorAt t ht 1 hz, by omega, by omega⟩

theorem mem_siblings_iff {t : Tile} (ht : V t) (hz : 0 < t.z) (s : Tile) :
    s ∈ siblings t ↔ (V s ∧ s.z = t.z ∧ parent s = parent t) := by
  obtain ⟨hp, hpz, hp30⟩ := parent_V ht hz
  unfold siblings
  constructor
  · intro h
    obtain ⟨h1, h2, h3⟩ := children_valid_parent' _ hp hp30 s h
    exact ⟨h1, by omega, h3⟩
  · rintro ⟨h1, h2, h3⟩
    exact mem_children_of_parent _ s hp (by omega) h3

theorem self_mem_siblings {t : Tile} (ht : V t) (hz : 0 < t.z) : t ∈ siblings t :=
  (mem_siblings_iff ht hz t).2 ⟨ht, rfl, rfl⟩

theorem siblings_eq_of_mem {t s : Tile} (ht : V t) (hz : 0 < t.z) (hs : s ∈ siblings t) :
    siblings s = siblings t := by
  have := ((mem_siblings_iff ht hz s).1 hs).2.2
  unfold siblings
  rw [this]

theorem parent_z_le (t : Tile) (h : t.z ≤ 30) : (parent t).z ≤ t.z := by
  by_cases h0 : t.z = 0
  · simp [parent, h0]
  · rw [parent_z t (by omega) (by omega)]; omega

theorem toZoom_up (t : Tile) (z : Nat) (h : z ≤ t.z) (ht : t.z < 2 ^ 32) :
    toZoom t z = ancestorAt t (t.z - z) := by
  unfold toZoom ancestorAt
  rw [if_neg (by omega), shr32_eq, shr32_eq, sub32_eq h ht]
  congr 1
  omega

theorem toZoom_down (t : Tile) (z : Nat) (ht : V t) (h : t.z ≤ z) (hz : z ≤ 30) :
    toZoom t z = ⟨t.x * 2 ^ (z - t.z), t.y * 2 ^ (z - t.z), z⟩ := by
  obtain ⟨hx, hy, _⟩ := ht
  have hd : t.z + (z - t.z) ≤ 30 := by omega
  unfold toZoom
  by_cases hlt : z > t.z
  · rw [if_pos hlt, sub32_eq h (Nat.lt_of_le_of_lt hz (by decide)), shl32_block (block_le hx hd),
      shl32_block (block_le hy hd)]
  · have : z = t.z := by omega
    subst this
    rw [if_neg hlt, sub32_eq (Nat.le_refl _) (Nat.lt_of_le_of_lt hz (by decide)), shr32_eq, shr32_eq]
    simp

theorem range_down (t : Tile) (z : Nat) (ht : V t) (hz : t.z ≤ z) (hz' : z ≤ 30) :
    range t z = (⟨t.x * 2 ^ (z - t.z), t.y * 2 ^ (z - t.z), z⟩,
      ⟨(t.x + 1) * 2 ^ (z - t.z) - 1, (t.y + 1) * 2 ^ (z - t.z) - 1, z⟩) := by
  obtain ⟨hx, hy, _⟩ := ht
  have hd : t.z + (z - t.z) ≤ 30 := by omega
  have hbx := block_le hx hd
  have hby := block_le hy hd
  unfold range
  rw [if_neg (Nat.not_lt.2 hz)]
  simp only
  rw [sub32_eq hz (Nat.lt_of_le_of_lt hz' (by decide)), shl32_block hbx, shl32_block hby, shl32_succ_block hbx,
    shl32_succ_block hby, sub32_block_last hbx, sub32_block_last hby]

theorem one_shl_mod64 {i : Nat} (h : i < 64) : (1 <<< i) % W64 = 2 ^ i := by
  unfold W64
  rw [Nat.one_shiftLeft]
  exact Nat.mod_eq_of_lt (Nat.pow_lt_pow_right (by decide) h)

theorem testBit_quadkey_piece (v i s j : Nat) (h : i + s < 64) :
    (((v &&& 2 ^ i) <<< s) % W64).testBit j = (decide (j = i + s) && v.testBit i) := by
  unfold W64
  rw [Nat.testBit_mod_two_pow, Nat.testBit_shiftLeft, Nat.testBit_and, Nat.testBit_two_pow]
  by_cases hj : j = i + s
  · subst hj
    simp [h]
  · simp only [hj, decide_false, Bool.false_and]
    by_cases h1 : j ≥ s
    · have : ¬ (i = j - s) := by omega
      simp [this]
    · simp [h1]

theorem testBit_quadkeyStep (t : Tile) (r i j : Nat) (h : i < 32) :
    (quadkeyStep t r i).testBit j =
      (r.testBit j || (decide (j = 2 * i) && t.x.testBit i) || (decide (j = 2 * i + 1) && t.y.testBit i)) := by
  unfold quadkeyStep
  simp only
  rw [one_shl_mod64 (by omega), Nat.testBit_or, Nat.testBit_or,
    testBit_quadkey_piece _ _ _ _ (by omega), testBit_quadkey_piece _ _ _ _ (by omega)]
  have e1 : i + i = 2 * i := by omega
  have e2 : i + (i + 1) = 2 * i + 1 := by omega
  rw [e1, e2]

theorem foldl_range_succ {β : Type} (f : β → Nat → β) (a : β) (n : Nat) :
    (List.range (n + 1)).foldl f a = f ((List.range n).foldl f a) n := by
  rw [List.range_succ, List.foldl_append]
  rfl

theorem quadkey_fold_bits (t : Tile) (n : Nat) (hn : n ≤ 32) (i : Nat) :
    ((List.range n).foldl (quadkeyStep t) 0).testBit (2 * i) = (decide (i < n) && t.x.testBit i) ∧
    ((List.range n).foldl (quadkeyStep t) 0).testBit (2 * i + 1) = (decide (i < n) && t.y.testBit i) := by
  induction n with
  | zero => simp
  | succ n ih =>
    obtain ⟨ih1, ih2⟩ := ih (by omega)
    rw [foldl_range_succ, testBit_quadkeyStep _ _ _ _ (by omega),
      testBit_quadkeyStep _ _ _ _ (by omega), ih1, ih2]
    have a1 : ¬ (2 * i = 2 * n + 1) := by omega
    have a2 : ¬ (2 * i + 1 = 2 * n) := by omega
    by_cases h : i = n
    · subst h
      simp
    · have b1 : ¬ (2 * i = 2 * n) := by omega
      have b2 : ¬ (2 * i + 1 = 2 * n + 1) := by omega
      have b3 : (i < n + 1) ↔ (i < n) := by omega
      simp [a1, a2, b1, b3]

theorem testBit_fromQuadkey_piece (k b s j : Nat) (hs : s ≤ b) (h : b - s < 32) :
    (((k &&& 2 ^ b) >>> s) % W32).testBit j = (decide (j = b - s) && k.testBit b) := by
  unfold W32
  rw [Nat.testBit_mod_two_pow, Nat.testBit_shiftRight, Nat.testBit_and, Nat.testBit_two_pow]
  by_cases hj : j = b - s
  · subst hj
    have e : s + (b - s) = b := by omega
    simp [h, e]
  · have : ¬ (b = s + j) := by omega
    simp [hj, this]

theorem fromQuadkey_fold_bits (k z n : Nat) (hn : n ≤ 32) :
    ((List.range n).foldl (fromQuadkeyStep k) ⟨0, 0, z⟩).z = z ∧
    ∀ i, ((List.range n).foldl (fromQuadkeyStep k) ⟨0, 0, z⟩).x.testBit i
          = (decide (i < n) && k.testBit (2 * i)) ∧
        ((List.range n).foldl (fromQuadkeyStep k) ⟨0, 0, z⟩).y.testBit i
          = (decide (i < n) && k.testBit (2 * i + 1)) := by
  induction n with
  | zero => simp
  | succ n ih =>
    obtain ⟨ihz, ih⟩ := ih (by omega)
    rw [foldl_range_succ]
    refine ⟨by simpa [fromQuadkeyStep] using ihz, ?_⟩
    intro i
    obtain ⟨ih1, ih2⟩ := ih i
    generalize (List.range n).foldl (fromQuadkeyStep k) ⟨0, 0, z⟩ = T at ih1 ih2 ⊢
    unfold fromQuadkeyStep
    simp only
    rw [one_shl_mod64 (by omega), one_shl_mod64 (by omega), Nat.testBit_or, Nat.testBit_or,
      testBit_fromQuadkey_piece _ _ _ _ (by omega) (by omega), testBit_fromQuadkey_piece _ _ _ _ (by omega) (by omega),
      ih1, ih2]
    have e1 : 2 * n - n = n := by omega
    have e2 : 2 * n + 1 - (n + 1) = n := by omega
    rw [e1, e2]
    by_cases h : i = n
    · subst h
      simp
    · have b3 : (i < n + 1) ↔ (i < n) := by omega
      simp [h, b3]

theorem testBit_eq_false_of_lt {x z i : Nat} (hx : x < 2 ^ z) (hi : z ≤ i) : x.testBit i = false :=
  Nat.testBit_lt_two_pow (Nat.lt_of_lt_of_le hx (Nat.pow_le_pow_right (by decide) hi))

theorem eq_of_low_bits {x y z : Nat} (hx : x < 2 ^ z)
    (h : ∀ i, y.testBit i = (decide (i < z) && x.testBit i)) : y = x := by
  apply Nat.eq_of_testBit_eq
  intro i
  rw [h i]
  by_cases hi : i < z
  · simp [hi]
  · simp [hi, testBit_eq_false_of_lt hx (Nat.le_of_not_lt hi)]

theorem ancestorAt_zero (t : Tile) : ancestorAt t 0 = t := by
  cases t; simp [ancestorAt]

theorem ancestorAt_add (t : Tile) (k m : Nat) :
    ancestorAt (ancestorAt t k) m = ancestorAt t (k + m) := by
  simp [ancestorAt, Nat.div_div_eq_div_mul, Nat.pow_add, Nat.sub_sub]

theorem isAncestor_iff (a u : Tile) : IsAncestor a u ↔ ∃ k, k ≤ u.z ∧ a = ancestorAt u k := by
  constructor
  · rintro ⟨h1, h2⟩
    exact ⟨u.z - a.z, by omega, h2⟩
  · rintro ⟨k, hk, rfl⟩
    have e : u.z - (ancestorAt u k).z = k := by simp only [ancestorAt]; omega
    refine ⟨by simp only [ancestorAt]; omega, ?_⟩
    rw [e]

theorem isAncestor_ancestorAt (u : Tile) (k : Nat) (hk : k ≤ u.z) : IsAncestor (ancestorAt u k) u :=
  (isAncestor_iff _ _).2 ⟨k, hk, rfl⟩

theorem isAncestor_parent {c : Tile} (hz : 0 < c.z) (h : c.z < 2 ^ 32) : IsAncestor (parent c) c :=
  parent_eq_ancestorAt c hz h ▸ isAncestor_ancestorAt c 1 hz

theorem isAncestor_refl (u : Tile) : IsAncestor u u := by
  have := isAncestor_ancestorAt u 0 (Nat.zero_le _)
  rwa [ancestorAt_zero] at this

theorem isAncestor_trans {a b c : Tile} (h1 : IsAncestor a b) (h2 : IsAncestor b c) :
    IsAncestor a c := by
  rw [isAncestor_iff] at h1 h2 ⊢
  obtain ⟨k1, hk1, rfl⟩ := h1
  obtain ⟨k2, hk2, rfl⟩ := h2
  refine ⟨k2 + k1, ?_, ancestorAt_add _ _ _⟩
  simp only [ancestorAt] at hk1
  omega

theorem isAncestor_restrict {a b t : Tile} (ha : IsAncestor a t) (hb : IsAncestor b t)
    (hz : a.z ≤ b.z) : IsAncestor a b := by
  rw [isAncestor_iff] at ha hb ⊢
  obtain ⟨ka, hka, rfl⟩ := ha
  obtain ⟨kb, hkb, rfl⟩ := hb
  simp only [ancestorAt] at hz
  refine ⟨ka - kb, by simp only [ancestorAt]; omega, ?_⟩
  rw [ancestorAt_add]
  congr 1
  omega

theorem eq_div_iff_block {u x k : Nat} (hk : 0 < k) : x = u / k ↔ x * k ≤ u ∧ u < (x + 1) * k := by
  rw [← Nat.le_div_iff_mul_le hk, ← Nat.div_lt_iff_lt_mul hk]
  omega

theorem isAncestor_iff_div (a u : Tile) :
    IsAncestor a u ↔ a.z ≤ u.z ∧ a.x = u.x / 2 ^ (u.z - a.z) ∧ a.y = u.y / 2 ^ (u.z - a.z) :=
  ⟨fun ⟨h, e⟩ => ⟨h, congrArg Tile.x e, congrArg Tile.y e⟩,
   fun ⟨h, ex, ey⟩ => ⟨h, tile_ext ex ey (Nat.sub_sub_self h).symm⟩⟩

theorem isAncestor_iff_block {a u : Tile} {d : Nat} (hz : u.z = a.z + d) :
    IsAncestor a u ↔ (a.x * 2 ^ d ≤ u.x ∧ u.x < (a.x + 1) * 2 ^ d) ∧ (a.y * 2 ^ d ≤ u.y ∧ u.y < (a.y + 1) * 2 ^ d) := by
  rw [isAncestor_iff_div, hz, Nat.add_sub_cancel_left, eq_div_iff_block (Nat.two_pow_pos d),
    eq_div_iff_block (Nat.two_pow_pos d)]
  exact and_iff_right (Nat.le_add_right _ _)

theorem isAncestor_corner (t : Tile) (k : Nat) : IsAncestor t ⟨t.x * 2 ^ k, t.y * 2 ^ k, t.z + k⟩ :=
  (isAncestor_iff_block rfl).2 ⟨⟨Nat.le_refl _, add_lt_block (i := 0) (Nat.two_pow_pos k)⟩,
    Nat.le_refl _, add_lt_block (i := 0) (Nat.two_pow_pos k)⟩

theorem bitLen_le_iff (n : Nat) : ∀ c, bitLen n ≤ c ↔ n < 2 ^ c := by
  induction n using bitLen.induct with
  | case1 => intro c; simp [bitLen, Nat.two_pow_pos]
  | case2 n ih =>
    intro c
    rw [bitLen]
    cases c with
    | zero => simp
    | succ c => have := ih c; rw [Nat.pow_succ]; omega

theorem xor_eq_zero_iff {x y : Nat} : x ^^^ y = 0 ↔ x = y :=
  ⟨fun h => by rw [← Nat.xor_zero x, ← h, ← Nat.xor_assoc, Nat.xor_self, Nat.zero_xor], fun h => h ▸ Nat.xor_self x⟩

/-- two coordinates agree `c` levels up iff `c` is at least the bit length of their xor -/
theorem bitLen_xor_le_iff (a b c : Nat) : bitLen (a ^^^ b) ≤ c ↔ a / 2 ^ c = b / 2 ^ c := by
  rw [bitLen_le_iff, ← Nat.div_eq_zero_iff_lt (Nat.two_pow_pos c), Nat.xor_div_two_pow, xor_eq_zero_iff]

/-- `SharedParent` after the two tiles have been brought to the same zoom. -/
def spCore (t u : Tile) : Tile :=
  if t == u then t else
  let xc := bitLen (t.x ^^^ u.x)
  let yc := bitLen (t.y ^^^ u.y)
  let maxc := if yc > xc then yc else xc
  ⟨shr32 t.x maxc, shr32 t.y maxc, sub32 t.z maxc⟩

/-- `SharedParent` brings the deeper tile up to the zoom of the other (truncated subtraction: the shallower one goes up
    0 levels) and compares there. -/
theorem sharedParent_eq_spCore (t u : Tile) (ht : t.z < 2 ^ 32) (hu : u.z < 2 ^ 32) :
    sharedParent t u = spCore (ancestorAt t (t.z - u.z)) (ancestorAt u (u.z - t.z)) := by
  unfold sharedParent spCore
  rcases Nat.lt_trichotomy t.z u.z with h | h | h
  · rw [Nat.sub_eq_zero_of_le (Nat.le_of_lt h), ancestorAt_zero, ← toZoom_up u t.z (Nat.le_of_lt h) hu]
    simp [Nat.ne_of_lt h, h]
  · rw [h, Nat.sub_self, ancestorAt_zero, ancestorAt_zero]
    simp [h]
  · rw [Nat.sub_eq_zero_of_le (Nat.le_of_lt h), ancestorAt_zero, ← toZoom_up t u.z (Nat.le_of_lt h) ht]
    simp [Nat.ne_of_gt h, Nat.lt_asymm h]

theorem spCore_spec (t u : Tile) (ht : V t) (hu : V u) (hz : t.z = u.z) :
    ∃ m, m ≤ t.z ∧ spCore t u = ancestorAt t m ∧ spCore t u = ancestorAt u m ∧
      ∀ c, t.x / 2 ^ c = u.x / 2 ^ c → t.y / 2 ^ c = u.y / 2 ^ c → m ≤ c := by
  by_cases h : t = u
  · subst h
    refine ⟨0, Nat.zero_le _, ?_, ?_, fun c _ _ => Nat.zero_le _⟩ <;>
    · unfold spCore
      rw [if_pos ((tile_beq_iff _ _).2 rfl), ancestorAt_zero]
  · obtain ⟨hx, hy, hz30⟩ := ht
    obtain ⟨hx', hy', _⟩ := hu
    rw [← hz] at hx' hy'
    -- the code goes up by the larger of the two bit lengths: the least number of levels at which both
    -- coordinates agree
    obtain ⟨m, hm⟩ : ∃ m, m = if bitLen (t.y ^^^ u.y) > bitLen (t.x ^^^ u.x) then bitLen (t.y ^^^ u.y)
        else bitLen (t.x ^^^ u.x) := ⟨_, rfl⟩
    have hmc : ∀ c, m ≤ c ↔ t.x / 2 ^ c = u.x / 2 ^ c ∧ t.y / 2 ^ c = u.y / 2 ^ c := fun c => by
      rw [← bitLen_xor_le_iff, ← bitLen_xor_le_iff, hm]; split <;> omega
    have hmz : m ≤ t.z := (hmc t.z).2
      ⟨by rw [Nat.div_eq_of_lt hx, Nat.div_eq_of_lt hx'], by rw [Nat.div_eq_of_lt hy, Nat.div_eq_of_lt hy']⟩
    obtain ⟨ex, ey⟩ := (hmc m).1 (Nat.le_refl m)
    have hsp : spCore t u = ancestorAt t m := by
      unfold spCore
      rw [if_neg fun h' => h ((tile_beq_iff _ _).1 h')]
      simp only
      rw [← hm, shr32_eq, shr32_eq, sub32_eq hmz (by omega)]
      rfl
    exact ⟨m, hmz, hsp, by rw [hsp]; simp only [ancestorAt, ex, ey, hz], fun c hcx hcy => (hmc c).2 ⟨hcx, hcy⟩⟩

theorem spCore_glb (t u : Tile) (ht : V t) (hu : V u) (hz : t.z = u.z) :
    IsAncestor (spCore t u) t ∧ IsAncestor (spCore t u) u ∧
      ∀ a, IsAncestor a t → IsAncestor a u → IsAncestor a (spCore t u) := by
  obtain ⟨m, hm, h1, h2, h3⟩ := spCore_spec t u ht hu hz
  have hsp : IsAncestor (spCore t u) t := by rw [h1]; exact isAncestor_ancestorAt t m hm
  refine ⟨hsp, by rw [h2]; exact isAncestor_ancestorAt u m (by omega), fun a hat hau =>
    isAncestor_restrict hat hsp ?_⟩
  -- a common ancestor lies at least `m` levels up
  obtain ⟨hz1, ex, ey⟩ := (isAncestor_iff_div _ _).1 hat
  obtain ⟨_, ex', ey'⟩ := (isAncestor_iff_div _ _).1 hau
  rw [← hz] at ex' ey'
  have := h3 _ (ex.symm.trans ex') (ey.symm.trans ey')
  rw [h1]
  simp only [ancestorAt]
  omega

theorem sharedParent_glb (t u : Tile) (ht : V t) (hu : V u) :
    IsAncestor (sharedParent t u) t ∧ IsAncestor (sharedParent t u) u ∧
      ∀ a, IsAncestor a t → IsAncestor a u → IsAncestor a (sharedParent t u) := by
  have htz := ht.2.2; have huz := hu.2.2
  have hat' := isAncestor_ancestorAt t (t.z - u.z) (Nat.sub_le _ _)
  have hau' := isAncestor_ancestorAt u (u.z - t.z) (Nat.sub_le _ _)
  rw [sharedParent_eq_spCore t u (by omega) (by omega)]
  obtain ⟨c1, c2, c3⟩ := spCore_glb _ _ (V_ancestorAt t ht _ (Nat.sub_le _ _)) (V_ancestorAt u hu _ (Nat.sub_le _ _))
    (show t.z - (t.z - u.z) = u.z - (u.z - t.z) by omega)
  refine ⟨isAncestor_trans c1 hat', isAncestor_trans c2 hau', fun a hat hau => ?_⟩
  have h1 := hat.1; have h2 := hau.1
  exact c3 a (isAncestor_restrict hat hat' (show a.z ≤ t.z - (t.z - u.z) by omega))
    (isAncestor_restrict hau hau' (show a.z ≤ u.z - (u.z - t.z) by omega))

theorem childrenAtDelta_eq (t : Tile) (d : Nat) (ht : V t) (hd : t.z + d ≤ 30) :
    childrenAtDelta t d = (List.range (2 ^ d)).flatMap fun i =>
      (List.range (2 ^ d)).map fun j => ⟨t.x * 2 ^ d + i, t.y * 2 ^ d + j, t.z + d⟩ := by
  have hbx := block_le ht.1 hd
  have hby := block_le ht.2.1 hd
  unfold childrenAtDelta
  simp only [shl32_block hbx, shl32_block hby, shl32_one_pow (show d ≤ 31 by omega), add32_block hbx, add32_block hby,
    add32_eq (show t.z + d < 2 ^ 32 by omega)]

theorem mem_childrenAtDelta (t : Tile) (d : Nat) (u : Tile) (ht : V t) (hd : t.z + d ≤ 30) :
    u ∈ childrenAtDelta t d ↔ (V u ∧ u.z = t.z + d ∧ IsAncestor t u) := by
  rw [childrenAtDelta_eq t d ht hd]
  simp only [List.mem_flatMap, List.mem_map, List.mem_range]
  have hpos := Nat.two_pow_pos d
  constructor
  · rintro ⟨i, hi, j, hj, rfl⟩
    refine ⟨⟨Nat.lt_of_lt_of_le (add_lt_block hi) (succ_mul_le_two_pow ht.1),
      Nat.lt_of_lt_of_le (add_lt_block hj) (succ_mul_le_two_pow ht.2.1), hd⟩, rfl, Nat.le_add_right _ _, ?_⟩
    simp only [ancestorAt, Nat.add_sub_cancel_left, Nat.add_sub_cancel, block_div hi, block_div hj]
  · rintro ⟨_, hzu, _, he⟩
    rw [hzu, Nat.add_sub_cancel_left] at he
    have ex : t.x = u.x / 2 ^ d := congrArg Tile.x he
    have ey : t.y = u.y / 2 ^ d := congrArg Tile.y he
    refine ⟨u.x % 2 ^ d, Nat.mod_lt _ hpos, u.y % 2 ^ d, Nat.mod_lt _ hpos, tile_ext ?_ ?_ hzu.symm⟩
    · simp only; rw [ex]; exact Nat.div_add_mod' _ _
    · simp only; rw [ey]; exact Nat.div_add_mod' _ _

/-- lists indexed by `i < n` whose elements carry their index are disjoint: concatenated they have no duplicates -/
theorem nodup_flatMap_range {β : Type} (n : Nat) (f : Nat → List β) (key : β → Nat)
    (hnd : ∀ i, i < n → (f i).Nodup) (hkey : ∀ i, i < n → ∀ b ∈ f i, key b = i) :
    ((List.range n).flatMap f).Nodup := by
  unfold List.Nodup
  rw [List.pairwise_flatMap]
  refine ⟨fun i hi => hnd i (List.mem_range.1 hi), List.Pairwise.imp_of_mem ?_ (List.nodup_range (n := n))⟩
  intro i j hi hj hij p hp q hq hpq
  exact hij (by rw [← hkey i (List.mem_range.1 hi) p hp, hpq, hkey j (List.mem_range.1 hj) q hq])

theorem nodup_childrenAtDelta (t : Tile) (d : Nat) (ht : V t) (hd : t.z + d ≤ 30) :
    (childrenAtDelta t d).Nodup := by
  rw [childrenAtDelta_eq t d ht hd]
  refine nodup_flatMap_range _ _ (fun u => u.x - t.x * 2 ^ d) (fun i _ => ?_) fun i _ u hu => ?_
  · rw [List.map_eq_flatMap]
    exact nodup_flatMap_range _ _ (fun u => u.y - t.y * 2 ^ d) (fun j _ => List.pairwise_singleton _ _)
      fun j _ u hu => by rw [List.mem_singleton.1 hu]; exact Nat.add_sub_cancel_left ..
  · obtain ⟨j, _, rfl⟩ := List.mem_map.1 hu
    exact Nat.add_sub_cancel_left ..

/-- the levels `a, …, a + n − 1` below `t`; the deepest one, `t.z + a + n − 1`, is a zoom of the quantifier -/
theorem levels_spec (t : Tile) (ht : V t) (a n : Nat) (h : t.z + a + n ≤ 31) :
    ((List.range n).flatMap fun k => childrenAtDelta t (a + k)).Nodup ∧
    ∀ u, u ∈ ((List.range n).flatMap fun k => childrenAtDelta t (a + k)) ↔
      (V u ∧ t.z + a ≤ u.z ∧ u.z < t.z + a + n ∧ IsAncestor t u) := by
  have hd : ∀ k, k < n → t.z + (a + k) ≤ 30 := fun k hk => by omega
  constructor
  · -- a tile lies on one level
    refine nodup_flatMap_range _ _ (fun u => u.z - (t.z + a)) (fun k hk => nodup_childrenAtDelta t _ ht (hd k hk))
      fun k hk u hu => ?_
    have := ((mem_childrenAtDelta t _ _ ht (hd k hk)).1 hu).2.1
    omega
  · intro u
    rw [List.mem_flatMap]
    constructor
    · rintro ⟨k, hk, hu⟩
      rw [List.mem_range] at hk
      obtain ⟨hv, hz, ha⟩ := (mem_childrenAtDelta t _ _ ht (hd k hk)).1 hu
      exact ⟨hv, by omega, by omega, ha⟩
    · rintro ⟨hv, hz1, hz2, ha⟩
      have hk : u.z - (t.z + a) < n := by omega
      exact ⟨u.z - (t.z + a), List.mem_range.2 hk,
        (mem_childrenAtDelta t _ _ ht (hd _ hk)).2 ⟨hv, by omega, ha⟩⟩
end Orb.Tile
