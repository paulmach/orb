/-
  C03, the wire level: the scanner terminates — with the number of bytes as fuel no loop of
  `Orb.ProtoWire` runs out of it (every round consumes the key, at least one byte), so
  no decoder of the wire level panics, on any byte string.
-/
import OrbProofs.C03WireVarint
import OrbProofs.ResLemmas

namespace Orb.ProtoWire
open Orb Orb.MVT

theorem packedLength_rest_lt {bs r : Bytes} {l : Nat} (h : packedLength bs = some (l, r)) :
    r.length < bs.length := by
  revert h
  fun_cases packedLength bs
  · nofun
  · nofun
  · nofun
  · next hv _ _ => rintro ⟨⟩; exact varint64_rest_lt hv

theorem takeDelim_rest_le {bs p r : Bytes} (h : takeDelim bs = some (p, r)) : r.length ≤ bs.length := by
  revert h
  fun_cases takeDelim bs
  · nofun
  · next l r0 hv =>
    rintro ⟨⟩
    have := packedLength_rest_lt hv
    rw [List.length_drop]; omega

theorem skip_rest_le {wt : Nat} {bs r : Bytes} (h : skip wt bs = some r) : r.length ≤ bs.length := by
  revert h
  fun_cases skip wt bs
  · intro h
    obtain ⟨⟨v, r0⟩, hv, rfl⟩ := Option.map_eq_some_iff.1 h
    exact Nat.le_of_lt (varint64_rest_lt hv)
  · nofun
  · rintro ⟨⟩; rw [List.length_drop]; exact Nat.sub_le _ _
  · intro h
    obtain ⟨⟨p, r0⟩, hv, rfl⟩ := Option.map_eq_some_iff.1 h
    exact takeDelim_rest_le hv
  · nofun
  · rintro ⟨⟩; rw [List.length_drop]; exact Nat.sub_le _ _
  · rintro ⟨⟩; exact Nat.le_refl _

theorem readString_rest_le {bs r : Bytes} {s : String} (h : readString bs = .ok (s, r)) :
    r.length ≤ bs.length := by
  revert h
  fun_cases readString bs
  · nofun
  · next hv _ _ => rintro ⟨⟩; exact takeDelim_rest_le hv
  · nofun

theorem readString_noPanic (bs : Bytes) : (readString bs).isPanic = false := by
  fun_cases readString bs <;> rfl

/-- The fuel of the next round: the key took at least one byte of `l`, and no reader hands on a
    longer rest than it was given. -/
theorem next_fuel {f : Nat} {l r r' : Bytes} (h : l.length ≤ f + 1) (hk : r.length < l.length)
    (hr : r'.length ≤ r.length) : r'.length ≤ f := by
  omega

theorem unpackU32F_noPanic (fuel : Nat) (bs : Bytes) (h : bs.length ≤ fuel) :
    (unpackU32F fuel bs).isPanic = false := by
  fun_induction unpackU32F fuel bs <;> try rfl
  · exact absurd h (Nat.not_succ_le_zero _)
  · exact (Res.np_absurd ‹_› (‹_ → _› (next_fuel h (varint32_rest_lt ‹_›) (Nat.le_refl _)))).elim

theorem unpackU32_noPanic (bs : Bytes) : (unpackU32 bs).isPanic = false :=
  unpackU32F_noPanic _ _ (Nat.le_refl _)

theorem decodeValueF_noPanic (fuel : Nat) (bs : Bytes) (h : bs.length ≤ fuel) :
    (decodeValueF fuel bs).isPanic = false := by
  fun_induction decodeValueF fuel bs <;> try rfl
  · exact absurd h (Nat.not_succ_le_zero _)
  · exact (Res.np_absurd ‹_› (readString_noPanic _)).elim
  · exact ‹_ → _› (next_fuel h (varint64_rest_lt ‹_›) (skip_rest_le ‹_›))

theorem decodeValue_noPanic (bs : Bytes) : (decodeValue bs).isPanic = false :=
  decodeValueF_noPanic _ _ (Nat.le_refl _)

theorem featLoop_noPanic (fuel : Nat) (bs : Bytes) (st : FeatSt) (h : bs.length ≤ fuel) :
    (featLoop fuel bs st).isPanic = false := by
  fun_induction featLoop fuel bs st <;> try rfl
  · exact absurd h (Nat.not_succ_le_zero _)
  -- id
  · exact ‹_ → _› (next_fuel h (varint64_rest_lt ‹_›) (Nat.le_of_lt (varint64_rest_lt ‹_›)))
  -- tags
  · exact ‹_ → _› (next_fuel h (varint64_rest_lt ‹_›) (takeDelim_rest_le ‹_›))
  · exact (Res.np_absurd ‹_› (unpackU32_noPanic _)).elim
  -- type
  · exact ‹_ → _› (next_fuel h (varint64_rest_lt ‹_›) (Nat.le_of_lt (varint64_rest_lt ‹_›)))
  -- geometry
  · exact ‹_ → _› (next_fuel h (varint64_rest_lt ‹_›) (takeDelim_rest_le ‹_›))
  -- unknown field
  · exact ‹_ → _› (next_fuel h (varint64_rest_lt ‹_›) (skip_rest_le ‹_›))

theorem decodeFeatureMsg_noPanic (bs : Bytes) : (decodeFeatureMsg bs).isPanic = false := by
  fun_cases decodeFeatureMsg bs <;> try rfl
  · exact (Res.np_absurd ‹_› (unpackU32_noPanic _)).elim
  · exact (Res.np_absurd ‹_› (featLoop_noPanic _ _ _ (Nat.le_refl _))).elim

theorem decodeFeatureMsgs_noPanic (ms : List Bytes) : (decodeFeatureMsgs ms).isPanic = false :=
  decodeFeatureMsgs_eq ms ▸ C20M.resMapM_np _ ms fun m _ => decodeFeatureMsg_noPanic m

theorem layerLoop_noPanic (fuel : Nat) (bs : Bytes) (st : LayerSt) (h : bs.length ≤ fuel) :
    (layerLoop fuel bs st).isPanic = false := by
  fun_induction layerLoop fuel bs st <;> try rfl
  · exact absurd h (Nat.not_succ_le_zero _)
  -- version
  · exact ‹_ → _› (next_fuel h (varint64_rest_lt ‹_›) (Nat.le_of_lt (varint32_rest_lt ‹_›)))
  -- name
  · exact ‹_ → _› (next_fuel h (varint64_rest_lt ‹_›) (readString_rest_le ‹_›))
  · exact (Res.np_absurd ‹_› (readString_noPanic _)).elim
  -- feature
  · exact ‹_ → _› (next_fuel h (varint64_rest_lt ‹_›) (takeDelim_rest_le ‹_›))
  -- key
  · exact ‹_ → _› (next_fuel h (varint64_rest_lt ‹_›) (readString_rest_le ‹_›))
  · exact (Res.np_absurd ‹_› (readString_noPanic _)).elim
  -- value
  · exact ‹_ → _› (next_fuel h (varint64_rest_lt ‹_›) (takeDelim_rest_le ‹_›))
  · exact (Res.np_absurd ‹_› (decodeValue_noPanic _)).elim
  -- extent
  · exact ‹_ → _› (next_fuel h (varint64_rest_lt ‹_›) (Nat.le_of_lt (varint32_rest_lt ‹_›)))
  -- unknown field
  · exact ‹_ → _› (next_fuel h (varint64_rest_lt ‹_›) (skip_rest_le ‹_›))

theorem decodeLayerMsg_noPanic (bs : Bytes) : (decodeLayerMsg bs).isPanic = false := by
  fun_cases decodeLayerMsg bs <;> try rfl
  · exact (Res.np_absurd ‹_› (decodeFeatureMsgs_noPanic _)).elim
  · exact (Res.np_absurd ‹_› (layerLoop_noPanic _ _ _ (Nat.le_refl _))).elim

theorem tileLoop_noPanic (fuel : Nat) (bs : Bytes) (acc : List VTLayer) (h : bs.length ≤ fuel) :
    (tileLoop fuel bs acc).isPanic = false := by
  fun_induction tileLoop fuel bs acc <;> try rfl
  · exact absurd h (Nat.not_succ_le_zero _)
  · exact ‹_ → _› (next_fuel h (varint64_rest_lt ‹_›) (takeDelim_rest_le ‹_›))
  · exact (Res.np_absurd ‹_› (decodeLayerMsg_noPanic _)).elim
  · exact ‹_ → _› (next_fuel h (varint64_rest_lt ‹_›) (skip_rest_le ‹_›))

end Orb.ProtoWire
