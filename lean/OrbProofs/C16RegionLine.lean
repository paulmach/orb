/-
  C16 (region), clipping: what the open-bound line clipper and `clipRings` do to the EDGES of a closed ring.  Every input
  segment is cut into its accepted sub-segment (an edge of a piece) and at most two discarded end parts, each of which AVOIDS
  THE OPEN BOX (`OutE`); re-joining the last piece with the first and the final partition do not change the edge multiset,
  and the zero-length touches of the boundary they drop are discarded edges too.  Said for the functionals the region proof
  needs (`Decomp`): crossing parity, boundary flag, coboundary, and the signed forms (winding sum, integer coboundary).
-/
import OrbProofs.C16RegionGeom
import OrbProofs.C16Clip
import OrbProofs.C16Line

namespace Orb.Clip.C16R
open Orb Orb.EvenOdd Orb.Contains Orb.Clip Orb.Clip.C08R
open Orb.Core

set_option linter.unusedSectionVars false

variable {α : Type} [Field α] [LinearOrder α] [IsStrictOrderedRing α]

/-- the decomposition identities for an edge list `S` cut into kept edges `K` and discarded `O` -/
structure Decomp (S K O : List (Pt α × Pt α)) : Prop where
  cr : ∀ q, crE S q = (crE K q != crE O q)
  on : ∀ q, onE S q = (onE K q || onE O q)
  d : ∀ h : Pt α → Bool, dE h S = (dE h K != dE h O)
  w : ∀ q, wE S q = wE K q + wE O q
  dz : ∀ P : Pt α → ℤ, dZ P S = dZ P K + dZ P O

/-- The crossing parity is the winding sum mod 2 and the Boolean coboundary is the integer one mod 2, so the two
    parity identities of `Decomp` follow from the two signed ones. -/
theorem Decomp.of_signed {S K O : List (Pt α × Pt α)} (on : ∀ q, onE S q = (onE K q || onE O q))
    (w : ∀ q, wE S q = wE K q + wE O q) (dz : ∀ P : Pt α → ℤ, dZ P S = dZ P K + dZ P O) : Decomp S K O :=
  ⟨fun q => bne_of_emod (wE_emod S q) (wE_emod K q) (wE_emod O q) (w q), on,
    fun g => bne_of_emod (dZ_emod g S) (dZ_emod g K) (dZ_emod g O) (dz _), w, dz⟩

theorem Decomp.nil : Decomp ([] : List (Pt α × Pt α)) [] [] :=
  ⟨fun _ => rfl, fun _ => rfl, fun _ => rfl, fun _ => rfl, fun _ => rfl⟩

theorem Decomp.append {S K O S' K' O' : List (Pt α × Pt α)} (h : Decomp S K O) (h' : Decomp S' K' O') :
    Decomp (S ++ S') (K ++ K') (O ++ O') := by
  refine .of_signed (fun q => ?_) (fun q => ?_) (fun P => ?_)
  · rw [onE_append, onE_append, onE_append, h.on, h'.on]
    cases onE K q <;> cases onE O q <;> cases onE K' q <;> cases onE O' q <;> rfl
  · rw [wE_append, wE_append, wE_append, h.w, h'.w]; ring
  · rw [dZ_append, dZ_append, dZ_append, h.dz, h'.dz]; ring

theorem Decomp.of_perm {S K O K' O' : List (Pt α × Pt α)} (h : Decomp S K O) (hk : K.Perm K') (ho : O.Perm O') :
    Decomp S K' O' :=
  .of_signed (fun q => by rw [h.on, onE_perm hk, onE_perm ho]) (fun q => by rw [h.w, wE_perm hk, wE_perm ho])
    fun P => by rw [h.dz, dZ_perm hk, dZ_perm ho]

theorem Decomp.trans {S K O K' O' : List (Pt α × Pt α)} (h : Decomp S K O) (h' : Decomp K K' O') :
    Decomp S K' (O ++ O') := by
  refine .of_signed (fun q => ?_) (fun q => ?_) (fun P => ?_)
  · rw [h.on, h'.on, onE_append]
    cases onE K' q <;> cases onE O q <;> cases onE O' q <;> rfl
  · rw [h.w, h'.w, wE_append]; ring
  · rw [h.dz, h'.dz, dZ_append]; ring

theorem Decomp.swap {S K O : List (Pt α × Pt α)} (h : Decomp S K O) : Decomp S O K :=
  .of_signed (fun q => (h.on q).trans (Bool.or_comm _ _)) (fun q => (h.w q).trans (add_comm _ _))
    fun P => (h.dz P).trans (add_comm _ _)

theorem crE_single (s e q : Pt α) : crE [(s, e)] q = crossesAbove s e q := by
  rw [crE_cons, crE_nil, Bool.bne_false]

theorem onE_single (s e q : Pt α) : onE [(s, e)] q = onSeg s e q := by
  rw [onE_cons, onE_nil, Bool.or_false]

theorem dE_single (h : Pt α → Bool) (s e : Pt α) : dE h [(s, e)] = (h s != h e) := by
  rw [dE_cons, dE_nil, Bool.bne_false]

theorem wE_single (s e q : Pt α) : wE [(s, e)] q = sgnAbove s e q := by
  rw [wE_cons, wE_nil, add_zero]

theorem dZ_single (P : Pt α → ℤ) (s e : Pt α) : dZ P [(s, e)] = P e - P s := by
  rw [dZ_cons, dZ_nil, add_zero]

/-- the first part is kept; in `decomp_cut` the second -/
theorem decomp_cut' {a i b : Pt α} (h : OnSeg a b i) : Decomp [(a, b)] [(a, i)] [(i, b)] := by
  refine .of_signed (fun q => ?_) (fun q => ?_) (fun P => ?_)
  · rw [onE_single, onE_single, onE_single, onSeg_split h q]
  · rw [wE_single, wE_single, wE_single, sgn_split h q]
  · rw [dZ_single, dZ_single, dZ_single]; ring

theorem decomp_cut {a i b : Pt α} (h : OnSeg a b i) : Decomp [(a, b)] [(i, b)] [(a, i)] :=
  (decomp_cut' h).swap

theorem decomp_drop_left {S K O : List (Pt α × Pt α)} {a b : Pt α} (h : Decomp S ((a, b) :: K) ((a, a) :: O)) :
    Decomp S ((a, b) :: K) O := by
  refine .of_signed (fun q => ?_) (fun q => ?_) (fun P => ?_)
  · rw [h.on, onE_cons a a, onE_cons a b]
    cases hs : onSeg a a q with
    | false => rfl
    | true =>
      have := onSeg_self a q hs
      subst this
      rw [onSeg_of_OnSeg (onSeg_left q b)]; simp
  · rw [h.w, wE_cons a a, sgn_self, zero_add]
  · rw [h.dz, dZ_cons P a a, sub_self, zero_add]

theorem decomp_drop_right {S K O : List (Pt α × Pt α)} {a b : Pt α} (h : Decomp S ((a, b) :: K) ((b, b) :: O)) :
    Decomp S ((a, b) :: K) O := by
  refine .of_signed (fun q => ?_) (fun q => ?_) (fun P => ?_)
  · rw [h.on, onE_cons b b, onE_cons a b]
    cases hs : onSeg b b q with
    | false => rfl
    | true =>
      have := onSeg_self b q hs
      subst this
      rw [onSeg_of_OnSeg (onSeg_right a q)]; simp
  · rw [h.w, wE_cons b b, sgn_self, zero_add]
  · rw [h.dz, dZ_cons P b b, sub_self, zero_add]

theorem decomp_cut_off_start {box : Bound α} {a i b : Pt α} (h : OnSeg a b i) (hO : a ≠ i → OutE box a i) :
    ∃ O : List (Pt α × Pt α), (∀ se ∈ O, OutE box se.1 se.2) ∧ Decomp [(a, b)] [(i, b)] O := by
  by_cases c : a = i
  · subst c
    exact ⟨[], by simp, decomp_drop_left (K := []) (decomp_cut h)⟩
  · exact ⟨[(a, i)], by simpa using hO c, decomp_cut h⟩

theorem decomp_cut_off_end {box : Bound α} {a i b : Pt α} (h : OnSeg a b i) (hO : i ≠ b → OutE box i b) :
    ∃ O : List (Pt α × Pt α), (∀ se ∈ O, OutE box se.1 se.2) ∧ Decomp [(a, b)] [(a, i)] O := by
  by_cases c : i = b
  · subst c
    exact ⟨[], by simp, decomp_drop_right (K := []) (decomp_cut' h)⟩
  · exact ⟨[(i, b)], by simpa using hO c, decomp_cut' h⟩

theorem reg_false_iff {box : Bound α} {q : Pt α} : Reg False box q ↔ InOpenBox box q :=
  ⟨fun h => h.elim id (fun h => h.1.elim), Or.inl⟩

theorem outE_part {box : Bound α} {a b : Pt α} {u v : α} (huv : u ≤ v)
    (h : ∀ w, u ≤ w → w ≤ v → ¬ InOpenBox box (lerp a b w)) : OutE box (lerp a b u) (lerp a b v) := by
  intro t t0 t1 hin
  rw [lerp_lerp] at hin
  exact h _ (param_between huv t0 t1).1 (param_between huv t0 t1).2 hin

/-- one segment: the open-bound clipper keeps the sub-segment `clipSeg box true (a, b)` (if any) and
    discards at most two end parts, each avoiding the open box. -/
theorem seg_decomp {box : Bound α} (hb : BoxOK box) (a b : Pt α) :
    ∃ O : List (Pt α × Pt α), (∀ se ∈ O, OutE box se.1 se.2) ∧
      Decomp [(a, b)] (clipSeg box true (a, b)).toList O := by
  have key := clipSeg_param hb true a b
  cases hc : clipSeg box true (a, b) with
  | none =>
    -- rejected: the whole segment avoids the open box
    rw [hc] at key
    exact ⟨[(a, b)], List.forall_mem_singleton.2 fun t t0 t1 hin => key.2 t t0 t1 (Or.inl hin),
      .of_signed (fun _ => (Bool.false_or _).symm) (fun _ => (zero_add _).symm) fun _ => (zero_add _).symm⟩
  | some u =>
    -- accepted: `[s, e]`; a discarded part is cut off at an end that was moved, onto an edge line
    rw [hc] at key
    obtain ⟨s, e, h0, hse, h1, rfl, -, -, hs0, he1, hcomp⟩ := key
    obtain ⟨eA, eB⟩ := clipSeg_moved_ends hb true hc
    have hOa : a ≠ lerp a b s → OutE box a (lerp a b s) := by
      intro hne
      have hcode : code box true a ≠ 0 := fun h => hne (by rw [hs0 h, lerp_zero])
      have := outE_part (a := a) (b := b) h0 fun w w0 ws hin => by
        obtain ⟨k1, _⟩ := hcomp w w0 (ws.trans (hse.trans h1)) (Or.inl hin)
        rw [le_antisymm ws k1] at hin
        exact SmartClip.not_onEdge_of_open hin (eA hcode)
      rwa [lerp_zero] at this
    have hOb : lerp a b e ≠ b → OutE box (lerp a b e) b := by
      intro hne
      have hcode : code box true b ≠ 0 := fun h => hne (by rw [he1 h, lerp_one])
      have := outE_part (a := a) (b := b) h1 fun w we w1 hin => by
        obtain ⟨_, k2⟩ := hcomp w ((h0.trans hse).trans we) w1 (Or.inl hin)
        rw [le_antisymm k2 we] at hin
        exact SmartClip.not_onEdge_of_open hin (eB hcode)
      rwa [lerp_one] at this
    have hseg2 : OnSeg (lerp a b s) b (lerp a b e) := by
      have := onSeg_between a b (s := s) (e := 1) (t := e) hse h1
      rwa [lerp_one] at this
    obtain ⟨O1, hO1, D1⟩ := decomp_cut_off_start (onSeg_lerp a b h0 (hse.trans h1)) hOa
    obtain ⟨O2, hO2, D2⟩ := decomp_cut_off_end hseg2 hOb
    exact ⟨O1 ++ O2, List.forall_mem_append.2 ⟨hO1, hO2⟩, D1.trans D2⟩

theorem segs_decomp {box : Bound α} (hb : BoxOK box) (S : List (Pt α × Pt α)) :
    ∃ O : List (Pt α × Pt α), (∀ se ∈ O, OutE box se.1 se.2) ∧
      Decomp S (S.filterMap (clipSeg box true)) O := by
  induction S with
  | nil => exact ⟨[], by simp, Decomp.nil⟩
  | cons x S ih =>
    obtain ⟨a, b⟩ := x
    obtain ⟨O1, h1, D1⟩ := seg_decomp hb a b
    obtain ⟨O2, h2, D2⟩ := ih
    refine ⟨O1 ++ O2, ?_, ?_⟩
    · exact List.forall_mem_append.2 ⟨h1, h2⟩
    · have := D1.append D2
      have e : ((a, b) :: S).filterMap (clipSeg box true) =
          (clipSeg box true (a, b)).toList ++ S.filterMap (clipSeg box true) := by
        rw [List.filterMap_cons]
        cases clipSeg box true (a, b) <;> rfl
      rw [e]
      exact this

/-- THE LINE CLIPPER on a polyline: the edges of the input are the edges of the pieces plus discarded
    edges avoiding the open box. -/
theorem line_decomp {box : Bound α} (hb : BoxOK box) (inp : List (Pt α)) (out : List (List (Pt α)))
    (h : line box true inp = some out) :
    ∃ O : List (Pt α × Pt α), (∀ se ∈ O, OutE box se.1 se.2) ∧ Decomp (chain inp) (out.flatMap chain) O := by
  obtain ⟨O, hO, D⟩ := segs_decomp hb (segsOf inp)
  refine ⟨O, hO, ?_⟩
  have e1 := clip_segments_gen box hb true inp out h
  have e2 : out.flatMap segsOf = out.flatMap chain := by
    apply List.flatMap_congr
    intro x _
    exact (chain_eq_segsOf x).symm
  rw [← e1, e2, ← chain_eq_segsOf] at D
  exact D

end Orb.Clip.C16R

namespace Orb.SmartClip
open Orb Orb.Core
open Orb.Clip.C16R (OutE Decomp SameSide)

set_option linter.unusedSectionVars false

variable {α : Type} [Field α] [LinearOrder α] [IsStrictOrderedRing α]

theorem chain_join (pl tl0 : List (Pt α)) (f : Pt α) (hpl : pl.getLast? = some f) :
    Contains.chain (pl ++ tl0) = Contains.chain pl ++ Contains.chain (f :: tl0) :=
  Contains.chain_append_of_getLast? hpl tl0

/-- the shape of what `clipOne` returns for an explicitly closed path: the pieces of the line clipper,
    the last one re-joined with the first when the path starts strictly inside the box -/
theorem clipTail_shape (box : Bound α) (hl : LineSpec box) (r' : List (Pt α)) (f : Pt α)
    (hf : r'.head? = some f) (hll : r'.getLast? = some f) (h2 : 2 ≤ r'.length) :
    ∃ out0 out1, Clip.line box true r' = some out0 ∧ clipTailD box r' = .ok out1 ∧
      (out1.flatMap Contains.chain).Perm (out0.flatMap Contains.chain) ∧
      ((∀ ls ∈ out1, PieceOK box ls) ∨ (∃ p0, out1 = [p0] ∧ InsideRing box p0 ∧ 2 ≤ p0.length)) := by
  obtain ⟨out0, out1, hline, htail, hj, hs⟩ := clipTail_cases box hl r' f f hf hll (Or.inl ⟨rfl, h2⟩)
  refine ⟨out0, out1, hline, htail, ?_, hs⟩
  rcases hj with rfl | ⟨tl0, mid, pl, rfl, hpl, rfl, -⟩
  · exact List.Perm.refl _
  · -- the joined piece has the edges of the last piece followed by those of the first
    simp only [List.flatMap_cons, List.flatMap_append, List.flatMap_nil, List.append_nil]
    rw [chain_join pl tl0 f hpl, List.append_assoc]
    refine List.perm_append_comm.trans ?_
    rw [List.append_assoc]

theorem touchBD_spec (box : Bound α) (ls : List (Pt α)) (h : touchBD box ls = true) :
    ∃ p, ls = [p, p] ∧ ¬ InOpenBox box p := by
  unfold touchBD at h
  split at h
  · rename_i p q
    simp only [Bool.and_eq_true, ptEq_iff, bne_iff_ne, ne_eq] at h
    obtain ⟨rfl, h2⟩ := h
    exact ⟨p, rfl, fun ho => h2 (pointSide_of_open box p ho)⟩
  · cases h

/-- the final partition only re-orders the pieces and drops zero-length touches of the boundary -/
theorem partition_perm (box : Bound α) (all : List (List (Pt α))) : ∀ (op cl : List (List (Pt α))),
    partitionPieces box all = .ok (op, cl) →
    ∃ T : List (List (Pt α)), (op ++ cl ++ T).Perm all ∧ ∀ t ∈ T, ∃ p, t = [p, p] ∧ ¬ InOpenBox box p := by
  intro op cl h
  obtain ⟨-, rfl, rfl⟩ := (partitionPieces_ok_iff box all op cl).1 h
  refine ⟨all.filter (touchBD box), ?_, fun t ht => touchBD_spec box t (List.mem_filter.1 ht).2⟩
  -- the kept pieces and the touches, then the open and the closed among the kept
  have e1 : all.filter (keptOpen box) = (all.filter (! touchBD box ·)).filter (! closedB box ·) := by
    rw [List.filter_filter]; exact List.filter_congr fun x _ => Bool.and_comm _ _
  have e2 : all.filter (keptClosed box) = (all.filter (! touchBD box ·)).filter (closedB box ·) := by
    rw [List.filter_filter]; exact List.filter_congr fun x _ => Bool.and_comm _ _
  rw [e1, e2]
  exact ((List.perm_append_comm.trans (List.filter_append_perm _ _)).append_right _).trans
    (List.perm_append_comm.trans (List.filter_append_perm _ _))

theorem outE_touches {box : Bound α} {T : List (List (Pt α))}
    (hT : ∀ t ∈ T, ∃ p, t = [p, p] ∧ ¬ InOpenBox box p) :
    ∀ se ∈ T.flatMap Contains.chain, OutE box se.1 se.2 := by
  intro se hse
  obtain ⟨t, ht, hse⟩ := List.mem_flatMap.1 hse
  obtain ⟨p, rfl, hp⟩ := hT t ht
  simp only [Contains.chain, List.mem_singleton] at hse
  subst hse
  exact Clip.C16R.outE_self hp

/-- (declared in `Orb.SmartClip`, not in the namespace of `Decomp`: `h.move` does not find it) -/
theorem Decomp.move {S K X O : List (Pt α × Pt α)} (h : Decomp S (K ++ X) O) : Decomp S K (O ++ X) := by
  refine .of_signed (fun q => ?_) (fun q => ?_) (fun P => ?_)
  · rw [h.on, Clip.C16R.onE_append, Clip.C16R.onE_append]
    cases Clip.C08R.onE K q <;> cases Clip.C08R.onE X q <;> cases Clip.C08R.onE O q <;> rfl
  · rw [h.w, Clip.C16R.wE_append, Clip.C16R.wE_append]; ring
  · rw [h.dz, Clip.C16R.dZ_append, Clip.C16R.dZ_append]; ring

theorem ringClosed_spec (r : List (Pt α)) (h : ringClosed r = true) :
    4 ≤ r.length ∧ ∃ f, r.head? = some f ∧ r.getLast? = some f := by
  unfold ringClosed at h
  simp only [Bool.and_eq_true, decide_eq_true_eq] at h
  obtain ⟨h1, h2⟩ := h
  refine ⟨h1, ?_⟩
  cases hh : r.head? with
  | none => rw [hh] at h2; simp at h2
  | some f =>
    cases hl : r.getLast? with
    | none => rw [hh, hl] at h2; simp at h2
    | some l =>
      rw [hh, hl] at h2
      simp only [ptEq_iff] at h2
      subst h2
      exact ⟨f, rfl, rfl⟩

theorem clipOne_closed (box : Bound α) (hb : BoxOK box) (r : List (Pt α)) (hrc : ringClosed r = true) :
    ∃ all O, clipOne box r = .ok all ∧ (∀ se ∈ O, OutE box se.1 se.2) ∧
      Decomp (Contains.chain r) (all.flatMap Contains.chain) O ∧
      ((∀ ls ∈ all, PieceOK box ls) ∨ ∃ p0, all = [p0] ∧ InsideRing box p0 ∧ 2 ≤ p0.length) := by
  obtain ⟨h4, f, hf, hlast⟩ := ringClosed_spec r hrc
  have hemp : r.isEmpty = false := by
    cases r with
    | nil => simp at h4
    | cons a t => rfl
  have hclosing : closingD box r = .ok r := by
    unfold closingD; rw [hrc]; rfl
  obtain ⟨out0, out1, hline, htail, hperm, hshape⟩ :=
    clipTail_shape box (line_spec' box hb) r f hf hlast (by omega)
  obtain ⟨O, hO, D⟩ := Clip.C16R.line_decomp (box := box) hb r out0 hline
  refine ⟨out1, O, ?_, hO, D.of_perm hperm.symm (List.Perm.refl _), hshape⟩
  rw [clipOne_eq, hemp, hclosing]
  simp only [Bool.false_eq_true, if_false, res_ok_bind]
  exact htail

theorem clipOne_decomp (box : Bound α) (hb : BoxOK box) (r : List (Pt α)) (hrc : ringClosed r = true) :
    ∃ all O, clipOne box r = .ok all ∧ (∀ se ∈ O, OutE box se.1 se.2) ∧
      Decomp (Contains.chain r) (all.flatMap Contains.chain) O ∧ ∀ ls ∈ all, 2 ≤ ls.length := by
  obtain ⟨all, O, h1, hO, D, hshape⟩ := clipOne_closed box hb r hrc
  refine ⟨all, O, h1, hO, D, ?_⟩
  rcases hshape with hok | ⟨p0, rfl, _, h2⟩
  · exact fun ls hls => (hok ls hls).1
  · intro ls hls
    rw [List.mem_singleton] at hls
    subst hls; exact h2

theorem clipAll_decomp (box : Bound α) (hb : BoxOK box) (rings : List (List (Pt α)))
    (hrc : ∀ r ∈ rings, ringClosed r = true) :
    ∃ all O, clipAll box rings = .ok all ∧ (∀ se ∈ O, OutE box se.1 se.2) ∧
      Decomp (rings.flatMap Contains.chain) (all.flatMap Contains.chain) O ∧ ∀ ls ∈ all, 2 ≤ ls.length := by
  induction rings with
  | nil => exact ⟨[], [], rfl, by simp, Decomp.nil, by simp⟩
  | cons r rest ih =>
    obtain ⟨a, O1, ha, hO1, D1, l1⟩ := clipOne_decomp box hb r (hrc r List.mem_cons_self)
    obtain ⟨b, O2, hb', hO2, D2, l2⟩ := ih (fun x hx => hrc x (List.mem_cons_of_mem _ hx))
    refine ⟨a ++ b, O1 ++ O2, by simp [clipAll, ha, hb', res_ok_bind, resD_pure], ?_, ?_, ?_⟩
    · exact List.forall_mem_append.2 ⟨hO1, hO2⟩
    · rw [List.flatMap_cons, List.flatMap_append]
      exact D1.append D2
    · exact List.forall_mem_append.2 ⟨l1, l2⟩

/-- `clipRings` of several rings, each closed in Go's sense: the edges of all the rings are the edges of
    the open pieces and of the interior rings plus discarded edges avoiding the open box -/
theorem clipRings_decomp_multi (box : Bound α) (hb : BoxOK box) (rings : List (List (Pt α)))
    (hrc : ∀ r ∈ rings, ringClosed r = true) (op cl : List (List (Pt α)))
    (h : clipRings box rings = .ok (op, cl)) :
    (∃ O : List (Pt α × Pt α), (∀ se ∈ O, OutE box se.1 se.2) ∧
      Decomp (rings.flatMap Contains.chain) ((op ++ cl).flatMap Contains.chain) O) ∧
    (∀ ls ∈ op, PieceOK box ls) ∧ (∀ ls ∈ cl, InsideRing box ls ∧ 2 ≤ ls.length) := by
  obtain ⟨all, O, hall, hO, D, hl2⟩ := clipAll_decomp box hb rings hrc
  have hpart : partitionPieces box all = .ok (op, cl) := by
    unfold clipRings at h
    rw [hall] at h
    exact h
  obtain ⟨T, hT, hT2⟩ := partition_perm box all op cl hpart
  obtain ⟨op', cl', hcr, hop', hcl'⟩ := clipRings_spec_of_lineSpec box (line_spec' box hb) rings
  have : (op', cl') = (op, cl) := by
    rw [hcr] at h; cases h; rfl
  cases this
  refine ⟨⟨O ++ T.flatMap Contains.chain, ?_, ?_⟩, hop', fun ls hls => ⟨hcl' ls hls, ?_⟩⟩
  · exact List.forall_mem_append.2 ⟨hO, outE_touches hT2⟩
  · apply Decomp.move
    refine D.of_perm ?_ (List.Perm.refl _)
    rw [← List.flatMap_append]
    exact List.Perm.flatMap_right _ hT.symm
  · exact hl2 ls ((partitionPieces_spec' box all op cl hpart).2 ls hls).1

/-- `clipRings box [r]` for a ring closed in Go's sense (`r.Closed()`): the edges of the ring are the
    edges of the returned pieces plus discarded edges avoiding the open box; and either there is no
    interior ring and every open piece has both ends on the boundary, or there is no open piece. -/
theorem clipRings_decomp (box : Bound α) (hb : BoxOK box) (r : List (Pt α)) (hrc : ringClosed r = true)
    (op cl : List (List (Pt α))) (h : clipRings box [r] = .ok (op, cl)) :
    (∃ O : List (Pt α × Pt α), (∀ se ∈ O, OutE box se.1 se.2) ∧
      Decomp (Contains.chain r) ((op ++ cl).flatMap Contains.chain) O) ∧
    ((cl = [] ∧ ∀ ls ∈ op, PieceOK box ls) ∨ (op = [] ∧ ∃ p0, cl = [p0] ∧ InsideRing box p0)) := by
  constructor
  · have := (clipRings_decomp_multi box hb [r] (List.forall_mem_singleton.2 hrc) op cl h).1
    rwa [List.flatMap_singleton] at this
  · -- the shape: `op` and `cl` are the two filters of the pieces of the one ring
    obtain ⟨all, -, hone, -, -, hshape⟩ := clipOne_closed box hb r hrc
    have hall : clipAll box [r] = .ok all := by simp [clipAll, hone, res_ok_bind, resD_pure]
    have hpart : partitionPieces box all = .ok (op, cl) := by
      unfold clipRings at h
      rwa [hall] at h
    obtain ⟨-, rfl, rfl⟩ := (partitionPieces_ok_iff box all op cl).1 hpart
    rcases hshape with hok | ⟨p0, rfl, hin, -⟩
    · refine Or.inl ⟨List.filter_eq_nil_iff.2 fun ls hls => ?_, fun ls hls => hok ls (List.mem_filter.1 hls).1⟩
      simp [keptClosed, closedB_of_pieceOK (hok ls hls)]
    · have := closedB_of_insideRing hin
      exact Or.inr ⟨by simp [keptOpen, this], p0, by simp [keptClosed, this], hin⟩

end Orb.SmartClip
