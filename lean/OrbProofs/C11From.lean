/-
  C11 — the searches as the Go code starts them, from an explicit initial limit (`minDistSquared:
  math.MaxFloat64`; `matchingFrom` / `removeFrom` / `kNearestFrom` in the model, the form the Float twin runs),
  against the unlimited searches the refinement theorems are about.  Started from any limit `M` they give the
  same answer (and the same tree) whenever every stored pointer the filter accepts has squared distance `< M`:
  both runs then take the same branches (`visit_sim`).  The excluded situation (a squared distance `≥ M`:
  overflow to +Inf in float64) is the one props.json lists under `partial`; there the code skips the pointer.
-/
import OrbProofs.C11Near

namespace Orb.Quadtree
open Orb Orb.Core

set_option linter.unusedSectionVars false

section sim
variable {α : Type} [Add α] [Sub α] [Mul α] [Div α] [OfNat α 2] [LT α] [LE α] [DecidableLT α] [DecidableLE α]
  [Min α] [Max α]

/-- Simulation of two visitors on the same tree: if a relation `R` between their states implies equal
    pruning boxes and is preserved by visiting any value of the tree (values satisfying `Q`), it is
    preserved by the whole pruned traversal.  Needs no order axioms: both runs take the same branches. -/
theorem visit_sim {σ τ : Type} (V : Visitor α σ) (W : Visitor α τ) (R : σ → τ → Prop) (Q : Ptr α → Prop)
    (hpt : V.point = W.point)
    (hb : ∀ s t, R s t → V.bound s = W.bound t)
    (hv : ∀ s t p path, Q p → R s t → R (V.visit s p path) (W.visit t p path)) :
    ∀ (t : Tree α) (c : Cell α) (path : List Nat) (s : σ) (s' : τ), (∀ y ∈ contents t, Q y) → R s s' →
      R (visit V t c path s) (visit W t c path s') := by
  intro t
  induction t using Tree.child_induction with
  | nil => exact fun _ _ _ _ _ h => h
  | node v c0 c1 c2 c3 ih =>
    intro c path s s' hQ h
    rw [visit_node, visit_node, hb s s' h, hpt]
    split
    · exact h
    · refine List.foldl_rel (r := R) ?_ (fun i _ s t hR => ?_)
      · cases v with
        | none => exact h
        | some p => exact hv s s' p _ (hQ p (by simp [contents])) h
      · exact ih i _ _ s t (fun y hy => hQ y (mem_contents_of_child hy)) hR

/-! started from "no limit" they ARE the unlimited searches -/

theorem findRawFrom_none (sqrt : α → α) (q : QT α) (pt : Pt α) (f : Ptr α → Bool) :
    findRawFrom none sqrt q pt f = findRaw sqrt q pt f := rfl

theorem matchingFrom_none (sqrt : α → α) (q : QT α) (pt : Pt α) (f : Ptr α → Bool) :
    matchingFrom none sqrt q pt f = matching sqrt q pt f := rfl

theorem removeFrom_none (sqrt : α → α) (q : QT α) (pt : Pt α) (eq : Ptr α → Bool) :
    removeFrom none sqrt q pt eq = remove sqrt q pt eq := rfl

theorem kNearestFrom_none (sqrt : α → α) (q : QT α) (pt : Pt α) (k : Nat) (f : Ptr α → Bool) (md : Option α) :
    kNearestFrom none sqrt q pt k f md = kNearest sqrt q pt k f md :=
  (kNearest_eq_from sqrt q pt k f md).symm

/-- an explicit `maxDistance` overwrites the initial limit -/
theorem kNearestFrom_some (init : Option α) (sqrt : α → α) (q : QT α) (pt : Pt α) (k : Nat) (f : Ptr α → Bool)
    (m : α) : kNearestFrom init sqrt q pt k f (some m) = kNearest sqrt q pt k f (some m) := rfl

/-- two limits that differ at most by `some M` against "no limit" -/
def LimSim (M : α) (a b : Option α) : Prop := a = b ∨ (a = some M ∧ b = none)

theorem LimSim.under_eq {M d : α} {a b : Option α} (h : LimSim M a b) (hd : d < M) : under a d = under b d := by
  rcases h with rfl | ⟨rfl, rfl⟩
  · rfl
  · exact decide_eq_true hd

/-- relation between the find visitor started from `some M` and the one started from `none` -/
def FindSim (M : α) (s t : FindSt α) : Prop :=
  s.closest = t.closest ∧ s.bnd = t.bnd ∧ LimSim M s.minD t.minD

theorem findRawFrom_sim (M : α) (sqrt : α → α) (q : QT α) (pt : Pt α) (f : Ptr α → Bool)
    (h : ∀ y ∈ contents q.root, f y = true → distSq y.p pt < M) :
    FindSim M (findRawFrom (some M) sqrt q pt f) (findRaw sqrt q pt f) := by
  refine visit_sim (findVisitor sqrt pt f) (findVisitor sqrt pt f) (FindSim M)
    (fun y => f y = true → distSq y.p pt < M) rfl (fun _ _ hR => hR.2.1) ?_ q.root _ _ _ _ h
    ⟨rfl, rfl, Or.inr ⟨rfl, rfl⟩⟩
  intro s t p path hQ hR
  rw [findVisitor_step, findVisitor_step]
  cases hf : f p with
  | false => exact hR
  | true =>
    rw [hR.2.2.under_eq (hQ hf)]
    by_cases hd : under t.minD (distSq p.p pt) = true
    · simp only [Bool.not_true, Bool.false_eq_true, if_false, if_pos hd]; exact ⟨rfl, rfl, Or.inl rfl⟩
    · simp only [Bool.not_true, Bool.false_eq_true, if_false, if_neg hd]; exact hR

/-- `Matching` / `Find` started from the limit `M` = the unlimited search, when every accepted stored
    pointer is nearer than `M` -/
theorem matchingFrom_eq (M : α) (sqrt : α → α) (q : QT α) (pt : Pt α) (f : Ptr α → Bool)
    (h : ∀ y ∈ contents q.root, f y = true → distSq y.p pt < M) :
    matchingFrom (some M) sqrt q pt f = matching sqrt q pt f := by
  rw [← matchingFrom_none, matchingFrom_eq_visit, matchingFrom_eq_visit, findRawFrom_none,
    (findRawFrom_sim M sqrt q pt f h).1]

/-- `Remove` started from the limit `M` = the unlimited one (same flag, same tree) -/
theorem removeFrom_eq (M : α) (sqrt : α → α) (q : QT α) (pt : Pt α) (eq : Ptr α → Bool)
    (h : ∀ y ∈ contents q.root, eq y = true → distSq y.p pt < M) :
    removeFrom (some M) sqrt q pt eq = remove sqrt q pt eq := by
  rw [← removeFrom_none, removeFrom_eq_visit, removeFrom_eq_visit, findRawFrom_none,
    (findRawFrom_sim M sqrt q pt eq h).1]

/-- relation between the nearest visitor started from `some M` and from `none` -/
def NearSim (M : α) (s t : NearSt α) : Prop :=
  s.heap = t.heap ∧ s.bnd = t.bnd ∧ LimSim M s.maxD t.maxD

/-- the push/pop tail reads the limit not at all, and overwrites it on both sides alike -/
theorem pushed_sim (M : α) (sqrt : α → α) (pt : Pt α) (k : Nat) (s t : NearSt α) (p : Ptr α) (hR : NearSim M s t) :
    NearSim M (pushed sqrt pt k s p) (pushed sqrt pt k t p) := by
  obtain ⟨hh, hbd, hm⟩ := hR
  unfold pushed
  rw [hh]
  split
  · split
    · exact ⟨rfl, rfl, Or.inl rfl⟩
    · exact ⟨rfl, hbd, hm⟩
  · exact ⟨rfl, hbd, hm⟩

/-- `KNearest` / `KNearestMatching` without a `maxDistance`, started from the limit `M` = the
    unlimited search, when every accepted stored pointer is nearer than `M` -/
theorem kNearestFrom_eq (M : α) (sqrt : α → α) (q : QT α) (pt : Pt α) (k : Nat) (f : Ptr α → Bool)
    (h : ∀ y ∈ contents q.root, f y = true → distSq y.p pt < M) :
    kNearestFrom (some M) sqrt q pt k f none = kNearest sqrt q pt k f none := by
  have key : NearSim M
      (visit (nearestVisitor sqrt pt f k) q.root (rootCell q.bound) [] ⟨#[], q.bound, some M⟩)
      (visit (nearestVisitor sqrt pt f k) q.root (rootCell q.bound) [] ⟨#[], q.bound, none⟩) := by
    refine visit_sim (nearestVisitor sqrt pt f k) (nearestVisitor sqrt pt f k) (NearSim M)
      (fun y => f y = true → distSq y.p pt < M) rfl (fun _ _ hR => hR.2.1) ?_ q.root _ _ _ _ h
      ⟨rfl, rfl, Or.inr ⟨rfl, rfl⟩⟩
    intro s t p path hQ hR
    rw [nearestVisitor_step, nearestVisitor_step]
    cases hf : f p with
    | false => exact hR
    | true =>
      rw [hR.2.2.under_eq (hQ hf)]
      by_cases hd : (!under t.maxD (distSq p.p pt)) = true
      · simp only [Bool.not_true, Bool.false_eq_true, if_false, if_pos hd]; exact hR
      · simp only [Bool.not_true, Bool.false_eq_true, if_false, if_neg hd]; exact pushed_sim M sqrt pt k s t p hR
  rw [kNearest_eq_from, kNearestFrom_eq_visit, kNearestFrom_eq_visit]
  simp only [Option.map_none, Option.none_or, Option.or_none, key.1]

end sim

variable {α : Type} [Field α] [LinearOrder α] [IsStrictOrderedRing α]

/-- The refinement theorem for `Find` / `Matching` as the CODE runs it (initial limit `M`): on a tree
    satisfying the invariant whose accepted pointers are all nearer than `M`, the answer is one the
    plain list allows.  (There is no unprimed version; C11.lean restates this and the next two under the names
    `matching_from_limit_spec`, `remove_from_limit_spec`, `kNearest_from_limit_spec`.) -/
theorem matchingFrom_spec' (M : α) (sqrt : α → α) (hs : SqrtUp sqrt) (q : QT α) (pt : Pt α) (f : Ptr α → Bool)
    (h : QInv q) (hM : ∀ y ∈ contents q.root, f y = true → distSq y.p pt < M) :
    Spec q.bound (contents q.root) (.matching pt f) (.ptr (matchingFrom (some M) sqrt q pt f)) (contents q.root) := by
  rw [matchingFrom_eq M sqrt q pt f hM]
  exact matching_correct sqrt hs q pt f h

/-- The same for `Remove` (the invariant is kept as well). -/
theorem removeFrom_spec' (M : α) (sqrt : α → α) (hs : SqrtUp sqrt) (q : QT α) (pt : Pt α) (eq : Ptr α → Bool)
    (h : QInv q) (hM : ∀ y ∈ contents q.root, eq y = true → distSq y.p pt < M) :
    Spec q.bound (contents q.root) (.remove pt eq) (.flag (removeFrom (some M) sqrt q pt eq).2)
      (contents (removeFrom (some M) sqrt q pt eq).1.root) ∧ QInv (removeFrom (some M) sqrt q pt eq).1 := by
  rw [removeFrom_eq M sqrt q pt eq hM]
  exact ⟨(remove_correct sqrt hs q pt eq h).1, (remove_correct sqrt hs q pt eq h).2.1⟩

/-- The same for `KNearest` / `KNearestMatching`: the hypothesis on `M` is needed only when no `maxDistance` is given
    (an explicit one overwrites the initial limit). -/
theorem kNearestFrom_spec' (M : α) (sqrt : α → α) (hs : SqrtUp sqrt) (q : QT α) (pt : Pt α) (k : Nat)
    (f : Ptr α → Bool) (md : Option α) (h : QInv q)
    (hM : md = none → ∀ y ∈ contents q.root, f y = true → distSq y.p pt < M) :
    Spec q.bound (contents q.root) (.kNearest pt k f md) (.ptrs (kNearestFrom (some M) sqrt q pt k f md))
      (contents q.root) := by
  cases md with
  | none => rw [kNearestFrom_eq M sqrt q pt k f (hM rfl)]; exact kNearest_correct sqrt hs q pt k f none h
  | some m => rw [kNearestFrom_some]; exact kNearest_correct sqrt hs q pt k f (some m) h

/-- What the code does OUTSIDE that hypothesis (the situation props.json lists under `partial`): a tree holding a
    single pointer at squared distance `≥ M` — `Find` started from `M` answers nil although the tree is
    not empty.  (C11.lean restates it as `find_from_limit_skips_far`.) -/
theorem matchingFrom_skips_far (M : α) (sqrt : α → α) (b : Bound α) (x : Ptr α) (pt : Pt α)
    (hfar : ¬ distSq x.p pt < M) (hin : ¬ miss (rootCell b) b) :
    matchingFrom (some M) sqrt ⟨b, .node (some x) .nil .nil .nil .nil⟩ pt (fun _ => true) = none := by
  unfold miss at hin
  simp [matchingFrom, findRawFrom, visit, findVisitor, hin, hfar, Tree.isNil]

end Orb.Quadtree
