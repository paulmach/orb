/-
  `MergeUp` on the association-list model.  A visit of a key that is still in the set takes the key's sibling
  quad out of the set and hands over either the members that were in (incomplete quad) or the parent (complete
  quad).  So what `merged` and `parents` hold, together with what the rest of the set would still send there
  (`Lone`, `Par`), does not change during a level, whatever the order of the visits (`Keeps`), and at the end of
  the level the set is empty.  The parent set of a level is the set of `Full` tiles one zoom up, and `Full`
  composes across levels, so the loop, from any state, returns its accumulated list plus the closed form `Merged`
  of its current set.
-/
import Orb.TileCover
import OrbProofs.C13Lemmas

namespace Orb.TileCover
open Orb Orb.Tile

namespace TMap

theorem get_set (m : TMap) (t t' : Tile) (b : Bool) :
    (m.set t b).get t' = if t' = t then b else m.get t' := by
  induction m with
  | nil => by_cases h : t = t' <;> simp [set, get, h, eq_comm]
  | cons p r ih =>
    obtain ⟨k, v⟩ := p
    by_cases hk : k = t <;> by_cases h : k = t' <;> simp_all [set, get, eq_comm]

theorem mem_keys_of_get {m : TMap} {t : Tile} (h : m.get t = true) : t ∈ m.keys := by
  induction m with
  | nil => simp [get] at h
  | cons p r ih =>
    obtain ⟨k, v⟩ := p
    simp only [get] at h
    simp only [keys, List.map_cons, List.mem_cons]
    by_cases hk : k = t
    · exact Or.inl hk.symm
    · rw [if_neg hk] at h
      exact Or.inr (ih h)

theorem mem_keys_set (m : TMap) (t t' : Tile) (b : Bool) :
    t' ∈ (m.set t b).keys ↔ t' ∈ m.keys ∨ t' = t := by
  induction m with
  | nil => simp [set, keys]
  | cons p r ih =>
    obtain ⟨k, v⟩ := p
    simp only [set]
    by_cases hk : k = t
    · subst hk
      simp only [if_true, keys, List.map_cons, List.mem_cons]
      constructor
      · intro h; exact Or.inl h
      · rintro (h | h)
        · exact h
        · exact Or.inl h
    · simp only [if_neg hk]
      simp only [keys, List.map_cons, List.mem_cons] at ih ⊢
      rw [ih]
      simp only [or_assoc]

theorem length_keys (m : TMap) : m.keys.length = m.len := by simp [keys, len]

theorem get_map_true (l : List Tile) (t : Tile) :
    TMap.get (l.map fun t => (t, true)) t = true ↔ t ∈ l := by
  induction l with
  | nil => simp [get]
  | cons a l ih =>
    simp only [List.map_cons, get, List.mem_cons]
    by_cases h : a = t
    · simp [h]
    · have : ¬ t = a := fun e => h e.symm
      simp [h, this, ih]

end TMap

theorem full_at_zoom (m : TMap) (zoom : Nat) (t : Tile) (h : t.z = zoom) :
    Full m zoom t ↔ m.get t = true := by
  constructor
  · intro hf; exact hf t h (isAncestor_refl t)
  · intro hg s hs ha
    obtain ⟨_, e⟩ := ha
    have : s.z - t.z = 0 := by omega
    rw [this, ancestorAt_zero] at e
    rw [← e]; exact hg

theorem full_mono {m : TMap} {zoom : Nat} {a b : Tile} (h : IsAncestor a b) (hf : Full m zoom a) :
    Full m zoom b :=
  fun s hs hb => hf s hs (isAncestor_trans h hb)

theorem full_V {m : TMap} {zoom : Nat} (hm : ∀ t, m.get t = true → V t ∧ t.z = zoom) {t : Tile}
    (hf : Full m zoom t) (hz : t.z ≤ zoom) : V t ∧ zoom ≤ 30 := by
  obtain ⟨k, rfl⟩ : ∃ k, zoom = t.z + k := ⟨zoom - t.z, by omega⟩
  obtain ⟨⟨hx, hy, h30⟩, _⟩ := hm _ (hf _ rfl (isAncestor_corner t k))
  simp only at hx hy h30
  rw [Nat.pow_add] at hx hy
  exact ⟨⟨Nat.lt_of_mul_lt_mul_right hx, Nat.lt_of_mul_lt_mul_right hy, by omega⟩, h30⟩

theorem full_children {m : TMap} {zoom : Nat} (h30 : zoom ≤ 30) {p : Tile} (hp : V p) (hz : p.z < zoom) :
    Full m zoom p ↔ ∀ c ∈ children p, Full m zoom c := by
  constructor
  · intro hf c hc
    obtain ⟨h1, h2, h3⟩ := children_valid_parent' p hp (by omega) c hc
    exact full_mono (h3 ▸ isAncestor_parent (c := c) (by omega) (by omega)) hf
  · intro h s hs ha
    -- the ancestor of `s` one zoom below `p` is a child of `p`
    have hcs := isAncestor_ancestorAt s (zoom - p.z - 1) (by omega)
    have hcz : (ancestorAt s (zoom - p.z - 1)).z = p.z + 1 := by simp only [ancestorAt]; omega
    generalize ancestorAt s (zoom - p.z - 1) = c at hcs hcz
    have hpc := isAncestor_restrict ha hcs (by omega)
    have hpar : parent c = p := by
      rw [parent_eq_ancestorAt c (by omega) (by omega), hpc.2]; congr 1; omega
    exact h c (mem_children_of_parent p c hp hcz hpar) s hs hcs

theorem full_parent_iff {m : TMap} {zoom : Nat} (h30 : zoom ≤ 30) {c : Tile} (hc : V c) (hz : 0 < c.z)
    (hz' : c.z ≤ zoom) : Full m zoom (parent c) ↔ ∀ s ∈ siblings c, Full m zoom s := by
  obtain ⟨hp, hpz, _⟩ := parent_V hc hz
  exact full_children h30 hp (by omega)

theorem get_foldl_off (l : List Tile) (m : TMap) (x : Tile) :
    (l.foldl (fun m s => m.set s false) m).get x = true ↔ m.get x = true ∧ x ∉ l := by
  induction l generalizing m with
  | nil => simp
  | cons a r ih =>
    rw [List.foldl_cons, ih, TMap.get_set]
    by_cases h : x = a <;> simp [h]

/-- the loop of the incomplete branch: the siblings that are on go to `merged` and are switched off -/
theorem foldl_not_full (sibs : List Tile) (f : Tile → Bool) (st : MState) :
    (sibs.zip (sibs.map f)).foldl (fun st (sv : Tile × Bool) =>
      if sv.2 then { st with merged := sv.1 :: st.merged, set := st.set.set sv.1 false } else st) st
    = ⟨(sibs.filter f).foldl (fun m s => m.set s false) st.set, (sibs.filter f).reverse ++ st.merged,
        st.parents⟩ := by
  induction sibs generalizing st with
  | nil => rfl
  | cons a r ih =>
    simp only [List.map_cons, List.zip_cons_cons, List.foldl_cons, List.filter_cons]
    cases f a <;> simp [ih]

theorem stepTile_of_false (toMerged : Bool) (st : MState) (t : Tile) (ht : st.set.get t = false) :
    stepTile none toMerged st t = st := by
  simp [stepTile, ht]

theorem stepTile_on (b : Bool) (st : MState) (t : Tile) (ht : st.set.get t = true) :
    (∀ x, (stepTile none b st t).set.get x = true ↔ st.set.get x = true ∧ x ∉ siblings t) ∧
    (∀ x, x ∈ (stepTile none b st t).merged ↔ x ∈ st.merged ∨
        (QuadIn st.set t ∧ b = true ∧ x = parent t) ∨
        (¬ QuadIn st.set t ∧ x ∈ siblings t ∧ st.set.get x = true)) ∧
    (∀ x, (stepTile none b st t).parents.get x = true ↔ st.parents.get x = true ∨
        (QuadIn st.set t ∧ b = false ∧ x = parent t)) ∧
    (∀ x, x ∈ (stepTile none b st t).parents.keys ↔ x ∈ st.parents.keys ∨
        (QuadIn st.set t ∧ b = false ∧ x = parent t)) := by
  have hall : ((siblings t).map st.set.get).all id = true ↔ QuadIn st.set t := by
    simp [QuadIn, List.all_map, List.all_eq_true]
  by_cases hq : QuadIn st.set t
  · have e : stepTile none b st t =
        if b then ⟨(siblings t).foldl (fun m s => m.set s false) st.set, parent t :: st.merged, st.parents⟩
        else ⟨(siblings t).foldl (fun m s => m.set s false) st.set, st.merged, st.parents.set (parent t) true⟩ := by
      simp only [stepTile, ht, hall.2 hq]; simp
    rw [e]
    cases b <;> simp [get_foldl_off, hq, TMap.get_set, TMap.mem_keys_set, or_comm]
  · have e : stepTile none b st t = ⟨((siblings t).filter st.set.get).foldl (fun m s => m.set s false) st.set,
        ((siblings t).filter st.set.get).reverse ++ st.merged, st.parents⟩ := by
      simp only [stepTile, ht, Bool.eq_false_iff.2 (mt hall.1 hq)]; simp; exact foldl_not_full _ _ st
    rw [e]
    simp only [get_foldl_off, List.mem_filter, List.mem_append, List.mem_reverse, hq, false_and,
      not_false_eq_true, true_and, false_or, or_false]
    refine ⟨fun x => ?_, fun x => or_comm, fun _ => trivial, fun _ => trivial⟩
    by_cases hx : x ∈ siblings t <;> simp [hx]

/-- tiles of `s` whose sibling quad is incomplete -/
def Lone (s : TMap) (x : Tile) : Prop := s.get x = true ∧ ¬ QuadIn s x
/-- parents of the complete quads of `s` -/
def Par (s : TMap) (x : Tile) : Prop := ∃ c, s.get c = true ∧ QuadIn s c ∧ parent c = x

/-- Taking the quad of `t` out of a one-zoom set `s`: the rest keeps its incomplete tiles and its
    complete quads, the quad of `t` accounts for the difference. -/
theorem remove_quad {z : Nat} (hz : 0 < z) {s s' : TMap} (hs : ∀ t, s.get t = true → V t ∧ t.z = z)
    {t : Tile} (ht : s.get t = true) (h' : ∀ x, s'.get x = true ↔ s.get x = true ∧ x ∉ siblings t) :
    (∀ x, Lone s x ↔ Lone s' x ∨ (¬ QuadIn s t ∧ x ∈ siblings t ∧ s.get x = true)) ∧
    (∀ x, Par s x ↔ Par s' x ∨ (QuadIn s t ∧ x = parent t)) := by
  obtain ⟨hV, htz⟩ := hs t ht
  have htz0 : 0 < t.z := by omega
  have hin : ∀ c ∈ siblings t, (QuadIn s c ↔ QuadIn s t) ∧ parent c = parent t := fun c hc =>
    ⟨by unfold QuadIn; rw [siblings_eq_of_mem hV htz0 hc], ((mem_siblings_iff hV htz0 c).1 hc).2.2⟩
  have hout : ∀ c, s.get c = true → c ∉ siblings t → (QuadIn s' c ↔ QuadIn s c) := by
    intro c hc hn
    obtain ⟨hVc, hcz⟩ := hs c hc
    refine ⟨fun q y hy => ((h' y).1 (q y hy)).1, fun q y hy => (h' y).2 ⟨q y hy, fun hy' => hn ?_⟩⟩
    have e1 := ((mem_siblings_iff hVc (by omega) y).1 hy).2.2
    exact (mem_siblings_iff hV htz0 c).2 ⟨hVc, by omega, by rw [← e1, (hin y hy').2]⟩
  have hself := self_mem_siblings hV htz0
  refine ⟨fun x => ?_, fun x => ?_⟩
  · unfold Lone
    by_cases hx : x ∈ siblings t
    · have : ¬ s'.get x = true := fun h => ((h' x).1 h).2 hx
      simp [this, hx, (hin x hx).1, and_comm]
    · by_cases hg : s.get x = true
      · simp [hx, hg, (h' x).2 ⟨hg, hx⟩, hout x hg hx]
      · simp [hx, hg, mt (h' x).1 (fun h => hg h.1)]
  · unfold Par
    constructor
    · rintro ⟨c, h1, h2, h3⟩
      by_cases hc : c ∈ siblings t
      · exact Or.inr ⟨((hin c hc).1).1 h2, by rw [← h3, (hin c hc).2]⟩
      · exact Or.inl ⟨c, (h' c).2 ⟨h1, hc⟩, (hout c h1 hc).2 h2, h3⟩
    · rintro (⟨c, h1, h2, h3⟩ | ⟨h1, h2⟩)
      · obtain ⟨a, b⟩ := (h' c).1 h1
        exact ⟨c, a, (hout c a b).1 h2, h3⟩
      · exact ⟨t, ht, h1, h2.symm⟩

/-- The one invariant of a level: `merged ∪ Lone set ∪ (b ? Par set)` and `parents ∪ (¬b ? Par set)`
    are the same before and after a visit; the set only shrinks and loses the visited key. -/
structure Keeps (b : Bool) (st st' : MState) : Prop where
  sub : ∀ x, st'.set.get x = true → st.set.get x = true
  mer : ∀ x, (x ∈ st'.merged ∨ Lone st'.set x ∨ (b = true ∧ Par st'.set x)) ↔
          (x ∈ st.merged ∨ Lone st.set x ∨ (b = true ∧ Par st.set x))
  par : ∀ x, (st'.parents.get x = true ∨ (b = false ∧ Par st'.set x)) ↔
          (st.parents.get x = true ∨ (b = false ∧ Par st.set x))
  keys : (∀ x ∈ st.parents.keys, st.parents.get x = true) →
          ∀ x ∈ st'.parents.keys, st'.parents.get x = true

theorem Keeps.refl (b : Bool) (st : MState) : Keeps b st st :=
  ⟨fun _ h => h, fun _ => Iff.rfl, fun _ => Iff.rfl, fun h => h⟩

theorem Keeps.trans {b : Bool} {st st' st'' : MState} (h : Keeps b st st') (h' : Keeps b st' st'') :
    Keeps b st st'' :=
  ⟨fun x hx => h.sub x (h'.sub x hx), fun x => (h'.mer x).trans (h.mer x),
    fun x => (h'.par x).trans (h.par x), fun hk => h'.keys (h.keys hk)⟩

theorem keeps_step {z : Nat} (hz : 0 < z) (b : Bool) (st : MState)
    (hs : ∀ t, st.set.get t = true → V t ∧ t.z = z) (t : Tile) :
    Keeps b st (stepTile none b st t) ∧ (stepTile none b st t).set.get t = false := by
  by_cases ht : st.set.get t = true
  case neg =>
    rw [stepTile_of_false b st t (Bool.eq_false_iff.2 ht)]
    exact ⟨Keeps.refl b st, Bool.eq_false_iff.2 ht⟩
  obtain ⟨h1, h2, h3, h4⟩ := stepTile_on b st t ht
  obtain ⟨hL, hP⟩ := remove_quad hz hs ht h1
  obtain ⟨hV, htz⟩ := hs t ht
  refine ⟨⟨fun x h => ((h1 x).1 h).1, fun x => ?_, fun x => ?_, fun hk x hx => ?_⟩, ?_⟩
  · rw [h2 x, hL x, hP x]
    by_cases hq : QuadIn st.set t <;> cases b <;> simp [hq, or_assoc, or_comm, or_left_comm]
  · rw [h3 x, hP x]
    by_cases hq : QuadIn st.set t <;> cases b <;> simp [hq, or_assoc, or_comm, or_left_comm]
  · rw [h3 x]
    exact ((h4 x).1 hx).imp (hk x) id
  · rw [Bool.eq_false_iff]
    exact fun h => ((h1 t).1 h).2 (self_mem_siblings hV (by omega))

theorem keeps_foldl {z : Nat} (hz : 0 < z) (b : Bool) (l : List Tile) : ∀ (st : MState),
    (∀ t, st.set.get t = true → V t ∧ t.z = z) →
    Keeps b st (l.foldl (stepTile none b) st) ∧ ∀ t ∈ l, (l.foldl (stepTile none b) st).set.get t = false := by
  induction l with
  | nil => exact fun st _ => ⟨Keeps.refl b st, nofun⟩
  | cons a r ih =>
    intro st hs
    obtain ⟨k1, ha⟩ := keeps_step hz b st hs a
    obtain ⟨k2, hr⟩ := ih _ (fun t h => hs t (k1.sub t h))
    refine ⟨k1.trans k2, fun t ht => ?_⟩
    rcases List.mem_cons.1 ht with rfl | ht
    · exact Bool.eq_false_iff.2 fun h => absurd (k2.sub _ h) (Bool.eq_false_iff.1 ha)
    · exact hr t ht

/-- One level, whatever the order `l` of the visits, as long as it reaches every key that is on: the set
    ends empty, so `Lone` and `Par` of the final set vanish from `Keeps` and the outputs are those of the
    start plus `Lone` and `Par` of the starting set.  The final state is a variable `r` with an equation (as in
    `mergeLoop_succ`, `level_closed`) so that the four clauses do not each carry the fold; callers pass `_ rfl` or
    name the state first. -/
theorem level_fold_spec {z : Nat} (hz : 0 < z) (b : Bool) (l : List Tile) (st : MState)
    (hs : ∀ t, st.set.get t = true → V t ∧ t.z = z) (hl : ∀ t, st.set.get t = true → t ∈ l)
    (r : MState) (hr : r = l.foldl (stepTile none b) st) :
    (∀ t, r.set.get t = false) ∧
    (∀ t, t ∈ r.merged ↔ (t ∈ st.merged ∨ Lone st.set t ∨ (b = true ∧ Par st.set t))) ∧
    (∀ t, r.parents.get t = true ↔ (st.parents.get t = true ∨ (b = false ∧ Par st.set t))) ∧
    ((∀ x ∈ st.parents.keys, st.parents.get x = true) → ∀ x ∈ r.parents.keys, r.parents.get x = true) := by
  obtain ⟨k, hF⟩ := keeps_foldl hz b l st hs
  rw [← hr] at k hF
  have hall : ∀ t, r.set.get t = false := fun t =>
    Bool.eq_false_iff.2 fun h => absurd h (Bool.eq_false_iff.1 (hF t (hl t (k.sub t h))))
  refine ⟨hall, fun t => ?_, fun t => ?_, k.keys⟩
  · refine Iff.trans ?_ (k.mer t); simp [Lone, Par, hall]
  · refine Iff.trans ?_ (k.par t); simp [Par, hall]

theorem firstTrueZoom_eq (m : TMap) (l : List Tile) :
    firstTrueZoom m l = ((l.find? m.get).map (·.z)).getD 1 := by
  induction l with
  | nil => rfl
  | cons a r ih => rw [firstTrueZoom, List.find?_cons]; cases m.get a <;> simp [ih]

theorem firstTrueZoom_none (m : TMap) (l : List Tile) (h : ∀ t ∈ l, m.get t = false) :
    firstTrueZoom m l = 1 := by
  rw [firstTrueZoom_eq, List.find?_eq_none.2 fun t ht => by simp [h t ht]]; rfl

theorem firstTrueZoom_some (m : TMap) (l : List Tile) (zoom : Nat) (hm : ∀ t, m.get t = true → t.z = zoom)
    (h : ∃ t ∈ l, m.get t = true) : firstTrueZoom m l = zoom := by
  rw [firstTrueZoom_eq]
  obtain ⟨a, ha⟩ := Option.isSome_iff_exists.1 (List.find?_isSome.2 h)
  rw [ha]; exact hm a (List.find?_some ha)

theorem mergeLoop_succ (o : Orders) (min k : Nat) (set : TMap) (merged : List Tile) (st : MState)
    (hst : st = (o.level (min + (k + 1)) set.keys).foldl (stepTile none (min + (k + 1) - 1 == min))
      ⟨set, merged, []⟩) :
    mergeLoop o none min (k + 1) set merged =
      if (st.parents.len : Int) < 4 then st.parents.keys ++ st.merged
      else mergeLoop o none min k st.parents st.merged := by
  subst hst; rfl

theorem four_le_len {set : TMap} {p : Tile} (hp : V p) (h : ∀ c ∈ children p, set.get c = true) :
    4 ≤ set.len := by
  have hnd : (children p).Nodup := by
    rw [children_eq p hp]; simp
  have := hnd.length_le_of_subset fun c hc => TMap.mem_keys_of_get (h c hc)
  rwa [TMap.length_keys, children_eq p hp] at this

section level
variable {s : TMap} {z : Nat} (hs : ∀ t, s.get t = true → V t ∧ t.z = z) (h30 : z ≤ 30) (hz : 0 < z)
include hs h30 hz

theorem quadIn_iff_full {c : Tile} (hc : s.get c = true) : QuadIn s c ↔ Full s z (parent c) := by
  obtain ⟨hV, hcz⟩ := hs c hc
  rw [full_parent_iff h30 hV (by omega) (by omega)]
  refine forall_congr' fun x => imp_congr_right fun hx => ?_
  have := ((mem_siblings_iff hV (by omega) x).1 hx).2.1
  exact (full_at_zoom s z x (by omega)).symm

theorem lone_iff (t : Tile) : Lone s t ↔ (t.z = z ∧ Full s z t ∧ ¬ Full s z (parent t)) := by
  unfold Lone
  constructor
  · rintro ⟨a, b⟩
    exact ⟨(hs t a).2, (full_at_zoom s z t (hs t a).2).2 a, fun q => b ((quadIn_iff_full hs h30 hz a).2 q)⟩
  · rintro ⟨a1, a2, a3⟩
    have a := (full_at_zoom s z t a1).1 a2
    exact ⟨a, fun q => a3 ((quadIn_iff_full hs h30 hz a).1 q)⟩

theorem par_iff (t : Tile) : Par s t ↔ (t.z + 1 = z ∧ Full s z t) := by
  constructor
  · rintro ⟨c, h1, h2, rfl⟩
    obtain ⟨hV, hcz⟩ := hs c h1
    exact ⟨by have := (parent_V hV (by omega)).2.1; omega, (quadIn_iff_full hs h30 hz h1).1 h2⟩
  · rintro ⟨h1, h2⟩
    obtain ⟨hV, _⟩ := full_V hs h2 (by omega)
    have hc : (⟨2 * t.x, 2 * t.y, t.z + 1⟩ : Tile) ∈ children t := by
      rw [children_eq t hV]; simp
    obtain ⟨_, _, hpar⟩ := children_valid_parent' t hV (by omega) _ hc
    have hg := (full_at_zoom s z _ (by simp only; omega)).1 ((full_children h30 hV (by omega)).1 h2 _ hc)
    exact ⟨_, hg, by rw [quadIn_iff_full hs h30 hz hg, hpar]; exact h2, hpar⟩

theorem level_closed (o : Orders) (ho : o.Fair) (merged : List Tile) (b : Bool) (st : MState)
    (hst : st = (o.level z s.keys).foldl (stepTile none b) ⟨s, merged, []⟩) :
    (∀ t, t ∈ st.merged ↔ (t ∈ merged ∨ (t.z = z ∧ Full s z t ∧ ¬ Full s z (parent t)) ∨
      (b = true ∧ t.z + 1 = z ∧ Full s z t))) ∧
    (∀ t, st.parents.get t = true ↔ (b = false ∧ t.z + 1 = z ∧ Full s z t)) ∧
    (∀ t, t ∈ st.parents.keys ↔ st.parents.get t = true) := by
  obtain ⟨_, h2, h3, h4⟩ := level_fold_spec hz b _ ⟨s, merged, []⟩ hs
    (fun t ht => ho.level z _ t (TMap.mem_keys_of_get ht)) st hst
  refine ⟨fun t => ?_, fun t => ?_, fun t => ⟨h4 (by simp [TMap.keys]) t, TMap.mem_keys_of_get⟩⟩
  · rw [h2 t, lone_iff hs h30 hz, par_iff hs h30 hz]
  · rw [h3 t, par_iff hs h30 hz]
    simp [TMap.get]

end level

/-- closed form of `MergeUp` down to zoom `min` on a set `s` whose tiles are all at zoom `z` -/
def Merged (s : TMap) (z min : Nat) (t : Tile) : Prop :=
  min ≤ t.z ∧ t.z ≤ z ∧ Full s z t ∧ (t.z = min ∨ ¬ Full s z (parent t))

theorem full_compose {s s' : TMap} {z : Nat} (h30 : z ≤ 30)
    (hs' : ∀ t, s'.get t = true ↔ (t.z + 1 = z ∧ Full s z t)) {u : Tile} (hu : u.z < z) :
    Full s' (z - 1) u ↔ Full s z u := by
  constructor
  · intro hf w hw hanc
    have hp := isAncestor_parent (c := w) (by omega) (by omega)
    have hpz : (parent w).z = z - 1 := by rw [parent_z w (by omega) (by omega)]; omega
    have := ((hs' _).1 (hf _ hpz (isAncestor_restrict hanc hp (by omega)))).2
    exact this w hw hp
  · intro hf p hp hanc
    exact (hs' p).2 ⟨by omega, full_mono hanc hf⟩

theorem merged_compose {s s' : TMap} {z min : Nat} (hmz : min < z) (h30 : z ≤ 30)
    (hs' : ∀ t, s'.get t = true ↔ (t.z + 1 = z ∧ Full s z t)) (t : Tile) :
    Merged s z min t ↔ (t.z = z ∧ Full s z t ∧ ¬ Full s z (parent t)) ∨ Merged s' (z - 1) min t := by
  unfold Merged
  by_cases htz : t.z < z
  · have hp := parent_z_le t (by omega)
    rw [full_compose h30 hs' htz, full_compose h30 hs' (u := parent t) (by omega)]
    constructor
    · rintro ⟨a, b, c, d⟩; exact Or.inr ⟨a, by omega, c, d⟩
    · rintro (⟨a, _⟩ | ⟨a, b, c, d⟩)
      · omega
      · exact ⟨a, by omega, c, d⟩
  · constructor
    · rintro ⟨a, b, c, d⟩; exact Or.inl ⟨by omega, c, d.resolve_left (by omega)⟩
    · rintro (⟨a, c, d⟩ | ⟨a, b, _⟩)
      · exact ⟨by omega, by omega, c, Or.inr d⟩
      · omega

/-- Where no tile above the set's zoom is full, nothing merges: the closed form is the set itself
    (`min = z`: the loop does not run; fewer than four tiles: the early exit of the loop). -/
theorem merged_top {s : TMap} {z min : Nat} (hs : ∀ t, s.get t = true → V t ∧ t.z = z)
    (hN : ∀ u, min ≤ u.z → u.z < z → ¬ Full s z u) (t : Tile) :
    Merged s z min t ↔ min ≤ z ∧ s.get t = true := by
  constructor
  · rintro ⟨a, b, c, -⟩
    by_cases e : t.z = z
    · exact ⟨by omega, (full_at_zoom s z t e).1 c⟩
    · exact absurd c (hN t a (by omega))
  · rintro ⟨hmz, h⟩
    obtain ⟨hV, e⟩ := hs t h
    refine ⟨by omega, by omega, (full_at_zoom s z t e).2 h, ?_⟩
    by_cases hm : t.z = min
    · exact Or.inl hm
    · have := (parent_V hV (by omega)).2.1
      exact Or.inr (hN _ (by omega) (by omega))

/-- a set of fewer than four entries has no full tile above its zoom: such a tile would have a full descendant
    one zoom above the set, whose four children are in the set -/
theorem not_full_of_small {s : TMap} {z : Nat} (hs : ∀ t, s.get t = true → V t ∧ t.z = z)
    (hlen : s.len < 4) (u : Tile) (huz : u.z < z) : ¬ Full s z u := by
  intro hu
  obtain ⟨u', h1, h2⟩ : ∃ u' : Tile, u'.z = z - 1 ∧ Full s z u' :=
    ⟨_, by simp only; omega, full_mono (isAncestor_corner u (z - 1 - u.z)) hu⟩
  obtain ⟨hVu, h30⟩ := full_V hs h2 (by omega)
  have := four_le_len hVu fun c hc =>
    (full_at_zoom s z c (by have := (children_valid_parent' u' hVu (by omega) c hc).2.1; omega)).1
      ((full_children h30 hVu (by omega)).1 h2 c hc)
  omega

theorem mergeLoop_closed (o : Orders) (ho : o.Fair) (min : Nat) :
    ∀ (k : Nat) (s : TMap) (merged : List Tile),
      (∀ t, s.get t = true → V t ∧ t.z = min + (k + 1)) → min + (k + 1) ≤ 30 →
      ∀ t, t ∈ mergeLoop o none min (k + 1) s merged ↔ (t ∈ merged ∨ Merged s (min + (k + 1)) min t) := by
  intro k
  induction k with
  | zero =>
    intro s merged hs h30 t
    obtain ⟨st, hst⟩ : ∃ st, st = (o.level (min + (0 + 1)) s.keys).foldl
        (stepTile none (min + (0 + 1) - 1 == min)) ⟨s, merged, []⟩ := ⟨_, rfl⟩
    rw [mergeLoop_succ o min 0 s merged st hst]
    obtain ⟨hmer, hpar, hkeys⟩ := level_closed hs h30 (by omega) o ho merged _ st hst
    -- last level: the parents go to `merged`, the parent set stays empty
    have hb : (min + (0 + 1) - 1 == min) = true := by simp
    rw [hb] at hmer hpar
    have hnk : ∀ x, x ∉ st.parents.keys := fun x hx => by
      have := (hpar x).1 ((hkeys x).1 hx); simp at this
    have hres : t ∈ (if ((st.parents.len : Int) < 4) then st.parents.keys ++ st.merged
        else mergeLoop o none min 0 st.parents st.merged) ↔ t ∈ st.merged := by
      split
      · simp [hnk t]
      · exact Iff.rfl
    rw [hres, hmer t]
    unfold Merged
    refine or_congr_right ⟨?_, ?_⟩
    · rintro (⟨a, c, d⟩ | ⟨_, a, c⟩)
      · exact ⟨by omega, by omega, c, Or.inr d⟩
      · exact ⟨by omega, by omega, c, Or.inl (by omega)⟩
    · rintro ⟨a, b, c, d⟩
      by_cases e : t.z = min
      · exact Or.inr ⟨rfl, by omega, c⟩
      · exact Or.inl ⟨by omega, c, d.resolve_left e⟩
  | succ k ih =>
    intro s merged hs h30 t
    obtain ⟨st, hst⟩ : ∃ st, st = (o.level (min + (k + 1 + 1)) s.keys).foldl
        (stepTile none (min + (k + 1 + 1) - 1 == min)) ⟨s, merged, []⟩ := ⟨_, rfl⟩
    rw [mergeLoop_succ o min (k + 1) s merged st hst]
    obtain ⟨hmer, hpar, hkeys⟩ := level_closed hs h30 (by omega) o ho merged _ st hst
    have hb : (min + (k + 1 + 1) - 1 == min) = false := by rw [beq_eq_false_iff_ne]; omega
    rw [hb] at hmer hpar
    have hS' : ∀ t, st.parents.get t = true ↔ (t.z + 1 = min + (k + 1 + 1) ∧ Full s (min + (k + 1 + 1)) t) :=
      fun t => by rw [hpar t]; simp
    have hV' : ∀ t, st.parents.get t = true → V t ∧ t.z = min + (k + 1) := fun t h => by
      obtain ⟨a, b⟩ := (hS' t).1 h
      exact ⟨(full_V hs b (by omega)).1, by omega⟩
    rw [merged_compose (by omega) h30 hS' t, ← or_assoc]
    have hM' : t ∈ st.merged ↔ t ∈ merged ∨ (t.z = min + (k + 1 + 1) ∧ Full s (min + (k + 1 + 1)) t ∧
        ¬ Full s (min + (k + 1 + 1)) (parent t)) := by rw [hmer t]; simp
    rw [← hM', show min + (k + 1 + 1) - 1 = min + (k + 1) by omega]
    split
    · -- early exit: with fewer than four parents nothing above them is full
      rename_i hlen
      rw [List.mem_append, hkeys t, or_comm,
        merged_top hV' (fun u _ => not_full_of_small hV' (by omega) u) t, and_iff_right (by omega)]
    · rw [ih st.parents st.merged hV' (by omega) t]

theorem mergeUp_eq (o : Orders) (m : TMap) (min : Nat) :
    mergeUp o m min =
      if (min == firstTrueZoom m (o.first m.keys)) = true then m
      else (mergeLoop o none min (firstTrueZoom m (o.first m.keys) - min) m []).map fun t => (t, true) := rfl

theorem exists_true_of_full {m : TMap} {zoom : Nat} {t : Tile} (hf : Full m zoom t) (hz : t.z ≤ zoom) :
    ∃ s, m.get s = true :=
  ⟨_, hf _ (by simp only; omega) (isAncestor_corner t (zoom - t.z))⟩

/-- `MergeUp` on a set at the zoom `max` that the first loop finds.  `min ≤ zoom` is not needed: for a deeper target
    the loop does not run and both sides are empty. -/
theorem mergeUp_closed_at (o : Orders) (ho : o.Fair) (m : TMap) (zoom min : Nat)
    (hm : ∀ t, m.get t = true → V t ∧ t.z = zoom) (h30 : zoom ≤ 30)
    (hmax : firstTrueZoom m (o.first m.keys) = zoom) (t : Tile) :
    (mergeUp o m min).get t = true ↔ Merged m zoom min t := by
  rw [mergeUp_eq, hmax]
  rcases Nat.lt_trichotomy min zoom with hlt | rfl | hgt
  · obtain ⟨k, rfl⟩ : ∃ k, zoom = min + (k + 1) := ⟨zoom - min - 1, by omega⟩
    rw [if_neg (by simp), TMap.get_map_true, Nat.add_sub_cancel_left,
      mergeLoop_closed o ho min k m [] hm h30 t]
    simp
  · rw [if_pos (beq_self_eq_true _), merged_top hm (fun u a b => by omega) t, and_iff_right (Nat.le_refl _)]
  · rw [if_neg (by simp; omega), show zoom - min = 0 by omega]
    exact ⟨nofun, fun ⟨a, b, _⟩ => by omega⟩

theorem mergeUp_closed (o : Orders) (ho : o.Fair) (m : TMap) (zoom min : Nat)
    (hm : ∀ t, m.get t = true → V t ∧ t.z = zoom) (t : Tile) :
    (mergeUp o m min).get t = true ↔ Merged m zoom min t := by
  by_cases hex : ∃ t0, m.get t0 = true
  · obtain ⟨t0, ht0⟩ := hex
    obtain ⟨hV, hz⟩ := hm t0 ht0
    exact mergeUp_closed_at o ho m zoom min hm (hz ▸ hV.2.2)
      (firstTrueZoom_some m _ zoom (fun t ht => (hm t ht).2) ⟨t0, ho.first _ _ (TMap.mem_keys_of_get ht0), ht0⟩) t
  · -- a set without a tile is a set at every zoom, so also at the zoom 1 that the first loop reports for it;
    -- and no tile is full in it, at whatever zoom
    have h1 : ∀ t, m.get t = true → V t ∧ t.z = 1 := fun t h => absurd ⟨t, h⟩ hex
    rw [mergeUp_closed_at o ho m 1 min h1 (by omega)
      (firstTrueZoom_none m _ fun t _ => Bool.eq_false_iff.2 fun h => hex ⟨t, h⟩) t]
    exact ⟨fun ⟨_, b, c, _⟩ => absurd (exists_true_of_full c b) hex,
      fun ⟨_, b, c, _⟩ => absurd (exists_true_of_full c b) hex⟩

end Orb.TileCover
