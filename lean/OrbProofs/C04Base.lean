/-
  C04 — basic lemmas about the WKT tokenisers (trimSpace, trimSpaceBrackets, upperPrefix, EqualFold,
  cut, parsePoint, splitOnComma) and the keyword dispatch of `Unmarshal`; the byte classes (`byte_classes`) and what
  a printed coordinate pair is to the tokenisers (`GoodPt`, `wCoord_*`).  What is asked of a tokeniser with a
  yield callback is said once, for `splitOnComma` here and the two regexps in OrbProofs.C04Regex: it inverts the
  joiner (`Splits`) and its slices are in bounds (`SplitNP`).
-/
import Orb.WKT
import OrbProofs.ResLemmas
import Mathlib.Data.List.Basic
import Mathlib.Tactic.SplitIfs
import Mathlib.Tactic.ByContra
import Mathlib.Data.List.TakeWhile

namespace Orb.WKT

/-- at least two bytes, first and last not blank: what `trimSpace` returns unchanged -/
def GoodEnds (s : Str) : Prop :=
  2 ≤ s.length ∧ (∀ b, s.head? = some b → isBlank b = false) ∧ (∀ b, s.getLast? = some b → isBlank b = false)

/-- a piece between separators of `splitOnComma`: non-empty, no comma, first and last byte not blank -/
def IsPiece (p : Str) : Prop :=
  p ≠ [] ∧ cComma ∉ p ∧ (∀ b, p.head? = some b → isBlank b = false) ∧ (∀ b, p.getLast? = some b → isBlank b = false)

/-- a tokeniser with a yield callback (`splitOnComma`, `splitByRegexpYield` with one of the two regexps) -/
abbrev Splitter := ∀ {β : Type}, Str → (β → Str → R β) → β → R β

/-- `split` inverts the joiner on pieces of shape `P`, whatever the callback -/
def Splits (split : Splitter) (P : Str → Prop) : Prop :=
  ∀ {β : Type} {pieces : List Str} {body : Str}, SepJoin pieces body → (∀ p ∈ pieces, P p) →
    ∀ (f : β → Str → R β) (init : β), split body f init = foldlR f init pieces

/-- a tokeniser whose slices are in bounds: it panics only if its callback does -/
def SplitNP (split : Splitter) : Prop :=
  ∀ {β : Type} (s : Str) (f : β → Str → R β) (init : β), (∀ acc p, (f acc p).isPanic = false) →
    (split s f init).isPanic = false

theorem goodEnds_of_head_last {s : Str} (hl : 2 ≤ s.length) {x y : UInt8} (hh : s.head? = some x) (hx : isBlank x = false)
    (ht : s.getLast? = some y) (hy : isBlank y = false) : GoodEnds s :=
  ⟨hl, fun b hb => by rw [hh] at hb; cases hb; exact hx, fun b hb => by rw [ht] at hb; cases hb; exact hy⟩

theorem goodEnds_paren (m : Str) : GoodEnds (cLP :: (m ++ [cRP])) :=
  goodEnds_of_head_last (by simp) (x := cLP) (y := cRP) rfl (by decide)
    (by rw [← List.cons_append, List.getLast?_concat]) (by decide)

theorem takeWhile_isBlank_of_head {core : Str} (hne : core ≠ [])
    (hh : ∀ b, core.head? = some b → isBlank b = false) (rest : Str) :
    (core ++ rest).takeWhile isBlank = [] := by
  cases core with
  | nil => exact absurd rfl hne
  | cons c t =>
    have := hh c rfl
    simp [this]

/-- blanks around any core with non-blank ends; a one-byte core is lost (the `start >= end` quirk) -/
theorem trimSpace_around_core {pre core post : Str} (h1 : AllBlank pre) (h2 : AllBlank post) (hne : core ≠ [])
    (hh : ∀ b, core.head? = some b → isBlank b = false)
    (hl : ∀ b, core.getLast? = some b → isBlank b = false) :
    trimSpace (pre ++ core ++ post) = if 2 ≤ core.length then core else [] := by
  have hstart : ((pre ++ core ++ post).takeWhile isBlank).length = pre.length := by
    rw [List.append_assoc, List.takeWhile_append_of_pos h1, takeWhile_isBlank_of_head hne hh]
    simp
  have hrev : ((pre ++ core ++ post).reverse.takeWhile isBlank).length = post.length := by
    have hne' : core.reverse ≠ [] := by simpa using hne
    have hh' : ∀ b, core.reverse.head? = some b → isBlank b = false := by
      intro b hb; rw [List.head?_reverse] at hb; exact hl b hb
    rw [List.reverse_append, List.reverse_append,
      List.takeWhile_append_of_pos (fun b hb => h2 b (List.mem_reverse.1 hb)), takeWhile_isBlank_of_head hne' hh']
    simp
  unfold trimSpace
  simp only [hstart, hrev]
  have hlen : (pre ++ core ++ post).length - post.length = pre.length + core.length := by
    simp only [List.length_append]; omega
  rw [hlen]
  by_cases h : 2 ≤ core.length
  · rw [if_neg (by omega), if_pos h]
    rw [List.take_left' (by simp), List.drop_left' rfl]
  · rw [if_pos (by omega), if_neg h]

theorem trimSpace_pad {pre core post : Str} (h1 : AllBlank pre) (h2 : AllBlank post) (hc : GoodEnds core) :
    trimSpace (pre ++ core ++ post) = core := by
  obtain ⟨hlen, hh, hl⟩ := hc
  have hne : core ≠ [] := by intro h; simp [h] at hlen
  rw [trimSpace_around_core h1 h2 hne hh hl, if_pos hlen]

theorem allBlank_nil : AllBlank [] := fun _ h => nomatch h

theorem allBlank_append {a b : Str} (ha : AllBlank a) (hb : AllBlank b) : AllBlank (a ++ b) :=
  fun c hc => (List.mem_append.1 hc).elim (ha c) (hb c)

theorem allBlank_singleton {b : UInt8} (h : isBlank b = true) : AllBlank [b] := by
  intro x hx; rw [List.mem_singleton.1 hx]; exact h

theorem allBlank_cons {b : UInt8} {a : Str} (h : isBlank b = true) (ha : AllBlank a) : AllBlank (b :: a) := by
  intro x hx
  rcases List.mem_cons.1 hx with rfl | hx
  · exact h
  · exact ha x hx

/-- `trimSpace_pad` without blanks -/
theorem trimSpace_goodEnds {s : Str} (hc : GoodEnds s) : trimSpace s = s := by
  have := trimSpace_pad allBlank_nil allBlank_nil hc
  simpa using this

theorem trimSpace_length_le (s : Str) : (trimSpace s).length ≤ s.length := by
  unfold trimSpace
  simp only []
  split
  · simp
  · simp only [List.length_drop, List.length_take]
    omega

theorem trimSpace_allBlank {s : Str} (h : AllBlank s) : trimSpace s = [] := by
  unfold trimSpace
  simp only []
  have : (s.takeWhile isBlank).length = s.length := by
    rw [List.takeWhile_eq_self_iff.mpr h]
  rw [this, if_pos (by omega)]

theorem blank_prefix (s : Str) :
    ∃ pre d, AllBlank pre ∧ s = pre ++ d ∧ ∀ b, d.head? = some b → isBlank b = false :=
  ⟨s.takeWhile isBlank, s.dropWhile isBlank, fun _ hb => List.mem_takeWhile_imp hb,
    List.takeWhile_append_dropWhile.symm, fun b hb => by
      have := List.head?_dropWhile_not isBlank s
      rw [hb] at this
      simpa using this⟩

/-- strip the blank prefix, then the blank prefix of the reversed rest -/
theorem allBlank_or_padded_core (s : Str) : AllBlank s ∨ ∃ pre core post, AllBlank pre ∧ AllBlank post ∧ core ≠ [] ∧
    (∀ b, core.head? = some b → isBlank b = false) ∧ (∀ b, core.getLast? = some b → isBlank b = false) ∧
    s = pre ++ core ++ post := by
  obtain ⟨pre, d, hpre, rfl, hd⟩ := blank_prefix s
  obtain ⟨q, c, hq, hdc, hc⟩ := blank_prefix d.reverse
  have hd' : d = c.reverse ++ q.reverse := by rw [← List.reverse_append, ← hdc, List.reverse_reverse]
  have hq' : AllBlank q.reverse := fun b hb => hq b (List.mem_reverse.1 hb)
  by_cases hcn : c = []
  · rw [hd', hcn]
    exact .inl (allBlank_append hpre hq')
  · have hne : c.reverse ≠ [] := fun e => hcn (List.reverse_eq_nil_iff.1 e)
    refine .inr ⟨pre, c.reverse, q.reverse, hpre, hq', hne, fun b hb => hd b ?_, fun b hb => hc b ?_, ?_⟩
    · rwa [hd', List.head?_append_of_ne_nil _ hne]
    · rwa [List.getLast?_reverse] at hb
    · rw [hd', List.append_assoc]

theorem trimSpace_nil_or_goodEnds (s : Str) : trimSpace s = [] ∨ GoodEnds (trimSpace s) := by
  rcases allBlank_or_padded_core s with h | ⟨pre, core, post, h1, h2, hne, hh, hl, rfl⟩
  · left; exact trimSpace_allBlank h
  · rw [trimSpace_around_core h1 h2 hne hh hl]
    by_cases h : 2 ≤ core.length
    · right; rw [if_pos h]; exact ⟨h, hh, hl⟩
    · left; rw [if_neg h]

/-- the `start >= end` quirk: the result never has exactly one byte -/
theorem trimSpace_length_ne_one (s : Str) : (trimSpace s).length ≠ 1 := by
  rcases trimSpace_nil_or_goodEnds s with h | h
  · rw [h]; decide
  · have := h.1; omega

theorem trimSpaceBrackets_of_trimSpace_nil {s : Str} (h : trimSpace s = []) : trimSpaceBrackets s = .ok [] := by
  unfold trimSpaceBrackets
  simp [h]

theorem trimSpaceBrackets_of_trimSpace_cons {s : Str} {x : UInt8} {v : Str} (h : trimSpace s = x :: v) :
    trimSpaceBrackets s =
      if x != cLP then .err .notWKT else
      match v.getLast? with
      | none => .panic "index out of range [-1]"
      | some l => if l != cRP then .err .notWKT else .ok (trimSpace v.dropLast) := by
  unfold trimSpaceBrackets
  simp only [h]
  rw [if_neg (by simp)]
  simp only [index, List.getElem?_cons_zero]
  by_cases hx : (x != cLP) = true
  · rw [if_pos hx, if_pos hx]
  · rw [if_neg hx, if_neg hx]
    have hsf : sliceFrom (x :: v) 1 = .ok v := by simp [sliceFrom]
    simp only [hsf]
    rcases List.eq_nil_or_concat v with hv | ⟨w, l, hv⟩
    · subst hv
      simp [lastByte]
    · subst hv
      have hlb : lastByte (w ++ [l]) = .ok l := by
        simp [lastByte, index]
      have hdl : dropLastByte (w ++ [l]) = .ok w := by
        simp [dropLastByte, slice]
      simp only [List.concat_eq_append, hlb, hdl, List.getLast?_append, List.getLast?_singleton, Option.some_or,
        List.dropLast_concat]

theorem trimSpaceBrackets_bracketed {a b c body : Str} (ha : AllBlank a) (hb : AllBlank b) (hc : AllBlank c)
    (hbody : GoodEnds body) : trimSpaceBrackets (bracketed a b c body) = .ok body := by
  have hcore : GoodEnds (cLP :: (b ++ body ++ c ++ [cRP])) := goodEnds_paren _
  have h1 : trimSpace (bracketed a b c body) = cLP :: (b ++ body ++ c ++ [cRP]) := by
    have := trimSpace_pad ha allBlank_nil hcore
    simpa [bracketed] using this
  rw [trimSpaceBrackets_of_trimSpace_cons h1]
  simp only [bne_self_eq_false, Bool.false_eq_true, if_false, List.getLast?_append, List.getLast?_singleton,
    Option.some_or, List.dropLast_concat]
  rw [trimSpace_pad hb hc hbody]

/-- `trimSpaceBrackets` never panics and answers nothing longer than its argument: the index `s[0]`, the slice
    `s[1:]`, the index `s[len(s)-1]` and the slice `s[:len(s)-1]` are all in bounds — because `trimSpace` never
    returns a one-byte string -/
theorem trimSpaceBrackets_post (s : Str) : (trimSpaceBrackets s).Post (fun t => t.length ≤ s.length) := by
  have hle := trimSpace_length_le s
  cases h : trimSpace s with
  | nil => rw [trimSpaceBrackets_of_trimSpace_nil h]; exact Nat.zero_le _
  | cons x v =>
    rw [trimSpaceBrackets_of_trimSpace_cons h]
    split
    · trivial
    · have hne : v ≠ [] := fun hv => trimSpace_length_ne_one s (by rw [h, hv]; rfl)
      cases hl : v.getLast? with
      | none => exact absurd (List.getLast?_eq_none_iff.1 hl) hne
      | some l =>
        dsimp only
        split
        · trivial
        · show (trimSpace v.dropLast).length ≤ s.length
          have h1 := trimSpace_length_le v.dropLast
          rw [h] at hle
          simp only [List.length_dropLast, List.length_cons] at h1 hle
          omega

theorem upperPrefix_length (s : Str) : (upperPrefix s).length = 20 := by
  unfold upperPrefix
  simp only [List.length_append, List.length_map, List.length_replicate, List.length_take]
  omega

/-- `upperPrefix` pads with NUL, keywords contain no NUL: a keyword test is also a length guard -/
theorem hasPrefix_upperPrefix_length {s kw : Str} (hk : ∀ b ∈ kw, b ≠ 0) (h : hasPrefix (upperPrefix s) kw = true) :
    kw.length ≤ s.length := by
  unfold hasPrefix at h
  rw [List.isPrefixOf_iff_prefix] at h
  by_contra hlt
  rw [Nat.not_le] at hlt
  have hlen := h.length_le
  rw [upperPrefix_length] at hlen
  have hget := h.getElem hlt
  have hmem : kw[s.length] ∈ kw := List.getElem_mem _
  apply hk _ hmem
  rw [hget]
  unfold upperPrefix
  have htake : s.take 20 = s := List.take_of_length_le (by omega)
  simp only [htake]
  rw [List.getElem_append_right (by simp)]
  simp

theorem caseVariant_length {kw k : Str} (hv : CaseVariant kw k) : k.length = kw.length := by
  unfold CaseVariant at hv
  rw [← hv, List.length_map]

theorem upperPrefix_caseVariant {kw k rest : Str} (hv : CaseVariant kw k) (hl : kw.length ≤ 20) :
    ∃ tail, upperPrefix (k ++ rest) = kw ++ tail := by
  have hlen := caseVariant_length hv
  unfold CaseVariant at hv
  have htake : (k ++ rest).take 20 = k ++ rest.take (20 - k.length) := by
    rw [List.take_append, List.take_of_length_le (by omega)]
  refine ⟨(rest.take (20 - k.length)).map upper ++ List.replicate (20 - ((k ++ rest).take 20).length) 0, ?_⟩
  unfold upperPrefix
  rw [htake, List.map_append, hv, List.append_assoc]

/-- the keywords in the order of `typedAll` -/
def kwAt : Nat → Str
  | 0 => kwPoint | 1 => kwMultiPoint | 2 => kwLineString | 3 => kwMultiLineString
  | 4 => kwPolygon | 5 => kwMultiPolygon | _ => kwCollection

/-- what `Unmarshal` does once it has seen the keyword `kwAt i`, as a `G`; `rec` is the recursive call
    for the members of a collection.  The typed function of position `i` is the same with
    `rec = Unmarshal`. -/
def branchAt (parseF : Str → Option UInt64) (rec : Str → R G) : Nat → Str → R G
  | 0, s => (unmarshalPoint parseF s).map .point
  | 1, s => (unmarshalMultiPoint parseF s).map .multiPoint
  | 2, s => (unmarshalLineString parseF s).map .lineString
  | 3, s => (unmarshalMultiLineString parseF s).map .multiLineString
  | 4, s => (unmarshalPolygon parseF s).map .polygon
  | 5, s => (unmarshalMultiPolygon parseF s).map .multiPolygon
  | _, s => (unmarshalCollection rec s).map .collection

theorem lt_seven_cases {i : Nat} (h : i < 7) : i = 0 ∨ i = 1 ∨ i = 2 ∨ i = 3 ∨ i = 4 ∨ i = 5 ∨ i = 6 := by omega

theorem kwAt_not_prefix : ∀ i < 7, ∀ j < 7, (kwAt i).isPrefixOf (kwAt j) = true → i = j := by decide

/-- no keyword is a prefix of another, so a text starts with at most one of them: the order of the
    tests in `Unmarshal` does not matter -/
theorem hasPrefix_kwAt_unique {p : Str} {i j : Nat} (hi : i < 7) (hj : j < 7)
    (h1 : hasPrefix p (kwAt i) = true) (h2 : hasPrefix p (kwAt j) = true) : i = j := by
  unfold hasPrefix at h1 h2
  rw [List.isPrefixOf_iff_prefix] at h1 h2
  rcases List.prefix_or_prefix_of_prefix h1 h2 with h | h
  · exact kwAt_not_prefix i hi j hj (List.isPrefixOf_iff_prefix.2 h)
  · exact (kwAt_not_prefix j hj i hi (List.isPrefixOf_iff_prefix.2 h)).symm

theorem hasPrefix_kwAt_eq {p : Str} {i j : Nat} (hi : i < 7) (hj : j < 7) (h : hasPrefix p (kwAt i) = true) :
    hasPrefix p (kwAt j) = decide (j = i) := by
  by_cases e : j = i
  · rw [e, h, decide_eq_true rfl]
  · rw [decide_eq_false e]
    exact Bool.eq_false_iff.2 fun h' => e (hasPrefix_kwAt_unique hj hi h' h)

section dispatch
variable (parseF : Str → Option UInt64)

/-- one level of `Unmarshal` in terms of `kwAt` and `branchAt`: the seven keyword tests in the order of the source -/
theorem unmarshalF_succ (fuel : Nat) (s : Str) :
    unmarshalF parseF (fuel + 1) s =
      let t := trimSpace s
      let kw := fun i => hasPrefix (upperPrefix t) (kwAt i)
      let br := fun i => branchAt parseF (unmarshalF parseF fuel) i t
      if kw 0 then br 0 else if kw 2 then br 2 else if kw 4 then br 4 else if kw 1 then br 1
      else if kw 3 then br 3 else if kw 5 then br 5 else if kw 6 then br 6 else .err .unsupported := rfl

theorem unmarshalF_succ_of_kw (fuel : Nat) {s : Str} {i : Nat} (hi : i < 7)
    (h : hasPrefix (upperPrefix (trimSpace s)) (kwAt i) = true) :
    unmarshalF parseF (fuel + 1) s = branchAt parseF (unmarshalF parseF fuel) i (trimSpace s) := by
  have hall : ∀ j, j < 7 → hasPrefix (upperPrefix (trimSpace s)) (kwAt j) = decide (j = i) :=
    fun j hj => hasPrefix_kwAt_eq hi hj h
  simp only [unmarshalF_succ, hall, Nat.reduceLT]
  obtain rfl | rfl | rfl | rfl | rfl | rfl | rfl := lt_seven_cases hi <;> rfl

theorem unmarshalF_of_trim (fuel : Nat) {t s : Str} {i : Nat} (hi : i < 7) (ht : trimSpace t = s)
    (hk : hasPrefix (upperPrefix s) (kwAt i) = true) :
    unmarshalF parseF (fuel + 1) t = branchAt parseF (unmarshalF parseF fuel) i s := by
  subst ht
  exact unmarshalF_succ_of_kw parseF fuel hi hk

theorem unmarshalF_succ_of_no_kw (fuel : Nat) {s : Str}
    (h : ∀ i < 7, hasPrefix (upperPrefix (trimSpace s)) (kwAt i) = false) :
    unmarshalF parseF (fuel + 1) s = .err .unsupported := by
  simp only [unmarshalF_succ, h, Nat.reduceLT]
  rfl

theorem typed_eq {α : Type} (kw : Str) (body : Str → R α) (s : Str) :
    typed kw body s = if hasPrefix (upperPrefix (trimSpace s)) kw = true then body (trimSpace s) else .err .incorrect := by
  unfold typed
  dsimp only
  cases hasPrefix (upperPrefix (trimSpace s)) kw <;> rfl

theorem typed_map {α β : Type} (kw : Str) (body : Str → R α) (f : α → β) (s : Str) :
    (typed kw body s).map f = typed kw (fun s => (body s).map f) s := by
  rw [typed_eq, typed_eq]
  split <;> rfl

theorem typedAll_eq (s : Str) :
    typedAll parseF s = (List.range 7).map fun j => typed (kwAt j) (branchAt parseF (unmarshal parseF) j) s := by
  simp only [typedAll, unmarshalPointT, unmarshalMultiPointT, unmarshalLineStringT, unmarshalMultiLineStringT,
    unmarshalPolygonT, unmarshalMultiPolygonT, unmarshalCollectionT, typed_map]
  rfl

end dispatch

/-! The byte predicates are comparisons of `toNat`: unfolded, they are linear arithmetic. -/

theorem foldByte_upper (b : UInt8) : foldByte (upper b) = foldByte b := by
  simp only [upper, foldByte, ← UInt8.toNat_inj, UInt8.le_iff_toNat_le, apply_ite UInt8.toNat, UInt8.toNat_add,
    UInt8.toNat_sub, UInt8.toNat_ofNat]
  split_ifs <;> omega

theorem foldByte_eq_lp {b : UInt8} (h : foldByte b = cLP) : b = cLP := by
  revert h
  simp only [foldByte, cLP, ← UInt8.toNat_inj, UInt8.le_iff_toNat_le, apply_ite UInt8.toNat, UInt8.toNat_add,
    UInt8.toNat_ofNat]
  split_ifs <;> omega

theorem byte_classes (b : UInt8) :
    (isBlank b = true → isLetter b = false) ∧ (isBlank b = true → isParenComma b = false) ∧
    (isParenComma b = true → isLetter b = false) ∧ (isDelim b = false → isParenComma b = false) := by
  simp only [isBlank, isLetter, isParenComma, isDelim, cSpace, cTab, cNL, cComma, cLP, cRP, Bool.or_eq_true,
    Bool.or_eq_false_iff, Bool.and_eq_false_iff, decide_eq_false_iff_not, beq_iff_eq, beq_eq_false_iff_ne, ne_eq,
    UInt8.le_iff_toNat_le, ← UInt8.toNat_inj, UInt8.toNat_ofNat]
  omega

theorem not_letter_of_isBlank {b : UInt8} (h : isBlank b = true) : isLetter b = false := (byte_classes b).1 h
theorem not_parenComma_of_isBlank {b : UInt8} (h : isBlank b = true) : isParenComma b = false := (byte_classes b).2.1 h
theorem not_parenComma_of_not_delim {b : UInt8} (h : isDelim b = false) : isParenComma b = false := (byte_classes b).2.2.2 h

theorem isBlank_of_isDelim_false {b : UInt8} (h : isDelim b = false) : isBlank b = false := by
  unfold isDelim at h
  unfold isBlank
  simp only [Bool.or_eq_false_iff] at h ⊢
  exact h.1.1.1

theorem ne_comma_of_isBlank {b : UInt8} (h : isBlank b = true) : b ≠ cComma := by
  intro hb; rw [hb] at h; exact absurd h (by decide)

theorem upper_letter (b : UInt8) : (isLetter (upper b) = true ↔ isLetter b = true) ∧ (¬isLetter b = true → upper b = b) := by
  simp only [upper, isLetter, Bool.or_eq_true, Bool.and_eq_true, decide_eq_true_eq, UInt8.le_iff_toNat_le,
    ← UInt8.toNat_inj, apply_ite UInt8.toNat, UInt8.toNat_sub, UInt8.toNat_ofNat]
  split_ifs <;> omega

theorem upper_class {K : UInt8 → Bool} (hK : ∀ c, K c = true → isLetter c = false) (b : UInt8) : K (upper b) = K b := by
  by_cases hb : isLetter b = true
  · have h1 : K b = false := Bool.eq_false_iff.2 fun h => by rw [hK b h] at hb; cases hb
    have h2 : K (upper b) = false := Bool.eq_false_iff.2 fun h => by
      rw [← (upper_letter b).1, hK _ h] at hb; cases hb
    rw [h1, h2]
  · rw [(upper_letter b).2 hb]

theorem notBlank_of_upper {b : UInt8} (h : isBlank (upper b) = false) : isBlank b = false :=
  upper_class (fun _ => not_letter_of_isBlank) b ▸ h

theorem not_parenComma_of_upper {b : UInt8} (h : isParenComma (upper b) = false) : isParenComma b = false :=
  upper_class (fun c hc => (byte_classes c).2.2.1 hc) b ▸ h

theorem equalFold_caseVariant {K t : Str} (hv : CaseVariant K t) : equalFold t K = true := by
  unfold CaseVariant at hv
  unfold equalFold
  rw [← hv, List.map_map]
  have : (foldByte ∘ upper) = foldByte := by
    funext b; exact foldByte_upper b
  rw [this]
  simp

theorem equalFold_false_of_lp {K t : Str} (hK : cLP ∉ K) (ht : cLP ∈ t) : equalFold t K = false := by
  unfold equalFold
  rw [beq_eq_false_iff_ne]
  intro heq
  have h1 : cLP ∈ t.map foldByte := List.mem_map.mpr ⟨cLP, ht, by decide⟩
  rw [heq] at h1
  obtain ⟨b, hb, hfb⟩ := List.mem_map.mp h1
  rw [foldByte_eq_lp hfb] at hb
  exact hK hb

theorem sliceFrom_ok {s : Str} {n : Nat} (h : n ≤ s.length) : sliceFrom s n = .ok (s.drop n) := by
  simp [sliceFrom, h]

theorem slice_ok {s : Str} {a b : Nat} (h1 : a ≤ b) (h2 : b ≤ s.length) :
    slice s a b = .ok ((s.drop a).take (b - a)) := by
  simp [slice, h1, h2]

theorem sliceFrom_append (a b : Str) : sliceFrom (a ++ b) a.length = .ok b := by
  rw [sliceFrom_ok (by simp), List.drop_left]

theorem cutSpace_append {a b : Str} (ha : cSpace ∉ a) : cutSpace (a ++ cSpace :: b) = some (a, b) := by
  induction a with
  | nil => simp [cutSpace]
  | cons x t ih =>
    have hx : x ≠ cSpace := by intro h; exact ha (by simp [h])
    have ht : cSpace ∉ t := by intro h; exact ha (by simp [h])
    simp only [List.cons_append, cutSpace]
    rw [if_neg (by simpa using hx), ih ht]

theorem parsePoint_not_panic (parseF : Str → Option UInt64) (s : Str) : (parsePoint parseF s).isPanic = false := by
  unfold parsePoint
  repeat' split
  all_goals rfl

/-- both coordinates of `p` print as `FloatText` asks -/
def GoodPt (fmtF : UInt64 → Str) (parseF : Str → Option UInt64) (p : P) : Prop :=
  FloatText fmtF parseF p.x ∧ FloatText fmtF parseF p.y

section wCoord
variable {fmtF : UInt64 → Str} {parseF : Str → Option UInt64} {p : P} (h : GoodPt fmtF parseF p)
include h

theorem parsePoint_wCoord : parsePoint parseF (wCoord fmtF p) = .ok p := by
  have hsp : cSpace ∉ fmtF p.x := fun hm => absurd (h.1.clean _ hm) (by decide)
  unfold parsePoint wCoord
  rw [cutSpace_append hsp]
  simp only [h.1.parses, h.2.parses]

theorem not_mem_wCoord {d : UInt8} (hd : isDelim d = true) (hs : d ≠ cSpace) : d ∉ wCoord fmtF p := by
  intro hm
  rcases List.mem_append.mp hm with hm | hm
  · rw [h.1.clean _ hm] at hd; cases hd
  · rcases List.mem_cons.mp hm with hm | hm
    · exact hs hm
    · rw [h.2.clean _ hm] at hd; cases hd

theorem wCoord_goodEnds : GoodEnds (wCoord fmtF p) := by
  unfold wCoord
  refine ⟨?_, fun b hb => ?_, fun b hb => ?_⟩
  · have := List.length_pos_of_ne_nil h.1.nonempty
    rw [List.length_append, List.length_cons]
    omega
  · rw [List.head?_append_of_ne_nil _ h.1.nonempty] at hb
    exact isBlank_of_isDelim_false (h.1.clean b (List.mem_of_head? hb))
  · rw [List.append_cons, List.getLast?_append_of_ne_nil _ h.2.nonempty] at hb
    exact isBlank_of_isDelim_false (h.2.clean b (List.mem_of_getLast? hb))

theorem wCoord_isPiece : IsPiece (wCoord fmtF p) :=
  ⟨fun e => absurd (wCoord_goodEnds h).1 (by rw [e]; decide), not_mem_wCoord h (by decide) (by decide),
    (wCoord_goodEnds h).2⟩

end wCoord

section steps
variable {β : Type} (s : Str) (f : β → Str → R β)

/-- a blank: the separator opens here unless it is open already -/
theorem splitOnCommaLoop_blank {b : UInt8} (hb : isBlank b = true) (rest : Str) (i a st : Nat) (sp cm : Bool) (acc : β) :
    splitOnCommaLoop s f (b :: rest) i ⟨a, st, sp, cm⟩ acc =
      splitOnCommaLoop s f rest (i + 1) ⟨a, if sp then st else i, true, cm⟩ acc := by
  rw [splitOnCommaLoop]
  have : (b == cComma) = false := by simpa using ne_comma_of_isBlank hb
  cases sp <;> simp [this, hb]

theorem splitOnCommaLoop_comma (rest : Str) (i a st : Nat) (sp cm : Bool) (acc : β) :
    splitOnCommaLoop s f (cComma :: rest) i ⟨a, st, sp, cm⟩ acc =
      splitOnCommaLoop s f rest (i + 1) ⟨a, if sp then st else i, true, true⟩ acc := by
  rw [splitOnCommaLoop]
  cases sp <;> simp

theorem splitOnCommaLoop_plain {b : UInt8} (hc : b ≠ cComma) (hb : isBlank b = false) (rest : Str) (i a st : Nat) (sp : Bool) (acc : β) :
    splitOnCommaLoop s f (b :: rest) i ⟨a, st, sp, false⟩ acc = splitOnCommaLoop s f rest (i + 1) ⟨a, st, false, false⟩ acc := by
  rw [splitOnCommaLoop]
  have : (b == cComma) = false := by simpa using hc
  simp [this, hb]

theorem splitOnCommaLoop_yield {b : UInt8} (hc : b ≠ cComma) (hb : isBlank b = false) (rest : Str) (i a st : Nat) (sp : Bool) (acc : β) :
    splitOnCommaLoop s f (b :: rest) i ⟨a, st, sp, true⟩ acc =
      match slice s a st with
      | .panic w => .panic w
      | .err e => .err e
      | .ok p =>
        match f acc p with
        | .panic w => .panic w
        | .err e => .err e
        | .ok acc => splitOnCommaLoop s f rest (i + 1) ⟨i, st, false, false⟩ acc := by
  rw [splitOnCommaLoop]
  have : (b == cComma) = false := by simpa using hc
  simp only [this, hb, Bool.false_eq_true, if_false, if_true]
  cases slice s a st with
  | ok p => simp only []; cases f acc p <;> rfl
  | err e => rfl
  | panic w => rfl

theorem splitOnCommaLoop_blanks {a : Str} (ha : AllBlank a) (tail : Str) (i at_ st : Nat) (cm : Bool) (acc : β) :
    splitOnCommaLoop s f (a ++ tail) i ⟨at_, st, true, cm⟩ acc =
      splitOnCommaLoop s f tail (i + a.length) ⟨at_, st, true, cm⟩ acc := by
  induction a generalizing i with
  | nil => rfl
  | cons x t ih =>
    have hx : isBlank x = true := ha x (by simp)
    have ht : AllBlank t := fun b hb => ha b (by simp [hb])
    rw [List.cons_append, splitOnCommaLoop_blank s f hx, if_pos rfl, ih ht]
    congr 1
    simp only [List.length_cons]; omega

/-- scanning a piece: no yield, `at` unchanged, and the state is clean at its end (`hsp`: an empty piece leaves the
    `sawSpace` flag as it was) -/
theorem splitOnCommaLoop_piece {p : Str} (hc : cComma ∉ p) (hl : ∀ b, p.getLast? = some b → isBlank b = false)
    (tail : Str) (i a st : Nat) (sp : Bool) (acc : β) (hsp : p = [] → sp = false) :
    ∃ st', splitOnCommaLoop s f (p ++ tail) i ⟨a, st, sp, false⟩ acc =
      splitOnCommaLoop s f tail (i + p.length) ⟨a, st', false, false⟩ acc := by
  induction p generalizing i st sp with
  | nil =>
    rw [hsp rfl]
    exact ⟨st, rfl⟩
  | cons b t ih =>
    have hbc : b ≠ cComma := by intro h; exact hc (by simp [h])
    have htc : cComma ∉ t := by intro h; exact hc (by simp [h])
    have hi : i + 1 + t.length = i + (b :: t).length := by simp only [List.length_cons]; omega
    cases hbb : isBlank b with
    | true =>
      -- then `t` is not empty
      cases t with
      | nil =>
        have := hl b rfl
        rw [hbb] at this; cases this
      | cons c t' =>
        have hl' : ∀ x, (c :: t').getLast? = some x → isBlank x = false := by
          intro x hx; apply hl x; rw [List.getLast?_cons_cons]; exact hx
        obtain ⟨st', h⟩ := ih htc hl' (i + 1) (if sp then st else i) true (by intro h; cases h)
        refine ⟨st', ?_⟩
        rw [List.cons_append, splitOnCommaLoop_blank s f hbb, h, hi]
    | false =>
      have hl' : ∀ x, t.getLast? = some x → isBlank x = false := by
        intro x hx
        cases t with
        | nil => simp at hx
        | cons c t' => apply hl x; rw [List.getLast?_cons_cons]; exact hx
      obtain ⟨st', h⟩ := ih htc hl' (i + 1) st false (by intro _; rfl)
      refine ⟨st', ?_⟩
      rw [List.cons_append, splitOnCommaLoop_plain s f hbc hbb, h, hi]

/-- a separator `a , b` followed by the first byte `c` of the next piece: yield `s[at:j]`, restart at `c` -/
theorem splitOnCommaLoop_sep {a b : Str} (ha : AllBlank a) (hb : AllBlank b) {c : UInt8} (hcc : c ≠ cComma) (hcb : isBlank c = false)
    (tail : Str) (j at_ st k : Nat) (acc : β) (hk : k = j + a.length + 1 + b.length) :
    splitOnCommaLoop s f (a ++ cComma :: (b ++ c :: tail)) j ⟨at_, st, false, false⟩ acc =
      match slice s at_ j with
      | .panic w => .panic w
      | .err e => .err e
      | .ok p =>
        match f acc p with
        | .panic w => .panic w
        | .err e => .err e
        | .ok acc => splitOnCommaLoop s f (c :: tail) k ⟨k, j, false, false⟩ acc := by
  have hfin : ∀ (i : Nat) (acc' : β), i + b.length = k →
      splitOnCommaLoop s f (b ++ c :: tail) i ⟨at_, j, true, true⟩ acc' =
      match slice s at_ j with
      | .panic w => .panic w
      | .err e => .err e
      | .ok p =>
        match f acc' p with
        | .panic w => .panic w
        | .err e => .err e
        | .ok acc => splitOnCommaLoop s f (c :: tail) k ⟨k, j, false, false⟩ acc := by
    intro i acc' hik
    rw [splitOnCommaLoop_blanks s f hb, splitOnCommaLoop_yield s f hcc hcb, hik]
    simp only [splitOnCommaLoop_plain s f hcc hcb]
  cases a with
  | nil =>
    rw [List.nil_append, splitOnCommaLoop_comma, if_neg Bool.false_ne_true, hfin]
    simp only [List.length_nil] at hk; omega
  | cons x a' =>
    have hx : isBlank x = true := ha x (by simp)
    have ha' : AllBlank a' := fun y hy => ha y (by simp [hy])
    rw [List.cons_append, splitOnCommaLoop_blank s f hx, if_neg Bool.false_ne_true, splitOnCommaLoop_blanks s f ha',
      splitOnCommaLoop_comma, if_pos rfl, hfin]
    simp only [List.length_cons] at hk; omega

end steps

theorem slice_append_mid (pre p rest : Str) : slice (pre ++ (p ++ rest)) pre.length (pre.length + p.length) = .ok p := by
  unfold slice
  rw [if_pos (by simp only [List.length_append]; omega), List.drop_left' rfl, Nat.add_sub_cancel_left,
    List.take_left' rfl]

theorem sepJoin_first : ∀ {qs : List Str} {body : Str}, SepJoin qs body →
    ∃ q rest w, qs = q :: rest ∧ body = q ++ w
  | _, _, .one p => ⟨p, [], [], rfl, by simp⟩
  | _, _, .cons p a b ps t _ _ _ => ⟨p, ps, a ++ cComma :: (b ++ t), rfl, by simp⟩

theorem sepJoin_head {pieces : List Str} {body : Str} (hj : SepJoin pieces body) (hp : ∀ p ∈ pieces, IsPiece p) :
    ∃ c t, body = c :: t ∧ c ≠ cComma ∧ isBlank c = false := by
  obtain ⟨q, rest, w, rfl, rfl⟩ := sepJoin_first hj
  obtain ⟨hne, hcm, hh, -⟩ := hp q (by simp)
  cases q with
  | nil => exact absurd rfl hne
  | cons c t => exact ⟨c, t ++ w, rfl, fun h => hcm (by simp [h]), hh c rfl⟩

/-- `pre` = the bytes of `s` already consumed: the loop stands at `n = pre.length` with `at = n`, both flags down, any
    `start` -/
theorem splitOnCommaLoop_sepJoin {β : Type} (f : β → Str → R β) {pieces : List Str} {body : Str} (hj : SepJoin pieces body)
    (hp : ∀ p ∈ pieces, IsPiece p) :
    ∀ (s pre : Str) (n st : Nat) (acc : β), s = pre ++ body → n = pre.length →
      splitOnCommaLoop s f body n ⟨n, st, false, false⟩ acc = foldlR f acc pieces := by
  induction hj with
  | one p =>
    intro s pre n st acc hs hn
    obtain ⟨_, hcm, _, hl⟩ := hp p (by simp)
    obtain ⟨st', h⟩ := splitOnCommaLoop_piece s f hcm hl [] n n st false acc (fun _ => rfl)
    rw [List.append_nil] at h
    rw [h, splitOnCommaLoop, hs, hn, sliceFrom_append]
    simp only [foldlR]
    cases f acc p <;> rfl
  | cons p a b ps t ha hb hj' ih =>
    intro s pre n st acc hs hn
    obtain ⟨_, hcm, _, hl⟩ := hp p (by simp)
    have hps : ∀ q ∈ ps, IsPiece q := fun q hq => hp q (by simp [hq])
    obtain ⟨c, t', ht, hcc, hcb⟩ := sepJoin_head hj' hps
    obtain ⟨st', h⟩ := splitOnCommaLoop_piece s f hcm hl (a ++ cComma :: (b ++ t)) n n st false acc (fun _ => rfl)
    rw [List.append_assoc, h]
    have hsl : slice s n (n + p.length) = .ok p := by
      rw [hs, hn, List.append_assoc]
      exact slice_append_mid pre p _
    have hsep := splitOnCommaLoop_sep s f ha hb hcc hcb t' (n + p.length) n st' (n + p.length + a.length + 1 + b.length) acc rfl
    rw [← ht] at hsep
    rw [hsep, hsl]
    simp only [foldlR]
    cases hf : f acc p with
    | ok acc' =>
      simp only []
      apply ih hps s (pre ++ p ++ a ++ [cComma] ++ b)
      · rw [hs]; simp
      · rw [hn]; simp only [List.length_append, List.length_cons, List.length_nil]
    | err e => rfl
    | panic w => rfl

theorem splits_comma : Splits splitOnComma IsPiece :=
  fun {_ _ body} hj hp f init => splitOnCommaLoop_sepJoin f hj hp body [] 0 0 init rfl rfl

/-- The slices `s[at:start]` and `s[at:]` are always in bounds.  Invariant of the loop: `at ≤ i`;
    while a separator is being read `at ≤ start ≤ i`; a comma has only been seen inside a separator. -/
theorem splitOnCommaLoop_not_panic {β : Type} (s : Str) (f : β → Str → R β) (hf : ∀ acc p, (f acc p).isPanic = false) :
    ∀ (rest : Str) (i a st : Nat) (sp cm : Bool) (acc : β), i + rest.length = s.length → a ≤ i →
      (sp = true → a ≤ st ∧ st ≤ i) → (cm = true → sp = true) →
      (splitOnCommaLoop s f rest i ⟨a, st, sp, cm⟩ acc).isPanic = false := by
  intro rest
  induction rest with
  | nil =>
    intro i a st sp cm acc h1 h2 _ _
    rw [splitOnCommaLoop, sliceFrom, if_pos (h1 ▸ h2)]
    exact hf _ _
  | cons b rest ih =>
    intro i a st sp cm acc h1 h2 h3 h4
    have h1' : i + 1 + rest.length = s.length := (Nat.succ_add_eq_add_succ i _).trans h1
    have h2' : a ≤ i + 1 := Nat.le_succ_of_le h2
    have hsep : a ≤ (if sp then st else i) ∧ (if sp then st else i) ≤ i + 1 := by
      cases sp
      · exact ⟨h2, Nat.le_succ _⟩
      · exact ⟨(h3 rfl).1, Nat.le_succ_of_le (h3 rfl).2⟩
    by_cases hb : b = cComma
    · subst hb
      rw [splitOnCommaLoop_comma]
      exact ih _ _ _ _ _ _ h1' h2' (fun _ => hsep) (fun _ => rfl)
    · cases hbl : isBlank b with
      | true =>
        rw [splitOnCommaLoop_blank s f hbl]
        exact ih _ _ _ _ _ _ h1' h2' (fun _ => hsep) (fun _ => rfl)
      | false =>
        cases cm with
        | false =>
          rw [splitOnCommaLoop_plain s f hb hbl]
          exact ih _ _ _ _ _ _ h1' h2' (fun h => nomatch h) (fun h => nomatch h)
        | true =>
          obtain ⟨h5, h6⟩ := h3 (h4 rfl)
          rw [splitOnCommaLoop_yield s f hb hbl, slice, if_pos ⟨h5, h1 ▸ Nat.le_trans h6 (Nat.le_add_right _ _)⟩]
          dsimp only
          rcases hfa : f acc ((s.drop a).take (st - a)) with acc' | e | w
          · exact ih _ _ _ _ _ _ h1' (Nat.le_succ _) (fun h => nomatch h) (fun h => nomatch h)
          · rfl
          · have := hf acc ((s.drop a).take (st - a))
            rw [hfa] at this
            cases this

theorem splitOnComma_np : SplitNP splitOnComma := fun s f init hf =>
  splitOnCommaLoop_not_panic s f hf s 0 0 0 false false init (Nat.zero_add _) (Nat.le_refl _) (fun h => nomatch h)
    (fun h => nomatch h)

theorem sepJoin_commaSep {ps : List Str} (h : ps ≠ []) : SepJoin ps (commaSep ps) := by
  induction ps with
  | nil => exact absurd rfl h
  | cons a t ih =>
    cases t with
    | nil => exact SepJoin.one a
    | cons b more =>
      have := SepJoin.cons a [] [] (b :: more) _ allBlank_nil allBlank_nil (ih (by simp))
      simpa [commaSep] using this

theorem sepJoin_goodEnds {pieces : List Str} {body : Str} (hj : SepJoin pieces body) (hp : ∀ p ∈ pieces, GoodEnds p) :
    GoodEnds body := by
  induction hj with
  | one p => exact hp p (by simp)
  | cons p a b ps t ha hb hj' ih =>
    obtain ⟨hlen, hh, _⟩ := hp p (by simp)
    obtain ⟨tl, _, tlast⟩ := ih fun q hq => hp q (by simp [hq])
    have htne : t ≠ [] := by intro h; simp [h] at tl
    refine ⟨by simp only [List.length_append, List.length_cons]; omega, ?_, ?_⟩
    · intro x hx
      apply hh x
      cases p with
      | nil => simp at hlen
      | cons c p' => simpa using hx
    · intro x hx
      apply tlast x
      have : p ++ a ++ cComma :: (b ++ t) = (p ++ a ++ cComma :: b) ++ t := by simp
      rw [this, List.getLast?_append_of_ne_nil _ htne] at hx
      exact hx

end Orb.WKT
