/-
  Lemmas for the geography half of C13 (`Orb.TileGeo`): the named hypotheses on the parameters, the column and
  row that `At` computes, `Tile.Bound` / `Center` of a valid tile in closed form, and two concrete environments.
-/
import Orb.TileGeo
import OrbProofs.C13Lemmas
import Mathlib.Tactic.NormNum
import Mathlib.Algebra.Order.Field.Basic
import Mathlib.Algebra.Order.Floor.Ring
import Mathlib.Data.Rat.Floor
import Mathlib.Tactic.Ring
import Mathlib.Tactic.Linarith

namespace Orb.TileGeo
open Orb Orb.Tile

section hyps
variable {α : Type} [Field α] [LinearOrder α] [IsStrictOrderedRing α]

/-- `float64(n)` is the number `n` (exact for every uint32, and for the powers of two `ToGeo` converts). -/
def CastExact (E : Env α) : Prop := ∀ n : Nat, E.ofNat n = (n : α)

/-- `uint32(f)` truncates: it returns the integer `n` with `n ≤ f < n+1`. -/
def FloorSpec (E : Env α) : Prop :=
  ∀ (x : α) (n : Nat), (n : α) ≤ x → x < (n : α) + 1 → E.floorU32 x = n

/-- The clamp latitude is a latitude of the northern hemisphere. -/
def LatMaxNonneg (E : Env α) : Prop := 0 ≤ E.latMax

/-- `latOf` (inverse Gudermannian of the row ordinate) is strictly decreasing: rows grow southwards. -/
def LatOfStrictAnti (E : Env α) : Prop := ∀ a b : α, a < b → E.latOf b < E.latOf a

/-- `mercY` is (weakly) decreasing in the latitude. -/
def MercYAntitone (E : Env α) : Prop := ∀ a b : α, a ≤ b → E.mercY b ≤ E.mercY a

/-- `mercY ∘ latOf = id` on the unit interval of normalised ordinates. -/
def MercYLatOf (E : Env α) : Prop := ∀ y : α, 0 ≤ y → y ≤ 1 → E.mercY (E.latOf y) = y

/-- `latOf ∘ mercY = id` on the unclamped latitudes. -/
def LatOfMercY (E : Env α) : Prop :=
  ∀ φ : α, -E.latMax ≤ φ → φ ≤ E.latMax → E.latOf (E.mercY φ) = φ

/-- The clamp latitude `85.0511` lies strictly inside the mercator square, whose top and bottom
    edges are `latOf 0 = 85.05112878…` and `latOf 1 = −85.05112878…`. -/
def ClampInside (E : Env α) : Prop := E.latMax < E.latOf 0 ∧ E.latOf 1 < -E.latMax

end hyps

-- the lemmas of a section are all stated over its ordered ring or field, also those that use less of it
set_option linter.unusedSectionVars false

section lemmas
variable {α : Type} [Field α] [LinearOrder α] [IsStrictOrderedRing α]

/-- A bounded non-negative element of an ordered field has an integer part (no Archimedean axiom
    needed: search downwards from the bound). -/
theorem exists_nat_floor : ∀ (N : Nat) (x : α), 0 ≤ x → x ≤ (N : α) →
    ∃ n : Nat, n ≤ N ∧ (n : α) ≤ x ∧ x < (n : α) + 1 ∧ (x < (N : α) → n < N) := by
  intro N
  induction N with
  | zero =>
    intro x h0 h1
    rw [Nat.cast_zero] at h1
    exact ⟨0, le_refl _, by rwa [Nat.cast_zero], by rw [Nat.cast_zero, zero_add]; exact h1.trans_lt one_pos,
      fun h => absurd h (by rw [Nat.cast_zero]; exact h0.not_gt)⟩
  | succ N ih =>
    intro x h0 h1
    rw [Nat.cast_succ] at h1
    by_cases hx : x < 1
    · exact ⟨0, Nat.zero_le _, by rwa [Nat.cast_zero], by rwa [Nat.cast_zero, zero_add], fun _ => Nat.succ_pos _⟩
    · obtain ⟨n, hn, hl, hu, hs⟩ := ih (x - 1) (sub_nonneg.2 (not_lt.1 hx)) (sub_le_iff_le_add.2 h1)
      refine ⟨n + 1, Nat.succ_le_succ hn, ?_, ?_, fun h => Nat.succ_lt_succ (hs ?_)⟩
      · rw [Nat.cast_succ]; exact le_sub_iff_add_le.1 hl
      · rw [Nat.cast_succ]; exact sub_lt_iff_lt_add.1 hu
      · rw [Nat.cast_succ] at h; exact sub_lt_iff_lt_add.2 h

theorem floorU32_spec (E : Env α) (hf : FloorSpec E) (N : Nat) (x : α) (h0 : 0 ≤ x) (h1 : x ≤ (N : α)) :
    E.floorU32 x ≤ N ∧ (E.floorU32 x : α) ≤ x ∧ x < (E.floorU32 x : α) + 1 ∧ (x < (N : α) → E.floorU32 x < N) := by
  obtain ⟨n, hn, hl, hu, hs⟩ := exists_nat_floor N x h0 h1
  rw [hf x n hl hu]
  exact ⟨hn, hl, hu, hs⟩

theorem natCast_two_pow (z : Nat) : ((2 ^ z : Nat) : α) = (2 : α) ^ z := by
  rw [Nat.cast_pow, Nat.cast_ofNat]

theorem maxTiles32_eq (E : Env α) (hc : CastExact E) {z : Nat} (hz : z ≤ 31) :
    maxTiles32 E z = (2 : α) ^ z := by
  rw [maxTiles32, shl32_one_pow hz, hc, natCast_two_pow]

theorem maxTiles64_eq (E : Env α) (hc : CastExact E) {z : Nat} (hz : z ≤ 31) :
    maxTiles64 E z = (2 : α) ^ z := by
  rw [maxTiles64, Nat.mod_eq_of_lt (show 2 ^ z < W64 from Nat.pow_lt_pow_right (by decide) (by omega)), hc,
    natCast_two_pow]

theorem two_pow_pos (z : Nat) : (0 : α) < (2 : α) ^ z := pow_pos two_pos z

theorem two_pow_ge_one (z : Nat) : (1 : α) ≤ (2 : α) ^ z := one_le_pow₀ (by norm_num)

theorem natCast_lt_two_pow {n z : Nat} (h : n < 2 ^ z) : (n : α) < (2 : α) ^ z := by
  rw [← natCast_two_pow]; exact Nat.cast_lt.2 h

theorem natCast_succ_le_two_pow {n z : Nat} (h : n < 2 ^ z) : (n : α) + 1 ≤ (2 : α) ^ z := by
  rw [← natCast_two_pow, ← Nat.cast_succ]; exact Nat.cast_le.2 h

theorem natCast_two_pow_pred (z : Nat) : ((2 ^ z - 1 : Nat) : α) = (2 : α) ^ z - 1 := by
  rw [Nat.cast_sub Nat.one_le_two_pow, natCast_two_pow, Nat.cast_one]

theorem half_index (a : α) (z : Nat) : (2 * a) / (2 : α) ^ (z + 1) = a / (2 : α) ^ z := by
  rw [pow_succ, mul_comm, mul_div_mul_right _ _ two_ne_zero]

/-! The grid lines of zoom `z`.  A tile's bound, its centre and its children's bounds are made of them; halving the
    coordinate is going one zoom up. -/

/-- the meridian at the (real) column coordinate `a` of zoom `z` -/
def lonAt (z : Nat) (a : α) : α := 360 * (a / (2 : α) ^ z - 1 / 2)
/-- the parallel at the (real) row coordinate `a` of zoom `z` -/
def latAt (E : Env α) (z : Nat) (a : α) : α := E.latOf (a / (2 : α) ^ z)

theorem lonAt_lt (z : Nat) {a b : α} (h : a < b) : lonAt z a < lonAt z b :=
  mul_lt_mul_of_pos_left (sub_lt_sub_right (div_lt_div_of_pos_right h (two_pow_pos z)) _) (by norm_num)

theorem latAt_lt (E : Env α) (hlat : LatOfStrictAnti E) (z : Nat) {a b : α} (h : a < b) : latAt E z b < latAt E z a :=
  hlat _ _ (div_lt_div_of_pos_right h (two_pow_pos z))

theorem lonAt_succ (z : Nat) (a : α) : lonAt (z + 1) (2 * a) = lonAt z a := by rw [lonAt, half_index]; rfl

theorem latAt_succ (E : Env α) (z : Nat) (a : α) : latAt E (z + 1) (2 * a) = latAt E z a := by rw [latAt, half_index]; rfl

theorem lonAt_top (z : Nat) : lonAt z ((2 : α) ^ z) = 180 := by
  rw [lonAt, div_self (two_pow_pos z).ne']; norm_num

/-- longitude against column: `lonAt z` and `l ↦ (l/360 + 1/2)·2^z` are inverse increasing maps -/
theorem lonAt_le_iff (z : Nat) (a l : α) : lonAt z a ≤ l ↔ a ≤ (l / 360 + 1 / 2) * (2 : α) ^ z := by
  have hN := two_pow_pos (α := α) z
  unfold lonAt
  -- a fact about any positive `N`; rewriting under the power itself is three times as slow to check
  generalize (2 : α) ^ z = N at hN ⊢
  rw [← div_le_iff₀ hN, ← sub_le_iff_le_add, le_div_iff₀' (by norm_num : (0 : α) < 360)]

theorem lt_lonAt_iff (z : Nat) (a l : α) : l < lonAt z a ↔ (l / 360 + 1 / 2) * (2 : α) ^ z < a :=
  lt_iff_lt_of_le_iff_le (lonAt_le_iff z a l)

theorem lt_add_half (a : α) : a < a + 1 / 2 := lt_add_of_pos_right _ one_half_pos
theorem add_half_lt (a : α) : a + 1 / 2 < a + 1 := (add_lt_add_iff_left _).2 one_half_lt_one

/-- strict, because `latOf ∘ mercY = id` on the unclamped latitudes -/
theorem mercY_lt_of_latOf_lt (E : Env α) (hanti : MercYAntitone E) (h1 : MercYLatOf E) (h2 : LatOfMercY E)
    {φ b : α} (hlo : -E.latMax ≤ φ) (hhi : φ ≤ E.latMax) (hb0 : 0 ≤ b) (hb1 : b ≤ 1) (h : E.latOf b < φ) :
    E.mercY φ < b := by
  have hle := hanti _ _ h.le
  rw [h1 b hb0 hb1] at hle
  refine lt_of_le_of_ne hle fun he => ?_
  rw [← he, h2 φ hlo hhi] at h
  exact lt_irrefl _ h

theorem mercY_range (E : Env α) (hanti : MercYAntitone E) (h1 : MercYLatOf E) (h2 : LatOfMercY E)
    (hin : ClampInside E) (φ : α) (hlo : -E.latMax ≤ φ) (hhi : φ ≤ E.latMax) :
    0 ≤ E.mercY φ ∧ E.mercY φ < 1 := by
  constructor
  · have := hanti φ (E.latOf 0) (le_of_lt (lt_of_le_of_lt hhi hin.1))
    rwa [h1 0 (le_refl _) zero_le_one] at this
  · exact mercY_lt_of_latOf_lt E hanti h1 h2 hlo hhi zero_le_one (le_refl _) (hin.2.trans_le hlo)

/-- the order link between `latOf` and `mercY` on the unclamped latitudes: monotonicity of `mercY` and the two
    inverse laws give both directions (that of `latOf` is not used) -/
theorem le_latOf_iff (E : Env α) (hanti : MercYAntitone E) (h1 : MercYLatOf E)
    (h2 : LatOfMercY E) {φ a : α} (hlo : -E.latMax ≤ φ) (hhi : φ ≤ E.latMax) (ha0 : 0 ≤ a) (ha1 : a ≤ 1) :
    φ ≤ E.latOf a ↔ a ≤ E.mercY φ := by
  constructor
  · intro h; have := hanti _ _ h; rwa [h1 a ha0 ha1] at this
  · intro h; exact not_lt.1 fun hlt => (mercY_lt_of_latOf_lt E hanti h1 h2 hlo hhi ha0 ha1 hlt).not_ge h

theorem latOf_lt_iff (E : Env α) (hanti : MercYAntitone E) (h1 : MercYLatOf E)
    (h2 : LatOfMercY E) {φ b : α} (hlo : -E.latMax ≤ φ) (hhi : φ ≤ E.latMax) (hb0 : 0 ≤ b) (hb1 : b ≤ 1) :
    E.latOf b < φ ↔ E.mercY φ < b :=
  lt_iff_lt_of_le_iff_le (le_latOf_iff E hanti h1 h2 hlo hhi hb0 hb1)

theorem row_iff (E : Env α) (hanti : MercYAntitone E) (h1 : MercYLatOf E)
    (h2 : LatOfMercY E) {y z : Nat} (hy : y < 2 ^ z) {φ : α} (hlo : -E.latMax ≤ φ) (hhi : φ ≤ E.latMax) :
    (latAt E z ((y : α) + 1) < φ ∧ φ ≤ latAt E z y) ↔
      ((y : α) ≤ E.mercY φ * (2 : α) ^ z ∧ E.mercY φ * (2 : α) ^ z < (y : α) + 1) := by
  unfold latAt
  have hp := two_pow_pos (α := α) z
  have ha0 : (0 : α) ≤ (y : α) / (2 : α) ^ z := div_nonneg (Nat.cast_nonneg _) hp.le
  have hb1 : ((y : α) + 1) / (2 : α) ^ z ≤ 1 := (div_le_one hp).2 (natCast_succ_le_two_pow hy)
  have hab : (y : α) / (2 : α) ^ z ≤ ((y : α) + 1) / (2 : α) ^ z :=
    div_le_div_of_nonneg_right (lt_add_one _).le hp.le
  rw [latOf_lt_iff E hanti h1 h2 hlo hhi (ha0.trans hab) hb1,
    le_latOf_iff E hanti h1 h2 hlo hhi ha0 (hab.trans hb1), lt_div_iff₀ hp, div_le_iff₀ hp]
  exact and_comm

theorem fraction_x (E : Env α) (hc : CastExact E) (ll : Pt α) {z : Nat} (hz : z ≤ 31) :
    (fraction E ll z).x = (ll.x / 360 + 1 / 2) * (2 : α) ^ z := by
  simp only [fraction, maxTiles32_eq E hc hz]

theorem fraction_y_mid (E : Env α) (hc : CastExact E) (ll : Pt α) {z : Nat} (hz : z ≤ 31)
    (hlo : -E.latMax ≤ ll.y) (hhi : ll.y ≤ E.latMax) :
    (fraction E ll z).y = E.mercY ll.y * (2 : α) ^ z := by
  simp only [fraction, maxTiles32_eq E hc hz]
  rw [if_neg (not_lt.mpr hlo), if_neg (not_lt.mpr hhi)]

theorem fraction_x_bounds (E : Env α) (hc : CastExact E) (ll : Pt α) {z : Nat} (hz : z ≤ 31)
    (hlo : -180 ≤ ll.x) (hhi : ll.x ≤ 180) :
    0 ≤ (fraction E ll z).x ∧ (fraction E ll z).x ≤ (2 : α) ^ z := by
  rw [fraction_x E hc ll hz]
  have hp := two_pow_pos (α := α) z
  exact ⟨mul_nonneg (by linarith) hp.le, mul_le_of_le_one_left hp.le (by linarith)⟩

/-- In exact arithmetic the west-edge step-back of `At` never fires: a column that is not to the
    right of the fraction has its west edge at or west of the longitude. -/
theorem stepback_inactive (E : Env α) (hc : CastExact E) (ll : Pt α) {z : Nat} (hz : z ≤ 31)
    (x1 : Nat) (h : (x1 : α) ≤ (fraction E ll z).x) :
    ¬ (ll.x < 360 * (E.ofNat x1 / E.ofNat (2 ^ z) - 1 / 2)) := by
  rw [hc, hc, natCast_two_pow, not_lt]
  exact (lonAt_le_iff z _ _).2 (fraction_x E hc ll hz ▸ h)

/-- the column of `At`: the truncated fraction, brought back to the last column when it is `2^z` (the clamp
    `if t.X >= max { t.X = max - 1 }`); the west-edge step-back does not fire -/
theorem at_x_eq (E : Env α) (hc : CastExact E) (ll : Pt α) {z : Nat} (hz : z ≤ 31) (n : Nat)
    (hfl : E.floorU32 (fraction E ll z).x = n) (h : ((min n (2 ^ z - 1) : Nat) : α) ≤ (fraction E ll z).x) :
    (at_ E ll z).x = min n (2 ^ z - 1) := by
  have hclamp : (if 2 ^ z ≠ 0 ∧ n ≥ 2 ^ z then 2 ^ z - 1 else n) = min n (2 ^ z - 1) := by
    have hpos := Nat.two_pow_pos z
    by_cases hn : n ≥ 2 ^ z
    · rw [if_pos ⟨hpos.ne', hn⟩, Nat.min_eq_right (by omega)]
    · rw [if_neg fun h => hn h.2, Nat.min_eq_left (by omega)]
  simp only [at_, hfl, shl32_one_pow hz, hclamp]
  rw [if_neg]
  rintro ⟨_, _, hlt⟩
  exact stepback_inactive E hc ll hz _ h hlt

theorem at_y (E : Env α) (ll : Pt α) (z : Nat) :
    (at_ E ll z).y = E.floorU32 (fraction E ll z).y := rfl

theorem at_eq_of_fraction (E : Env α) (hc : CastExact E) (hf : FloorSpec E) (ll : Pt α) (t : Tile)
    (hz : t.z ≤ 31) (hx : t.x < 2 ^ t.z)
    (hx0 : (t.x : α) ≤ (fraction E ll t.z).x) (hx1 : (fraction E ll t.z).x < (t.x : α) + 1)
    (hy0 : (t.y : α) ≤ (fraction E ll t.z).y) (hy1 : (fraction E ll t.z).y < (t.y : α) + 1) :
    at_ E ll t.z = t := by
  have hmin : min t.x (2 ^ t.z - 1) = t.x := Nat.min_eq_left (Nat.le_sub_one_of_lt hx)
  refine tile_ext ?_ ?_ rfl
  · rw [at_x_eq E hc ll hz t.x (hf _ _ hx0 hx1) (hmin.symm ▸ hx0), hmin]
  · rw [at_y, hf _ _ hy0 hy1]

theorem at_x_spec (E : Env α) (hc : CastExact E) (hf : FloorSpec E) (ll : Pt α) {z : Nat}
    (hz : z ≤ 31) (hlo : -180 ≤ ll.x) (hhi : ll.x ≤ 180) :
    (at_ E ll z).x < 2 ^ z ∧
      (ll.x < 180 → ((at_ E ll z).x : α) ≤ (fraction E ll z).x ∧
        (fraction E ll z).x < ((at_ E ll z).x : α) + 1) := by
  obtain ⟨h0, h1⟩ := fraction_x_bounds E hc ll hz hlo hhi
  rw [← natCast_two_pow] at h1
  obtain ⟨hn, hl, hu, hs⟩ := floorU32_spec E hf (2 ^ z) _ h0 h1
  have hpos := Nat.two_pow_pos z
  -- the clamped column is not to the right of the floor, so the step-back does not fire
  rw [at_x_eq E hc ll hz _ rfl (le_trans (Nat.cast_le.2 (Nat.min_le_left _ _)) hl)]
  refine ⟨by omega, fun hlt => ?_⟩
  have : (fraction E ll z).x < ((2 ^ z : Nat) : α) := by
    rw [natCast_two_pow, fraction_x E hc ll hz]
    exact mul_lt_of_lt_one_left (two_pow_pos z) (by linarith)
  rw [Nat.min_eq_left (Nat.le_sub_one_of_lt (hs this))]
  exact ⟨hl, hu⟩

theorem at_y_spec (E : Env α) (hc : CastExact E) (hf : FloorSpec E) (ll : Pt α) {z : Nat}
    (hz : z ≤ 31) (hlo : -E.latMax ≤ ll.y) (hhi : ll.y ≤ E.latMax)
    (hr : 0 ≤ E.mercY ll.y ∧ E.mercY ll.y < 1) :
    (at_ E ll z).y < 2 ^ z ∧ ((at_ E ll z).y : α) ≤ E.mercY ll.y * (2 : α) ^ z ∧
      E.mercY ll.y * (2 : α) ^ z < ((at_ E ll z).y : α) + 1 := by
  have hp := two_pow_pos (α := α) z
  have h1 : E.mercY ll.y * (2 : α) ^ z < ((2 ^ z : Nat) : α) := by
    rw [natCast_two_pow]; exact mul_lt_of_lt_one_left hp hr.2
  obtain ⟨_, hl, hu, hs⟩ := floorU32_spec E hf (2 ^ z) _ (mul_nonneg hr.1 hp.le) h1.le
  rw [at_y, fraction_y_mid E hc ll hz hlo hhi]
  exact ⟨hs h1, hl, hu⟩

theorem at_y_south (E : Env α) (hc : CastExact E) (hf : FloorSpec E) (ll : Pt α) {z : Nat} (hz : z ≤ 31)
    (hs : ll.y < -E.latMax) : (at_ E ll z).y = 2 ^ z - 1 := by
  simp only [at_y, fraction, maxTiles32_eq E hc hz]
  rw [if_pos hs, ← natCast_two_pow_pred]
  exact hf _ _ (le_refl _) (lt_add_one _)

theorem at_y_north (E : Env α) (hf : FloorSpec E) (ll : Pt α) (z : Nat)
    (hs : ¬ ll.y < -E.latMax) (hn : E.latMax < ll.y) : (at_ E ll z).y = 0 := by
  simp only [at_y, fraction]
  rw [if_neg hs, if_pos hn]
  exact hf _ _ (by rw [Nat.cast_zero]) (by rw [Nat.cast_zero, zero_add]; exact one_pos)

theorem bound_valid (E : Env α) (hc : CastExact E) (t : Tile) (hz : t.z ≤ 31)
    (hy : t.y < 2 ^ t.z) :
    bound E t 0 =
      ⟨⟨lonAt t.z t.x, latAt E t.z ((t.y : α) + 1)⟩, ⟨lonAt t.z ((t.x : α) + 1), latAt E t.z t.y⟩⟩ := by
  unfold lonAt latAt
  have hy0 : ¬ (E.ofNat t.y < 0) := by
    rw [hc]; exact not_lt.mpr (Nat.cast_nonneg _)
  have hy1 : ¬ ((2 : α) ^ t.z < E.ofNat t.y + 1) := by
    rw [hc]; exact not_lt.mpr (natCast_succ_le_two_pow hy)
  simp only [bound, toGeo, lonOfX, latOfY, maxTiles32_eq E hc hz, maxTiles64_eq E hc hz,
    sub_zero, add_zero, if_neg hy0, if_neg hy1]
  rw [hc t.x, hc t.y]

/-- the cell of a valid tile is the preimage of its unit square under `fraction` -/
theorem inCell_iff_fraction (E : Env α) (hc : CastExact E) (hanti : MercYAntitone E)
    (h1 : MercYLatOf E) (h2 : LatOfMercY E) (t : Tile) (hz : t.z ≤ 31) (hy : t.y < 2 ^ t.z)
    (ll : Pt α) (hlo : -E.latMax ≤ ll.y) (hhi : ll.y ≤ E.latMax) :
    InCell (bound E t 0) ll ↔
      ((t.x : α) ≤ (fraction E ll t.z).x ∧ (fraction E ll t.z).x < (t.x : α) + 1 ∧
       (t.y : α) ≤ (fraction E ll t.z).y ∧ (fraction E ll t.z).y < (t.y : α) + 1) := by
  rw [bound_valid E hc t hz hy, fraction_x E hc ll hz, fraction_y_mid E hc ll hz hlo hhi, InCell,
    lonAt_le_iff, lt_lonAt_iff, row_iff E hanti h1 h2 hy hlo hhi]

theorem at_eq_of_inCell (E : Env α) (hc : CastExact E) (hf : FloorSpec E)
    (hanti : MercYAntitone E) (h1 : MercYLatOf E) (h2 : LatOfMercY E) (t : Tile) (hz : t.z ≤ 31)
    (hx : t.x < 2 ^ t.z) (hy : t.y < 2 ^ t.z) (ll : Pt α) (hlo : -E.latMax ≤ ll.y) (hhi : ll.y ≤ E.latMax)
    (h : InCell (bound E t 0) ll) : at_ E ll t.z = t := by
  obtain ⟨a, b, c, d⟩ := (inCell_iff_fraction E hc hanti h1 h2 t hz hy ll hlo hhi).1 h
  exact at_eq_of_fraction E hc hf ll t hz hx a b c d

theorem center_valid (E : Env α) (hc : CastExact E) (t : Tile) (hz : t.z ≤ 31)
    (hy : t.y < 2 ^ t.z) :
    center E t =
      ⟨lonAt t.z ((t.x : α) + 1 / 2), (latAt E t.z ((t.y : α) + 1) + latAt E t.z t.y) / 2⟩ := by
  rw [center, bndCenter, bound_valid E hc t hz hy]
  simp only [lonAt]
  congr 1
  ring

/-- the meridian through the middle of a tile, as `ToGeo` sees it one zoom down: `lonAt` at the half coordinate
    (`midLon_eq`, by `rfl`), named for the statements of C13 -/
def midLon (t : Tile) : α := 360 * (((t.x : α) + 1 / 2) / (2 : α) ^ t.z - 1 / 2)
/-- the parallel through the middle of a tile: `latAt` at the half coordinate (`midLat_eq`) -/
def midLat (E : Env α) (t : Tile) : α := E.latOf (((t.y : α) + 1 / 2) / (2 : α) ^ t.z)

theorem midLon_eq (t : Tile) : (midLon t : α) = lonAt t.z ((t.x : α) + 1 / 2) := rfl
theorem midLat_eq (E : Env α) (t : Tile) : midLat E t = latAt E t.z ((t.y : α) + 1 / 2) := rfl

/-- the bound of the child `(i, j)` in the parent's grid lines; `a`, `b` are the child's offsets `i / 2`, `j / 2` -/
theorem bound_child (E : Env α) (hc : CastExact E) (t : Tile) (hz : t.z ≤ 30) (hy : t.y < 2 ^ t.z)
    (i j : Nat) (hj : j ≤ 1) (a b : α) (ha : (i : α) = 2 * a) (hb : (j : α) = 2 * b) :
    bound E ⟨2 * t.x + i, 2 * t.y + j, t.z + 1⟩ 0 =
      ⟨⟨lonAt t.z ((t.x : α) + a), latAt E t.z ((t.y : α) + b + 1 / 2)⟩,
       ⟨lonAt t.z ((t.x : α) + a + 1 / 2), latAt E t.z ((t.y : α) + b)⟩⟩ := by
  have ex : ((2 * t.x + i : Nat) : α) = 2 * ((t.x : α) + a) := by
    rw [Nat.cast_add, Nat.cast_mul, Nat.cast_ofNat, ha, mul_add]
  have ey : ((2 * t.y + j : Nat) : α) = 2 * ((t.y : α) + b) := by
    rw [Nat.cast_add, Nat.cast_mul, Nat.cast_ofNat, hb, mul_add]
  have e1 : ∀ c : α, 2 * c + 1 = 2 * (c + 1 / 2) := fun c => by rw [mul_add, mul_one_div_cancel two_ne_zero]
  rw [bound_valid E hc _ (Nat.succ_le_succ hz) (show 2 * t.y + j < 2 ^ (t.z + 1) by rw [Nat.pow_succ]; omega)]
  simp only [ex, ey, e1, lonAt_succ, latAt_succ]

end lemmas

/-! A carrier that is NOT a field and whose conversion saturates (as `float64` loses `+ 1` above `2^53`):
    `Int` with `ofNat n = min n 2^53`.  The GLOBAL successor law fails in it, the pointwise hypotheses of
    `neighbours_share_edges_any` (OrbProofs/C13.lean) hold for every tile with coordinates below `2^53` — so the pointwise
    statement applies where a global one would be vacuous. -/

def satEnv : Env Int where
  mercY := fun a => a
  latOf := fun a => a
  floorU32 := fun a => a.toNat
  ofNat := fun n => ((min n (2 ^ 53) : Nat) : Int)
  latMax := 85

/-- A toy "projection" over ℚ with all the named properties: the affine pair
    `latOf y = 90 − 180·y`, `mercY φ = 1/2 − φ/180`, exact casts, the true floor, clamp at 85.0511. -/
def toyEnv : Env ℚ where
  mercY := fun φ => 1 / 2 - φ / 180
  latOf := fun y => 90 - 180 * y
  floorU32 := fun x => (⌊x⌋).toNat
  ofNat := fun n => (n : ℚ)
  latMax := 850511 / 10000

theorem toyEnv_hyps :
    CastExact toyEnv ∧ FloorSpec toyEnv ∧ LatMaxNonneg toyEnv ∧ LatOfStrictAnti toyEnv ∧
    MercYAntitone toyEnv ∧ MercYLatOf toyEnv ∧ LatOfMercY toyEnv ∧ ClampInside toyEnv := by
  refine ⟨fun _ => rfl, ?_, ?_, ?_, ?_, ?_, ?_, ?_⟩
  · intro x n h1 h2
    have : ⌊x⌋ = (n : ℤ) := by
      rw [Int.floor_eq_iff]; exact ⟨by exact_mod_cast h1, by exact_mod_cast h2⟩
    simp only [toyEnv, this, Int.toNat_natCast]
  · unfold LatMaxNonneg toyEnv; norm_num
  · intro a b h; simp only [toyEnv]; linarith
  · intro a b h; simp only [toyEnv]
    have : a / 180 ≤ b / 180 := div_le_div_of_nonneg_right h (by norm_num)
    linarith
  · intro y _ _; simp only [toyEnv]; ring
  · intro φ _ _; simp only [toyEnv]; ring
  · unfold ClampInside toyEnv; norm_num

theorem at_toy_example : at_ toyEnv ⟨180, 0⟩ 3 = ⟨7, 4, 3⟩ := by
  obtain ⟨_, hf, -⟩ := toyEnv_hyps
  have hs : shl32 1 3 = 8 := by decide
  have hfx : (fraction toyEnv ⟨180, 0⟩ 3).x = 8 := by
    simp only [fraction, maxTiles32, toyEnv, hs]; norm_num
  have hfy : (fraction toyEnv ⟨180, 0⟩ 3).y = 4 := by
    simp only [fraction, maxTiles32, toyEnv, hs]; norm_num
  have hx : toyEnv.floorU32 (fraction toyEnv ⟨180, 0⟩ 3).x = 8 := by
    rw [hfx]; apply hf <;> norm_num
  have hy : toyEnv.floorU32 (fraction toyEnv ⟨180, 0⟩ 3).y = 4 := by
    rw [hfy]; apply hf <;> norm_num
  obtain ⟨hc, -⟩ := toyEnv_hyps
  have hxx : (at_ toyEnv ⟨180, 0⟩ 3).x = 7 := by
    rw [at_x_eq toyEnv hc ⟨180, 0⟩ (by decide) 8 hx (by rw [hfx]; norm_num)]; rfl
  have hyy : (at_ toyEnv ⟨180, 0⟩ 3).y = 4 := by rw [at_y, hy]
  exact tile_ext hxx hyy rfl

end Orb.TileGeo
