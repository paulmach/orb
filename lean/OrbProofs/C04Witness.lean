/-
  C04 — a concrete (fmtF, parseF) pair, values and hand-written spellings: the witnesses behind the
  non-vacuity examples and `unmarshal_marshal_full_false` of OrbProofs.C04, and behind `gcoords0`.
-/
import Orb.WKT

namespace Orb.WKT

/-! ### a concrete float printer / parser for the non-vacuity examples

  bits 1 ↦ `1`, 2 ↦ `2`, 3 ↦ `-0.5`, everything else ↦ `1e+21` (an exponent form: letters `e`, sign). -/

def fmt0 (x : UInt64) : Str :=
  if x = 1 then [49] else if x = 2 then [50] else if x = 3 then [45, 48, 46, 53] else [49, 101, 43, 50, 49]

def parse0 (s : Str) : Option UInt64 :=
  if s = [49] then some 1 else if s = [50] then some 2 else if s = [45, 48, 46, 53] then some 3
  else if s = [49, 101, 43, 50, 49] then some 4 else none

theorem floatText0 (x : UInt64) (h : x = 1 ∨ x = 2 ∨ x = 3 ∨ x = 4) : FloatText fmt0 parse0 x := by
  rcases h with rfl | rfl | rfl | rfl <;> exact ⟨by decide, by decide, by decide⟩

theorem goodCoords0 (g : G) (h : ∀ y ∈ coords g, y = 1 ∨ y = 2 ∨ y = 3 ∨ y = 4) : GoodCoords fmt0 parse0 g :=
  fun x hx => floatText0 x (h x hx)

/-- nested collections, an EMPTY member, an exponent-form coordinate, a multi-polygon with a hole, a bound -/
def g0 : G :=
  .collection [.collection [.point ⟨1, 2⟩, .lineString []], .point ⟨4, 3⟩,
    .multiPolygon [[[⟨1, 1⟩, ⟨2, 2⟩], [⟨3, 3⟩]], [[⟨4, 1⟩]]], .bound ⟨1, 2⟩ ⟨3, 4⟩, .multiPoint [⟨1, 2⟩, ⟨2, 1⟩]]

theorem good0 : GoodCoords fmt0 parse0 g0 := goodCoords0 _ (by decide)

theorem deep0 : noEmptyMemberDeep g0 = true := by decide

/-- ` point (\t1 2\n) ` : lower-case keyword, blanks at both ends, after the keyword and inside the brackets -/
def t1 : Str := [32, 112, 111, 105, 110, 116, 32, 40, 9, 49, 32, 50, 10, 41, 32]

theorem spelled1 : Spelled fmt0 (.point ⟨1, 2⟩) t1 := by
  refine ⟨[32], [32], [112, 111, 105, 110, 116, 32, 40, 9, 49, 32, 50, 10, 41],
    by unfold AllBlank; decide, by unfold AllBlank; decide, ?_, rfl⟩
  unfold SpelledCore
  exact ⟨[112, 111, 105, 110, 116], [32], [9], [10], by unfold CaseVariant; decide,
    by unfold AllBlank; decide, by unfold AllBlank; decide, by unfold AllBlank; decide, rfl⟩

theorem good1 : GoodCoords fmt0 parse0 (.point ⟨1, 2⟩) := goodCoords0 _ (by decide)

/-! `Polygon ( ( 1 2 , 2 1 ) ,\n(-0.5 -0.5) ) `: mixed-case keyword, blanks next to every parenthesis and comma -/

def ring2a : Str := bracketed [] [32] [32] (wCoord fmt0 ⟨1, 2⟩ ++ [32] ++ cComma :: ([32] ++ wCoord fmt0 ⟨2, 1⟩))
def ring2b : Str := bracketed [] [] [] (wCoord fmt0 ⟨3, 3⟩)
def body2 : Str := ring2a ++ [32] ++ cComma :: ([10] ++ ring2b)
def t2 : Str := [80, 111, 108, 121, 103, 111, 110] ++ bracketed [32] [32] [32] body2 ++ [32]

def g2 : G := .polygon [[⟨1, 2⟩, ⟨2, 1⟩], [⟨3, 3⟩]]

private theorem blank32 : AllBlank [32] := by unfold AllBlank; decide
-- `allBlank_nil` of OrbProofs.C04Base again: this file imports the model alone
private theorem blankNil : AllBlank [] := fun _ h => nomatch h

theorem spelled2 : Spelled fmt0 g2 t2 := by
  refine ⟨[], [32], [80, 111, 108, 121, 103, 111, 110] ++ bracketed [32] [32] [32] body2, blankNil, blank32, ?_, by simp [t2]⟩
  unfold g2 SpelledCore
  refine ⟨[ring2a, ring2b], body2, ?_, ?_, ?_⟩
  · refine Forall2.cons (Or.inr ⟨[32], [32], _, blank32, blank32, ?_, rfl⟩)
      (Forall2.cons (Or.inr ⟨[], [], _, blankNil, blankNil, ?_, rfl⟩) Forall2.nil)
    · exact SepJoin.cons _ _ _ _ _ blank32 blank32 (SepJoin.one _)
    · exact SepJoin.one _
  · exact SepJoin.cons _ _ _ _ _ blank32 (by unfold AllBlank; decide) (SepJoin.one _)
  · exact ⟨[80, 111, 108, 121, 103, 111, 110], [32], [32], [32], by unfold CaseVariant; decide, blank32, blank32, blank32, rfl⟩

theorem good2 : GoodCoords fmt0 parse0 g2 := goodCoords0 _ (by decide)

theorem noAdj0 (x : UInt64) : NoAdjacentLetters (fmt0 x) := by
  unfold fmt0
  split
  · simp [NoAdjacentLetters]
  · split
    · simp [NoAdjacentLetters]
    · split
      · simp [NoAdjacentLetters, isLetter]
      · simp [NoAdjacentLetters, isLetter]

end Orb.WKT
