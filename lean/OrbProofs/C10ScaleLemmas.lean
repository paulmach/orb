/-
  C10, scale invariance: multiplying every coordinate by one factor `s` multiplies centroids, lengths and distances
  by `s`, areas by `s²`, and leaves every index alone.  `sqrt` is abstract: only `sqrt (s·s·x) = s·sqrt x` is assumed.
  Every loop of the model is one `foldl` (over the consecutive pairs of a line, over the members of a collection), so
  it commutes with scaling as soon as one step does (`foldl_scale`).  A typed helper of the model is its loop from a
  zero seed followed by an if-tree and a division: its lemma rewrites the loop, is left with the step law, and closes
  the divisions with `div_scale`.
-/
import Orb.PlanarScale
import OrbProofs.C10Lemmas
import OrbProofs.C10DistLemmas

set_option linter.unusedSectionVars false

namespace Orb.Planar
open Orb Orb.Core

theorem dimsMax_scale_of {α : Type} [Mul α] (s : α) (gs : List (Geom α))
    (ih : ∀ g ∈ gs, dimensions (scaleGeom s g) = dimensions g) (m : Int) :
    dimensions.dimsMax (scaleGeom.scaleList s gs) m = dimensions.dimsMax gs m := by
  induction gs generalizing m with
  | nil => rfl
  | cons g t iht =>
    simp only [scaleGeom.scaleList, dimensions.dimsMax, ih g (List.mem_cons_self ..)]
    exact iht (fun g hg => ih g (List.mem_cons_of_mem _ hg)) _

theorem dimensions_scale {α : Type} [Mul α] (s : α) (g : Geom α) : dimensions (scaleGeom s g) = dimensions g := by
  induction g using Geom.ind with
  | collection gs ih => exact dimsMax_scale_of s gs ih _
  | point p => rfl
  | multiPoint p => rfl
  | lineString p => rfl
  | multiLineString p => rfl
  | ring p => rfl
  | polygon p => rfl
  | multiPolygon p => rfl
  | bound a b => rfl

theorem maxDim_scale {α : Type} [Mul α] (s : α) (gs : List (Geom α)) :
    maxDim (scaleGeom.scaleList s gs) = maxDim gs := dimsMax_scale_of s gs (fun g _ => dimensions_scale s g) 0

theorem scaleList_eq_map {α : Type} [Mul α] (s : α) (gs : List (Geom α)) :
    scaleGeom.scaleList s gs = gs.map (scaleGeom s) := by
  induction gs with
  | nil => rfl
  | cons g t ih => rw [scaleGeom.scaleList, ih, List.map_cons]

section scale
variable {α : Type} [Field α] [LinearOrder α] [IsStrictOrderedRing α]

/-- the one assumption on `sqrt`; the theorems of C10.lean spell it out as their hypothesis `hq` -/
def SqrtScales (sqrt : α → α) (s : α) : Prop := ∀ x, sqrt (s * s * x) = s * sqrt x

variable (sqrt : α → α) (s : α)

/-- a quotient whose numerator carries one factor `s` more than its denominator -/
theorem div_scale {k s n d n' d' : α} (hk : k ≠ 0) (hn : n' = k * (s * n)) (hd : d' = k * d) :
    n' / d' = s * (n / d) := by
  rw [hn, hd, mul_div_mul_left _ _ hk, mul_div_assoc]

theorem scalePt_sub (s : α) (a o : Pt α) :
    (⟨s * a.x - s * o.x, s * a.y - s * o.y⟩ : Pt α) = scalePt s ⟨a.x - o.x, a.y - o.y⟩ := by
  simp only [scalePt, mul_sub]

theorem distance_scale (hq : SqrtScales sqrt s) (p q : Pt α) :
    distance sqrt (scalePt s p) (scalePt s q) = s * distance sqrt p q := by
  simp only [distance, scalePt]
  rw [← hq]
  congr 1
  ring

theorem distanceSquared_scale (p q : Pt α) :
    distanceSquared (scalePt s p) (scalePt s q) = s * s * distanceSquared p q := by
  simp only [distanceSquared, scalePt]
  ring

/-- A loop commutes with scaling as soon as one step does (`φ` scales the state, `sc` an element; `g` is the step
    over the scaled elements).  The step law is asked for the members of the list only: in the collection loops it
    is the induction hypothesis of `Geom.ind`. -/
theorem foldl_scale {σ β : Type} (φ : σ → σ) (sc : β → β) (f g : σ → β → σ) (l : List β)
    (h : ∀ b ∈ l, ∀ a, g (φ a) (sc b) = φ (f a b)) (a : σ) :
    (l.map sc).foldl g (φ a) = φ (l.foldl f a) := by
  induction l generalizing a with
  | nil => rfl
  | cons b t ih =>
    rw [List.map_cons, List.foldl_cons, List.foldl_cons, h b List.mem_cons_self,
      ih fun b hb => h b (List.mem_cons_of_mem _ hb)]

/-- The form in which the typed helpers use it: from a seed that `φ` fixes (zero, in every loop of the model), to be
    rewritten with — the loop over the scaled elements `g` is read off the goal, the step law is left as a goal. -/
theorem foldl_scale_seed {σ β : Type} (φ : σ → σ) (f : σ → β → σ) {sc : β → β} {g : σ → β → σ} {l : List β} {a : σ}
    (ha : φ a = a) (h : ∀ b ∈ l, ∀ t, g (φ t) (sc b) = φ (f t b)) : (l.map sc).foldl g a = φ (l.foldl f a) := by
  have := foldl_scale φ sc f g l h a
  rwa [ha] at this

/-- … when the same function is folded on both sides (the loops over members) -/
theorem foldl_scale_self {σ β : Type} (φ : σ → σ) {sc : β → β} {f : σ → β → σ} {l : List β} {a : σ}
    (ha : φ a = a) (h : ∀ b ∈ l, ∀ t, f (φ t) (sc b) = φ (f t b)) : (l.map sc).foldl f a = φ (l.foldl f a) :=
  foldl_scale_seed φ f ha h

/-- componentwise product: how the state of a loop over triples scales -/
def mul3 (k t : α × α × α) : α × α × α := (k.1 * t.1, k.2.1 * t.2.1, k.2.2 * t.2.2)

theorem mul3_zero (k : α × α × α) : mul3 k (0, 0, 0) = (0, 0, 0) := by simp only [mul3, mul_zero]

/-- the step `t += (c.x·w, c.y·w, w)` of the area-weighted loops, for a member that scales as (centroid, area) does -/
theorem weighted_step_scale (t : α × α × α) (ca : Pt α × α) :
    ((mul3 (s * s * s, s * s * s, s * s) t).1 + (scalePt s ca.1).x * (s * s * ca.2),
      (mul3 (s * s * s, s * s * s, s * s) t).2.1 + (scalePt s ca.1).y * (s * s * ca.2),
      (mul3 (s * s * s, s * s * s, s * s) t).2.2 + s * s * ca.2) =
    mul3 (s * s * s, s * s * s, s * s) (t.1 + ca.1.x * ca.2, t.2.1 + ca.1.y * ca.2, t.2.2 + ca.2) := by
  simp only [mul3, scalePt, Prod.mk.injEq]
  refine ⟨by ring, by ring, by ring⟩

theorem multiPointCentroid_scale (ps : List (Pt α)) :
    multiPointCentroid (ps.map (scalePt s)) = scalePt s (multiPointCentroid ps) := by
  cases ps with
  | nil => simp [multiPointCentroid, scalePt]
  | cons p t =>
    simp only [multiPointCentroid, List.map_cons, List.length_cons, List.length_map]
    rw [← List.map_cons, foldl_scale_self (fun t : α × α => (s * t.1, s * t.2)) (by rw [mul_zero])
      fun p _ t => by simp only [scalePt, mul_add]]
    simp only [scalePt, mul_div_assoc]

theorem lineStep_scale (hq : SqrtScales sqrt s) (o : Pt α) (t : α × α × α) (e : Pt α × Pt α) :
    lineStep sqrt (scalePt s o) (mul3 (s * s, s * s, s) t) (Prod.map (scalePt s) (scalePt s) e) =
      mul3 (s * s, s * s, s) (lineStep sqrt o t e) := by
  have e1 : ∀ v : Pt α, (⟨(scalePt s v).x - (scalePt s o).x, (scalePt s v).y - (scalePt s o).y⟩ : Pt α) =
      scalePt s ⟨v.x - o.x, v.y - o.y⟩ := fun v => scalePt_sub s v o
  simp only [lineStep, Prod.map, e1, distance_scale sqrt s hq]
  simp only [mul3, scalePt, Prod.mk.injEq]
  refine ⟨by ring, by ring, by ring⟩

theorem lineStringCentroidDist_scale (hs : s ≠ 0) (hq : SqrtScales sqrt s) (ls : List (Pt α)) :
    lineStringCentroidDist sqrt (ls.map (scalePt s)) =
      (lineStringCentroidDist sqrt ls).map fun cd => (scalePt s cd.1, s * cd.2) := by
  cases ls with
  | nil => rfl
  | cons o t =>
    simp only [lineStringCentroidDist, List.map_cons]
    simp only [← List.map_cons, lineCentroidLoop_foldl, pairs_map]
    rw [foldl_scale_seed (mul3 (s * s, s * s, s)) (lineStep sqrt o) (mul3_zero _) fun e _ t => lineStep_scale sqrt s hq o t e]
    simp only [mul3, beq_iff_eq, mul_eq_zero, hs, false_or]
    split_ifs with h0
    · rw [Option.map_some, mul_zero]
    · simp only [Option.map_some, scalePt, mul_add, Option.some.injEq, Prod.mk.injEq, Pt.mk.injEq, and_true]
      exact ⟨congrArg (· + _) (div_scale hs (mul_assoc _ _ _) rfl), congrArg (· + _) (div_scale hs (mul_assoc _ _ _) rfl)⟩

/-- the accumulator of `multiLineStringCentroid` for the scaled lines -/
def scaleMLS (s : α) (a : MLSAcc α) : MLSAcc α :=
  { px := s * s * a.px, py := s * s * a.py, fx := s * a.fx, fy := s * a.fy, dist := s * a.dist, valid := a.valid }

theorem mlsStep_scale (hs : s ≠ 0) (hq : SqrtScales sqrt s) (a : MLSAcc α) (ls : List (Pt α)) :
    mlsStep sqrt (scaleMLS s a) (ls.map (scalePt s)) = scaleMLS s (mlsStep sqrt a ls) := by
  simp only [mlsStep, lineStringCentroidDist_scale sqrt s hs hq]
  cases lineStringCentroidDist sqrt ls with
  | none => rfl
  | some cd =>
    simp only [Option.map_some, scaleMLS, scalePt, MLSAcc.mk.injEq, and_true]
    refine ⟨by ring, by ring, by ring, by ring, by ring⟩

theorem multiLineStringCentroid_scale (hs : s ≠ 0) (hq : SqrtScales sqrt s)
    (mls : List (List (Pt α))) :
    multiLineStringCentroid sqrt (mls.map (·.map (scalePt s))) = scalePt s (multiLineStringCentroid sqrt mls) := by
  cases mls with
  | nil => simp [multiLineStringCentroid, scalePt]
  | cons l t =>
    simp only [multiLineStringCentroid, List.map_cons]
    rw [← List.map_cons, foldl_scale_self (scaleMLS s) (by simp [scaleMLS]) fun l _ a => mlsStep_scale sqrt s hs hq a l]
    simp only [scaleMLS, beq_iff_eq, mul_eq_zero, hs, false_or]
    split_ifs with h1 h2
    · simp only [scalePt, mul_zero]
    · simp only [scalePt, mul_div_assoc]
    · simp only [scalePt, Pt.mk.injEq]
      exact ⟨div_scale hs (mul_assoc _ _ _) rfl, div_scale hs (mul_assoc _ _ _) rfl⟩

/-- one turn of `ringLoop` -/
def ringStep (o : Pt α) (t : α × α × α) (e : Pt α × Pt α) : α × α × α :=
  let a := (e.1.x - o.x) * (e.2.y - o.y) - (e.2.x - o.x) * (e.1.y - o.y)
  (t.1 + (e.1.x + e.2.x - 2 * o.x) * a, t.2.1 + (e.1.y + e.2.y - 2 * o.y) * a, t.2.2 + a)

theorem ringLoop_foldl (o : Pt α) (l : List (Pt α)) (t : α × α × α) :
    ringLoop o l t = (pairs l).foldl (ringStep o) t :=
  LoopForms.pairLoop_foldl (ringLoop o) (fun t a b => ringStep o t (a, b)) (fun _ => rfl) (fun _ _ => rfl)
    (fun _ _ _ _ => rfl) l t

theorem ringStep_scale (o : Pt α) (t : α × α × α) (e : Pt α × Pt α) :
    ringStep (scalePt s o) (mul3 (s * s * s, s * s * s, s * s) t) (Prod.map (scalePt s) (scalePt s) e) =
      mul3 (s * s * s, s * s * s, s * s) (ringStep o t e) := by
  simp only [ringStep, mul3, Prod.map, scalePt, Prod.mk.injEq]
  refine ⟨by ring, by ring, by ring⟩

theorem ringCentroidArea_scale_of_ne (hs : s ≠ 0) (r : List (Pt α)) :
    ringCentroidArea (r.map (scalePt s)) = (scalePt s (ringCentroidArea r).1, s * s * (ringCentroidArea r).2) := by
  have hss := mul_ne_zero hs hs
  cases r with
  | nil => simp [ringCentroidArea, scalePt]
  | cons o rest =>
    simp only [ringCentroidArea, List.map_cons, ringLoop_foldl, pairs_map]
    rw [foldl_scale_seed (mul3 (s * s * s, s * s * s, s * s)) (ringStep o) (mul3_zero _) fun e _ t => ringStep_scale s o t e]
    simp only [mul3, beq_iff_eq, mul_eq_zero, hs, false_or, or_self]
    split_ifs with h0
    · rw [mul_zero]
    · simp only [scalePt, mul_add, Prod.mk.injEq, Pt.mk.injEq]
      exact ⟨⟨congrArg (· + _) (div_scale hss (by ring) (by ring)), congrArg (· + _) (div_scale hss (by ring) (by ring))⟩,
        by ring⟩

theorem lineFallback_scale (hs : s ≠ 0) (hq : SqrtScales sqrt s) (r : List (Pt α)) :
    lineFallback sqrt (r.map (scalePt s)) = scalePt s (lineFallback sqrt r) := by
  simp only [lineFallback, lineStringCentroidDist_scale sqrt s hs hq]
  cases lineStringCentroidDist sqrt r with
  | none => simp [scalePt]
  | some cd => rfl

theorem fabs_scale (s a : α) : fabs (s * s * a) = s * s * fabs a := by
  rw [fabs_eq_abs, fabs_eq_abs, abs_mul, abs_mul_self]

theorem polygonCentroidArea_scale (hs : s ≠ 0) (hq : SqrtScales sqrt s)
    (p : List (List (Pt α))) :
    polygonCentroidArea sqrt (p.map (·.map (scalePt s))) =
      (scalePt s (polygonCentroidArea sqrt p).1, s * s * (polygonCentroidArea sqrt p).2) := by
  have hss := mul_ne_zero hs hs
  cases p with
  | nil => simp [polygonCentroidArea, scalePt]
  | cons outer holes =>
    cases holes with
    | nil =>
      simp only [polygonCentroidArea, List.map_cons, List.map_nil, ringCentroidArea_scale_of_ne s hs, fabs_scale,
        beq_iff_eq, mul_eq_zero, hs, false_or, or_self, lineFallback_scale sqrt s hs hq]
      split_ifs with h0
      · rw [mul_zero]
      · rfl
    | cons h t =>
      simp only [polygonCentroidArea, List.map_cons, ringCentroidArea_scale_of_ne s hs, fabs_scale,
        lineFallback_scale sqrt s hs hq]
      rw [← List.map_cons, foldl_scale_self (mul3 (s * s, s * s * s, s * s * s)) (mul3_zero _)]
      · simp only [mul3, beq_iff_eq, ← mul_sub, mul_eq_zero, hs, false_or, or_self]
        split_ifs with h0
        · rw [mul_zero]
        · simp only [scalePt, Prod.mk.injEq, Pt.mk.injEq, and_true]
          exact ⟨div_scale hss (by ring) rfl, div_scale hss (by ring) rfl⟩
      · intro hr _ t
        simp only [ringCentroidArea_scale_of_ne s hs, fabs_scale, mul3, scalePt, Prod.mk.injEq]
        refine ⟨by ring, by ring, by ring⟩

theorem finishWeighted_scale (hs : s ≠ 0) (t : α × α × α) :
    finishWeighted (mul3 (s * s * s, s * s * s, s * s) t) = (scalePt s (finishWeighted t).1, s * s * (finishWeighted t).2) := by
  simp only [finishWeighted, mul3, beq_iff_eq, mul_eq_zero, hs, false_or, or_self]
  split_ifs with h0
  · simp only [scalePt, mul_zero]
  · simp only [scalePt, Prod.mk.injEq, Pt.mk.injEq, and_true]
    exact ⟨div_scale (mul_ne_zero hs hs) (mul_assoc _ _ _) rfl, div_scale (mul_ne_zero hs hs) (mul_assoc _ _ _) rfl⟩

theorem multiPolygonCentroidArea_scale (hs : s ≠ 0) (hq : SqrtScales sqrt s)
    (mp : List (List (List (Pt α)))) :
    multiPolygonCentroidArea sqrt (mp.map (·.map (·.map (scalePt s)))) =
      (scalePt s (multiPolygonCentroidArea sqrt mp).1, s * s * (multiPolygonCentroidArea sqrt mp).2) := by
  rw [multiPolygonCentroidArea, foldl_scale_self (mul3 (s * s * s, s * s * s, s * s)) (mul3_zero _)]
  · exact finishWeighted_scale s hs _
  · intro p _ t
    simp only [polygonCentroidArea_scale sqrt s hs hq]
    exact weighted_step_scale s t _

theorem boundRing_scale (lo hi : Pt α) :
    boundRing (scalePt s lo) (scalePt s hi) = (boundRing lo hi).map (scalePt s) := by
  simp [boundRing, scalePt]

/-- the shape of every length loop, `sum += g x` from 0, with members of degree 1 -/
theorem sumFold_scale {β : Type} (f g : β → α) (sc : β → β) (l : List β) (h : ∀ b ∈ l, g (sc b) = s * f b) :
    (l.map sc).foldl (fun sum b => sum + g b) 0 = s * l.foldl (fun sum b => sum + f b) 0 :=
  foldl_scale_seed (s * ·) _ (mul_zero s) fun b hb a => by rw [h b hb, mul_add]

theorem lineStringLength_scale (hq : SqrtScales sqrt s) (l : List (Pt α)) :
    lineStringLength sqrt (l.map (scalePt s)) 0 = s * lineStringLength sqrt l 0 := by
  rw [lineStringLength_foldl, lineStringLength_foldl, pairs_map]
  exact sumFold_scale s _ _ _ (pairs l) fun e _ => distance_scale sqrt s hq e.2 e.1

theorem polygonLength_scale (hq : SqrtScales sqrt s) (p : List (List (Pt α))) :
    polygonLength sqrt (p.map (·.map (scalePt s))) = s * polygonLength sqrt p :=
  sumFold_scale s _ _ _ p fun l _ => lineStringLength_scale sqrt s hq l

theorem nearT_scale (hs : s ≠ 0) (a b p : Pt α) :
    nearT (scalePt s a) (scalePt s b) (scalePt s p) = nearT a b p := by
  simp only [nearT, footT, scalePt, dist2, ← mul_sub]
  rw [mul_mul_mul_comm, mul_mul_mul_comm s _ s, mul_mul_mul_comm s _ s, mul_mul_mul_comm s _ s, ← mul_add, ← mul_add,
    mul_div_mul_left _ _ (mul_ne_zero hs hs)]

theorem segmentDistanceFromSquared_scale_of_ne (hs : s ≠ 0) (a b p : Pt α) :
    segmentDistanceFromSquared (scalePt s a) (scalePt s b) (scalePt s p) = s * s * segmentDistanceFromSquared a b p := by
  rw [segdist_eq, segdist_eq, nearT_scale s hs]
  simp only [dist2, lerp, scalePt]
  ring

theorem optLt_map (f : α → α) (hf : StrictMono f) (a b : Option α) : optLt (a.map f) (b.map f) = optLt a b := by
  cases a <;> cases b <;> simp [optLt, hf.lt_iff_lt]

theorem minStep_map (f : α → α) (hf : StrictMono f) (t : Option α × Int) (d : Option α) (i : Int) :
    minStep (t.1.map f, t.2) (d.map f) i = ((minStep t d i).1.map f, (minStep t d i).2) := by
  simp only [minStep, optLt_map f hf]
  split_ifs <;> rfl

theorem sqrt_map_scale (hq : SqrtScales sqrt s) (o : Option α) :
    (o.map (s * s * ·)).map sqrt = (o.map sqrt).map (s * ·) := by
  cases o with
  | none => rfl
  | some x => simp only [Option.map_some, hq x]

/-- the member loops of `DistanceFromWithIndex`: the members' distances change by a strictly increasing map `m` (asked
    of the members only: in the collection loop it is the induction hypothesis of `Geom.ind`), so the same member is
    reported -/
theorem memberFold_scale {β : Type} (m : α → α) (hm : StrictMono m) (f g : β → Option α) (sc : β → β) (l : List β)
    (hfg : ∀ b ∈ l, g (sc b) = (f b).map m) :
    (l.map sc).zipIdx.foldl (fun t (bi : β × Nat) => minStep t (g bi.1) bi.2) (none, -1) =
      let r := l.zipIdx.foldl (fun t (bi : β × Nat) => minStep t (f bi.1) bi.2) (none, -1)
      (r.1.map m, r.2) := by
  rw [List.zipIdx_map]
  exact foldl_scale_seed (fun t : Option α × Int => (t.1.map m, t.2)) _ rfl fun bi hbi t =>
    (congrArg (minStep _ · _) (hfg bi.1 (List.fst_mem_of_mem_zipIdx hbi))).trans (minStep_map m hm t _ _)

theorem multiPointDistanceFrom_scale (hs : 0 < s) (hq : SqrtScales sqrt s)
    (mp : List (Pt α)) (p : Pt α) :
    multiPointDistanceFrom sqrt (mp.map (scalePt s)) (scalePt s p) =
      ((multiPointDistanceFrom sqrt mp p).1.map (s * ·), (multiPointDistanceFrom sqrt mp p).2) := by
  simp only [multiPointDistanceFrom]
  rw [memberFold_scale (s * s * ·) (strictMono_mul_left_of_pos (mul_pos hs hs)) (fun q => some (distanceSquared q p))
    (fun q => some (distanceSquared q (scalePt s p))) (scalePt s) mp fun q _ => by rw [distanceSquared_scale]; rfl]
  simp only [sqrt_map_scale sqrt s hq]

theorem lineStringDistanceFrom_scale (hs : 0 < s) (hq : SqrtScales sqrt s)
    (ls : List (Pt α)) (p : Pt α) :
    lineStringDistanceFrom sqrt (ls.map (scalePt s)) (scalePt s p) =
      ((lineStringDistanceFrom sqrt ls p).1.map (s * ·), (lineStringDistanceFrom sqrt ls p).2) := by
  simp only [lineStringDistanceFrom, lineDistLoop_eq_foldl, pairs_map]
  rw [memberFold_scale (s * s * ·) (strictMono_mul_left_of_pos (mul_pos hs hs))
    (fun ab : Pt α × Pt α => some (segmentDistanceFromSquared ab.1 ab.2 p))
    (fun ab => some (segmentDistanceFromSquared ab.1 ab.2 (scalePt s p))) (Prod.map (scalePt s) (scalePt s)) (pairs ls)
    fun ab _ => by simp only [Prod.map, segmentDistanceFromSquared_scale_of_ne s hs.ne', Option.map_some]]
  simp only [sqrt_map_scale sqrt s hq]

theorem polygonDistanceFrom_scale (hs : 0 < s) (hq : SqrtScales sqrt s)
    (pg : List (List (Pt α))) (p : Pt α) :
    polygonDistanceFrom sqrt (pg.map (·.map (scalePt s))) (scalePt s p) =
      ((polygonDistanceFrom sqrt pg p).1.map (s * ·), (polygonDistanceFrom sqrt pg p).2) := by
  cases pg with
  | nil => rfl
  | cons outer holes =>
    simp only [polygonDistanceFrom, List.map_cons, lineStringDistanceFrom_scale sqrt s hs hq]
    refine foldl_scale (fun t : Option α × Int => (t.1.map (s * ·), t.2)) (·.map (scalePt s)) _ _ holes (fun h _ t => ?_) _
    simp only [lineStringDistanceFrom_scale sqrt s hs hq, optLt_map (fun x => s * x) (strictMono_mul_left_of_pos hs)]
    split_ifs <;> rfl

end scale

end Orb.Planar
