/-
  C11 — the pruned traversal.  `visit` at a node is ONE equation (prune; the node's own value; a fold over the
  four children in the rotated order `rot`), so its soundness is one induction, with a state invariant relative
  to the pointers accounted for so far (`visit_sound`).  For a visitor that searches under a limit, pruning is
  the limit test made in advance for a whole cell (`visit_sound_lim`).  The in-bound and the find visitor
  (Find / Matching / Remove) are instances.
-/
import OrbProofs.C11Tree

namespace Orb.Quadtree
open Orb Orb.Core

set_option linter.unusedSectionVars false

section eqn
variable {α : Type} [Add α] [Sub α] [Mul α] [Div α] [OfNat α 2] [LT α] [LE α] [DecidableLT α] [DecidableLE α]
  [Min α] [Max α]

/-- the order in which `visit` goes through the four children: round the clock, starting at the
    quadrant of the visitor's point -/
def rot : Nat → List Nat
  | 0 => [0, 1, 2, 3]
  | 1 => [1, 2, 3, 0]
  | 2 => [2, 3, 0, 1]
  | _ => [3, 0, 1, 2]

theorem rot_perm (k : Nat) : (rot k).Perm [0, 1, 2, 3] := by
  rcases k with _ | _ | _ | k <;> simp only [rot] <;> decide

/-- THE equation of `visit`: prune, else the node's own value, then the children as a fold.  (The
    code's "all four children nil" shortcut is the fold over four nil children.) -/
theorem visit_node {σ : Type} (V : Visitor α σ) (v : Option (Ptr α)) (c0 c1 c2 c3 : Tree α) (c : Cell α)
    (path : List Nat) (st : σ) :
    visit V (.node v c0 c1 c2 c3) c path st =
      if c.l > (V.bound st).hi.x ∨ c.r < (V.bound st).lo.x ∨ c.b > (V.bound st).hi.y ∨ c.t < (V.bound st).lo.y
      then st
      else (rot (childIndex c.cx c.cy V.point)).foldl
        (fun s i => visit V ((Tree.node v c0 c1 c2 c3).child i) (c.sub i) (i :: path) s)
        (match v with
          | some p => V.visit st p path.reverse
          | none => st) := by
  simp only [visit]
  split
  · rfl
  · generalize childIndex c.cx c.cy V.point = k
    split
    · rename_i hn
      simp only [Bool.and_eq_true] at hn
      obtain ⟨⟨⟨n0, n1⟩, n2⟩, n3⟩ := hn
      cases c0 <;> cases c1 <;> cases c2 <;> cases c3 <;> simp [Tree.isNil] at n0 n1 n2 n3
      rcases k with _ | _ | _ | k <;> rfl
    · rcases k with _ | _ | _ | k <;> rfl

theorem Tree.child_induction {motive : Tree α → Prop} (nil : motive .nil)
    (node : ∀ v c0 c1 c2 c3, (∀ i, motive ((Tree.node v c0 c1 c2 c3).child i)) → motive (.node v c0 c1 c2 c3)) :
    ∀ t, motive t := by
  intro t
  induction t with
  | nil => exact nil
  | node v c0 c1 c2 c3 ih0 ih1 ih2 ih3 =>
    exact node v c0 c1 c2 c3 fun i => by rcases i with _ | _ | _ | i <;> assumption

theorem mem_contents_of_child {t : Tree α} {i : Nat} {y : Ptr α} (h : y ∈ contents (t.child i)) : y ∈ contents t := by
  cases t with
  | nil => exact h
  | node v c0 c1 c2 c3 =>
    rcases i with _ | _ | _ | i <;> simp only [Tree.child] at h <;> simp [contents, h]

/-- `d` is strictly under the optional limit (`none` = no limit, the code's `math.MaxFloat64`): the one
    test through which both searching visitors read their limit -/
def under (lim : Option α) (d : α) : Bool :=
  match lim with
  | none => true
  | some m => decide (d < m)

theorem findVisitor_step (sqrt : α → α) (pt : Pt α) (f : Ptr α → Bool) (st : FindSt α) (v : Ptr α) (path : List Nat) :
    (findVisitor sqrt pt f).visit st v path =
      if (!f v) = true then st else
      if under st.minD (distSq v.p pt) = true then
        { closest := some (v, path), bnd := boxAround pt (sqrt (distSq v.p pt)), minD := some (distSq v.p pt) }
      else st := rfl

/-- what the nearest visitor does with an accepted candidate: push it, and when the heap then holds
    more than `k`, pop the farthest and shrink limit and pruning box to the new farthest -/
def pushed (sqrt : α → α) (pt : Pt α) (k : Nat) (st : NearSt α) (v : Ptr α) : NearSt α :=
  if (heapPush st.heap v (distSq v.p pt)).size > k then
    match (heapPop (heapPush st.heap v (distSq v.p pt)))[0]? with
    | some top => { heap := heapPop (heapPush st.heap v (distSq v.p pt)),
                    bnd := boxAround pt (sqrt top.2), maxD := some top.2 }
    | none => { st with heap := heapPop (heapPush st.heap v (distSq v.p pt)) }
  else { st with heap := heapPush st.heap v (distSq v.p pt) }

theorem nearestVisitor_step (sqrt : α → α) (pt : Pt α) (f : Ptr α → Bool) (k : Nat) (st : NearSt α)
    (v : Ptr α) (path : List Nat) :
    (nearestVisitor sqrt pt f k).visit st v path =
      if (!f v) = true then st else
      if (!under st.maxD (distSq v.p pt)) = true then st else pushed sqrt pt k st v := rfl

/-! The nil-root guard of every entry point is redundant in the model: `visit` of a nil root is the
    start state (and draining an empty heap gives nothing). -/

theorem matchingFrom_eq_visit (init : Option α) (sqrt : α → α) (q : QT α) (pt : Pt α) (f : Ptr α → Bool) :
    matchingFrom init sqrt q pt f = (findRawFrom init sqrt q pt f).closest.map (·.1) := by
  unfold matchingFrom findRawFrom; cases q.root <;> rfl

theorem removeFrom_eq_visit (init : Option α) (sqrt : α → α) (q : QT α) (pt : Pt α) (eq : Ptr α → Bool) :
    removeFrom init sqrt q pt eq =
      match (findRawFrom init sqrt q pt eq).closest with
      | none => (q, false)
      | some (_, path) => ({ q with root := modifyAt clearNode path q.root }, true) := by
  unfold removeFrom findRawFrom; cases q.root <;> rfl

theorem kNearest_eq_from (sqrt : α → α) (q : QT α) (pt : Pt α) (k : Nat) (f : Ptr α → Bool) (md : Option α) :
    kNearest sqrt q pt k f md = kNearestFrom none sqrt q pt k f md := by
  unfold kNearestFrom kNearest
  cases md <;> rfl

theorem kNearestFrom_eq_visit (init : Option α) (sqrt : α → α) (q : QT α) (pt : Pt α) (k : Nat) (f : Ptr α → Bool)
    (md : Option α) :
    kNearestFrom init sqrt q pt k f md =
      if k = 0 then [] else
        drain (visit (nearestVisitor sqrt pt f k) q.root (rootCell q.bound) []
            ⟨#[], q.bound, (md.map fun m => m * m).or init⟩).heap.size
          (visit (nearestVisitor sqrt pt f k) q.root (rootCell q.bound) []
            ⟨#[], q.bound, (md.map fun m => m * m).or init⟩).heap [] := by
  unfold kNearestFrom
  cases q.root with
  | nil => by_cases hk : k = 0 <;> simp [hk, visit, drain]
  | node v c0 c1 c2 c3 => cases md <;> rfl

theorem inBound_eq_visit [OfNat α 0] (q : QT α) (b : Bound α) (f : Ptr α → Bool) :
    inBound q b f = visit (inBoundVisitor b f) q.root (rootCell q.bound) [] [] := by
  unfold inBound; cases q.root <;> rfl

end eqn

variable {α : Type} [Field α] [LinearOrder α] [IsStrictOrderedRing α]

/-- the cell lies entirely outside the box (the pruning test of `visit`) -/
def miss (c : Cell α) (b : Bound α) : Prop := c.l > b.hi.x ∨ c.r < b.lo.x ∨ c.b > b.hi.y ∨ c.t < b.lo.y

theorem miss_not_inCell {c : Cell α} {b : Bound α} {p : Pt α} (hm : miss c b) (hc : inCell c p) :
    ¬ (b.lo.x ≤ p.x ∧ p.x ≤ b.hi.x ∧ b.lo.y ≤ p.y ∧ p.y ≤ b.hi.y) := by
  rintro ⟨h1, h2, h3, h4⟩
  obtain ⟨c1, c2, c3, c4⟩ := hc
  rcases hm with h | h | h | h
  · exact absurd (c1.trans h2) (not_le.mpr h)
  · exact absurd (h1.trans c2) (not_le.mpr h)
  · exact absurd (c3.trans h4) (not_le.mpr h)
  · exact absurd (h3.trans c4) (not_le.mpr h)

theorem subAt_reverse_cons (path : List Nat) (i : Nat) (root : Tree α) :
    subAt (i :: path).reverse root = (subAt path.reverse root).child i := by
  simp [subAt_append, subAt]

theorem contents_node_rot (v : Option (Ptr α)) (c0 c1 c2 c3 : Tree α) (k : Nat) :
    (v.toList ++ (rot k).flatMap fun i => contents ((Tree.node v c0 c1 c2 c3).child i)).Perm
      (contents (Tree.node v c0 c1 c2 c3)) := by
  refine ((rot_perm k).flatMap_right _).append_left _ |>.trans ?_
  simp [contents, Tree.child]

theorem Inv.child {t : Tree α} {c : Cell α} (h : Inv t c) (i : Nat) : Inv (t.child i) (c.sub i) := by
  cases t with
  | nil => trivial
  | node v c0 c1 c2 c3 =>
    obtain ⟨-, h0, h1, h2, h3⟩ := h
    rcases i with _ | _ | _ | i <;> assumption

theorem foldl_seen {σ ι : Type} (P : List (Ptr α) → σ → Prop) (hperm : ∀ l l' st, l.Perm l' → P l st → P l' st)
    (F : σ → ι → σ) (C : ι → List (Ptr α)) (h : ∀ i seen st, P seen st → P (C i ++ seen) (F st i)) :
    ∀ (l : List ι) seen st, P seen st → P (l.flatMap C ++ seen) (l.foldl F st) := by
  intro l
  induction l with
  | nil => exact fun _ _ h => h
  | cons i l ih =>
    intro seen st hP
    refine hperm _ _ _ ?_ (ih _ _ (h i seen st hP))
    rw [List.flatMap_cons, List.append_assoc]
    exact List.perm_append_comm_assoc _ _ _

/-- Soundness of the pruned traversal for an abstract visitor.  `P seen st` is a state invariant
    relative to the multiset `seen` of pointers accounted for so far; it must be preserved by
    the visitor on a new pointer and it must absorb the contents of any pruned cell.  `Q` is a side
    predicate true of every stored pointer, handed to `hskip` (in `visit_sound_lim`: "lies in the root cell"). -/
theorem visit_sound {σ : Type} (V : Visitor α σ) (root : Tree α) (P : List (Ptr α) → σ → Prop) (Q : Ptr α → Prop)
    (hperm : ∀ l l' st, l.Perm l' → P l st → P l' st)
    (hvisit : ∀ seen st p path, (subAt path root).value = some p → P seen st → P (p :: seen) (V.visit st p path))
    (hskip : ∀ seen st c ys, P seen st → (∀ y ∈ ys, Q y ∧ inCell c y.p) → miss c (V.bound st) →
      P (ys ++ seen) st) :
    ∀ (t : Tree α) (c : Cell α) (path : List Nat) (st : σ) (seen : List (Ptr α)), Inv t c →
      (∀ y ∈ contents t, Q y) → subAt path.reverse root = t → P seen st →
      P (contents t ++ seen) (visit V t c path st) := by
  intro t
  induction t using Tree.child_induction with
  | nil => exact fun _ _ _ _ _ _ _ hP => hP
  | node v c0 c1 c2 c3 ih =>
    intro c path st seen hI hQ hsub hP
    rw [visit_node]
    split
    · rename_i hm
      exact hskip seen st c _ hP (fun y hy => ⟨hQ y hy, hI.mem_inCell y hy⟩) hm
    · -- own value first, then child `i` accounts for its contents; the order `rot k` is a permutation
      refine hperm _ _ _ ?_ (foldl_seen P hperm _ (fun i => contents ((Tree.node v c0 c1 c2 c3).child i))
        (fun i seen st hP => ?_) (rot (childIndex c.cx c.cy V.point)) (v.toList ++ seen) _ ?_)
      · rw [← List.append_assoc]
        exact (List.perm_append_comm.append_right seen).trans ((contents_node_rot v c0 c1 c2 c3 _).append_right seen)
      · exact ih i _ _ st seen (hI.child i) (fun y hy => hQ y (mem_contents_of_child hy))
          (by rw [subAt_reverse_cons, hsub]) hP
      · cases v with
        | none => exact hP
        | some p => exact hvisit seen st p _ (by rw [hsub]; rfl) hP

theorem inBound_visit (b : Bound α) (f : Ptr α → Bool) (t : Tree α) (c : Cell α) (h : Inv t c) :
    (visit (inBoundVisitor b f) t c [] []).Perm ((contents t).filter fun x => f x && inBox b x.p) := by
  have key := visit_sound (inBoundVisitor b f) t
    (fun seen acc => acc.Perm (seen.filter fun x => f x && inBox b x.p)) (fun _ => True)
    (fun l l' st hp h => h.trans (hp.filter _))
    (by
      intro seen st p path _ hP
      have hbox : inBox b p.p = true ↔ ¬ (b.lo.x > p.p.x ∨ b.hi.x < p.p.x ∨ b.lo.y > p.p.y ∨ b.hi.y < p.p.y) := by
        simp [inBox, not_or]
      show (if (!f p) = true then st else
        if b.lo.x > p.p.x ∨ b.hi.x < p.p.x ∨ b.lo.y > p.p.y ∨ b.hi.y < p.p.y then st else st ++ [p]).Perm _
      rw [List.filter_cons]
      cases hf : f p with
      | false => simpa using hP
      | true =>
        by_cases hb : (b.lo.x > p.p.x ∨ b.hi.x < p.p.x ∨ b.lo.y > p.p.y ∨ b.hi.y < p.p.y)
        · have hx : inBox b p.p = false := by
            rw [← Bool.not_eq_true, hbox]; exact not_not.mpr hb
          rw [if_pos hb, hx]; simpa using hP
        · have hx : inBox b p.p = true := hbox.mpr hb
          rw [if_neg hb, hx]
          simpa using (List.perm_append_comm).trans (List.Perm.cons p hP))
    (by
      intro seen st c ys hP hys hm
      have hm' : miss c b := hm
      have : ys.filter (fun x => f x && inBox b x.p) = [] := by
        rw [List.filter_eq_nil_iff]
        intro y hy
        have := miss_not_inCell hm' (hys y hy).2
        simp [inBox, this]
      rw [List.filter_append, this]; exact hP)
    t c [] [] [] h (fun _ _ => trivial) rfl (by simp)
  simpa using key

theorem distSq_nonneg (a b : Pt α) : 0 ≤ distSq a b :=
  add_nonneg (mul_self_nonneg _) (mul_self_nonneg _)

/-- one coordinate: `u` beyond `s` on either side puts `u * u` alone beyond `s * s` -/
theorem far_of_gap {s d u v : α} (hs0 : 0 ≤ s) (hss : d ≤ s * s) (h : s < u ∨ s < -u) : d < u * u + v * v := by
  have hu : s * s < u * u := by
    rcases h with h | h
    · exact mul_self_lt_mul_self hs0 h
    · rw [← neg_mul_neg u u]; exact mul_self_lt_mul_self hs0 h
  exact lt_of_le_of_lt hss (lt_of_lt_of_le hu (le_add_of_nonneg_right (mul_self_nonneg v)))

theorem prune_far {sqrt : α → α} (hs : SqrtUp sqrt) (pt : Pt α) (d : α) (hd : 0 ≤ d) (c : Cell α) (p : Pt α)
    (hm : miss c (boxAround pt (sqrt d))) (hc : inCell c p) : d < distSq p pt := by
  obtain ⟨hs0, hss⟩ := hs d hd
  obtain ⟨c1, c2, c3, c4⟩ := hc
  unfold distSq
  rcases hm with h | h | h | h
  · exact far_of_gap hs0 hss (Or.inl (lt_sub_iff_add_lt'.2 (lt_of_lt_of_le h c1)))
  · exact far_of_gap hs0 hss (Or.inr (by rw [neg_sub]; exact lt_sub_comm.1 (lt_of_le_of_lt c2 h)))
  · rw [add_comm]; exact far_of_gap hs0 hss (Or.inl (lt_sub_iff_add_lt'.2 (lt_of_lt_of_le h c3)))
  · rw [add_comm]; exact far_of_gap hs0 hss (Or.inr (by rw [neg_sub]; exact lt_sub_comm.1 (lt_of_le_of_lt c4 h)))

/-- Soundness of the traversal for a SEARCHING visitor: one whose pruning box is the tree bound, or the box
    round `pt` of radius `sqrt t` for its present limit `t`.  Every pointer of a pruned cell then fails the limit
    test (`prune_far`), so pruning needs no obligation of its own beyond `hrej`. -/
theorem visit_sound_lim {σ : Type} (V : Visitor α σ) (root : Tree α) (B : Bound α) (lim : σ → Option α)
    {sqrt : α → α} (hs : SqrtUp sqrt) (pt : Pt α) (P : List (Ptr α) → σ → Prop)
    (hperm : ∀ l l' st, l.Perm l' → P l st → P l' st)
    (hbox : ∀ seen st, P seen st →
      V.bound st = B ∨ ∃ t, lim st = some t ∧ 0 ≤ t ∧ V.bound st = boxAround pt (sqrt t))
    (hvisit : ∀ seen st p path, (subAt path root).value = some p → P seen st → P (p :: seen) (V.visit st p path))
    (hrej : ∀ seen st y, P seen st → under (lim st) (distSq y.p pt) = false → P (y :: seen) st)
    (st : σ) (hI : Inv root (rootCell B)) (h0 : P [] st) :
    P (contents root) (visit V root (rootCell B) [] st) := by
  have key := visit_sound V root P (fun y => inCell (rootCell B) y.p) hperm
    hvisit
    (by
      intro seen st c ys hP hys hm
      induction ys with
      | nil => exact hP
      | cons y ys ih =>
        refine hrej _ st y (ih fun z hz => hys z (List.mem_cons_of_mem _ hz)) ?_
        obtain ⟨hQ, hc⟩ := hys y List.mem_cons_self
        rcases hbox seen st hP with hb | ⟨t, ht, ht0, hb⟩
        · rw [hb] at hm; exact absurd hQ (miss_not_inCell hm hc)
        · rw [hb] at hm; rw [ht]
          exact decide_eq_false (not_lt.2 (prune_far hs pt t ht0 c y.p hm hc).le))
    root (rootCell B) [] st [] hI (fun y hy => hI.mem_inCell y hy) rfl h0
  rwa [List.append_nil] at key

/-- state invariant of the find visitor after the pointers `seen` have been accounted for -/
def FindP (sqrt : α → α) (pt : Pt α) (filter : Ptr α → Bool) (B : Bound α) (root : Tree α)
    (seen : List (Ptr α)) (st : FindSt α) : Prop :=
  (st.closest = none ∧ st.minD = none ∧ st.bnd = B ∧ ∀ y ∈ seen, filter y = false) ∨
  (∃ x path, st.closest = some (x, path) ∧ (subAt path root).value = some x ∧
     st.minD = some (distSq x.p pt) ∧ st.bnd = boxAround pt (sqrt (distSq x.p pt)) ∧ x ∈ seen ∧
     filter x = true ∧ ∀ y ∈ seen, filter y = true → distSq x.p pt ≤ distSq y.p pt)

theorem findRaw_spec {sqrt : α → α} (hs : SqrtUp sqrt) (q : QT α) (pt : Pt α) (filter : Ptr α → Bool)
    (h : QInv q) : FindP sqrt pt filter q.bound q.root (contents q.root) (findRaw sqrt q pt filter) := by
  -- a pointer the filter rejects, and one not under the limit, leave the state as it is
  have hrejF : ∀ seen st y, FindP sqrt pt filter q.bound q.root seen st → filter y = false →
      FindP sqrt pt filter q.bound q.root (y :: seen) st := by
    rintro seen st y (⟨h1, h2, h3, h4⟩ | ⟨x, path', h1, h2, h3, h4, h5, h6, h7⟩) hf
    · exact Or.inl ⟨h1, h2, h3, List.forall_mem_cons.2 ⟨hf, h4⟩⟩
    · exact Or.inr ⟨x, path', h1, h2, h3, h4, List.mem_cons_of_mem _ h5, h6,
        List.forall_mem_cons.2 ⟨fun hfy => (by rw [hf] at hfy; cases hfy), h7⟩⟩
  have hrej : ∀ seen st y, FindP sqrt pt filter q.bound q.root seen st →
      under st.minD (distSq y.p pt) = false → FindP sqrt pt filter q.bound q.root (y :: seen) st := by
    rintro seen st y (⟨h1, h2, h3, h4⟩ | ⟨x, path', h1, h2, h3, h4, h5, h6, h7⟩) hu
    · rw [h2] at hu; cases hu
    · rw [h3] at hu
      exact Or.inr ⟨x, path', h1, h2, h3, h4, List.mem_cons_of_mem _ h5, h6,
        List.forall_mem_cons.2 ⟨fun _ => not_lt.mp (of_decide_eq_false hu), h7⟩⟩
  refine visit_sound_lim (findVisitor sqrt pt filter) q.root q.bound (·.minD) hs pt (FindP sqrt pt filter q.bound q.root)
    ?_ ?_ ?_ hrej _ h (Or.inl ⟨rfl, rfl, rfl, by simp⟩)
  · rintro l l' st hp (⟨h1, h2, h3, h4⟩ | ⟨x, path, h1, h2, h3, h4, h5, h6, h7⟩)
    · exact Or.inl ⟨h1, h2, h3, fun y hy => h4 y (hp.mem_iff.mpr hy)⟩
    · exact Or.inr ⟨x, path, h1, h2, h3, h4, hp.mem_iff.mp h5, h6, fun y hy => h7 y (hp.mem_iff.mpr hy)⟩
  · rintro seen st (⟨-, -, h3, -⟩ | ⟨x, path, -, -, h3, h4, -, -, -⟩)
    · exact Or.inl h3
    · exact Or.inr ⟨_, h3, distSq_nonneg _ _, h4⟩
  · intro seen st p path hpath hP
    rw [findVisitor_step]
    cases hf : filter p with
    | false => exact hrejF seen st p hP hf
    | true =>
      simp only [Bool.not_true, Bool.false_eq_true, if_false]
      cases hu : under st.minD (distSq p.p pt) with
      | false => exact hrej seen st p hP hu
      | true =>
        -- `p` is strictly nearer than what the state held, hence at least as near as all of `seen`
        refine Or.inr ⟨p, path, rfl, hpath, rfl, rfl, List.mem_cons_self, hf, List.forall_mem_cons.2 ⟨fun _ => le_rfl, ?_⟩⟩
        intro y hy hfy
        rcases hP with ⟨h1, h2, h3, h4⟩ | ⟨x, path', h1, h2, h3, h4, h5, h6, h7⟩
        · rw [h4 y hy] at hfy; cases hfy
        · rw [h3] at hu
          exact (of_decide_eq_true hu).le.trans (h7 y hy hfy)

theorem remove_correct (sqrt : α → α) (hs : SqrtUp sqrt) (q : QT α) (pt : Pt α) (eq : Ptr α → Bool) (h : QInv q) :
    Spec q.bound (contents q.root) (.remove pt eq) (.flag (remove sqrt q pt eq).2) (contents (remove sqrt q pt eq).1.root) ∧
    QInv (remove sqrt q pt eq).1 ∧ (remove sqrt q pt eq).1.bound = q.bound := by
  have hr : remove sqrt q pt eq =
      match (findRaw sqrt q pt eq).closest with
      | none => (q, false)
      | some (_, path) => ({ q with root := modifyAt clearNode path q.root }, true) :=
    removeFrom_eq_visit none sqrt q pt eq
  rw [hr]
  rcases findRaw_spec hs q pt eq h with ⟨h1, -, -, h4⟩ | ⟨x, path, h1, h2, -, -, h5, h6, h7⟩
  · rw [h1]
    exact ⟨⟨h4, List.Perm.refl _⟩, h, rfl⟩
  · rw [h1]
    obtain ⟨hp, -, hi⟩ := modifyAt_clear_removed path q.root
    rw [h2] at hp
    exact ⟨⟨x, h5, h6, h7, hp⟩, hi _ h, rfl⟩

theorem matching_correct (sqrt : α → α) (hs : SqrtUp sqrt) (q : QT α) (pt : Pt α) (f : Ptr α → Bool) (h : QInv q) :
    Spec q.bound (contents q.root) (.matching pt f) (.ptr (matching sqrt q pt f)) (contents q.root) := by
  refine ⟨List.Perm.refl _, ?_⟩
  have hm : matching sqrt q pt f = (findRaw sqrt q pt f).closest.map (·.1) :=
    matchingFrom_eq_visit none sqrt q pt f
  rw [hm]
  rcases findRaw_spec hs q pt f h with ⟨h1, -, -, h4⟩ | ⟨x, path, h1, -, -, -, h5, h6, h7⟩
  · rw [h1]; exact h4
  · rw [h1]; exact ⟨h5, h6, h7⟩

end Orb.Quadtree
