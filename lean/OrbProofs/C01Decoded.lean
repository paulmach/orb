/-
  What EVERY successful stream decode guarantees, carried once through `Decode` → `readCollection` → `Decode` of a
  member: the value is canonical and fits the 32-bit counts (`CanonWF`), it is nested no deeper than the levels that
  were left, and its points and members were paid for by input bytes (`Decoded`); together with "no panic" this is
  one `Res.Post` statement per tier and one induction on the number of levels left.  Then the same facts of
  `Unmarshal`, and `Scan` does not panic.
-/
import OrbProofs.C01Lemmas

namespace Orb.WKB
open Orb Generated.Params

/-- A step of a decoder is `match x with | .ok v => k v | .err e => .err e | .panic m => .panic m`: the callee `x`
    is run, its value goes on to `k`, its error or panic is passed on unchanged.  `np_step hx`, with
    `hx : x.isPanic = false`, splits that `match`: the `.err` arm is an error by `rfl`, the `.panic` arm cannot
    be taken since it would make `x` a panic (`Res.np_absurd` with the arm's equation and `hx`), and the `.ok` arm
    — the rest of the decoder, with `x = .ok v` in the context — is left as the goal.  So a chain of `np_step`s
    reads: this stage does not panic because its callee does not.  (The `match` auxiliary of a definition does not
    unify with `Res.bind`, so `Res.Post.bind` applies only where a function has been given its `bind` form.)
    It serves goals `(…).isPanic = false` only, the `.err` arm being closed by `rfl`; for a `Res.Post` goal, as in
    `unmarshal_as`, the three arms are written out. -/
macro "np_step " hx:term : tactic =>
  `(tactic| (split; rotate_left; rfl; (rename_i heq; exact (Res.np_absurd heq $hx).elim)))

/-- number of points held by a geometry value -/
def pointCount : G → Nat
  | .point _ => 1
  | .multiPoint ps | .lineString ps | .ring ps => ps.length
  | .multiLineString ls | .polygon ls => (ls.map List.length).sum
  | .multiPolygon ps => (ps.map fun p => (p.map List.length).sum).sum
  | .bound _ _ => 2
  | .collection gs => pcList gs
where
  pcList : List G → Nat
    | [] => 0
    | g :: gs => pointCount g + pcList gs

/-- number of slice elements of a geometry value that are not points: lines of a multi line string,
    rings of a polygon, polygons of a multi polygon and their rings, members of a collection (deep) -/
def memberCount : G → Nat
  | .point _ | .multiPoint _ | .lineString _ | .ring _ | .bound _ _ => 0
  | .multiLineString ls | .polygon ls => ls.length
  | .multiPolygon ps => ps.length + (ps.map List.length).sum
  | .collection gs => mcList gs
where
  mcList : List G → Nat
    | [] => 0
    | g :: gs => 1 + memberCount g + mcList gs

def CanonWF (g : G) : Prop := canon g = g ∧ WF32 g

theorem canonList_id (gs : List G) (h : ∀ g ∈ gs, canon g = g) : canon.canonList gs = gs := by
  induction gs with
  | nil => rfl
  | cons x xs ih =>
    simp only [canon.canonList, h x (by simp), ih (fun y hy => h y (by simp [hy]))]

theorem canonWF_collection (gs : List G) (hl : gs.length < 2 ^ 32) (h : ∀ g ∈ gs, CanonWF g) :
    CanonWF (.collection gs) := by
  refine ⟨?_, ?_⟩
  · simp only [canon, canonList_id gs (fun g hg => (h g hg).1)]
  · simp only [WF32]
    exact ⟨hl, fun g hg => (h g hg).2⟩

/-- `g` was made of the stream `s`, leaving `r`, with `left` levels to go, `k` bytes having gone into a header
    besides: `k = 5` for a whole geometry; `k = 0` for what follows a header, and for the members `gs` of a collection,
    which are spoken of as `.collection gs` -/
def Decoded (left k : Nat) (s : Bytes) (g : G) (r : Bytes) : Prop :=
  CanonWF g ∧ collDepth g ≤ left ∧ 16 * pointCount g + 4 * memberCount g + k + r.length ≤ s.length

theorem bodyReader_decoded (coll : Order → Bytes → R (List G × Bytes)) (left : Nat)
    (hcoll : ∀ o s, Res.Post (fun q => Decoded left 0 s (.collection q.1) q.2) (coll o s)) (o : Order) (typ : Nat)
    (s : Bytes) : Res.Post (fun q => Decoded left 0 s q.1 q.2) (bodyReader coll o typ s) := by
  have leaf : ∀ {g : G}, (∀ gs, g ≠ .collection gs) → collDepth g ≤ left := fun hg => by
    rw [collDepth_of_not_collection hg]; exact Nat.zero_le _
  refine Res.Post.ite ?_ (Res.Post.ite ?_ (Res.Post.ite ?_ (Res.Post.ite ?_ (Res.Post.ite ?_ (Res.Post.ite ?_ (Res.Post.ite ?_ trivial))))))
  · refine ((readPoint_post o s).mono fun p h => ?_).bind
    exact ⟨⟨rfl, by simp only [WF32]⟩, leaf nofun, by simp only [pointCount, memberCount]; omega⟩
  · refine ((((Codec.member codec_point _ (by unfold TC; decide) o).counted o).post s).mono fun q h => ?_).bind
    have h1 := h.1; simp only [sum_const] at h1
    exact ⟨⟨rfl, by simp only [WF32]; exact h.2.1⟩, leaf nofun, by simp only [pointCount, memberCount]; omega⟩
  · refine (((codec_lineString o).post s).mono fun q h => ?_).bind
    exact ⟨⟨rfl, by simp only [WF32]; exact h.2⟩, leaf nofun, by have := h.1; simp only [pointCount, memberCount]; omega⟩
  · refine ((((Codec.member codec_lineString _ (by unfold TC; decide) o).counted o).post s).mono fun q h => ?_).bind
    have h1 := h.1; simp only [sum_map_add, sum_map_mul, sum_const] at h1
    exact ⟨⟨rfl, by simp only [WF32]; exact h.2⟩, leaf nofun, by simp only [pointCount, memberCount]; omega⟩
  · refine (((codec_polygon o).post s).mono fun q h => ?_).bind
    exact ⟨⟨rfl, by simp only [WF32]; exact h.2⟩, leaf nofun, by have := h.1; simp only [pointCount, memberCount]; omega⟩
  · refine ((((Codec.member codec_polygon _ (by unfold TC; decide) o).counted o).post s).mono fun q h => ?_).bind
    have h1 := h.1; simp only [sum_map_add, sum_map_mul, sum_const] at h1
    exact ⟨⟨rfl, by simp only [WF32]; exact h.2⟩, leaf nofun, by simp only [pointCount, memberCount]; omega⟩
  · exact ((hcoll o s).mono fun _ h => h).bind

theorem decodeWith_decoded (coll : Order → Bytes → R (List G × Bytes)) (left : Nat)
    (hcoll : ∀ o s, Res.Post (fun q => Decoded left 0 s (.collection q.1) q.2) (coll o s)) (s : Bytes) :
    Res.Post (fun t => Decoded left 5 s t.1 t.2.2) (decodeWith coll s) := by
  rw [decodeWith_eq]
  refine ((readBOT_post s).mono fun h hl => ?_).bind
  refine ((bodyReader_decoded coll left hcoll h.1 h.2.1 h.2.2.2).mono fun q hq => ?_).bind
  exact ⟨hq.1, hq.2.1, by have := hq.2.2; show 16 * pointCount q.1 + 4 * memberCount q.1 + 5 + q.2.length ≤ s.length; omega⟩

/-- The one induction on the number of levels left.  With none left `readCollection` answers `ErrNestingTooDeep`
    before anything is read; the recursion is structural in that number, so the decoder terminates. -/
theorem readCollectionF_decoded : ∀ (left : Nat) (o : Order) (s : Bytes),
    Res.Post (fun q => Decoded left 0 s (.collection q.1) q.2) (readCollectionF left o s)
  | 0, _, _ => trivial
  | left+1, o, s => by
    rw [readCollectionF_eq]
    have loop := fun n u => rep_post (rd := collMember (decodeWith (readCollectionF left))) (E := Decoded left 5)
      (fun u => ((decodeWith_decoded _ left (readCollectionF_decoded left) u).mono fun _ h => h).bind)
      (fun n u gs r => (gs.length = n ∧ ∀ g ∈ gs, CanonWF g) ∧ collDepth.collDepthList gs ≤ left ∧
        16 * pointCount.pcList gs + 4 * memberCount.mcList gs + r.length ≤ u.length)
      (fun _ => ⟨⟨rfl, nofun⟩, Nat.zero_le _, by simp [pointCount.pcList, memberCount.mcList]⟩)
      (fun hg ih => ⟨⟨by rw [List.length_cons, ih.1.1], List.forall_mem_cons.2 ⟨hg.1, ih.1.2⟩⟩,
        Nat.max_le.2 ⟨hg.2.1, ih.2.1⟩,
        by have := hg.2.2; have := ih.2.2; simp only [pointCount.pcList, memberCount.mcList]; omega⟩) n u
    refine ((readU32_post o s).mono fun p hp => ?_).bind
    exact (loop p.1 p.2).mono fun q h => ⟨canonWF_collection _ (by have := hp.2; omega) h.1.2,
      by rw [collDepth_collection]; omega, by have := hp.1; simp only [pointCount, memberCount]; omega⟩

theorem decodeStream_decoded (left : Nat) (s : Bytes) :
    Res.Post (fun t => Decoded left 5 s t.1 t.2.2) (decodeStream left s) :=
  decodeWith_decoded _ left (readCollectionF_decoded left) s

theorem decode_post (bs : Bytes) :
    Res.Post (fun p => CanonWF p.1 ∧ collDepth p.1 ≤ wkb_MaxCollectionDepth ∧
      16 * pointCount p.1 + 4 * memberCount p.1 ≤ bs.length) (decode bs) := by
  rw [decode_eq]
  exact ((decodeStream_decoded wkb_MaxCollectionDepth bs).mono fun t h =>
    ⟨h.1, h.2.1, by have := h.2.2; show 16 * pointCount t.1 + 4 * memberCount t.1 ≤ bs.length; omega⟩).bind

theorem unmarshal_as (bs : Bytes) :
    Res.Post (fun p => ∃ o typ gd, unmarshalBOT bs = .ok (o, typ, p.2, gd) ∧ UnmarshalAs bs o gd typ p.1)
      (unmarshal bs) := by
  unfold unmarshal
  split
  · rename_i o typ srid gd hb
    simp only []
    by_cases t : typ = wkb_pointType
    · rw [if_pos t]; split
      · rename_i hx; exact ⟨o, typ, gd, hb, t ▸ .point hx⟩
      · trivial
      · rename_i hx; exact Res.np_absurd hx (unmarshalPoint_post o gd).np
    rw [if_neg t]
    by_cases t : typ = wkb_multiPointType
    · rw [if_pos t]; split
      · rename_i hx; exact ⟨o, typ, gd, hb, t ▸ .multiPoint hx⟩
      · trivial
      · rename_i hx; exact Res.np_absurd hx (unmarshalMultiPoint_np o gd)
    rw [if_neg t]
    by_cases t : typ = wkb_lineStringType
    · rw [if_pos t]; split
      · rename_i hx; exact ⟨o, typ, gd, hb, t ▸ .lineString hx⟩
      · trivial
      · rename_i hx; exact Res.np_absurd hx (unmarshalPoints_post o gd).np
    rw [if_neg t]
    by_cases t : typ = wkb_multiLineStringType
    · rw [if_pos t]; split
      · rename_i hx; exact ⟨o, typ, gd, hb, t ▸ .multiLineString hx⟩
      · trivial
      · rename_i hx; exact Res.np_absurd hx (unmarshalMultiLineString_np o gd)
    rw [if_neg t]
    by_cases t : typ = wkb_polygonType
    · rw [if_pos t]; split
      · rename_i hx; exact ⟨o, typ, gd, hb, t ▸ .polygon hx⟩
      · trivial
      · rename_i hx; exact Res.np_absurd hx (unmarshalPolygon_post o gd).np
    rw [if_neg t]
    by_cases t : typ = wkb_multiPolygonType
    · rw [if_pos t]; split
      · rename_i hx; exact ⟨o, typ, gd, hb, t ▸ .multiPolygon hx⟩
      · trivial
      · rename_i hx; exact Res.np_absurd hx (unmarshalMultiPolygon_np o gd)
    rw [if_neg t]
    by_cases t : typ = wkb_geometryCollectionType
    · rw [if_pos t]; split
      · rename_i hx; exact ⟨o, typ, gd, hb, t ▸ .collection hx⟩
      · trivial
      · trivial
      · trivial
      · rename_i hx; exact Res.np_absurd hx (decode_post bs).np
    rw [if_neg t]
    trivial
  · trivial
  · rename_i hb; exact Res.np_absurd hb (unmarshalBOT_post bs).np

theorem unmarshal_np (bs : Bytes) : (unmarshal bs).isPanic = false := (unmarshal_as bs).np

/-- Only a collection, which is handed to the stream decoder, is nested at all. -/
theorem unmarshal_post (bs : Bytes) :
    Res.Post (fun p => (CanonWF p.1 ∧ p.2 < 2 ^ 32) ∧ collDepth p.1 ≤ wkb_MaxCollectionDepth ∧
      16 * pointCount p.1 + 4 * memberCount p.1 ≤ bs.length) (unmarshal bs) := by
  refine (unmarshal_as bs).mono ?_
  intro ⟨g, srid⟩ ⟨o, typ, gd, hb, hd⟩
  have hl := unmarshalBOT_len hb
  have hs : srid < 2 ^ 32 := ((unmarshalBOT_post bs).ok hb).2
  have leaf : ∀ {g : G}, (∀ gs, g ≠ .collection gs) → collDepth g ≤ wkb_MaxCollectionDepth := fun hg => by
    rw [collDepth_of_not_collection hg]; exact Nat.zero_le _
  show (CanonWF g ∧ srid < 2 ^ 32) ∧ collDepth g ≤ wkb_MaxCollectionDepth ∧
    16 * pointCount g + 4 * memberCount g ≤ bs.length
  cases hd with
  | point hm =>
    have : 16 ≤ gd.length := (unmarshalPoint_post o gd).ok hm
    exact ⟨⟨⟨rfl, by simp only [WF32]⟩, hs⟩, leaf nofun, by simp only [pointCount, memberCount]; omega⟩
  | multiPoint hm =>
    have h1 := (unmarshalMultiPoint_post o gd).ok hm
    simp only [sum_const] at h1
    exact ⟨⟨⟨rfl, by simp only [WF32]; exact h1.2.1⟩, hs⟩, leaf nofun,
      by simp only [pointCount, memberCount]; omega⟩
  | lineString hm =>
    have h1 := (unmarshalPoints_post o gd).ok hm
    exact ⟨⟨⟨rfl, by simp only [WF32]; exact h1.2⟩, hs⟩, leaf nofun, by simp only [pointCount, memberCount]; omega⟩
  | multiLineString hm =>
    have h1 := (unmarshalMultiLineString_post o gd).ok hm
    simp only [sum_map_add, sum_map_mul, sum_const] at h1
    exact ⟨⟨⟨rfl, by simp only [WF32]; exact h1.2⟩, hs⟩, leaf nofun, by simp only [pointCount, memberCount]; omega⟩
  | polygon hm =>
    have h1 := (unmarshalPolygon_post o gd).ok hm
    rw [polyStride_eq] at h1
    exact ⟨⟨⟨rfl, by simp only [WF32]; exact h1.2⟩, hs⟩, leaf nofun, by simp only [pointCount, memberCount]; omega⟩
  | multiPolygon hm =>
    have h1 := (unmarshalMultiPolygon_post o gd).ok hm
    simp only [funext polyStride_eq, sum_map_add, sum_map_mul, sum_const] at h1
    exact ⟨⟨⟨rfl, by simp only [WF32]; exact h1.2⟩, hs⟩, leaf nofun, by simp only [pointCount, memberCount]; omega⟩
  | collection hd =>
    have := (decode_post _).ok hd
    exact ⟨⟨this.1, hs⟩, this.2⟩

theorem scanDest_np (bnd : BoundFn) (d : Dest) (data : Bytes) : (scanDest bnd d data).isPanic = false := by
  cases d <;> simp only [scanDest]
  case any => exact unmarshal_np _
  case point => np_step scanPoint_np data; rfl
  case lineString => np_step scanLineString_np data; rfl
  case polygon => np_step scanPolygon_np data; rfl
  case bound => np_step unmarshal_np data; rfl
  case multiLineString =>
    np_step (unmarshalBOT_post data).np
    split
    · np_step (unmarshalPoints_post _ _).np; rfl
    split
    · np_step unmarshalMultiLineString_np _ _; rfl
    · rfl
  case multiPolygon =>
    np_step (unmarshalBOT_post data).np
    split
    · np_step (unmarshalPolygon_post _ _).np; rfl
    split
    · np_step unmarshalMultiPolygon_np _ _; rfl
    · rfl
  case collection =>
    split
    all_goals try rfl
    rename_i heq
    exact (Res.np_absurd heq (decode_post _).np).elim
  all_goals
    split
    all_goals try rfl
    rename_i heq
    exact (Res.np_absurd heq (unmarshal_np _)).elim

theorem scan_np (bnd : BoundFn) (d : Dest) (data : Bytes) : (scan bnd d data).isPanic = false :=
  scan_np_of_dest (scanDest_np bnd d) data

end Orb.WKB
