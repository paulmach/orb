/-
  C13 — translation tie for the floating-point half of maptile/tile.go, `Fraction` and `At`, and for
  internal/mercator `ToGeo` (`Generated/MercatorGo.lean`), which `Tile.Bound` goes through.
  `Generated/TileGeoGo.lean` is REGENERATED from /repo on every run by
  harness/cmd/factgen/translate_float.go (the integer half of tile.go is tied in C13Tie.lean through
  the other translator).  The Go function is translated as it is written — the uint32 shift, the
  longitude line, the clamp decided ON THE LATITUDE `ll[1]` against the literal 85.0511, the
  `math.Sin` / `math.Log` expression of the unclamped branch — with libm's functions, `math.Pi`, the
  folded constant `2*math.Pi`, the literal `85.0511` and `float64(uint32)` as explicit parameters,
  which are the symbols the model `Orb.TileGeo` keeps in its records `Env` / `Libm`.
-/
import Orb.TileGeo
import Generated.TileGeoGo
import Generated.MercatorGo
import OrbProofs.C14Tie

namespace Orb.C13FloatTie
open Orb Orb.Tile Orb.TileGeo

-- the `variable` line below is that of the generated module, so that its definitions apply; a lemma uses part of it
set_option linter.unusedSectionVars false

variable {α : Type} [Add α] [Sub α] [Mul α] [Div α] [Neg α] [LT α] [DecidableLT α]
  [OfNat α 0] [OfNat α 1] [OfNat α 2] [OfNat α 90] [OfNat α 180] [OfNat α 360]

/-- `maptile.Fraction`: the regenerated translation is the model, for every environment whose `mercY` is the
    libm expression `mercYGo` (`siny := math.Sin(ll[1] * math.Pi / 180.0)`,
    `0.5 + 0.5*math.Log((1.0+siny)/(1.0-siny))/(-2*math.Pi)`) -/
theorem fraction_tie (E : Env α) (L : Libm α) (hE : E.mercY = mercYGo L) (ll : Pt α) (z : Nat) :
    Generated.TileGeoGo.fraction L.sin L.log L.pi L.twoPi E.latMax E.ofNat ll z = fraction E ll z := by
  unfold Generated.TileGeoGo.fraction fraction
  rw [hE]
  by_cases h1 : ll.y < -E.latMax
  · simp only [h1, ↓reduceIte]; rfl
  · by_cases h2 : E.latMax < ll.y
    · simp only [h1, h2, ↓reduceIte]; rfl
    · simp only [h1, h2, ↓reduceIte]; rfl

/-- `mercator.ToGeo` (what `Tile.Bound` / `Tile.Center` go through): the regenerated translation is the model,
    for every environment whose `latOf` is the libm expression `latOfGo` -/
theorem toGeo_tie (E : Env α) (L : Libm α) (hE : E.latOf = latOfGo L) (x y : α) (level : Nat) :
    Generated.MercatorGo.toGeo L.atan L.exp L.pi L.twoPi L.d180pi E.ofNat x y level
      = ((toGeo E x y level).x, (toGeo E x y level).y) := by
  unfold Generated.MercatorGo.toGeo toGeo lonOfX latOfY maxTiles64
  rw [hE, Nat.one_shiftLeft]
  rfl

/-- the same statement as `C14Tie.u32_pred` (the uint32 `x - 1` of the step-back); the ties of this file go through
    `C14Tie.tileAt_tie` and do not use it -/
theorem u32_pred (n : Nat) (h0 : 0 < n) (h : n < 2 ^ 32) : (n + 2 ^ 32 - 1) % 2 ^ 32 = n - 1 :=
  C14Tie.u32_pred n h0 h

/-- `maptile.At`: truncation to uint32 (the explicit parameter `floorU32`), the last-column clamp and the west-edge
    step-back, both under `max != 0`; uint32 `x - 1` wraps in the translation, hence the range hypothesis -/
theorem at_tie (E : Env α) (L : Libm α) (hE : E.mercY = mercYGo L) (hu : ∀ a, E.floorU32 a < 2 ^ 32)
    (ll : Pt α) (z : Nat) :
    Generated.TileGeoGo.at_ L.sin L.log E.floorU32 L.pi L.twoPi E.latMax E.ofNat ll z = at_ E ll z := by
  -- `TileGeo.at_` and `TileCover.tileAt` are the same text: one tie of the regenerated `At` serves both
  let ops : TileCover.Ops α := ⟨id, id, E.floorU32, TileCover.westEdgeOf E.ofNat⟩
  have hm : at_ E ll z = TileCover.tileAt ops ll.x (fraction E ll z) z := rfl
  rw [hm, ← fraction_tie E L hE]
  exact C14Tie.tileAt_tie ops E.ofNat rfl hu _ _ _ _ _ ll z

theorem all_translated_TileGeoGo : Generated.TileGeoGo.translated = ["fraction", "at_"] := rfl

end Orb.C13FloatTie
