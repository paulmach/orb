/-
  C08 (region), pass layer: ONE Sutherland–Hodgman half-plane pass over an implicitly closed vertex cycle changes
  neither "q is on the boundary" nor the parity of the upward-ray crossing number, for every point q strictly on the
  kept side of the clip line.  The argument telescopes and needs no change of ray direction: on the closed DISCARDED
  half-plane `R` (which holds every dropped vertex and every emitted intersection point) the crossing indicator of an
  edge is a coboundary, `crossesAbove s e q = (g s != g e)` (`g = false` for the left / right / bottom passes,
  `g w = (w.x ≤ q.x)` for the top pass, the only one whose discarded side the upward ray can reach), and no edge inside
  `R` contains `q`.  Each excursion of the cycle into `R` is replaced by a straight piece of the clip line with the same
  end points, hence the same parity; a cut edge is handled by the split lemmas.
-/
import OrbProofs.C08RegionGeom
import OrbProofs.C08Pass

namespace Orb.Clip.C08R
open Orb Orb.EvenOdd Orb.Contains Orb.Clip Orb.Clip.C08
open Orb.Core

set_option linter.unusedSectionVars false

variable {α : Type} [Field α] [LinearOrder α] [IsStrictOrderedRing α]

/-- a fact of `EdgeList`'s `chain` (`rfl`); no proof of this file uses it -/
theorem chain_single (a : Pt α) : chain [a] = [] := rfl

/-- `R` is the closed discarded half-plane, seen from a point `q` strictly on the kept side: it holds the dropped
    vertices (`out`) and the intersection points (`ixR`, `ixseg`); on it the crossing indicator is the coboundary of
    `g` (`cr`) and no edge contains `q` (`on`) -/
structure RegHyp (ins : Pt α → Bool) (ix : Pt α → Pt α → Pt α) (R : Pt α → Prop) (g : Pt α → Bool)
    (q : Pt α) : Prop where
  out : ∀ p, ins p = false → R p
  ixR : ∀ a b, ins a ≠ ins b → R (ix a b)
  ixseg : ∀ a b, ins a ≠ ins b → OnSeg a b (ix a b)
  cr : ∀ s e, R s → R e → crossesAbove s e q = (g s != g e)
  on : ∀ s e, R s → R e → onSeg s e q = false

section pass
variable {ins : Pt α → Bool} {ix : Pt α → Pt α → Pt α} {R : Pt α → Prop} {g : Pt α → Bool} {q : Pt α}

/-- round a cycle the correction by the coboundary of `g` cancels -/
theorem prodE_cr_edges (g : Pt α → Bool) (q : Pt α) (r : List (Pt α)) :
    prodE (· != ·) false (fun s e => crossesAbove s e q != (g s != g e)) (edges r) = crE (edges r) q := by
  rw [prodE_bne, par_bne]
  cases r with
  | nil => rfl
  | cons v t =>
    rw [edges_eq_chain, par_chain, show lastD' (lastD' v t) (v :: t) = lastD' v t from rfl, bne_self_eq_false,
      Bool.bne_false]
    rfl

/-- the pass over the implicitly closed cycle, started at the last vertex as `ringPass … true` does: the instances of
    `pass_cyc_cut` at xor (crossing parity) and at or (boundary flag) -/
theorem pass_cyc_region (H : RegHyp ins ix R g q) (l : List (Pt α)) :
    crE (edges (passC ins ix true l)) q = crE (edges l) q ∧ onE (edges (passC ins ix true l)) q = onE (edges l) q := by
  cases l with
  | nil => exact ⟨rfl, rfl⟩
  | cons f t =>
  show crE (edges (passL ins ix (lastD' f t) (f :: t))) q = _ ∧ onE (edges (passL ins ix (lastD' f t) (f :: t))) q = _
  have hC : Clamp ins ix id R := ⟨fun _ _ => rfl, H.out, H.ixR⟩
  -- the crossing indicator corrected by the coboundary of `g` vanishes on the discarded side
  have h1 := pass_cyc_cut (op := (· != ·)) (e := false) (φ := fun s e => crossesAbove s e q != (g s != g e)) hC
    ⟨Bool.bne_assoc, fun _ _ => bne_comm, Bool.false_bne,
      fun u v w hu hv hw => by rw [H.cr u v hu hv, H.cr v w hv hw, H.cr u w hu hw]; simp,
      fun u hu => by rw [H.cr u u hu hu]; simp⟩
    (fun a b h => by
      rw [crossesAbove_split (H.ixseg a b h) q]
      cases crossesAbove a (ix a b) q <;> cases crossesAbove (ix a b) b q <;> cases g a <;> cases g b <;>
        cases g (ix a b) <;> rfl) f t
  have h2 := pass_cyc_cut (op := (· || ·)) (e := false) (φ := fun s e => onSeg s e q) hC
    ⟨Bool.or_assoc, Bool.or_comm, Bool.false_or,
      fun u v w hu hv hw => by rw [H.on u v hu hv, H.on v w hv hw, H.on u w hu hw]; rfl, fun u hu => H.on u u hu hu⟩
    (fun a b h => onSeg_split (H.ixseg a b h) q) f t
  rw [prodE_cr_edges, prodE_cr_edges] at h1
  rw [prodE_or, prodE_or] at h2
  exact ⟨h1, h2⟩

end pass

end Orb.Clip.C08R
