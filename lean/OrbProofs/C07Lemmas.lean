/-
  C07: the result of `line` as a set of points (`Good`), read off its piece segments (`pieces_segs`,
  OrbProofs/C07Order.lean) and what a per-segment result is (`clipSeg_param`).  The point-set clauses of the
  property are projections of `good_of_line`.
-/
import OrbProofs.C07Order

set_option linter.unusedSectionVars false

namespace Orb.Clip
open Orb Orb.Core

variable {α : Type} [Field α] [LinearOrder α] [IsStrictOrderedRing α]

/-- a piece segment `s` is a clipped part of some segment of `path` -/
def SegOK (box : Bound α) (isOpen : Bool) (path : List (Pt α)) (s : Pt α × Pt α) : Prop :=
  InBox box s.1 ∧ InBox box s.2 ∧ (∃ u ∈ segsOf path, OnSeg u.1 u.2 s.1 ∧ OnSeg u.1 u.2 s.2) ∧
  (isOpen = true → ∀ t, 0 < t → t < 1 → s.1 ≠ s.2 → InOpenBox box (lerp s.1 s.2 t))

/-- `V` is the clip of `path` as a set of points: pieces of at least two vertices, made of clipped parts of the
    segments of `path`, and covering every point of `path` in the region to keep -/
def Good (box : Bound α) (isOpen : Bool) (path : List (Pt α)) (V : List (List (Pt α))) : Prop :=
  (∀ piece ∈ V, 2 ≤ piece.length) ∧
  (∀ piece ∈ V, ∀ s ∈ segsOf piece, SegOK box isOpen path s) ∧
  ∀ q, OnPath path q → Reg (isOpen = false) box q → OnPieces V q

/-- the result of `line`: by `pieces_segs` its piece segments are the per-segment results `clipSeg` of the input
    segments, and `clipSeg_param` says what those are -/
theorem good_of_line {box : Bound α} (hb : BoxOK box) {isOpen : Bool} {inp : List (Pt α)}
    {out : List (List (Pt α))} (h : line box isOpen inp = some out) : Good box isOpen inp out := by
  have hsegs := pieces_segs (pieces_of_line h)
  refine ⟨pieces_len (pieces_of_line h), ?_, ?_⟩
  · intro piece hp s hs
    have hs' : s ∈ out.flatMap segsOf := List.mem_flatMap.2 ⟨piece, hp, hs⟩
    rw [hsegs] at hs'
    obtain ⟨u, hu, hus⟩ := List.mem_filterMap.1 hs'
    have key := clipSeg_param hb isOpen u.1 u.2
    rw [show (u.1, u.2) = u from rfl, hus] at key
    obtain ⟨s0, e0, h0, hse, h1, rfl, hia, hib, -⟩ := key
    exact ⟨hia, hib, ⟨u, hu, onSeg_lerp _ _ h0 (hse.trans h1), onSeg_lerp _ _ (h0.trans hse) h1⟩,
      fun ho => by subst ho; exact clipSeg_open_interior hb hus⟩
  · rintro q ⟨u, hu, t, t0, t1, rfl⟩ hreg
    have key := clipSeg_param hb isOpen u.1 u.2
    rw [show (u.1, u.2) = u from rfl] at key
    cases hus : clipSeg box isOpen u with
    | none => rw [hus] at key; exact absurd hreg (key.2 t t0 t1)
    | some s =>
      rw [hus] at key
      obtain ⟨s0, e0, -, -, -, rfl, -, -, -, -, hcomp⟩ := key
      have hs : (lerp u.1 u.2 s0, lerp u.1 u.2 e0) ∈ out.flatMap segsOf := by
        rw [hsegs]; exact List.mem_filterMap.2 ⟨u, hu, hus⟩
      obtain ⟨piece, hp, hs⟩ := List.mem_flatMap.1 hs
      obtain ⟨k1, k2⟩ := hcomp t t0 t1 hreg
      exact ⟨piece, hp, _, hs, onSeg_between _ _ k1 k2⟩

/-- a vertex of a piece is an end of one of its segments: it is in the box and on the path -/
theorem Good.vertex {box : Bound α} {isOpen : Bool} {path : List (Pt α)} {V : List (List (Pt α))}
    (g : Good box isOpen path V) : ∀ piece ∈ V, ∀ v ∈ piece, InBox box v ∧ OnPath path v := by
  intro piece hp v hv
  obtain ⟨s, hs, hv'⟩ := mem_endpoint piece v hv (g.1 piece hp)
  obtain ⟨h1, h2, ⟨u, hu, hu1, hu2⟩, _⟩ := g.2.1 piece hp s hs
  rcases hv' with rfl | rfl
  · exact ⟨h1, u, hu, hu1⟩
  · exact ⟨h2, u, hu, hu2⟩

theorem clip_vertices_in_box' (box : Bound α) (hb : BoxOK box) (isOpen : Bool) (inp : List (Pt α))
    (out : List (List (Pt α))) (h : line box isOpen inp = some out) :
    ∀ piece ∈ out, ∀ v ∈ piece, InBox box v :=
  fun piece hp v hv => ((good_of_line hb h).vertex piece hp v hv).1

theorem clip_exact' (box : Bound α) (hb : BoxOK box) (inp : List (Pt α)) (out : List (List (Pt α)))
    (h : line box false inp = some out) :
    ∀ q, OnPieces out q ↔ (OnPath inp q ∧ InBox box q) := by
  obtain ⟨_, g2, g3⟩ := good_of_line hb h
  intro q
  constructor
  · rintro ⟨piece, hp, s, hs, hq⟩
    obtain ⟨h1, h2, ⟨u, hu, hu1, hu2⟩, _⟩ := g2 piece hp s hs
    exact ⟨⟨u, hu, hu1.sub hu2 hq⟩, inBox_of_onSeg h1 h2 hq⟩
  · rintro ⟨hq, hin⟩
    exact g3 q hq (Or.inr ⟨rfl, hin⟩)

theorem clip_open_interior' (box : Bound α) (hb : BoxOK box) (inp : List (Pt α)) (out : List (List (Pt α)))
    (h : line box true inp = some out) :
    ∀ piece ∈ out, ∀ s ∈ segsOf piece, ∀ t, 0 < t → t < 1 → s.1 ≠ s.2 → InOpenBox box (lerp s.1 s.2 t) := by
  intro piece hp s hs
  exact ((good_of_line hb h).2.1 piece hp s hs).2.2.2 rfl

theorem clip_open_complete' (box : Bound α) (hb : BoxOK box) (inp : List (Pt α)) (out : List (List (Pt α)))
    (h : line box true inp = some out) :
    ∀ q, OnPath inp q → InOpenBox box q → OnPieces out q := by
  intro q hq hin
  exact (good_of_line hb h).2.2 q hq (Or.inl hin)

end Orb.Clip
