/-
  C04 — the assumption `FloatText` reduced to the digit generator.

  `gLayout neg d dp` (Orb/WKTFloat.lean) is the layout half of fmt's `%g` on a finite float64
  (strconv's `%e` / `%f` writers and the choice between them), for ANY digit list `d` and any
  decimal-point position `dp`.  Proved here, for all `neg`, `d`, `dp`:
    * the text is not empty;
    * every byte is a digit, `.`, `e`, `+` or `-` — hence none of the six delimiter bytes;
    * the only letter is the `e` of the exponent form, and it is followed by a sign — hence no two
      adjacent letters.
  So of `FloatText` + `NoAdjacentLetters` only "the text of `x` is `gLayout` of some digits" (`GText`)
  and "`ParseFloat` maps it back to `x`" remain assumed; the file ends with the printer of OrbProofs.C04Witness
  meeting that assumption (`gText0`, `gcoords0`).
-/
import OrbProofs.C04Witness
import Orb.WKTFloat
namespace Orb.WKT

/-- digit, `.`, `e`, `+`, `-` -/
def isGByte (b : UInt8) : Bool := (48 ≤ b && b ≤ 57) || b == 46 || b == 101 || b == 43 || b == 45

theorem gf_bytes (b : UInt8) :
    (isGByte b = true → isDelim b = false) ∧ (isGByte b = true → isLetter b = true → b = 101) := by
  simp only [isGByte, isDelim, isLetter, cSpace, cTab, cNL, cComma, cLP, cRP, Bool.or_eq_true, Bool.and_eq_true,
    Bool.or_eq_false_iff, decide_eq_true_eq, beq_iff_eq, beq_eq_false_iff_ne, ne_eq, UInt8.le_iff_toNat_le,
    ← UInt8.toNat_inj, UInt8.toNat_ofNat]
  omega

/-- a byte of the non-letter part of a `%g` text: digit, `.`, `+`, `-` -/
def isGPlain (b : UInt8) : Bool := isGByte b && !isLetter b

/-- all bytes are digits, `.`, `+`, `-` -/
def GPlain (s : Str) : Prop := ∀ b ∈ s, isGPlain b = true

theorem gf_digitByte (k : Nat) : isGPlain (digitByte k) = true := by
  have key : ∀ m < 10, isGPlain (UInt8.ofNat (48 + m)) = true := by decide
  exact key _ (Nat.mod_lt k (by decide))

theorem gf_plain_nil : GPlain [] := fun _ h => by cases h

theorem gf_plain_cons {b : UInt8} {s : Str} (hb : isGPlain b = true) (hs : GPlain s) : GPlain (b :: s) := by
  intro x hx
  rcases List.mem_cons.1 hx with rfl | hx
  · exact hb
  · exact hs x hx

theorem gf_plain_append {s t : Str} (hs : GPlain s) (ht : GPlain t) : GPlain (s ++ t) := by
  intro x hx
  rcases List.mem_append.1 hx with hx | hx
  · exact hs x hx
  · exact ht x hx

theorem gf_plain_map {α : Type} (l : List α) (f : α → UInt8) (h : ∀ a, isGPlain (f a) = true) : GPlain (l.map f) := by
  intro x hx
  obtain ⟨a, -, rfl⟩ := List.mem_map.1 hx
  exact h a

theorem gf_plain_replicate (n : Nat) : GPlain (List.replicate n 48) := by
  intro x hx
  rw [(List.mem_replicate.1 hx).2]; decide

theorem gf_plain_sign (neg : Bool) : GPlain (signStr neg) := by
  cases neg
  · exact gf_plain_nil
  · exact gf_plain_cons (by decide) gf_plain_nil

theorem gf_plain_expDigits (e : Nat) : GPlain (expDigits e) := by
  unfold expDigits
  split
  · exact gf_plain_cons (by decide) (gf_plain_cons (gf_digitByte _) gf_plain_nil)
  · split
    · exact gf_plain_cons (gf_digitByte _) (gf_plain_cons (gf_digitByte _) gf_plain_nil)
    · exact gf_plain_cons (gf_digitByte _) (gf_plain_cons (gf_digitByte _) (gf_plain_cons (gf_digitByte _) gf_plain_nil))

/-- the `%f` form has no letter at all -/
theorem gf_fmtF_plain (neg : Bool) (d : List Nat) (dp : Int) : GPlain (gFmtF neg d dp) := by
  unfold gFmtF
  refine gf_plain_append (gf_plain_append (gf_plain_sign neg) ?_) ?_
  · split
    · exact gf_plain_append (gf_plain_map _ _ gf_digitByte) (gf_plain_replicate _)
    · exact gf_plain_cons (by decide) gf_plain_nil
  · split
    · refine gf_plain_cons (by decide) (gf_plain_map _ _ ?_)
      intro i
      dsimp only
      split
      · exact gf_digitByte _
      · decide
    · exact gf_plain_nil

theorem gf_fmtF_ne_nil (neg : Bool) (d : List Nat) (dp : Int) : gFmtF neg d dp ≠ [] := by
  unfold gFmtF
  intro h
  have h1 := (List.append_eq_nil_iff.1 h).1
  have h2 := (List.append_eq_nil_iff.1 h1).2
  split at h2
  · rename_i hdp
    have := (List.append_eq_nil_iff.1 h2).2
    have hl : (List.replicate (dp.toNat - d.length) (48 : UInt8)).length = 0 := by rw [this]; rfl
    have h3 := (List.append_eq_nil_iff.1 h2).1
    have hl2 : ((d.take dp.toNat).map digitByte).length = 0 := by rw [h3]; rfl
    simp only [List.length_replicate, List.length_map, List.length_take] at hl hl2
    omega
  · cases h2

/-- the `%e` form: plain bytes, `e`, plain bytes (sign and digits of the exponent) -/
theorem gf_fmtE_shape (neg : Bool) (d : List Nat) (dp : Int) :
    ∃ A B, GPlain A ∧ GPlain B ∧ gFmtE neg d dp = A ++ 101 :: B := by
  refine ⟨signStr neg ++ gFirst d :: gFrac d,
    (if gExp d dp < 0 then 45 else 43) :: expDigits (gExp d dp).natAbs, ?_, ?_, by simp [gFmtE]⟩
  · refine gf_plain_append (gf_plain_sign neg) (gf_plain_cons ?_ ?_)
    · cases d with
      | nil => decide
      | cons k _ => exact gf_digitByte k
    · rcases d with _ | ⟨_, _ | ⟨k, rest⟩⟩
      · exact gf_plain_nil
      · exact gf_plain_nil
      · exact gf_plain_cons (by decide) (gf_plain_map _ _ gf_digitByte)
  · refine gf_plain_cons ?_ (gf_plain_expDigits _)
    split <;> decide

theorem gf_plain_notLetter {s : Str} (h : GPlain s) : ∀ b ∈ s, isLetter b = false := by
  intro b hb
  have := h b hb
  unfold isGPlain at this
  cases hl : isLetter b
  · rfl
  · rw [hl] at this; simp at this

theorem gf_nal_of_noLetters : ∀ (s : Str), (∀ b ∈ s, isLetter b = false) → NoAdjacentLetters s
  | [], _ => by simp [NoAdjacentLetters]
  | [_], _ => by simp [NoAdjacentLetters]
  | x :: y :: r, h =>
    ⟨by simp [h x (by simp)], gf_nal_of_noLetters (y :: r) (fun b hb => h b (List.mem_cons_of_mem _ hb))⟩

theorem gf_nal_e : ∀ (A B : Str), (∀ b ∈ A, isLetter b = false) → (∀ b ∈ B, isLetter b = false) →
    NoAdjacentLetters (A ++ 101 :: B)
  | [], [], _, _ => by simp [NoAdjacentLetters]
  | [], y :: B, _, hB => ⟨by simp [hB y (by simp)], gf_nal_of_noLetters _ hB⟩
  | [x], B, hA, hB => ⟨by simp [hA x (by simp)], gf_nal_e [] B (by simp) hB⟩
  | x :: x' :: A, B, hA, hB =>
    ⟨by simp [hA x (by simp)], gf_nal_e (x' :: A) B (fun b hb => hA b (List.mem_cons_of_mem _ hb)) hB⟩

theorem gLayout_shape (neg : Bool) (d : List Nat) (dp : Int) :
    ∃ A B, GPlain A ∧ GPlain B ∧ (gLayout neg d dp = A ∧ A ≠ [] ∨ gLayout neg d dp = A ++ 101 :: B) := by
  unfold gLayout
  dsimp only
  split
  · obtain ⟨A, B, hA, hB, h⟩ := gf_fmtE_shape neg d dp
    exact ⟨A, B, hA, hB, .inr h⟩
  · exact ⟨_, [], gf_fmtF_plain neg d dp, gf_plain_nil, .inl ⟨rfl, gf_fmtF_ne_nil neg d dp⟩⟩

/-! `gLayout_ne_nil'`, `gLayout_bytes'`, `gLayout_clean'`, `gLayout_noAdjacentLetters'`: OrbProofs.C04 states each again,
    under the names `gLayout_nonempty`, `gLayout_bytes`, `gLayout_clean`, `gLayout_noAdjacentLetters`, and cites these. -/

theorem gLayout_ne_nil' (neg : Bool) (d : List Nat) (dp : Int) : gLayout neg d dp ≠ [] := by
  obtain ⟨A, B, -, -, ⟨h, hA⟩ | h⟩ := gLayout_shape neg d dp <;> rw [h]
  · exact hA
  · simp

theorem gLayout_bytes' (neg : Bool) (d : List Nat) (dp : Int) : ∀ b ∈ gLayout neg d dp, isGByte b = true := by
  have hp : ∀ {s : Str}, GPlain s → ∀ b ∈ s, isGByte b = true :=
    fun hs b hb => (Bool.and_eq_true _ _ ▸ hs b hb : _ ∧ _).1
  obtain ⟨A, B, hA, hB, ⟨h, -⟩ | h⟩ := gLayout_shape neg d dp <;> rw [h]
  · exact hp hA
  · intro b hb
    rcases List.mem_append.1 hb with hb | hb
    · exact hp hA b hb
    · rcases List.mem_cons.1 hb with rfl | hb
      · decide
      · exact hp hB b hb

theorem gLayout_clean' (neg : Bool) (d : List Nat) (dp : Int) : ∀ b ∈ gLayout neg d dp, isDelim b = false :=
  fun b hb => (gf_bytes b).1 (gLayout_bytes' neg d dp b hb)

theorem gLayout_noAdjacentLetters' (neg : Bool) (d : List Nat) (dp : Int) : NoAdjacentLetters (gLayout neg d dp) := by
  obtain ⟨A, B, hA, hB, ⟨h, -⟩ | h⟩ := gLayout_shape neg d dp <;> rw [h]
  · exact gf_nal_of_noLetters _ (gf_plain_notLetter hA)
  · exact gf_nal_e A B (gf_plain_notLetter hA) (gf_plain_notLetter hB)

/-! ### what remains assumed of Go -/

/-- the `%g` text of `x` is the layout of SOME sign, digit list and decimal-point position -/
def GText (fmtF : UInt64 → Str) (x : UInt64) : Prop := ∃ neg d dp, fmtF x = gLayout neg d dp

/-- the reduced assumption at one coordinate: `%g` lays out some digits, `ParseFloat` reads them back -/
structure GRoundTrip (fmtF : UInt64 → Str) (parseF : Str → Option UInt64) (x : UInt64) : Prop where
  shaped : GText fmtF x
  parses : parseF (fmtF x) = some x

def GCoords (fmtF : UInt64 → Str) (parseF : Str → Option UInt64) (g : G) : Prop :=
  ∀ x ∈ coords g, GRoundTrip fmtF parseF x

theorem GText.noAdjacentLetters {fmtF : UInt64 → Str} {x : UInt64} (h : GText fmtF x) :
    NoAdjacentLetters (fmtF x) := by
  obtain ⟨neg, d, dp, hs⟩ := h
  exact hs ▸ gLayout_noAdjacentLetters' neg d dp

/-! ### non-vacuity: the printer of OrbProofs.C04Witness is a `gLayout` printer -/

theorem gText0 (x : UInt64) : GText fmt0 x := by
  unfold GText fmt0
  split
  · exact ⟨false, [1], 1, by decide⟩
  · split
    · exact ⟨false, [2], 1, by decide⟩
    · split
      · exact ⟨true, [5], 0, by decide⟩
      · exact ⟨false, [1], 22, by decide⟩

theorem gcoords0 : GCoords fmt0 parse0 g0 := fun x hx => ⟨gText0 x, (good0 x hx).parses⟩

end Orb.WKT
