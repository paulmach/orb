/-
  C09 — translation tie for planar/contains.go: `rayIntersect`, and (second half of the file) `RingContains`,
  `PolygonContains`, `MultiPolygonContains` with their loops, early returns and index panics.
  `Generated/PlanarGo.lean` is REGENERATED from /repo on every run by
  harness/cmd/factgen/translate_float.go.  The Go function is translated as it is written: the swap
  of `s`, `e`, the two on-vertex tests with their early returns, the assignment
  `p[0] = math.Nextafter(p[0], +Inf)` (the explicit parameter `next`), and the tail shared by the
  three paths as a local join point.  The model `Orb.Contains.rayIntersect` is shaped differently
  (an `Option` for the early returns plus a `Nudge` record for the three later uses of `p[0]`);
  `rayIntersect_tie` proves the two equal for the real nudge `Nudge.real next`, for every number
  type: the sorted shape of the model (`ray_sorted` of `OrbProofs/C09Shape.lean`) is, at the real nudge, the control
  flow of the code, and the regenerated definition reduces to that shape by `rfl`.
-/
import Orb.Contains
import OrbProofs.C09Shape
import Generated.PlanarGo
import Orb.LoopForms
import OrbProofs.C06Tie

namespace Orb.C09Tie
open Orb Orb.Core

-- the `variable` line below is that of the generated module, so that its definitions apply; a lemma uses part of it
set_option linter.unusedSectionVars false

variable {α : Type} [Add α] [Sub α] [Mul α] [Div α] [Neg α] [LT α] [LE α] [DecidableLT α] [DecidableLE α]
  [BEq α] [Min α] [Max α] [OfNat α 0] [OfNat α 1] [OfNat α 2] [OfNat α 6] [NatCast α]

/-- the part of `rayIntersect` after the two on-vertex tests, for the (possibly nudged) point `P` -/
def rayTail (s e P : Pt α) : Bool × Bool :=
  if P.x < s.x ∨ P.x > e.x then (false, false) else
  let k := fun (_ : Unit) =>
    let rs := (P.y - s.y) / (P.x - s.x)
    let ds := (e.y - s.y) / (e.x - s.x)
    if rs == ds then (false, true) else (decide (rs ≤ ds), false)
  if s.y > e.y then
    if P.y > s.y then (false, false) else if P.y < e.y then (true, false) else k ()
  else
    if P.y > e.y then (false, false) else if P.y < s.y then (true, false) else k ()

/-- `rayIntersect` once `s`, `e` are ordered, in the control-flow shape of the Go code -/
def rayOrdered (next : α → α) (p s e : Pt α) : Bool × Bool :=
  if p.x == s.x then
    if p.y == s.y then (false, true)
    else if s.x == e.x then
      if s.y > e.y ∧ s.y ≥ p.y ∧ p.y ≥ e.y then (false, true)
      else if e.y > s.y ∧ e.y ≥ p.y ∧ p.y ≥ s.y then (false, true)
      else rayTail s e ⟨next p.x, p.y⟩
    else rayTail s e ⟨next p.x, p.y⟩
  else if p.x == e.x then
    if p.y == e.y then (false, true) else rayTail s e ⟨next p.x, p.y⟩
  else rayTail s e p

theorem rayFrom_real (next : α → α) (p s e : Pt α) (k : Bool) :
    Contains.rayFrom (Contains.Nudge.real next) p s e k = rayTail s e ⟨if k then next p.x else p.x, p.y⟩ := by
  simp only [Contains.rayFrom, Contains.slopeTest, Contains.Nudge.real, rayTail, Contains.yTests, Bool.or_eq_true,
    decide_eq_true_eq, gt_iff_lt]
  rfl

theorem raySorted_real (next : α → α) (p a b : Pt α) :
    Contains.raySorted (Contains.Nudge.real next) p a b = rayOrdered next p a b := by
  unfold Contains.raySorted rayOrdered
  rw [rayFrom_real, rayFrom_real]
  cases a.x == b.x
  · rfl
  · by_cases hA : b.y < a.y ∧ p.y ≤ a.y ∧ b.y ≤ p.y <;>
    by_cases hB : a.y < b.y ∧ p.y ≤ b.y ∧ a.y ≤ p.y <;> simp [hA, hB, and_assoc]

theorem model_sorted (next : α → α) (p s e a b : Pt α) (h : (if e.x < s.x then (e, s) else (s, e)) = (a, b)) :
    Contains.rayIntersect (Contains.Nudge.real next) p s e = rayOrdered next p a b :=
  (Contains.ray_sorted _ p s e a b h).trans (raySorted_real next p a b)

/-- the model, when `s`, `e` are not swapped -/
theorem model_ordered (next : α → α) (p s e : Pt α) (h : ¬ e.x < s.x) :
    Contains.rayIntersect (Contains.Nudge.real next) p s e = rayOrdered next p s e :=
  model_sorted next p s e s e (if_neg h)

/-- the model, when `s`, `e` are swapped -/
theorem model_swapped (next : α → α) (p s e : Pt α) (h : e.x < s.x) :
    Contains.rayIntersect (Contains.Nudge.real next) p s e = rayOrdered next p e s :=
  model_sorted next p s e e s (if_pos h)

/-- `rayIntersect`: the regenerated translation of the Go function is the model at the real nudge -/
theorem rayIntersect_tie (next : α → α) (p s e : Pt α) :
    Generated.PlanarGo.rayIntersect next p s e = Contains.rayIntersect (Contains.Nudge.real next) p s e := by
  by_cases h : e.x < s.x
  · rw [model_swapped next p s e h]
    unfold Generated.PlanarGo.rayIntersect
    simp only [h, gt_iff_lt, ↓reduceIte]
    rfl
  · rw [model_ordered next p s e h]
    unfold Generated.PlanarGo.rayIntersect
    simp only [h, gt_iff_lt, ↓reduceIte]
    rfl

/-! ### RingContains, PolygonContains, MultiPolygonContains

The three functions are translated WITH Go's run-time checks: `r[0]`, `r[len(r)-1]`, `p[0]` become
explicit tests answering `.panic "index out of range [i] with length n"`, a call of a function that
may panic is matched on, and the loops that return from inside (`if on { return true }`,
`if RingContains(p[i], point) { return false }`, `if PolygonContains(p, point) { return true }`) are
the returning folds `foldPairsRet` / `foldlRet` of `Orb.LoopForms`.  The ties below are equalities
with the models of `Orb.Contains` on ALL inputs, the panics included. -/

open Orb.LoopForms

/-- the edge loop `for i := 0; i < len(r)-1; i++` of `RingContains` -/
theorem ringLoop_tie (next : α → α) (p : Pt α) (l : List (Pt α)) (c : Bool) :
    (match foldPairsRet (ρ := Res Unit Bool) (fun (c : Bool) (a b : Pt α) =>
        let (inter, on) := Generated.PlanarGo.rayIntersect next p a b
        if on then Sum.inl (.ok true)
        else
          let c : Bool := if inter then !c else c
          Sum.inr c) l c with
      | .inl r => r
      | .inr c => .ok c)
      = .ok (Contains.ringLoop (Contains.Nudge.real next) p l c) :=
  pairLoopRet_unique (fun (x : Sum (Res Unit Bool) Bool) => match x with | .inl r => r | .inr c => .ok c)
    (fun l c => Res.ok (Contains.ringLoop (Contains.Nudge.real next) p l c)) (fun _ => rfl) (fun _ _ => rfl)
    (fun a b t c => by
      rw [Contains.ringLoop.eq_1, ← rayIntersect_tie]
      rcases Generated.PlanarGo.rayIntersect next p a b with ⟨inter, _ | _⟩ <;> rfl) l c

theorem getD_last (v : Pt α) (t : List (Pt α)) (d : Pt α) :
    (v :: t).getD ((v :: t).length - 1) d = (v :: t).getLast?.getD v := by
  rw [List.getLast?_eq_getElem?, List.getD_eq_getElem?_getD]
  have h : (v :: t).length - 1 < (v :: t).length := by simp
  rw [List.getElem?_eq_getElem h]
  rfl

/-- `RingContains`, the panic of `r[0]` on an empty ring whose (sentinel) bound contains the point
    included -/
theorem ringContains_tie (next : α → α) (eb : Bound α) (r : List (Pt α)) (p : Pt α) :
    Generated.PlanarGo.ringContains next eb r p = Contains.ringContains (Contains.Nudge.real next) eb r p := by
  unfold Generated.PlanarGo.ringContains Contains.ringContains
  have hb : Generated.BoundGo.boundContains (Generated.BoundGo.ringBound eb r) p = (multiPointBound eb r).contains p := by
    rw [Orb.C06Tie.ringBound_tie]; rfl
  rw [hb]
  cases hc : (multiPointBound eb r).contains p with
  | false => rfl
  | true =>
    cases r with
    | nil =>
      simp only [List.length_nil, Nat.lt_irrefl, ↓reduceIte, Bool.not_true, Bool.false_eq_true]
      rfl
    | cons v t =>
      have h1 : 0 < (v :: t).length := by simp
      have h2 : 1 ≤ (v :: t).length ∧ (v :: t).length - 1 < (v :: t).length := by simp
      simp only [Bool.not_true, Bool.false_eq_true, ↓reduceIte, h1, h2, and_self, getD_last, List.getD_cons_zero]
      rw [← rayIntersect_tie]
      generalize Generated.PlanarGo.rayIntersect next p v ((v :: t).getLast?.getD v) = io
      obtain ⟨c, on⟩ := io
      cases on with
      | true => rfl
      | false => exact ringLoop_tie next p (v :: t) c

/-- the hole loop `for i := 1; i < len(p); i++ { if RingContains(p[i], point) { return false } }` -/
theorem holesLoop_tie (next : α → α) (eb : Bound α) (p : Pt α) (hs : List (List (Pt α))) :
    (match foldlRet (ρ := Res Unit Bool) (fun (_ : Unit) (x : List (Pt α)) =>
        (match Generated.PlanarGo.ringContains next eb x p with
        | .ok v => if v then Sum.inl (.ok false) else Sum.inr ()
        | .err e => Sum.inl (.err e)
        | .panic m => Sum.inl (.panic m))) hs () with
      | .inl r => r
      | .inr _ => .ok true)
      = Contains.holesLoop (Contains.Nudge.real next) eb p hs :=
  loopRet_unique (fun (x : Sum (Res Unit Bool) Unit) => match x with | .inl r => r | .inr _ => .ok true)
    (fun hs _ => Contains.holesLoop (Contains.Nudge.real next) eb p hs) (fun _ => rfl)
    (fun h t _ => by
      rw [Contains.holesLoop, ← ringContains_tie]
      rcases Generated.PlanarGo.ringContains next eb h p with (_ | _) | _ | _ <;> rfl) hs ()

/-- `PolygonContains`, the panic of `p[0]` on a polygon without rings included -/
theorem polygonContains_tie (next : α → α) (eb : Bound α) (pg : List (List (Pt α))) (p : Pt α) :
    Generated.PlanarGo.polygonContains next eb pg p = Contains.polygonContains (Contains.Nudge.real next) eb pg p := by
  unfold Generated.PlanarGo.polygonContains Contains.polygonContains
  cases pg with
  | nil =>
    simp only [List.length_nil, Nat.lt_irrefl, ↓reduceIte]
    rfl
  | cons outer holes =>
    have h1 : 0 < (outer :: holes).length := by simp
    simp only [h1, ↓reduceIte, List.getD_cons_zero, List.drop_one, List.tail_cons]
    rw [← ringContains_tie]
    cases Generated.PlanarGo.ringContains next eb outer p with
    | ok v =>
      cases v with
      | false => rfl
      | true => exact holesLoop_tie next eb p holes
    | err e => rfl
    | panic m => rfl

theorem multiPolygonContains_tie (next : α → α) (eb : Bound α) (mp : List (List (List (Pt α)))) (p : Pt α) :
    Generated.PlanarGo.multiPolygonContains next eb mp p
      = Contains.multiPolygonContains (Contains.Nudge.real next) eb mp p :=
  loopRet_unique (fun (x : Sum (Res Unit Bool) Unit) => match x with | .inl r => r | .inr _ => .ok false)
    (fun mp _ => Contains.multiPolygonContains (Contains.Nudge.real next) eb mp p) (fun _ => rfl)
    (fun pg t _ => by
      rw [Contains.multiPolygonContains, ← polygonContains_tie]
      rcases Generated.PlanarGo.polygonContains next eb pg p with (_ | _) | _ | _ <;> rfl) mp ()

theorem contains_translated :
    "rayIntersect" ∈ Generated.PlanarGo.translated ∧ "ringContains" ∈ Generated.PlanarGo.translated ∧
    "polygonContains" ∈ Generated.PlanarGo.translated ∧ "multiPolygonContains" ∈ Generated.PlanarGo.translated := by
  simp only [Generated.PlanarGo.translated, List.mem_cons, String.reduceEq, or_true, false_or, true_or, and_self]

/-- the first clause of `contains_translated` under a name of its own -/
theorem rayIntersect_translated : "rayIntersect" ∈ Generated.PlanarGo.translated :=
  contains_translated.1

end Orb.C09Tie
