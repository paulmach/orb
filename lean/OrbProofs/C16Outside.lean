/-
  C16 — "a ring wholly outside the box yields nothing", at full strength: no edge of the (implicitly closed) ring meets the
  OPEN box (`RingAvoidsOpenBox`); an L-shape round a corner, an edge lying along a box side from outside, a ring touching a
  corner or passing diagonally through one are all covered.  The segment-level truth is NOT "rejected": a segment passing
  through a corner with its two ends beyond two different edges (box [0,4]², (-1,1)–(1,-1)) is ACCEPTED by the open-mode
  Cohen–Sutherland loop as the zero-length piece `[(0,0),(0,0)]`.  What is true is: rejected, or accepted as a zero-length
  piece `[p, p]` with `p` on the boundary (`segLoop_avoid`; a segment lying along a side, or touching a side in one point,
  IS rejected: both ends then carry the open code bit of that side).  `clipRings` drops exactly these touches
  (`partitionPieces`), so the ring-level statement holds with no extra hypothesis.
-/
import OrbProofs.C16Ring
import OrbProofs.C16Line
import OrbProofs.C16RegionGeom
import Mathlib.Algebra.Order.Field.Rat

set_option linter.unusedSectionVars false

namespace Orb.SmartClip
open Orb Orb.Core
open Orb.Clip (segLoop segLoopU W_bitCodeOpen bitCount_lt_eight)
open Orb.SmartClip.LE

variable {α : Type} [Field α] [LinearOrder α] [IsStrictOrderedRing α]

/-- no point of the closed segment `a b` lies strictly inside the box -/
def SegAvoidsOpenBox (box : Bound α) (a b : Pt α) : Prop :=
  ∀ t : α, 0 ≤ t → t ≤ 1 → ¬ InOpenBox box ⟨a.x + t * (b.x - a.x), a.y + t * (b.y - a.y)⟩

/-- no edge of the implicitly closed ring meets the open box: every pair of consecutive vertices of
    `r` followed by its first vertex (so that the closing edge `smartclip` may add itself is covered;
    for an explicitly closed ring that extra edge is the degenerate one `(f, f)`) -/
def RingAvoidsOpenBox (box : Bound α) (r : List (Pt α)) : Prop :=
  List.IsChain (SegAvoidsOpenBox box) (r ++ r.head?.toList)

/-- the same, spelled with `zip`: the pairs `(l[i], l[i+1])` of `l = r ++ [first vertex]` -/
theorem ringAvoidsOpenBox_iff_zip (box : Bound α) (r : List (Pt α)) :
    RingAvoidsOpenBox box r ↔
      ∀ a b, (a, b) ∈ (r ++ r.head?.toList).zip ((r ++ r.head?.toList).drop 1) → SegAvoidsOpenBox box a b := by
  unfold RingAvoidsOpenBox
  generalize r ++ r.head?.toList = l
  induction l with
  | nil => simp
  | cons a t ih =>
    cases t with
    | nil => simp
    | cons b t =>
      rw [List.isChain_cons_cons, ih]
      simp only [List.drop_one, List.tail_cons, List.zip_cons_cons, List.mem_cons, Prod.mk.injEq]
      constructor
      · rintro ⟨h1, h2⟩ x y (⟨rfl, rfl⟩ | h)
        · exact h1
        · exact h2 x y h
      · intro h
        exact ⟨h a b (Or.inl ⟨rfl, rfl⟩), fun x y hxy => h x y (Or.inr hxy)⟩

theorem SegAvoidsOpenBox.lerp {box : Bound α} {a b : Pt α} (h : SegAvoidsOpenBox box a b) (t : α)
    (h0 : 0 ≤ t) (h1 : t ≤ 1) : ¬ InOpenBox box (lerp a b t) := h t h0 h1

theorem SegAvoidsOpenBox.left {box : Bound α} {a b : Pt α} (h : SegAvoidsOpenBox box a b) :
    ¬ InOpenBox box a :=
  Clip.C16R.OutE.left h

theorem SegAvoidsOpenBox.right {box : Bound α} {a b : Pt α} (h : SegAvoidsOpenBox box a b) :
    ¬ InOpenBox box b :=
  Clip.C16R.OutE.right h

/-- THE SEGMENT LEMMA, on the inner loop without the rounding guards (`segLoopU`, the loop C07SegLoop
    reasons about; `segLoop_avoid` below is the same for the model's own call).
    For a segment that avoids the open box the open-mode inner loop either rejects
    it or accepts a zero-length piece on the boundary (a corner the segment passes through); it never
    gets stuck.  (`.reject` alone is false: `segLoop_corner_accept_witness`.) -/
theorem segLoopU_avoid {box : Bound α} (hb : BoxOK box) (a b : Pt α) (h : SegAvoidsOpenBox box a b) :
    (match segLoopU box 8 a b (Clip.bitCodeOpen box a) (Clip.bitCodeOpen box b) with
     | .accept a' b' c => c = 0 ∧ a' = b' ∧ OnBoundary box a'
     | .reject => True
     | .stuck => False) := by
  have key := Clip.segLoopU_spec_whole hb False 8 (W_bitCodeOpen hb a) (W_bitCodeOpen hb b) (fun h => h.elim)
  have hop := Clip.segLoop_ends box true 8 a b (Clip.bitCodeOpen box a) (Clip.bitCodeOpen box b) 0 0
    (fun h => absurd rfl h) (fun h => absurd rfl h)
  rw [show segLoop box true 8 a b (Clip.bitCodeOpen box a) (Clip.bitCodeOpen box b) 0 0 =
    segLoopU box 8 a b (Clip.bitCodeOpen box a) (Clip.bitCodeOpen box b) from
    Clip.segLoop_code_eq hb true a b] at hop
  have hcA : Clip.bitCodeOpen box a ≠ 0 := fun h0 => h.left (Clip.bitCodeOpen_eq_zero_iff.1 h0)
  generalize segLoopU box 8 a b (Clip.bitCodeOpen box a) (Clip.bitCodeOpen box b) = r at key hop
  cases r with
  | reject => trivial
  | stuck => exact absurd key (not_le.2 (bitCount_lt_eight _))
  | accept a' b' c =>
    obtain ⟨hc, hand, s, e, h0, hse, h1, rfl, rfl, hia, hib, -⟩ := key
    refine ⟨hc, ?_, hia, hop.2.2.1 hcA⟩
    -- otherwise the middle of the accepted part `[s, e]` would be a point of `a b` in the open box
    by_contra hne
    have hin := Clip.open_interior hb hand hia hib (Clip.onSeg_lerp a b h0 (hse.trans h1))
      (Clip.onSeg_lerp a b (h0.trans hse) h1) hne (t := 1 / 2) (by norm_num) (by norm_num)
    rw [Clip.lerp_lerp] at hin
    exact h.lerp _ (by linarith) (by linarith) hin

/-- over an ordered field the rounding guards of the model's inner loop (clip counters, clamp, the
    own-intersection arm of the open bound) change nothing: the call `lineStep` makes in open mode is
    the loop without the guards (C07 `Clip.segLoop_code_eq`) -/
theorem segLoop_open_eq_U {box : Bound α} (hb : BoxOK box) (a b : Pt α) :
    segLoop box true 8 a b (Clip.bitCodeOpen box a) (Clip.bitCodeOpen box b) 0 0 =
      segLoopU box 8 a b (Clip.bitCodeOpen box a) (Clip.bitCodeOpen box b) :=
  Clip.segLoop_code_eq hb true a b

/-- THE SEGMENT LEMMA for the model's own call (`lineStep` in open mode) -/
theorem segLoop_avoid {box : Bound α} (hb : BoxOK box) (a b : Pt α) (h : SegAvoidsOpenBox box a b) :
    (match segLoop box true 8 a b (Clip.bitCodeOpen box a) (Clip.bitCodeOpen box b) 0 0 with
     | .accept a' b' c => c = 0 ∧ a' = b' ∧ OnBoundary box a'
     | .reject => True
     | .stuck => False) := by
  rw [segLoop_open_eq_U hb]
  exact segLoopU_avoid hb a b h

/-- a zero-length piece on the boundary -/
def Touch (box : Bound α) (ls : List (Pt α)) : Prop := ∃ p, ls = [p, p] ∧ OnBoundary box p

/-- the pieces of a chain none of whose edges meets the open box are zero-length touches: an accepted part is one
    (`segLoop_avoid`), and no vertex is strictly inside, so no piece runs on into the next segment -/
theorem pieces_avoid {box : Bound α} (hb : BoxOK box) {inp : List (Pt α)} {out : List (List (Pt α))}
    (h : Clip.Pieces box true inp out) (hch : List.IsChain (SegAvoidsOpenBox box) inp) :
    ∀ ls ∈ out, Touch box ls := by
  have touch : ∀ {a b a' b' : Pt α}, SegAvoidsOpenBox box a b → Clip.clipPart box true a b = some (a', b') →
      Touch box [a', b'] := by
    intro a b a' b' hab hcs
    rcases Clip.clipPart_cases box true a b with ⟨x, y, hr, h', -⟩ | ⟨-, h', -⟩ <;> rw [hcs] at h'
    · obtain ⟨rfl, rfl⟩ := Prod.mk.inj (Option.some.inj h')
      have := segLoop_avoid hb a b hab
      rw [show segLoop box true 8 a b (Clip.bitCodeOpen box a) (Clip.bitCodeOpen box b) 0 0 = _ from hr] at this
      exact ⟨a', by rw [this.2.1], this.2.2⟩
    · cases h'
  have coded : ∀ {a b : Pt α}, SegAvoidsOpenBox box a b → Clip.codeAt box true b ≠ 0 :=
    fun hab h0 => hab.right (Clip.bitCodeOpen_eq_zero_iff.1 h0)
  induction h with
  | nil => exact fun _ h => nomatch h
  | one a => exact fun _ h => nomatch h
  | reject _ _ _ _ ih => exact ih (List.isChain_cons_cons.1 hch).2
  | leave hcs _ _ ih =>
    obtain ⟨hab, hch⟩ := List.isChain_cons_cons.1 hch
    exact List.forall_mem_cons.2 ⟨touch hab hcs, ih hch⟩
  | stop _ hE => exact absurd hE (coded (List.isChain_cons_cons.1 hch).1)
  | runOn _ hE _ _ => exact absurd hE (coded (List.isChain_cons_cons.1 hch).1)

/-- `Clip.line box true` on a chain none of whose edges meets the open box: only zero-length touches -/
theorem line_avoid {box : Bound α} (hb : BoxOK box) (inp : List (Pt α))
    (h : List.IsChain (SegAvoidsOpenBox box) inp) :
    ∃ out, Clip.line box true inp = some out ∧ ∀ ls ∈ out, Touch box ls :=
  let ⟨out, h1, h2⟩ := Clip.line_pieces box true inp
  ⟨out, h1, pieces_avoid hb h2 h⟩

theorem isChain_of_append {β : Type} {R : β → β → Prop} :
    ∀ (l m : List β), List.IsChain R (l ++ m) → List.IsChain R l :=
  fun _ _ h => h.left_of_append

theorem clipOne_avoid {box : Bound α} (hb : BoxOK box) (r : List (Pt α)) (h : RingAvoidsOpenBox box r) :
    ∃ out, clipOne box r = .ok out ∧ ∀ ls ∈ out, Touch box ls := by
  rw [clipOne_eq]
  split_ifs with hr
  · exact ⟨[], rfl, by simp⟩
  · obtain ⟨r', f, l, h1, hf, hl, h4, h5⟩ := closing_spec box r (by simpa using hr)
    have hch : List.IsChain (SegAvoidsOpenBox box) r' := by
      rcases h4 with h4 | ⟨hrf, h4⟩
      · rw [h4]; exact isChain_of_append _ _ h
      · unfold RingAvoidsOpenBox at h
        rw [hrf] at h
        rw [h4]; exact h
    obtain ⟨out, hline, ht⟩ := line_avoid hb r' hch
    obtain ⟨out0, out1, hline', htail, hj, -⟩ := clipTail_cases box (line_spec' box hb) r' f l hf hl h5
    obtain rfl : out = out0 := Option.some.inj (hline.symm.trans hline')
    refine ⟨out1, by rw [h1, res_ok_bind]; exact htail, ?_⟩
    rcases hj with rfl | ⟨tl0, mid, pl, rfl, -, -, hfo⟩
    · exact ht
    · -- no re-joining: the first piece would start strictly inside the box
      obtain ⟨p, hp, hpb⟩ := ht _ List.mem_cons_self
      cases hp
      exact absurd hfo (not_open_of_on box _ hpb)

theorem clipAll_avoid {box : Bound α} (hb : BoxOK box) (rings : List (List (Pt α)))
    (h : ∀ r ∈ rings, RingAvoidsOpenBox box r) :
    ∃ all, clipAll box rings = .ok all ∧ ∀ ls ∈ all, Touch box ls := by
  refine ⟨_, clipAll_eq_flatMap box (piecesOf box) rings fun r hr =>
    let ⟨_, h1, _⟩ := clipOne_avoid hb r (h r hr); clipOne_piecesOf h1, fun ls hls => ?_⟩
  obtain ⟨r, hr, hls⟩ := List.mem_flatMap.1 hls
  obtain ⟨out, h1, h2⟩ := clipOne_avoid hb r (h r hr)
  exact h2 ls (piecesOf_eq h1 ▸ hls)

/-- the final partition drops zero-length boundary touches -/
theorem partition_touch (box : Bound α) (all : List (List (Pt α))) (h : ∀ ls ∈ all, Touch box ls) :
    partitionPieces box all = .ok ([], []) := by
  refine (partitionPieces_ok_iff box all _ _).2 ⟨fun h' => ?_, (List.filter_eq_nil_iff.2 fun ls hls => ?_).symm,
    (List.filter_eq_nil_iff.2 fun ls hls => ?_).symm⟩
  · obtain ⟨p, hp, _⟩ := h [] h'; cases hp
  · obtain ⟨p, rfl, hp⟩ := h ls hls; simp [keptOpen, touchBD_of_onBoundary hp]
  · obtain ⟨p, rfl, hp⟩ := h ls hls; simp [keptClosed, touchBD_of_onBoundary hp]

/-- rings that avoid the open box leave `clipRings` nothing: no open piece, no interior ring -/
theorem clipRings_outside_nil (box : Bound α) (hb : BoxOK box) (rings : List (List (Pt α)))
    (h : ∀ r ∈ rings, RingAvoidsOpenBox box r) : clipRings box rings = .ok ([], []) := by
  obtain ⟨all, h1, h2⟩ := clipAll_avoid hb rings h
  simp [clipRings, h1, partition_touch box all h2, res_ok_bind]

/-- A RING WHOLLY OUTSIDE YIELDS NOTHING, at full strength: if no edge of the implicitly closed ring
    meets the open box (edges along a side, corner touches, L-shapes round a corner … all allowed),
    `clipRings` returns no piece and `smartclip.Ring` returns nil, for any orientation argument. -/
theorem ring_outside_nil_strong (box : Bound α) (hb : BoxOK box) (r : List (Pt α)) (o : Int)
    (h : RingAvoidsOpenBox box r) : clipRings box [r] = .ok ([], []) ∧ ring box r o = .ok [] := by
  have hc : clipRings box [r] = .ok ([], []) :=
    clipRings_outside_nil box hb [r] (fun x hx => by rw [List.mem_singleton.1 hx]; exact h)
  exact ⟨hc, by rw [ring_of_clip box r o hc, if_pos rfl, if_pos rfl]⟩

/-- the same for `smartclip.Polygon`: every ring (outer and holes) avoids the open box -/
theorem polygon_outside_nil_strong (box : Bound α) (hb : BoxOK box) (p : List (List (Pt α))) (o : Int)
    (h : ∀ r ∈ p, RingAvoidsOpenBox box r) : polygon box p o = .ok [] := by
  rw [polygon_of_clip box p o (clipRings_outside_nil box hb p h), if_pos rfl, if_pos rfl]

/-- … and for `smartclip.MultiPolygon`, where only the OUTER rings are looked at -/
theorem multiPolygon_outside_nil_strong (box : Bound α) (hb : BoxOK box) (mp : List (List (List (Pt α))))
    (o : Int) (h : ∀ r ∈ outerRings mp, RingAvoidsOpenBox box r) : multiPolygon box mp o = .ok [] := by
  rw [multiPolygon_of_clip box mp o (clipRings_outside_nil box hb _ h), if_pos ⟨rfl, rfl⟩]

/-- both ends of the segment in one closed outer half-plane of the box -/
def SegBeyondEdge (box : Bound α) (a b : Pt α) : Prop :=
  (a.x ≤ box.lo.x ∧ b.x ≤ box.lo.x) ∨ (box.hi.x ≤ a.x ∧ box.hi.x ≤ b.x) ∨
  (a.y ≤ box.lo.y ∧ b.y ≤ box.lo.y) ∨ (box.hi.y ≤ a.y ∧ box.hi.y ≤ b.y)

instance (box : Bound α) (a b : Pt α) : Decidable (SegBeyondEdge box a b) := by
  unfold SegBeyondEdge; infer_instance

/-- `SegAvoidsOpenBox` is `OutE` of the region theorems, spelt in coordinates (likewise `SegBeyondEdge` has the body of
    `SameSide`: `segAvoids_of_beyondEdge` is `outE_of_side`) -/
theorem segAvoidsOpenBox_iff_outE {box : Bound α} {a b : Pt α} :
    SegAvoidsOpenBox box a b ↔ Clip.C16R.OutE box a b := Iff.rfl

theorem segAvoids_of_beyondEdge {box : Bound α} {a b : Pt α} (h : SegBeyondEdge box a b) :
    SegAvoidsOpenBox box a b :=
  Clip.C16R.outE_of_side h

/-- every edge of the implicitly closed ring lies beyond SOME box edge (which one may change from
    edge to edge: an L-shape round a corner qualifies) -/
def RingEdgesBeyond (box : Bound α) (r : List (Pt α)) : Prop :=
  List.IsChain (SegBeyondEdge box) (r ++ r.head?.toList)

instance (box : Bound α) (r : List (Pt α)) : Decidable (RingEdgesBeyond box r) := by
  unfold RingEdgesBeyond; infer_instance

theorem ringAvoids_of_edgesBeyond {box : Bound α} {r : List (Pt α)} (h : RingEdgesBeyond box r) :
    RingAvoidsOpenBox box r :=
  List.IsChain.imp (fun _ _ => segAvoids_of_beyondEdge) h

/-- all vertices in ONE closed outer half-plane (the hypothesis of `ring_outside_nil`): no edge meets
    the open box -/
theorem ringAvoids_of_halfplane {box : Bound α} {r : List (Pt α)}
    (h : (∀ v ∈ r, v.x ≤ box.lo.x) ∨ (∀ v ∈ r, box.hi.x ≤ v.x) ∨
         (∀ v ∈ r, v.y ≤ box.lo.y) ∨ (∀ v ∈ r, box.hi.y ≤ v.y)) : RingAvoidsOpenBox box r := by
  apply ringAvoids_of_edgesBeyond
  have hmem : ∀ v ∈ r ++ r.head?.toList, v ∈ r := by
    intro v hv
    rcases List.mem_append.1 hv with hv | hv
    · exact hv
    · cases r with
      | nil => simp at hv
      | cons f t =>
        simp only [List.head?_cons, Option.toList_some, List.mem_singleton] at hv
        rw [hv]; exact List.mem_cons_self
  refine (List.pairwise_of_forall_mem_list fun a ha b hb => ?_).isChain
  rcases h with h | h | h | h
  · exact Or.inl ⟨h a (hmem a ha), h b (hmem b hb)⟩
  · exact Or.inr (Or.inl ⟨h a (hmem a ha), h b (hmem b hb)⟩)
  · exact Or.inr (Or.inr (Or.inl ⟨h a (hmem a ha), h b (hmem b hb)⟩))
  · exact Or.inr (Or.inr (Or.inr ⟨h a (hmem a ha), h b (hmem b hb)⟩))

/-- every edge beyond some box edge ⟹ nothing (decidable hypothesis) -/
theorem ring_outside_nil_edges (box : Bound α) (hb : BoxOK box) (r : List (Pt α)) (o : Int)
    (h : RingEdgesBeyond box r) : clipRings box [r] = .ok ([], []) ∧ ring box r o = .ok [] :=
  ring_outside_nil_strong box hb r o (ringAvoids_of_edgesBeyond h)

/-- one closed outer half-plane: the statement of `ring_outside_nil` (OrbProofs/C16.lean) -/
theorem ring_outside_nil_of_strong (box : Bound α) (hb : BoxOK box) (r : List (Pt α)) (o : Int)
    (h : (∀ v ∈ r, v.x ≤ box.lo.x) ∨ (∀ v ∈ r, box.hi.x ≤ v.x) ∨
         (∀ v ∈ r, v.y ≤ box.lo.y) ∨ (∀ v ∈ r, box.hi.y ≤ v.y)) : ring box r o = .ok [] :=
  (ring_outside_nil_strong box hb r o (ringAvoids_of_halfplane h)).2

/-- `.reject` alone is FALSE at the segment level: box [0,4]², the segment (-1,1)–(1,-1) avoids the
    open box (it passes through the corner (0,0)) and is accepted as a zero-length piece -/
theorem segLoop_corner_accept_witness :
    segLoop (⟨⟨0, 0⟩, ⟨4, 4⟩⟩ : Bound ℚ) true 8 ⟨-1, 1⟩ ⟨1, -1⟩
      (Clip.bitCodeOpen (⟨⟨0, 0⟩, ⟨4, 4⟩⟩ : Bound ℚ) ⟨-1, 1⟩)
      (Clip.bitCodeOpen (⟨⟨0, 0⟩, ⟨4, 4⟩⟩ : Bound ℚ) ⟨1, -1⟩) 0 0 = .accept ⟨0, 0⟩ ⟨0, 0⟩ 0 := by
  with_unfolding_all rfl

theorem segLoop_corner_accept_avoids :
    SegAvoidsOpenBox (⟨⟨0, 0⟩, ⟨4, 4⟩⟩ : Bound ℚ) ⟨-1, 1⟩ ⟨1, -1⟩ := by
  intro t h0 h1 ⟨i1, i2, i3, i4⟩
  simp only at i1 i3
  linarith

/-- the line clipper keeps that touch as a piece; `clipRings` drops it -/
theorem line_corner_touch_witness :
    Clip.line (⟨⟨0, 0⟩, ⟨4, 4⟩⟩ : Bound ℚ) true [⟨-1, 1⟩, ⟨1, -1⟩, ⟨-3, -3⟩, ⟨-1, 1⟩] =
      some [[⟨0, 0⟩, ⟨0, 0⟩]] ∧
    clipRings (⟨⟨0, 0⟩, ⟨4, 4⟩⟩ : Bound ℚ) [[⟨-1, 1⟩, ⟨1, -1⟩, ⟨-3, -3⟩, ⟨-1, 1⟩]] = .ok ([], []) := by
  exact ⟨by with_unfolding_all rfl, by with_unfolding_all rfl⟩

/-- the L-shaped ring round the corner (4,4) of the box [0,4]²: no single half-plane holds it, every
    edge lies beyond some box edge -/
theorem ring_L_shape_witness (o : Int) :
    clipRings (⟨⟨0, 0⟩, ⟨4, 4⟩⟩ : Bound ℚ)
      [[⟨5, -1⟩, ⟨5, 5⟩, ⟨-1, 5⟩, ⟨-1, 6⟩, ⟨6, 6⟩, ⟨6, -1⟩, ⟨5, -1⟩]] = .ok ([], []) ∧
    ring (⟨⟨0, 0⟩, ⟨4, 4⟩⟩ : Bound ℚ)
      [⟨5, -1⟩, ⟨5, 5⟩, ⟨-1, 5⟩, ⟨-1, 6⟩, ⟨6, 6⟩, ⟨6, -1⟩, ⟨5, -1⟩] o = .ok [] :=
  ring_outside_nil_edges _ ⟨by norm_num, by norm_num⟩ _ o (by decide)

/-- a ring with an edge lying along the bottom side of the box, from outside -/
example (o : Int) : ring (⟨⟨0, 0⟩, ⟨4, 4⟩⟩ : Bound ℚ) [⟨0, 0⟩, ⟨4, 0⟩, ⟨4, -2⟩, ⟨0, -2⟩, ⟨0, 0⟩] o = .ok [] :=
  (ring_outside_nil_edges _ ⟨by norm_num, by norm_num⟩ _ o (by decide)).2

/-- a ring with an edge passing diagonally through a corner (not beyond any single box edge) -/
example (o : Int) : ring (⟨⟨0, 0⟩, ⟨4, 4⟩⟩ : Bound ℚ) [⟨-1, 1⟩, ⟨1, -1⟩, ⟨-3, -3⟩, ⟨-1, 1⟩] o = .ok [] := by
  refine (ring_outside_nil_strong _ ⟨by norm_num, by norm_num⟩ _ o ?_).2
  refine .cons_cons segLoop_corner_accept_avoids (.cons_cons (segAvoids_of_beyondEdge (by decide))
    (.cons_cons (segAvoids_of_beyondEdge (by decide)) (.cons_cons (segAvoids_of_beyondEdge (by decide))
      (.singleton _))))

/-- the L-shaped ring, evaluated by the kernel -/
example : ring (⟨⟨0, 0⟩, ⟨4, 4⟩⟩ : Bound ℚ)
    [⟨5, -1⟩, ⟨5, 5⟩, ⟨-1, 5⟩, ⟨-1, 6⟩, ⟨6, 6⟩, ⟨6, -1⟩, ⟨5, -1⟩] CCW = .ok [] := by
  with_unfolding_all rfl

end Orb.SmartClip
