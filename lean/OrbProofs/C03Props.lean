/-
  C03, the key / value tables of a layer: the tags `encodeProperties` writes decode, against any later
  state of the tables, to the map with sorted keys and widened values, and they do not depend on the
  order in which the Go map is listed.  At the end, for the layer lemmas: what a successful
  `addFeatures` went through (`firstGeom`, the relation `Emit`).
-/
import Orb.MVT
import OrbProofs.ResLemmas

namespace Orb.MVT
open Orb

theorem KVE.key_spec (e : KVE) (s : String) :
    (e.key s).2.keys[(e.key s).1]? = some s ∧ e.keys <+: (e.key s).2.keys ∧
      (e.key s).2.vals = e.vals ∧ (e.key s).2.keys.length ≤ e.keys.length + 1 ∧
      (e.key s).1 < (e.key s).2.keys.length := by
  unfold KVE.key
  split
  · rename_i i hi
    obtain ⟨h, h1, _⟩ := List.findIdx?_eq_some_iff_getElem.mp hi
    have : e.keys[i] = s := by simpa using h1
    simp [h, this]
  · simp

theorem prefix_getElem? {α : Type} {l l' : List α} (h : l <+: l') {i : Nat} {x : α}
    (hx : l[i]? = some x) : l'[i]? = some x := by
  obtain ⟨hi, rfl⟩ := List.getElem?_eq_some_iff.mp hx
  exact List.prefix_iff_getElem?.mp h i hi

theorem mapSet_new (m : List (String × DVal)) (k : String) (v : DVal)
    (h : ∀ p ∈ m, p.1 ≠ k) : mapSet m k v = m ++ [(k, v)] := by
  induction m with
  | nil => rfl
  | cons p rest ih =>
    obtain ⟨k', v'⟩ := p
    have h1 : k' ≠ k := h (k', v') (by simp)
    simp only [mapSet, beq_iff_eq, h1, if_false, List.cons_append]
    rw [ih (fun p hp => h p (List.mem_cons_of_mem _ hp))]

theorem KVE.le_refl (e : KVE) : KVE.le e e := ⟨List.prefix_refl _, List.prefix_refl _⟩

theorem KVE.le_trans {a b c : KVE} (h1 : KVE.le a b) (h2 : KVE.le b c) : KVE.le a c :=
  ⟨List.IsPrefix.trans h1.1 h2.1, List.IsPrefix.trans h1.2 h2.2⟩

theorem insertStr_perm (s : String) (l : List String) : (insertStr s l).Perm (s :: l) := by
  induction l with
  | nil => exact List.Perm.refl _
  | cons t ts ih =>
    simp only [insertStr]
    split
    · exact List.Perm.refl _
    · exact (List.Perm.cons t ih).trans (List.Perm.swap s t ts)

theorem sortStrings_perm (l : List String) : (sortStrings l).Perm l := by
  induction l with
  | nil => exact List.Perm.refl _
  | cons s l ih =>
    show (insertStr s (sortStrings l)).Perm (s :: l)
    exact (insertStr_perm s _).trans (List.Perm.cons s ih)

theorem insertStr_comm (a b : String) (l : List String) :
    insertStr a (insertStr b l) = insertStr b (insertStr a l) := by
  by_cases hab : a = b
  · subst hab; rfl
  induction l with
  | nil =>
    simp only [insertStr]
    by_cases h1 : a < b
    · have h2 : ¬ b < a := String.lt_asymm h1
      simp [h1, h2]
    · have h2 : b < a := Std.lt_of_le_of_ne (String.not_lt.1 h1) (Ne.symm hab)
      simp [h1, h2]
  | cons t ts ih =>
    have tri : a < b ∨ b < a :=
      (Classical.em (a < b)).imp_right fun h1 => Std.lt_of_le_of_ne (String.not_lt.1 h1) (Ne.symm hab)
    by_cases hat : a < t <;> by_cases hbt : b < t
    · rcases tri with h | h
      · have h' : ¬ b < a := String.lt_asymm h
        simp [insertStr, hat, hbt, h, h']
      · have h' : ¬ a < b := String.lt_asymm h
        simp [insertStr, hat, hbt, h, h']
    · have h' : ¬ b < a := fun h => hbt (String.lt_trans h hat)
      simp [insertStr, hat, hbt, h']
    · have h' : ¬ a < b := fun h => hat (String.lt_trans h hbt)
      simp [insertStr, hat, hbt, h']
    · simp [insertStr, hat, hbt, ih]

theorem sortStrings_perm_eq {l l' : List String} (hp : l.Perm l') :
    sortStrings l = sortStrings l' :=
  List.Perm.foldr_eq' hp (fun x _ y _ z => insertStr_comm y x z) []

theorem nodupStr_iff (l : List String) : nodupStr l = true ↔ l.Nodup := by
  induction l with
  | nil => simp [nodupStr]
  | cons k ks ih => simp [nodupStr, ih]

/-! The value table.  The table is keyed by Go `==`, under which +0 and −0 of one float type are one key.  The
  invariant `KVE.InvZ vs` keeps the table free of clashes with a reference list `vs`; a value may
  enter if it is `Admits vs`.  Two instances: `vs` = the values of a layer without a +0 / −0 pair
  (`Admits.of_mem`), and `vs` = the two positive zeros, where both notions say "not a negative zero"
  (`KVE.inv_iff_invZ`, `Admits.of_noNegZero`). -/

theorem KVE.invZ_empty (vs : List PVal) : KVE.InvZ vs KVE.empty := by
  intro p hp
  simp [KVE.empty] at hp

theorem KVE.inv_empty : KVE.Inv KVE.empty := by
  intro p hp
  simp [KVE.empty] at hp

/-- What a value needs for the table of a layer whose values are `vs`: it clashes with none of
    them, and with nothing that clashes with none of them. -/
def Admits (vs : List PVal) (v : PVal) : Prop :=
  (∀ u ∈ vs, zeroClash u v = false) ∧ ∀ w, (∀ u ∈ vs, zeroClash u w = false) → zeroClash v w = false

theorem noZeroClash_iff (vs : List PVal) :
    noZeroClash vs = true ↔ ∀ a ∈ vs, ∀ b ∈ vs, zeroClash a b = false := by
  simp [noZeroClash, List.all_eq_true]

theorem Admits.of_mem {vs : List PVal} (hnc : noZeroClash vs = true) {v : PVal} (hv : v ∈ vs) : Admits vs v :=
  ⟨fun u hu => (noZeroClash_iff vs).mp hnc u hu v hv, fun _ hw => hw v hv⟩

theorem Admits.nil (vs : List PVal) : Admits vs .nil :=
  ⟨fun u _ => by cases u <;> rfl, fun _ _ => rfl⟩

/-- `jsonStep` only turns nil and uncomparable values into strings, which clash with nothing. -/
theorem jsonStep_spec {v : PVal} (hw : pvalWF v = true) :
    ∃ v' tv, jsonStep v = .ok v' ∧ (∀ u, zeroClash u v' = zeroClash u v) ∧
      (∀ u, zeroClash v' u = zeroClash v u) ∧ encodeValue v' = .ok tv ∧ decodeTVal tv = widen v := by
  cases v with
  | nil => exact ⟨_, _, rfl, fun u => by cases u <;> rfl, fun _ => rfl, rfl, rfl⟩
  | json t => exact ⟨_, _, rfl, fun u => by cases u <;> rfl, fun _ => rfl, rfl, rfl⟩
  | jsonFail => cases hw
  | unsupported _ => cases hw
  | stringer _ _ => cases hw
  | _ => exact ⟨_, _, rfl, fun _ => rfl, fun _ => rfl, rfl, rfl⟩

theorem keyEq_eq_of_noClash {v w : PVal} (h : keyEq v w = true) (hc : zeroClash v w = false) : v = w := by
  revert h hc
  fun_cases keyEq v w
  case case1 | case2 | case3 | case4 | case7 | case8 => simp +contextual
  -- floats: IEEE `==` identifies exactly the bit patterns and the two zeros
  case case5 =>
    intro h hc
    simp only [f32Eq, Bool.and_eq_true, Bool.or_eq_true, beq_iff_eq] at h
    simp only [zeroClash, Bool.and_eq_false_imp, Bool.and_eq_true, bne_eq_false_iff_eq, and_imp] at hc
    rcases h.2 with h | ⟨ha, hb⟩
    · rw [h]
    · rw [hc ha hb]
  case case6 =>
    intro h hc
    simp only [f64Eq, Bool.and_eq_true, Bool.or_eq_true, beq_iff_eq] at h
    simp only [zeroClash, Bool.and_eq_false_imp, Bool.and_eq_true, bne_eq_false_iff_eq, and_imp] at hc
    rcases h.2 with h | ⟨ha, hb⟩
    · rw [h]
    · rw [hc ha hb]
  case case9 => nofun

theorem KVE.value_spec (vs : List PVal) (e : KVE) (v : PVal) (hi : KVE.InvZ vs e) (hw : pvalWF v = true)
    (hz : Admits vs v) :
    ∃ i e', e.value v = .ok (i, e') ∧ KVE.InvZ vs e' ∧ e'.keys = e.keys ∧ e.vals <+: e'.vals ∧
      e'.vals.length ≤ e.vals.length + 1 ∧ i < e'.vals.length ∧
      ∃ p, e'.vals[i]? = some p ∧ decodeTVal p.2 = widen v := by
  obtain ⟨v', tv, h1, h2r, h2l, h3, h4⟩ := jsonStep_spec hw
  unfold KVE.value
  rw [h1]
  dsimp only
  split
  · rename_i i hfi
    obtain ⟨h, hk, _⟩ := List.findIdx?_eq_some_iff_getElem.mp hfi
    have hmem : e.vals[i] ∈ e.vals := List.getElem_mem h
    obtain ⟨he, hnz⟩ := hi _ hmem
    have hcl : zeroClash v' e.vals[i].1 = false := by rw [h2l]; exact hz.2 _ hnz
    have heq : v' = e.vals[i].1 := keyEq_eq_of_noClash hk hcl
    refine ⟨i, e, rfl, hi, rfl, List.prefix_refl _, Nat.le_succ _, h, e.vals[i], by simp [h], ?_⟩
    rw [← heq, h3] at he
    cases he
    exact h4
  · rw [h3]
    dsimp only
    refine ⟨_, _, rfl, ?_, rfl, by simp, by simp, by simp, (v', tv), by simp, h4⟩
    intro p hp
    simp at hp
    rcases hp with hp | hp
    · exact hi p hp
    · subst hp; exact ⟨h3, fun u hu => by rw [h2r]; exact hz.1 u hu⟩

theorem encodeTags_spec (vs : List PVal) (ps : List (String × PVal))
    (hps : ∀ k, pvalWF (lookupP ps k) = true ∧ Admits vs (lookupP ps k)) :
    ∀ (ks : List String) (e : KVE), KVE.InvZ vs e → e.keys.length + ks.length ≤ 2^32 →
      e.vals.length + ks.length ≤ 2^32 →
      ∃ tags e', encodeTags ps e ks = .ok (tags, e') ∧ KVE.InvZ vs e' ∧ KVE.le e e' ∧
        e'.keys.length ≤ e.keys.length + ks.length ∧ e'.vals.length ≤ e.vals.length + ks.length ∧
        ∀ e'', KVE.le e' e'' → ∀ m : List (String × DVal), ks.Nodup →
          (∀ k ∈ ks, ∀ p ∈ m, p.1 ≠ k) →
          decodeTags e''.keys e''.dvals tags m =
            .ok (m ++ ks.map fun k => (k, widen (lookupP ps k))) := by
  intro ks
  induction ks with
  | nil =>
    intro e hi _ _
    refine ⟨[], e, rfl, hi, KVE.le_refl e, by simp, by simp, ?_⟩
    intro e'' _ m _ _
    simp [decodeTags]
  | cons k ks ih =>
    intro e hi hk hl
    obtain ⟨k1, k2, k3, k4, k5⟩ := KVE.key_spec e k
    have hi1 : KVE.InvZ vs (e.key k).2 := by
      unfold KVE.InvZ; rw [k3]; exact hi
    obtain ⟨vi, e2, v1, v2, v3, v4, v5, v6, p, v7, v8⟩ :=
      KVE.value_spec vs (e.key k).2 (lookupP ps k) hi1 (hps k).1 (hps k).2
    simp only [List.length_cons] at hk hl
    rw [k3] at v4 v5
    obtain ⟨ts, e3, r1, r2, r3, r4, r5, r6⟩ := ih e2 v2 (by rw [v3]; omega) (by omega)
    refine ⟨BitVec.ofNat 32 (e.key k).1 :: BitVec.ofNat 32 vi :: ts, e3, ?_, r2, ?_, ?_, ?_, ?_⟩
    · simp only [encodeTags, v1, r1]
    · exact ⟨List.IsPrefix.trans k2 (v3 ▸ r3.1), List.IsPrefix.trans v4 r3.2⟩
    · rw [v3] at r4; simp only [List.length_cons]; omega
    · simp only [List.length_cons]; omega
    · intro e'' hle m hnd hm
      have hkn : (BitVec.ofNat 32 (e.key k).1).toNat = (e.key k).1 := by
        rw [BitVec.toNat_ofNat]; apply Nat.mod_eq_of_lt; omega
      have hvn : (BitVec.ofNat 32 vi).toNat = vi := by
        rw [BitVec.toNat_ofNat]; apply Nat.mod_eq_of_lt; omega
      have hkeys : e''.keys[(e.key k).1]? = some k :=
        prefix_getElem? hle.1 (prefix_getElem? r3.1 (v3 ▸ k1))
      have hvals : e''.dvals[vi]? = some (widen (lookupP ps k)) := by
        have : e''.vals[vi]? = some p := prefix_getElem? hle.2 (prefix_getElem? r3.2 v7)
        simp [KVE.dvals, List.getElem?_map, this, v8]
      obtain ⟨hn1, hn2⟩ := List.nodup_cons.mp hnd
      simp only [decodeTags, hkn, hvn, hkeys, hvals]
      rw [mapSet_new m k _ (fun p hp => hm k (by simp) p hp)]
      rw [r6 e'' hle _ hn2]
      · simp
      · intro k' hk' p hp
        simp only [List.mem_append, List.mem_singleton] at hp
        rcases hp with hp | hp
        · exact hm k' (List.mem_cons_of_mem _ hk') p hp
        · subst hp; intro h; have h : k = k' := h; exact hn1 (h ▸ hk')

theorem lookupP_prop {P : PVal → Prop} (ps : List (String × PVal)) (hnil : P .nil)
    (h : ∀ p ∈ ps, P p.2) (k : String) : P (lookupP ps k) := by
  unfold lookupP
  split
  · next p hp => exact h p (List.mem_of_find?_eq_some hp)
  · exact hnil

theorem encodeProperties_decode (vs : List PVal) (e : KVE) (ps : List (String × PVal))
    (hn : nodupKeys ps = true) (hv : ∀ p ∈ ps, pvalWF p.2 = true) (hz : ∀ p ∈ ps, Admits vs p.2)
    (hi : KVE.InvZ vs e) (hk : e.keys.length + ps.length ≤ 2^32) (hl : e.vals.length + ps.length ≤ 2^32) :
    ∃ tags e', encodeProperties e ps = .ok (tags, e') ∧ KVE.InvZ vs e' ∧ KVE.le e e' ∧
      e'.keys.length ≤ e.keys.length + ps.length ∧ e'.vals.length ≤ e.vals.length + ps.length ∧
      ∀ e'', KVE.le e' e'' → decodeTags e''.keys e''.dvals tags [] = .ok (expectProps ps) := by
  have hperm := sortStrings_perm (ps.map (·.1))
  have hlen : (sortStrings (ps.map (·.1))).length = ps.length := by
    rw [hperm.length_eq, List.length_map]
  have hnd : (sortStrings (ps.map (·.1))).Nodup :=
    hperm.nodup_iff.mpr ((nodupStr_iff _).mp hn)
  obtain ⟨tags, e', h1, h2, h3, h4, h5, h6⟩ :=
    encodeTags_spec vs ps
      (fun k => ⟨lookupP_prop (P := (pvalWF · = true)) ps rfl hv k, lookupP_prop ps (Admits.nil vs) hz k⟩)
      (sortStrings (ps.map (·.1))) e hi (by rw [hlen]; exact hk) (by rw [hlen]; exact hl)
  rw [hlen] at h4 h5
  refine ⟨tags, e', h1, h2, h3, h4, h5, ?_⟩
  intro e'' hle
  rw [h6 e'' hle [] hnd (by simp)]
  simp [expectProps]

theorem zero_or_top (w n : Nat) (h : n < 2^(w+1)) (h0 : n % 2^w = 0) : n = 0 ∨ n = 2^w := by
  have hd := Nat.div_add_mod n (2^w)
  have : n / 2^w < 2 := Nat.div_lt_of_lt_mul (by rwa [Nat.pow_succ] at h)
  rw [h0, Nat.add_zero] at hd
  rcases Nat.lt_succ_iff_lt_or_eq.1 this with h1 | h1
  · left; rw [← hd, Nat.lt_one_iff.1 h1, Nat.mul_zero]
  · right; rw [← hd, h1, Nat.mul_one]

theorem f64IsZero_cases {a : UInt64} (h : f64IsZero a = true) : a = 0 ∨ a = 0x8000000000000000 := by
  have h1 : a &&& 0x7fffffffffffffff = 0 := by simpa [f64IsZero] using h
  have h2 := congrArg UInt64.toNat h1
  rw [UInt64.toNat_and, show (0x7fffffffffffffff : UInt64).toNat = 2^63 - 1 by decide,
    Nat.and_two_pow_sub_one_eq_mod] at h2
  exact (zero_or_top 63 _ a.toNat_lt h2).imp (fun h => UInt64.toNat_inj.mp h) (fun h => UInt64.toNat_inj.mp h)

theorem f32IsZero_cases {a : UInt32} (h : f32IsZero a = true) : a = 0 ∨ a = 0x80000000 := by
  have h1 : a &&& 0x7fffffff = 0 := by simpa [f32IsZero] using h
  have h2 := congrArg UInt32.toNat h1
  rw [UInt32.toNat_and, show (0x7fffffff : UInt32).toNat = 2^31 - 1 by decide,
    Nat.and_two_pow_sub_one_eq_mod] at h2
  exact (zero_or_top 31 _ a.toNat_lt h2).imp (fun h => UInt32.toNat_inj.mp h) (fun h => UInt32.toNat_inj.mp h)

theorem zeroClash_of_noNegZero {a b : PVal} (ha : isNegZero a = false) (hb : isNegZero b = false) :
    zeroClash a b = false := by
  revert ha hb
  fun_cases zeroClash a b
  · intro ha hb
    simp only [isNegZero, beq_eq_false_iff_ne, ne_eq] at ha hb
    simp only [Bool.and_eq_false_imp, Bool.and_eq_true, bne_eq_false_iff_eq, and_imp]
    intro hx hy
    rcases f64IsZero_cases hx with hx | hx <;> rcases f64IsZero_cases hy with hy | hy <;> simp_all
  · intro ha hb
    simp only [isNegZero, beq_eq_false_iff_ne, ne_eq] at ha hb
    simp only [Bool.and_eq_false_imp, Bool.and_eq_true, bne_eq_false_iff_eq, and_imp]
    intro hx hy
    rcases f32IsZero_cases hx with hx | hx <;> rcases f32IsZero_cases hy with hy | hy <;> simp_all
  · intros; rfl

theorem noZeroClash_of_noNegZero (vs : List PVal) (h : ∀ v ∈ vs, isNegZero v = false) :
    noZeroClash vs = true :=
  (noZeroClash_iff vs).2 fun a ha b hb => zeroClash_of_noNegZero (h a ha) (h b hb)

/-- +0.0 as float64 and as float32: what a negative zero of either type clashes with. -/
def posZeros : List PVal := [.f64 0, .f32 0]

theorem noClash_posZeros (w : PVal) :
    (∀ u ∈ posZeros, zeroClash u w = false) ↔ isNegZero w = false := by
  constructor
  · intro h
    cases w <;> try rfl
    · rename_i b
      have := h (.f32 0) (by simp [posZeros])
      simp only [isNegZero, beq_eq_false_iff_ne, ne_eq]
      rintro rfl
      exact absurd this (by decide)
    · rename_i b
      have := h (.f64 0) (by simp [posZeros])
      simp only [isNegZero, beq_eq_false_iff_ne, ne_eq]
      rintro rfl
      exact absurd this (by decide)
  · intro h u hu
    simp only [posZeros, List.mem_cons, List.not_mem_nil, or_false] at hu
    rcases hu with rfl | rfl <;> exact zeroClash_of_noNegZero rfl h

theorem KVE.inv_iff_invZ (e : KVE) : KVE.Inv e ↔ KVE.InvZ posZeros e :=
  ⟨fun h p hp => ⟨(h p hp).1, (noClash_posZeros _).2 (h p hp).2⟩,
   fun h p hp => ⟨(h p hp).1, (noClash_posZeros _).1 (h p hp).2⟩⟩

theorem Admits.of_noNegZero {v : PVal} (h : isNegZero v = false) : Admits posZeros v :=
  ⟨(noClash_posZeros v).2 h, fun _ hw => zeroClash_of_noNegZero h ((noClash_posZeros _).1 hw)⟩

theorem lookupP_perm {l l' : List (String × PVal)} (hp : l.Perm l')
    (hn : (l.map (·.1)).Nodup) (k : String) : lookupP l k = lookupP l' k := by
  suffices h : l.find? (·.1 == k) = l'.find? (·.1 == k) by unfold lookupP; rw [h]
  induction hp with
  | nil => rfl
  | cons x _ ih =>
    simp only [List.map_cons, List.nodup_cons] at hn
    simp only [List.find?_cons, ih hn.2]
  | swap x y l =>
    -- two neighbours with different keys: at most one of them is found
    simp only [List.map_cons, List.nodup_cons, List.mem_cons, not_or] at hn
    simp only [List.find?_cons]
    by_cases hx : x.1 = k <;> by_cases hy : y.1 = k
    · exact absurd (hy.trans hx.symm) hn.1.1
    all_goals
      have hx' : (x.1 == k) = decide (x.1 = k) := rfl
      have hy' : (y.1 == k) = decide (y.1 = k) := rfl
      simp only [hx', hy', hx, hy, decide_false]
  | trans h1 _ ih1 ih2 => exact (ih1 hn).trans (ih2 ((h1.map _).nodup_iff.mp hn))

theorem encodeTags_congr {ps ps' : List (String × PVal)}
    (h : ∀ k, lookupP ps k = lookupP ps' k) :
    ∀ (ks : List String) (e : KVE), encodeTags ps e ks = encodeTags ps' e ks := by
  intro ks
  induction ks with
  | nil => intro e; rfl
  | cons k ks ih =>
    intro e
    simp only [encodeTags, h k]
    split
    · rw [ih]
    · rfl
    · rfl

theorem encodeProperties_perm (e : KVE) (l l' : List (String × PVal)) (hp : l.Perm l')
    (hn : nodupKeys l = true) : encodeProperties e l = encodeProperties e l' := by
  unfold encodeProperties
  rw [sortStrings_perm_eq (hp.map (·.1))]
  exact encodeTags_congr (fun k => lookupP_perm hp ((nodupStr_iff _).mp hn) k) _ e

theorem addSingle_of_ok {fs fs' : List VTFeature} {e e' : KVE} {g : Geom Int}
    {props : List (String × PVal)} {id : IdVal} (h : addSingle fs e g props id = .ok (fs', e')) :
    ∃ gt ws tags, encodeGeometry g = .ok (gt, ws) ∧ encodeProperties e props = .ok (tags, e') ∧
      fs' = fs ++ [{ id := convertID id, tags := tags, gtype := gt, geometry := ws }] := by
  unfold addSingle at h
  split at h
  · next gt ws hg =>
    split at h
    · next tags e2 hp => cases h; exact ⟨gt, ws, tags, hg, hp, rfl⟩
    all_goals cases h
  all_goals cases h

/-- The geometry a feature is written with: none for a nil geometry, the FIRST member of a
    non-empty collection (the loop body of `addFeature` returns), else the geometry itself. -/
def firstGeom (f : Feature) : Option (Geom Int) :=
  match gvalGeom f.geom with
  | none => none
  | some (.collection (g :: _)) => some g
  | some g => some g

theorem addFeature_eq (fs : List VTFeature) (e : KVE) (f : Feature) :
    addFeature fs e f = match firstGeom f with
      | none => .ok (fs, e)
      | some g => addSingle fs e g f.props f.id := by
  unfold addFeature firstGeom
  generalize gvalGeom f.geom = o
  rcases o with _ | g
  · rfl
  · cases g <;> first | rfl | (rename_i gs; cases gs <;> rfl)

/-- `Emit e feats out e'`: `addFeatures` on `feats` from the tables `e` succeeds, appends the
    features `out` and leaves the tables `e'`. -/
inductive Emit : KVE → List Feature → List VTFeature → KVE → Prop
  | nil (e : KVE) : Emit e [] [] e
  | skip {e e' : KVE} {f : Feature} {feats : List Feature} {out : List VTFeature} :
      firstGeom f = none → Emit e feats out e' → Emit e (f :: feats) out e'
  | one {e e1 e' : KVE} {f : Feature} {feats : List Feature} {out : List VTFeature} {g : Geom Int}
      {gt : Int} {ws tags : List W} :
      firstGeom f = some g → encodeGeometry g = .ok (gt, ws) →
      encodeProperties e f.props = .ok (tags, e1) → Emit e1 feats out e' →
      Emit e (f :: feats) (⟨convertID f.id, tags, gt, ws⟩ :: out) e'

theorem Emit.of_ok {feats : List Feature} {fs fs' : List VTFeature} {e e' : KVE}
    (h : addFeatures fs e feats = .ok (fs', e')) : ∃ out, fs' = fs ++ out ∧ Emit e feats out e' := by
  induction feats generalizing fs e with
  | nil => cases h; exact ⟨[], by simp, .nil _⟩
  | cons f feats ih =>
    simp only [addFeatures] at h
    split at h
    · next fs1 e1 h1 =>
      obtain ⟨out, rfl, hem⟩ := ih h
      rw [addFeature_eq] at h1
      cases hg : firstGeom f with
      | none => rw [hg] at h1; cases h1; exact ⟨out, rfl, .skip hg hem⟩
      | some g =>
        rw [hg] at h1
        obtain ⟨gt, ws, tags, hgeo, hp, rfl⟩ := addSingle_of_ok h1
        exact ⟨_ :: out, by simp, .one hg hgeo hp hem⟩
    all_goals cases h

theorem marshalLayer_of_ok {l : Layer} {v : VTLayer} (h : marshalLayer l = .ok v) :
    ∃ fs e, Emit KVE.empty l.features fs e ∧
      v = { name := l.name, version := l.version, extent := l.extent, keys := e.keys,
            values := e.vals.map (·.2), features := fs } := by
  unfold marshalLayer at h
  split at h
  · next fs e h1 =>
    cases h
    obtain ⟨out, rfl, hem⟩ := Emit.of_ok h1
    exact ⟨_, e, hem, rfl⟩
  all_goals cases h

end Orb.MVT
