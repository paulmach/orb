/-
  Allocation accounting, stream path (`Decoder.Decode` and the read* functions): the capacities requested by the
  decoder's own `make` calls are at most proportional to the input length plus a fixed cap, for succeeding AND
  failing decodes.  One statement per reader, `Paid c rd al k K`: what `al` requests while `rd` runs is paid for at
  `c` bytes per input byte — by the bytes consumed when `rd` succeeds (`S`, with `k` to spare), up to a fixed `K`
  whatever happens (`F`).  A loop pays as its element does, and a counted list pays for its capped `make` out of what
  its elements spare; the accounting functions of the model are these two shapes.  At the end the recursion depth.
-/
import OrbProofs.C01Lemmas

namespace Orb.WKB
open Orb Generated.Params

variable {α β : Type}

theorem allocCap_bounds (num cap : Nat) : allocCap num cap ≤ cap ∧ allocCap num cap ≤ num := by
  unfold allocCap
  split <;> omega

theorem allocFixed_eq : allocFixed = 164808 := by decide

theorem ite_le {c : Prop} [Decidable c] {a b X : Nat} (ha : a ≤ X) (hb : b ≤ X) : (if c then a else b) ≤ X := by
  split <;> assumption

def repAlloc (rd : Bytes → R (α × Bytes)) (al : Bytes → Nat) : Nat → Bytes → Nat
  | 0, _ => 0
  | n+1, s => al s + match rd s with
    | .ok p => repAlloc rd al n p.2
    | _ => 0

structure Paid (c : Nat) (rd : Bytes → R (α × Bytes)) (al : Bytes → Nat) (k K : Nat) : Prop where
  S : ∀ s a r, rd s = .ok (a, r) → al s + c * r.length + k ≤ c * s.length
  F : ∀ s, al s ≤ c * s.length + K

theorem Paid.weaken {c : Nat} {rd : Bytes → R (α × Bytes)} {al : Bytes → Nat} {k K k' K' : Nat}
    (h : Paid c rd al k K) (hk : k' ≤ k) (hK : K ≤ K') : Paid c rd al k' K' :=
  ⟨fun s a r hr => by have := h.S s a r hr; omega, fun s => by have := h.F s; omega⟩

/-- The `F` half of a loop charges the elements it got past by their `S` half; only the last, failing one by `F`. -/
theorem Paid.rep {c : Nat} {rd : Bytes → R (α × Bytes)} {al : Bytes → Nat} {k K : Nat} (h : Paid c rd al k K) :
    ∀ n, Paid c (rep rd n) (repAlloc rd al n) (n * k) K
  | 0 => ⟨fun s a r hr => by cases hr; simp only [repAlloc]; omega, fun s => by simp only [repAlloc]; omega⟩
  | n+1 => by
    have ih := Paid.rep h n
    refine ⟨fun s a r hr => ?_, fun s => ?_⟩
    · obtain ⟨p, hp, hr⟩ := Res.bind_eq_ok hr
      obtain ⟨q, hq, hr⟩ := Res.bind_eq_ok hr
      cases hr
      have := h.S s p.1 p.2 hp
      have := ih.S p.2 q.1 q.2 hq
      simp only [repAlloc, hp, Nat.add_mul]; omega
    · have := h.F s
      simp only [repAlloc]
      split
      · rename_i p hp
        have := h.S s p.1 p.2 hp
        have := ih.F p.2
        omega
      · omega

/-- `make(…, 0, min(num, cap))` of `sz`-byte elements as soon as the count word is read, then the elements -/
def countedAlloc (o : Order) (sz cap : Nat) (rd : Bytes → R (α × Bytes)) (al : Bytes → Nat) (s : Bytes) : Nat :=
  match readU32 o s with
  | .ok p => sz * allocCap p.1 cap + repAlloc rd al p.1 p.2
  | _ => 0

/-- `hsz`: a slot of the `make` costs no more than an element spares — on success the capped capacity (at most the
    count) is paid for by the elements that were then read; on failure it is at most `sz * cap`, and the count word
    itself paid `4 * c` (`hK`). -/
theorem Paid.counted {c : Nat} {rd : Bytes → R (α × Bytes)} {al : Bytes → Nat} {k K : Nat} (h : Paid c rd al k K)
    (o : Order) (sz cap K' : Nat) (hsz : sz ≤ k) (hK : sz * cap + K ≤ K' + 4 * c) :
    Paid c (counted o rd) (countedAlloc o sz cap rd al) (4 * c) K' := by
  refine ⟨fun s a r hr => ?_, fun s => ?_⟩
  · obtain ⟨p, hp, hr⟩ := Res.bind_eq_ok hr
    have h1 := readU32_len (r := p.2) (n := p.1) hp
    have h2 := (h.rep p.1).S p.2 a r hr
    have h3 : sz * allocCap p.1 cap ≤ p.1 * k :=
      Nat.le_trans (Nat.mul_le_mul hsz (allocCap_bounds p.1 cap).2) (Nat.le_of_eq (Nat.mul_comm _ _))
    have : c * s.length = c * p.2.length + 4 * c := by rw [← h1, Nat.mul_add, Nat.mul_comm c 4]
    simp only [countedAlloc, hp]; omega
  · unfold countedAlloc
    split
    · rename_i p hp
      have h1 := readU32_len (r := p.2) (n := p.1) hp
      have h2 := (h.rep p.1).F p.2
      have h3 : sz * allocCap p.1 cap ≤ sz * cap := Nat.mul_le_mul_left sz (allocCap_bounds p.1 cap).1
      have : c * s.length = c * p.2.length + 4 * c := by rw [← h1, Nat.mul_add, Nat.mul_comm c 4]
      omega
    · omega

def memberAlloc (want : Nat) (rdAlloc : Order → Bytes → Nat) (s : Bytes) : Nat :=
  match readBOT s with
  | .ok h => if h.2.1 ≠ want then 0 else rdAlloc h.1 h.2.2.2
  | _ => 0

/-- a member pays as its reader does; its header (5 bytes at least) spares `5 * c` more -/
theorem Paid.member {c want : Nat} {rd : Order → Bytes → R (β × Bytes)} {rdAlloc : Order → Bytes → Nat}
    {k K : Nat} (h : ∀ o, Paid c (rd o) (rdAlloc o) k K) :
    Paid c (member want rd) (memberAlloc want rdAlloc) (k + 5 * c) K := by
  refine ⟨fun s a r hr => ?_, fun s => ?_⟩
  · obtain ⟨⟨o, typ, srid, s1⟩, ht, hr⟩ := Res.bind_eq_ok hr
    have hl := readBOT_len ht
    simp only [memberAlloc, ht]
    split at hr
    · cases hr
    · rename_i hw
      have := (h o).S s1 a r hr
      have : c * (s1.length + 5) ≤ c * s.length := Nat.mul_le_mul_left c hl
      simp only [if_neg hw]; rw [Nat.mul_add, Nat.mul_comm c 5] at this; omega
  · unfold memberAlloc
    split
    · rename_i t ht
      obtain ⟨o, typ, srid, s1⟩ := t
      have hl := readBOT_len ht
      have : c * s1.length ≤ c * s.length := Nat.mul_le_mul_left c (by omega)
      split
      · omega
      · have := (h o).F s1; simp only []; omega
    · omega

theorem Paid.ite {c k K : Nat} {t : Prop} [Decidable t] {a b : Bytes → R (α × Bytes)} {al bl : Bytes → Nat}
    (ha : Paid c a al k K) (hb : Paid c b bl k K) :
    Paid c (fun s => if t then a s else b s) (fun s => if t then al s else bl s) k K := by
  by_cases h : t
  · simpa only [if_pos h]
  · simpa only [if_neg h]

theorem Paid.wrap {c k K : Nat} {rd : Bytes → R (β × Bytes)} {al : Bytes → Nat} (h : Paid c rd al k K) (f : β → G) :
    Paid c (wrap f rd) al k K :=
  ⟨fun s g r hr => by obtain ⟨p, hp, hr⟩ := Res.bind_eq_ok hr; cases hr; exact h.S s p.1 p.2 hp, h.F⟩

theorem repAlloc_zero (rd : Bytes → R (α × Bytes)) : ∀ n s, repAlloc rd (fun _ => 0) n s = 0
  | 0, _ => rfl
  | n+1, s => by rw [repAlloc]; split <;> simp only [repAlloc_zero rd n, Nat.add_zero]

theorem readLineStringAlloc_eq (o : Order) (s : Bytes) :
    readLineStringAlloc o s = countedAlloc o szPoint wkb_MaxPointsAlloc (readPoint o) (fun _ => 0) s := by
  unfold readLineStringAlloc countedAlloc
  cases readU32 o s <;> simp only [repAlloc_zero, Nat.add_zero]

theorem readRingsLoopAlloc_eq (o : Order) : ∀ n s,
    readRingsLoopAlloc o n s = repAlloc (readLineString o) (readLineStringAlloc o) n s
  | 0, _ => rfl
  | n+1, s => by
    rw [readRingsLoopAlloc, repAlloc]
    cases readLineString o s <;> simp only [readRingsLoopAlloc_eq o n]

theorem readPolygonAlloc_eq (o : Order) (s : Bytes) :
    readPolygonAlloc o s =
      countedAlloc o szSlice wkb_MaxMultiAlloc (readLineString o) (readLineStringAlloc o) s := by
  unfold readPolygonAlloc countedAlloc
  cases readU32 o s <;> simp only [readRingsLoopAlloc_eq]

theorem readMembersAlloc_eq (want : Nat) (rd : Order → Bytes → R (β × Bytes)) (rdAlloc : Order → Bytes → Nat) :
    ∀ n s, readMembersAlloc want rd rdAlloc n s = repAlloc (member want rd) (memberAlloc want rdAlloc) n s
  | 0, _ => rfl
  | n+1, s => by
    rw [readMembersAlloc, repAlloc, member, memberAlloc]
    cases readBOT s with
    | ok h =>
      simp only [Res.bind_ok]
      split
      · rfl
      · cases rd h.1 h.2.2.2 <;> simp only [readMembersAlloc_eq want rd rdAlloc n, Nat.add_zero]
    | err e => rfl
    | panic m => rfl

theorem collLoopAlloc_eq (dec : Bytes → R (G × Nat × Bytes)) (decAlloc : Bytes → Nat) : ∀ n s,
    collLoopAlloc dec decAlloc n s = repAlloc (collMember dec) decAlloc n s
  | 0, _ => rfl
  | n+1, s => by
    rw [collLoopAlloc, repAlloc, collMember]
    cases dec s <;> simp only [Res.bind, collLoopAlloc_eq dec decAlloc n]

/- Constants: 200 = `allocPerByte`; 800 = 200 · 4, a count word; 1000 = 200 · 5, a member's header; 3200 = 200 · 16, a
  point; 160000 = `szPoint * MaxPointsAlloc`; 2400 = `szSlice * MaxMultiAlloc`; 1600 = `szIface * MaxMultiAlloc`;
  162400 = 160000 + 2400; 164800 = 162400 + 2400; 164808 = `allocFixed`; 165608 = `allocFixed` + 800. -/

theorem paid_point (o : Order) : Paid 200 (readPoint o) (fun _ => 0) 3200 0 :=
  ⟨fun _ _ _ h => by have := readPoint_len h; omega, fun _ => Nat.zero_le _⟩

theorem paid_lineString (o : Order) : Paid 200 (readLineString o) (readLineStringAlloc o) 800 160000 := by
  have := (paid_point o).counted o szPoint wkb_MaxPointsAlloc 160000 (by decide) (by decide)
  rwa [← funext (readLineString_eq o), ← funext (readLineStringAlloc_eq o)] at this

theorem paid_polygon (o : Order) : Paid 200 (readPolygon o) (readPolygonAlloc o) 800 162400 := by
  have := (paid_lineString o).counted o szSlice wkb_MaxMultiAlloc 162400 (by decide) (by decide)
  rwa [← funext (readPolygon_eq o), ← funext (readPolygonAlloc_eq o)] at this

/-- The same table for the accounting: what the arm of type `typ` requests. -/
def bodyAlloc (collAlloc : Order → Bytes → Nat) (o : Order) (typ : Nat) : Bytes → Nat :=
  fun s =>
  if typ = wkb_pointType then 0
  else if typ = wkb_multiPointType then
    countedAlloc o szPoint wkb_MaxPointsAlloc (member wkb_pointType readPoint) (memberAlloc wkb_pointType fun _ _ => 0) s
  else if typ = wkb_lineStringType then readLineStringAlloc o s
  else if typ = wkb_multiLineStringType then
    countedAlloc o szSlice wkb_MaxMultiAlloc (member wkb_lineStringType readLineString)
      (memberAlloc wkb_lineStringType readLineStringAlloc) s
  else if typ = wkb_polygonType then readPolygonAlloc o s
  else if typ = wkb_multiPolygonType then
    countedAlloc o szSlice wkb_MaxMultiAlloc (member wkb_polygonType readPolygon)
      (memberAlloc wkb_polygonType readPolygonAlloc) s
  else if typ = wkb_geometryCollectionType then collAlloc o s
  else 0

theorem decodeWithAlloc_eq (collAlloc : Order → Bytes → Nat) (s : Bytes) :
    decodeWithAlloc collAlloc s = szBuf + match readBOT s with
      | .ok h => bodyAlloc collAlloc h.1 h.2.1 h.2.2.2
      | _ => 0 := by
  unfold decodeWithAlloc
  cases readBOT s with
  | err e => rfl
  | panic m => rfl
  | ok h =>
    obtain ⟨o, typ, srid, s'⟩ := h
    cases hr : readU32 o s' with
    | ok v => obtain ⟨num, s2⟩ := v; simp only [bodyAlloc, countedAlloc, hr, readMembersAlloc_eq]
    | err e => simp only [bodyAlloc, countedAlloc, hr]
    | panic m => simp only [bodyAlloc, countedAlloc, hr]

theorem paid_body (coll : Order → Bytes → R (List G × Bytes)) (collAlloc : Order → Bytes → Nat)
    (hc : ∀ o, Paid 200 (coll o) (collAlloc o) 0 165608) (o : Order) (typ : Nat) :
    Paid 200 (bodyReader coll o typ) (bodyAlloc collAlloc o typ) 0 165608 := by
  refine .ite (((paid_point o).wrap _).weaken (Nat.zero_le _) (Nat.zero_le _)) (.ite ?_ (.ite ?_ (.ite ?_ (.ite ?_
    (.ite ?_ (.ite ((hc o).wrap _) ⟨fun _ _ _ h => (nomatch h), fun _ => Nat.zero_le _⟩))))))
  · exact (((Paid.member paid_point).counted o szPoint wkb_MaxPointsAlloc 160000 (by decide) (by decide)).wrap
      _).weaken (Nat.zero_le _) (by decide)
  · exact ((paid_lineString o).wrap _).weaken (Nat.zero_le _) (by decide)
  · exact (((Paid.member paid_lineString).counted o szSlice wkb_MaxMultiAlloc 162400 (by decide) (by decide)).wrap
      _).weaken (Nat.zero_le _) (by decide)
  · exact ((paid_polygon o).wrap _).weaken (Nat.zero_le _) (by decide)
  · exact (((Paid.member paid_polygon).counted o szSlice wkb_MaxMultiAlloc 164800 (by decide) (by decide)).wrap
      _).weaken (Nat.zero_le _) (by decide)

/-- `Decode` with a collection reader that pays: the header (5 bytes at least) pays for the 8-byte buffer, and a
    success still spares the 16 bytes an interface slot of the enclosing collection costs. -/
theorem paid_decodeWith (coll : Order → Bytes → R (List G × Bytes)) (collAlloc : Order → Bytes → Nat)
    (hc : ∀ o, Paid 200 (coll o) (collAlloc o) 0 165608) :
    Paid 200 (collMember (decodeWith coll)) (decodeWithAlloc collAlloc) 16 164808 := by
  refine ⟨fun s g r h => ?_, fun s => ?_⟩
  · simp only [collMember, decodeWith_eq] at h
    obtain ⟨t, ht, h⟩ := Res.bind_eq_ok h
    obtain ⟨⟨o, typ, srid, s1⟩, hb, ht⟩ := Res.bind_eq_ok ht
    obtain ⟨q, hq, ht⟩ := Res.bind_eq_ok ht
    cases ht; cases h
    have := readBOT_len hb
    have := (paid_body coll collAlloc hc o typ).S s1 q.1 q.2 hq
    simp only [decodeWithAlloc_eq, hb, szBuf]; omega
  · rw [decodeWithAlloc_eq]
    split
    · rename_i h hb
      have := readBOT_len (o := h.1) (t := h.2.1) (srid := h.2.2.1) (r := h.2.2.2) hb
      have := (paid_body coll collAlloc hc h.1 h.2.1).F h.2.2.2
      simp only [szBuf]; omega
    · simp only [szBuf]; omega

theorem readCollectionAllocF_eq (left : Nat) (o : Order) (s : Bytes) :
    readCollectionAllocF (left + 1) o s = countedAlloc o szIface wkb_MaxMultiAlloc
      (collMember (decodeWith (readCollectionF left))) (decodeWithAlloc (readCollectionAllocF left)) s := by
  rw [readCollectionAllocF, countedAlloc]; cases readU32 o s <;> simp only [collLoopAlloc_eq]

/-- `readCollection` with `left` levels to go.  An interface slot costs exactly the 16 bytes a member `Decode`
    spares (its buffer and header), so nothing is left over on success. -/
theorem paid_collection : ∀ (left : Nat) (o : Order),
    Paid 200 (readCollectionF left o) (readCollectionAllocF left o) 0 165608
  | 0, _ => ⟨fun s a r h => by simp only [readCollectionF] at h; contradiction,
      fun s => by simp only [readCollectionAllocF]; omega⟩
  | left+1, o => by
    have := ((paid_decodeWith _ _ (paid_collection left)).counted o szIface wkb_MaxMultiAlloc 165608
      (by decide) (by decide)).weaken (Nat.zero_le _) (Nat.le_refl _)
    rwa [← funext (readCollectionF_eq left o), ← funext (readCollectionAllocF_eq left o)] at this

theorem paid_decodeStream (left : Nat) :
    Paid 200 (collMember (decodeStream left)) (decodeWithAlloc (readCollectionAllocF left)) 16 164808 :=
  paid_decodeWith _ _ (paid_collection left)

/-! ### recursion depth

  `decodeWithDepth`, `collLoopDepth`, `readCollectionDepthF` (Orb/WKB.lean) follow the same three tiers as the
  accounting above and return the largest number of `Decode` activations on the Go stack at the same time, for
  succeeding AND failing decodes: with `left` levels allowed it is at most `left` (+ 1 for the outermost `Decode`). -/

theorem collLoopDepth_le (dec : Bytes → R (G × Nat × Bytes)) (decDepth : Bytes → Nat) (K : Nat)
    (h : ∀ t, decDepth t ≤ K) (n : Nat) : ∀ s, collLoopDepth dec decDepth n s ≤ K := by
  induction n with
  | zero => intro s; simp only [collLoopDepth]; exact Nat.zero_le _
  | succ n ih =>
    intro s
    simp only [collLoopDepth]
    refine Nat.max_le.2 ⟨h s, ?_⟩
    split
    · exact ih _
    · exact Nat.zero_le _

theorem decodeWithDepth_le (cd : Order → Bytes → Nat) (K : Nat) (h : ∀ o s, cd o s ≤ K) (s : Bytes) :
    decodeWithDepth cd s ≤ K + 1 := by
  unfold decodeWithDepth
  split
  · rename_i o _ _ s1 _
    split
    · have := h o s1; omega
    · omega
  · omega

theorem readCollectionDepthF_le (left : Nat) : ∀ (o : Order) (s : Bytes),
    readCollectionDepthF left o s ≤ left := by
  induction left with
  | zero => intro o s; simp only [readCollectionDepthF]; exact Nat.le_refl _
  | succ left ih =>
    intro o s
    simp only [readCollectionDepthF]
    split
    · exact collLoopDepth_le _ _ (left + 1) (decodeWithDepth_le _ left ih) _ _
    · exact Nat.zero_le _

end Orb.WKB
