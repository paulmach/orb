/-
  The even-odd specification one edge at a time: what `EvenOdd.cross`, `onSeg` and `crossesAbove` say of an edge and a
  query (symmetry in the endpoints, the degenerate edge, the edge wholly to one side of the query), and the comparison of a
  height with a line, or of two slopes, as the sign of a cross product.  No model is mentioned: the proofs about
  `planar.Contains`, about clipping and about the tile fill all read the specification through these.
-/
import Orb.EvenOdd
import Mathlib.Algebra.Order.Field.Basic
import Mathlib.Tactic.Ring

namespace Orb.Contains
open Orb Orb.EvenOdd

-- the lemmas of a section are all stated over its ordered ring or field, also those that use less of it
set_option linter.unusedSectionVars false

section ring
variable {α : Type} [CommRing α] [LinearOrder α] [IsStrictOrderedRing α]

theorem cross_swap (s e p : Pt α) : EvenOdd.cross e s p = - EvenOdd.cross s e p := by
  simp only [EvenOdd.cross]; ring

theorem onSeg_swap (s e p : Pt α) : onSeg e s p = onSeg s e p := by
  rw [onSeg, onSeg, cross_swap s e p]
  simp only [neg_pos, neg_lt_zero]
  rw [Bool.eq_iff_iff]
  simp only [Bool.and_eq_true, decide_eq_true_eq]
  constructor <;> rintro ⟨⟨⟨a, b⟩, c⟩, d⟩ <;> exact ⟨⟨⟨b, a⟩, c.symm⟩, d.symm⟩

theorem crossesAbove_swap (s e p : Pt α) : crossesAbove e s p = crossesAbove s e p := by
  rw [crossesAbove, crossesAbove, cross_swap s e p]
  simp only [neg_pos, neg_lt_zero]
  exact decide_eq_decide.mpr or_comm

theorem onSeg_self_right (s v : Pt α) : onSeg s v v = true := by
  have hc : EvenOdd.cross s v v = 0 := by simp only [EvenOdd.cross]; ring
  simp only [onSeg, hc, lt_self_iff_false, not_false_eq_true, and_self, decide_true, Bool.true_and,
    le_refl, and_true, true_and, Bool.and_eq_true, decide_eq_true_eq]
  exact ⟨le_total _ _, le_total _ _⟩

theorem onSeg_self (v p : Pt α) (h : onSeg v v p = true) : p = v := by
  simp only [onSeg, Bool.and_eq_true, decide_eq_true_eq, or_self] at h
  obtain ⟨⟨_, h1⟩, h2⟩ := h
  cases p; cases v
  simp only [Pt.mk.injEq] at *
  exact ⟨le_antisymm h1.2 h1.1, le_antisymm h2.2 h2.1⟩

theorem crossesAbove_self (v p : Pt α) : crossesAbove v v p = false := by
  simp only [crossesAbove, decide_eq_false_iff_not, not_or, not_and]
  constructor
  · intro h1 h2; exact absurd (lt_of_le_of_lt h1 h2) (lt_irrefl _)
  · intro h1 h2; exact absurd (lt_of_le_of_lt h1 h2) (lt_irrefl _)

theorem onSeg_iff (s e p : Pt α) : onSeg s e p = true ↔
    EvenOdd.cross s e p = 0 ∧ ((s.x ≤ p.x ∧ p.x ≤ e.x) ∨ (e.x ≤ p.x ∧ p.x ≤ s.x)) ∧
      ((s.y ≤ p.y ∧ p.y ≤ e.y) ∨ (e.y ≤ p.y ∧ p.y ≤ s.y)) := by
  simp only [onSeg, Bool.and_eq_true, decide_eq_true_eq, not_lt, and_assoc]
  constructor
  · rintro ⟨a, b, c⟩; exact ⟨le_antisymm b a, c⟩
  · rintro ⟨a, c⟩; exact ⟨a.ge, a.le, c⟩

theorem crossesAbove_iff (s e p : Pt α) : crossesAbove s e p = true ↔
    ((s.x ≤ p.x ∧ p.x < e.x ∧ EvenOdd.cross s e p < 0) ∨ (e.x ≤ p.x ∧ p.x < s.x ∧ 0 < EvenOdd.cross s e p)) := by
  simp only [crossesAbove, decide_eq_true_eq]

/-- the cross product split at `p`: when `p.y` is above (below) both endpoints and `p.x` between them, each summand
    has a sign -/
theorem cross_about_p (s e p : Pt α) :
    EvenOdd.cross s e p = (e.x - p.x) * (p.y - s.y) + (p.x - s.x) * (p.y - e.y) := by
  simp only [EvenOdd.cross]; ring

theorem cross_window {s e p : Pt α} (h : crossesAbove s e p = true) : decide (s.x ≤ p.x) = !decide (e.x ≤ p.x) := by
  rcases (crossesAbove_iff s e p).1 h with ⟨a, b, -⟩ | ⟨a, b, -⟩
  · rw [decide_eq_true a, decide_eq_false (not_le.2 b)]; rfl
  · rw [decide_eq_true a, decide_eq_false (not_le.2 b)]; rfl

theorem straddle_iff {a b q : α} : ¬ ((q < a) ↔ (q < b)) ↔ (a ≤ q ∧ q < b) ∨ (b ≤ q ∧ q < a) := by
  rcases lt_or_ge q a with sa | sa <;> rcases lt_or_ge q b with sb | sb
  · exact iff_of_false (fun h => h ⟨fun _ => sb, fun _ => sa⟩)
      (by rintro (⟨c, _⟩ | ⟨c, _⟩); exacts [c.not_gt sa, c.not_gt sb])
  · exact iff_of_true (fun h => sb.not_gt (h.1 sa)) (Or.inr ⟨sb, sa⟩)
  · exact iff_of_true (fun h => sa.not_gt (h.2 sb)) (Or.inl ⟨sa, sb⟩)
  · exact iff_of_false (fun h => h ⟨fun x => absurd x sa.not_gt, fun x => absurd x sb.not_gt⟩)
      (by rintro (⟨_, d⟩ | ⟨_, d⟩); exacts [sb.not_gt d, sa.not_gt d])

/-- `edge_left`, `edge_right`, `edge_above`, `edge_below` are named by where the QUERY is: here `p` is left of both ends,
    so the edge lies wholly to its right. -/
theorem edge_left (s e p : Pt α) (hs : p.x < s.x) (he : p.x < e.x) :
    onSeg s e p = false ∧ crossesAbove s e p = false := by
  constructor
  · rw [← Bool.not_eq_true, onSeg_iff]
    rintro ⟨_, (a | a), _⟩
    · exact absurd (lt_of_lt_of_le hs a.1) (lt_irrefl _)
    · exact absurd (lt_of_lt_of_le he a.1) (lt_irrefl _)
  · rw [← Bool.not_eq_true, crossesAbove_iff]
    rintro (a | a)
    · exact absurd (lt_of_lt_of_le hs a.1) (lt_irrefl _)
    · exact absurd (lt_of_lt_of_le he a.1) (lt_irrefl _)

theorem crossesAbove_right (s e p : Pt α) (hs : s.x ≤ p.x) (he : e.x ≤ p.x) : crossesAbove s e p = false := by
  rw [← Bool.not_eq_true, crossesAbove_iff]
  exact fun a => a.elim (fun a => a.2.1.not_ge he) (fun a => a.2.1.not_ge hs)

theorem edge_right (s e p : Pt α) (hs : s.x < p.x) (he : e.x < p.x) :
    onSeg s e p = false ∧ crossesAbove s e p = false := by
  constructor
  · rw [← Bool.not_eq_true, onSeg_iff]
    rintro ⟨_, (a | a), _⟩
    · exact absurd (lt_of_le_of_lt a.2 he) (lt_irrefl _)
    · exact absurd (lt_of_le_of_lt a.2 hs) (lt_irrefl _)
  · exact crossesAbove_right s e p hs.le he.le

theorem edge_above (s e p : Pt α) (hs : s.y < p.y) (he : e.y < p.y) :
    onSeg s e p = false ∧ crossesAbove s e p = false := by
  constructor
  · rw [← Bool.not_eq_true, onSeg_iff]
    rintro ⟨_, _, (a | a)⟩
    · exact absurd (lt_of_le_of_lt a.2 he) (lt_irrefl _)
    · exact absurd (lt_of_le_of_lt a.2 hs) (lt_irrefl _)
  · rw [← Bool.not_eq_true, crossesAbove_iff, cross_about_p]
    rintro (⟨a, b, c⟩ | ⟨a, b, c⟩)
    · exact c.not_gt (add_pos_of_pos_of_nonneg (mul_pos (sub_pos.2 b) (sub_pos.2 hs))
        (mul_nonneg (sub_nonneg.2 a) (sub_pos.2 he).le))
    · exact c.not_gt (add_neg_of_nonpos_of_neg (mul_nonpos_of_nonpos_of_nonneg (sub_nonpos.2 a) (sub_pos.2 hs).le)
        (mul_neg_of_neg_of_pos (sub_neg.2 b) (sub_pos.2 he)))

theorem edge_below (s e p : Pt α) (hs : p.y < s.y) (he : p.y < e.y) :
    onSeg s e p = false ∧ crossesAbove s e p = (decide (s.x ≤ p.x) != decide (e.x ≤ p.x)) := by
  constructor
  · rw [← Bool.not_eq_true, onSeg_iff]
    rintro ⟨_, _, (a | a)⟩
    · exact absurd (lt_of_lt_of_le hs a.1) (lt_irrefl _)
    · exact absurd (lt_of_lt_of_le he a.1) (lt_irrefl _)
  · -- exactly one end has `w.x ≤ p.x`: one of the two windows, and below both ends the sign of the cross product follows
    rw [Bool.eq_iff_iff, crossesAbove_iff, cross_about_p, bne_iff_ne, ne_eq, decide_eq_decide,
      (not_congr ((iff_congr not_lt not_lt).symm.trans not_iff_not)).trans straddle_iff]
    exact or_congr
      (and_congr_right fun a => and_iff_left_of_imp fun b =>
        add_neg_of_neg_of_nonpos (mul_neg_of_pos_of_neg (sub_pos.2 b) (sub_neg.2 hs))
          (mul_nonpos_of_nonneg_of_nonpos (sub_nonneg.2 a) (sub_neg.2 he).le))
      (and_congr_right fun b => and_iff_left_of_imp fun a =>
        add_pos_of_nonneg_of_pos (mul_nonneg_of_nonpos_of_nonpos (sub_nonpos.2 b) (sub_neg.2 hs).le)
          (mul_pos_of_neg_of_neg (sub_neg.2 a) (sub_neg.2 he)))

/-- `left` as in `LevelLeft` of C09Lemmas, not as in `edge_left`: the query is level with the first endpoint `s`, which for a
    sorted edge is the left one. -/
theorem cross_left (s e p : Pt α) (h : p.x = s.x) : EvenOdd.cross s e p = (e.x - s.x) * (p.y - s.y) := by
  rw [EvenOdd.cross, h, sub_self, mul_zero, sub_zero]

theorem onSeg_level (s e p : Pt α) (h : p.x = s.x) (hne : s.x ≠ e.x) (ho : onSeg s e p = true) : p.y = s.y := by
  have hc := ((onSeg_iff s e p).1 ho).1
  rw [cross_left s e p h] at hc
  exact sub_eq_zero.1 ((mul_eq_zero.1 hc).resolve_left (sub_ne_zero.2 hne.symm))

end ring

section field
variable {α : Type} [Field α] [LinearOrder α] [IsStrictOrderedRing α]

/-! Comparing with a quotient is the sign of a cross product.  Four numbers: a line of direction `(u, v)` through the
origin, and a point `(x, y)`; the products stand in the order in which `EvenOdd.cross` writes them. -/

theorem lt_line_iff {u v x y : α} (hu : 0 < u) : y < x * v / u ↔ 0 < v * x - u * y := by
  rw [lt_div_iff₀ hu, sub_pos, mul_comm u, mul_comm v]

theorem lt_line_iff_of_neg {u v x y : α} (hu : u < 0) : y < x * v / u ↔ v * x - u * y < 0 := by
  rw [lt_div_iff_of_neg hu, sub_neg, mul_comm u, mul_comm v]

theorem slope_le_iff {u v x y : α} (hx : 0 < x) (hu : 0 < u) : y / x ≤ v / u ↔ u * y - v * x ≤ 0 := by
  rw [div_le_div_iff₀ hx hu, sub_nonpos, mul_comm u]

theorem slope_eq_iff {u v x y : α} (hx : 0 < x) (hu : 0 < u) : y / x = v / u ↔ u * y - v * x = 0 := by
  rw [div_eq_div_iff hx.ne' hu.ne', sub_eq_zero, mul_comm u]

end field

end Orb.Contains
