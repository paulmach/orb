/-
  C20 — what the generic entry points of clip, smartclip and simplify do on each kind of geometry: the
  vocabulary of result unwrapping (`clipPre`, `wrap…`, `scMember`, `scWrap`), the member loops of the collection
  cases as list functions, and the per-kind / collection equations of `clip.Geometry` and `smartclip.Geometry`.
  Core Lean only, below the packages' own proofs: their totality theorems (C08, C16, C12) rest on these equations.
  The letters (b), (c) in the docstrings are the clauses `f_agrees_typed`, `f_collection` of the property, as the head
  comment of OrbProofs/C20Models.lean lists them.
-/
import OrbProofs.ResLemmas
import OrbProofs.ClipMembers
import Orb.Clip
import Orb.SmartClip
import Orb.Simplify

set_option linter.unusedSectionVars false

namespace Orb.C20M
open Orb Orb.Core

section clipVocab
variable {α : Type} [LT α] [LE α] [DecidableLT α] [DecidableLE α] [Min α] [Max α]

/-- the bound pre-test every case of `clip.Geometry` starts with: `if !bound.Intersects(g.Bound()) { return nil }` -/
def clipPre (eb box : Bound α) (g : Geom α) (k : Option (Option (Geom α))) : Option (Option (Geom α)) :=
  if !(box.intersects (Core.bound eb g)) then some none else k

/-- tail of the `MultiPoint` case: nil / single point unwrapped / multi-point -/
def wrapPts : List (Pt α) → Option (Geom α)
  | [] => none
  | [p] => some (.point p)
  | l => some (.multiPoint l)

/-- tail of the `LineString` / `MultiLineString` cases -/
def wrapLines : List (List (Pt α)) → Option (Geom α)
  | [] => none
  | [l] => some (.lineString l)
  | l => some (.multiLineString l)

/-- tail of the `Ring` case -/
def wrapRing : List (Pt α) → Option (Geom α)
  | [] => none
  | r => some (.ring r)

/-- tail of the `Polygon` case -/
def wrapPoly : List (List (Pt α)) → Option (Geom α)
  | [] => none
  | p => some (.polygon p)

/-- tail of the `MultiPolygon` case -/
def wrapPolys : List (List (List (Pt α))) → Option (Geom α)
  | [] => none
  | [p] => some (.polygon p)
  | l => some (.multiPolygon l)

/-- tail of the `Bound` case -/
def wrapBound (r : Bound α) : Option (Geom α) := if r.isEmpty then none else some (.bound r.lo r.hi)

/-- the `Bound` case: an empty argument gives nil (`if g.IsEmpty() { return nil }`: `clip.Bound` would
    treat it as "no constraint" and hand back the clip box), otherwise the tail on the intersection `r` -/
def wrapBoundArg (g r : Bound α) : Option (Geom α) := if g.isEmpty then none else wrapBound r

/-- tail of the `Collection` case: nil / single survivor unwrapped / collection -/
def wrapColl : List (Geom α) → Option (Geom α)
  | [] => none
  | [g] => some g
  | l => some (.collection l)

end clipVocab

section smartVocab
variable {α : Type}

/-- what a member result contributes to the new collection: a nil interface is dropped, a typed
    nil (`orb.Collection(nil)` from a nested collection without survivors) is kept as the empty value -/
def scMember : GVal α → Option (Geom α)
  | .val v => some v
  | .nilSlice k => some (Core.emptyOf k)
  | .nilIface => none

/-- tail of the collection case of `smartclip.Geometry`: typed nil collection / single survivor / collection -/
def scWrap : List (Geom α) → GVal α
  | [] => .nilSlice .collection
  | [g] => .val g
  | l => .val (.collection l)

end smartVocab

section smart
variable {α : Type} [Add α] [Sub α] [Mul α] [Div α] [LT α] [LE α] [DecidableLT α] [DecidableLE α] [BEq α]
  [OfNat α 0] [OfNat α 2] [Min α] [Max α]

theorem smart_members_eq (eb box : Bound α) (o : Int) (gs : List (Geom α)) :
    SmartClip.geometry.members eb box o gs =
      (resMapM (SmartClip.geometry eb box o) gs).map (·.filterMap scMember) := by
  induction gs with
  | nil => rfl
  | cons g gs ih =>
    rw [SmartClip.geometry.members, ih, resMapM]
    cases h1 : SmartClip.geometry eb box o g with
    | err e => rfl
    | panic w => rfl
    | ok c =>
      cases h2 : resMapM (SmartClip.geometry eb box o) gs with
      | err e => rfl
      | panic w => rfl
      | ok cs => cases c <;> rfl

end smart

section simplify
variable {α : Type}
open Simplify

theorem simplify_go_eq (s : Simplifier α) (gs : List (Geom α)) :
    simplifyG.go s gs = resFilterM (simplifyG s) (fun g => !g.isNil) gs := by
  induction gs with
  | nil => rfl
  | cons g gs ih =>
    rw [simplifyG.go, ih, resFilterM_cons]
    cases simplifyG s g with
    | ok c =>
      cases resFilterM (simplifyG s) (fun g => !g.isNil) gs with
      | ok cs => cases hc : c.isNil <;> simp [hc]
      | err e => rfl
      | panic w => rfl
    | err e => rfl
    | panic w => rfl

end simplify

end Orb.C20M

namespace Orb.C20M
open Orb

/-! ## clip.Geometry  (`Orb.Clip.geometry`; outer `none` = the Go code would panic / not return)

The model takes a non-nil `Geom` (`clip.Geometry(nil)` returns nil before the type switch; typed nil
slices behave as the empty value of their kind). -/

section secClip
variable {α : Type} [Add α] [Sub α] [Mul α] [Div α] [LT α] [LE α] [DecidableLT α] [DecidableLE α] [BEq α]
  [Min α] [Max α]

/-- (b) After the bound pre-test (`clipPre`) each kind goes to its typed clipper, and the result is
    wrapped as the code does: no piece ⇒ nil; ONE point / line / polygon left of a multi-geometry ⇒
    that single geometry; an emptied ring / polygon / bound ⇒ nil; an EMPTY Bound argument ⇒ nil
    (`wrapBoundArg`).  (Any arithmetic, so also the float64 instance.) -/
theorem clip_geometry_agrees_typed (eb box : Core.Bound α) :
    (∀ p, Clip.geometry eb box (.point p) = clipPre eb box (.point p) (some (some (.point p)))) ∧
    (∀ ps, Clip.geometry eb box (.multiPoint ps) =
      clipPre eb box (.multiPoint ps) (some (wrapPts (Clip.multiPoint box ps)))) ∧
    (∀ ps, Clip.geometry eb box (.lineString ps) =
      clipPre eb box (.lineString ps) ((Clip.lineString box false ps).map wrapLines)) ∧
    (∀ ls, Clip.geometry eb box (.multiLineString ls) =
      clipPre eb box (.multiLineString ls) ((Clip.multiLineString box false ls).map wrapLines)) ∧
    (∀ r, Clip.geometry eb box (.ring r) = clipPre eb box (.ring r) ((Clip.ring box r).map wrapRing)) ∧
    (∀ p, Clip.geometry eb box (.polygon p) = clipPre eb box (.polygon p) ((Clip.polygon box p).map wrapPoly)) ∧
    (∀ mp, Clip.geometry eb box (.multiPolygon mp) =
      clipPre eb box (.multiPolygon mp) ((Clip.multiPolygon box mp).map wrapPolys)) ∧
    (∀ a b, Clip.geometry eb box (.bound a b) =
      clipPre eb box (.bound a b) (some (wrapBoundArg ⟨a, b⟩ (Clip.clipBound box ⟨a, b⟩)))) := by
  refine ⟨fun p => ?_, fun ps => ?_, fun ps => ?_, fun ls => ?_, fun r => ?_, fun p => ?_, fun mp => ?_,
    fun a b => ?_⟩
  · simp only [Clip.geometry, clipPre]
  · simp only [Clip.geometry, clipPre]
    split
    · rfl
    · cases h : Clip.multiPoint box ps with
      | nil => rfl
      | cons a t => cases t <;> rfl
  · simp only [Clip.geometry, clipPre, Clip.lineString]
    split
    · rfl
    · cases h : Clip.line box false ps with
      | none => rfl
      | some l =>
        cases l with
        | nil => rfl
        | cons a t => cases t <;> rfl
  · simp only [Clip.geometry, clipPre]
    split
    · rfl
    · cases h : Clip.multiLineString box false ls with
      | none => rfl
      | some l =>
        cases l with
        | nil => rfl
        | cons a t => cases t <;> rfl
  · simp only [Clip.geometry, clipPre]
    split
    · rfl
    · cases h : Clip.ring box r with
      | none => rfl
      | some l => cases l <;> rfl
  · simp only [Clip.geometry, clipPre]
    split
    · rfl
    · cases h : Clip.polygon box p with
      | none => rfl
      | some l => cases l <;> rfl
  · simp only [Clip.geometry, clipPre]
    split
    · rfl
    · cases h : Clip.multiPolygon box mp with
      | none => rfl
      | some l =>
        cases l with
        | nil => rfl
        | cons a t => cases t <;> rfl
  · simp only [Clip.geometry, clipPre, wrapBoundArg, wrapBound, Core.bound]
    split
    · rfl
    · split
      · rfl
      · split <;> rfl

/-- (c) The collection case in any arithmetic: the members are clipped first to last (`mapM`: the
    first member that does not return decides), nil results dropped, a single survivor unwrapped. -/
theorem clip_geometry_collection (eb box : Core.Bound α) (gs : List (Geom α)) :
    Clip.geometry eb box (.collection gs) =
      clipPre eb box (.collection gs)
        ((gs.mapM (Clip.geometry eb box)).map fun rs => wrapColl (rs.filterMap id)) := by
  simp only [Clip.geometry, clipPre, Clip.collect_eq]
  split
  · rfl
  · cases h : List.mapM (Clip.geometry eb box) gs with
    | none => rfl
    | some rs =>
      simp only [Option.map_some]
      cases h2 : List.filterMap id rs with
      | nil => rfl
      | cons a t => cases t <;> rfl

end secClip

section secSmart
variable {α : Type} [Add α] [Sub α] [Mul α] [Div α] [LT α] [LE α] [DecidableLT α] [DecidableLE α] [BEq α]
  [OfNat α 0] [OfNat α 2] [Min α] [Max α]

/-- Nil handling: a nil interface is returned as it is, a typed nil slice is the empty value. -/
theorem smartclip_geometry_nil (eb box : Core.Bound α) (o : Int) (k : Kind) :
    SmartClip.geometryV eb box o (.nilIface : GVal α) = .ok .nilIface ∧
    SmartClip.geometryV eb box o (.nilSlice k : GVal α) = SmartClip.geometry eb box o (Core.emptyOf k) :=
  ⟨rfl, rfl⟩

/-- (b) The three two-dimensional kinds go to `smartclip.Ring` / `Polygon` / `MultiPolygon` and the
    multi-polygon that comes back is returned as nil / its single polygon / itself (`wrapMP`); every
    other kind (bound included) is clipped by plain `clip.Geometry`. -/
theorem smartclip_geometry_agrees_typed (eb box : Core.Bound α) (o : Int) :
    (∀ r, SmartClip.geometry eb box o (.ring r) = (SmartClip.ring box r o).map SmartClip.wrapMP) ∧
    (∀ p, SmartClip.geometry eb box o (.polygon p) = (SmartClip.polygon box p o).map SmartClip.wrapMP) ∧
    (∀ mp, SmartClip.geometry eb box o (.multiPolygon mp) =
      (SmartClip.multiPolygon box mp o).map SmartClip.wrapMP) ∧
    (∀ a b, SmartClip.geometry eb box o (.bound a b) = SmartClip.plainClip eb box (.bound a b)) ∧
    (∀ p, SmartClip.geometry eb box o (.point p) = SmartClip.plainClip eb box (.point p)) ∧
    (∀ ps, SmartClip.geometry eb box o (.multiPoint ps) = SmartClip.plainClip eb box (.multiPoint ps)) ∧
    (∀ ps, SmartClip.geometry eb box o (.lineString ps) = SmartClip.plainClip eb box (.lineString ps)) ∧
    (∀ ls, SmartClip.geometry eb box o (.multiLineString ls) = SmartClip.plainClip eb box (.multiLineString ls)) :=
  ⟨fun _ => by rw [SmartClip.geometry]; exact Res.bind_pure_eq_map _ _,
    fun _ => by rw [SmartClip.geometry]; exact Res.bind_pure_eq_map _ _,
    fun _ => by rw [SmartClip.geometry]; exact Res.bind_pure_eq_map _ _,
    fun _ _ => by rw [SmartClip.geometry], fun _ => by rw [SmartClip.geometry], fun _ => by rw [SmartClip.geometry],
    fun _ => by rw [SmartClip.geometry], fun _ => by rw [SmartClip.geometry]⟩

/-- … where plain clipping is `clip.Geometry` read as a top-level value. -/
theorem smartclip_plainClip_eq (eb box : Core.Bound α) (g : Geom α) :
    SmartClip.plainClip eb box g =
      match Clip.geometry eb box g with
      | none => .err "clip stuck"
      | some none => .ok .nilIface
      | some (some r) => .ok (.val r) := rfl

/-- (c) A collection without a two-dimensional member is clipped plainly as a whole; otherwise
    member by member, first to last (`resMapM`: the first member that does not return decides), nil
    results dropped, a nested collection that lost all members kept as an empty collection
    (`scMember`), and NO survivor ⇒ a typed nil collection, ONE survivor ⇒ that member itself,
    several ⇒ a collection (`scWrap`). -/
theorem smartclip_geometry_collection (eb box : Core.Bound α) (o : Int) (gs : List (Geom α)) :
    SmartClip.geometry eb box o (.collection gs) =
      if SmartClip.dimensions.dimsList gs != 2 then SmartClip.plainClip eb box (.collection gs)
      else (resMapM (SmartClip.geometry eb box o) gs).map fun cs => scWrap (cs.filterMap scMember) := by
  rw [SmartClip.geometry, smart_members_eq]
  split
  · rfl
  · cases h : resMapM (SmartClip.geometry eb box o) gs with
    | err e => rfl
    | panic w => rfl
    | ok cs =>
      show (match List.filterMap scMember cs with
        | [] => (pure (.nilSlice .collection) : Res String (GVal α))
        | [g] => pure (.val g)
        | l => pure (.val (.collection l))) = _
      cases h2 : List.filterMap scMember cs with
      | nil => simp only [Res.map, h2, scWrap]; rfl
      | cons a t => cases t <;> simp only [Res.map, h2, scWrap] <;> rfl

end secSmart

end Orb.C20M
