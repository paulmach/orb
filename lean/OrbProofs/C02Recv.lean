/-
  C02 — hand-built `geojson.Geometry` values and decode receivers (`Orb.GeoJSONExt`).
-/
import Orb.GeoJSONExt
import OrbProofs.C02Total

namespace Orb.GeoJSON
open Orb

theorem hand_top_bson_eq_member (ty : String) (n : NG) (gs : List HG)
    (h : hgMember .bson (.mk ty n gs) ≠ .null) : hgTopBson (.mk ty n gs) = hgMember .bson (.mk ty n gs) := by
  simp only [hgMember] at h ⊢
  simp only [hgTopBson]
  split at h
  · exact absurd rfl h
  · simp_all

/-- `json.Marshal(g)` / `bson.Marshal(g)`: `hgTopJson` / `hgTopBson` of Orb/GeoJSONExt.lean by codec (it stands
    here because only `hand_roundtrip` speaks of both at once) -/
def hgTop (c : Codec) (h : HG) : Json :=
  match c with
  | .json => hgTopJson h
  | .bson => hgTopBson h

theorem isNilIface_emptyCollCoords_false (n : NG) (h : isEmptyColl (forgetNil n) = false) :
    n.isNilIface = false ∧ emptyCollCoords n = false := by
  cases n with
  | collection gs => cases gs <;> simp_all [forgetNil, forgetNils, isEmptyColl, emptyCollCoords, CoreNil.NGeom.isNilIface]
  | _ => simp_all [forgetNil, isEmptyColl, emptyCollCoords, CoreNil.NGeom.isNilIface]

/-- every arm of `GRecv.assign` sets both fields (fix 497cb4d): the receiver's history does not matter -/
theorem assign_any (old : GRecv) (d : DG) : old.assign d = ({} : GRecv).assign d := by
  cases old with
  | mk ty co ge =>
    cases d with
    | mk v bare =>
      cases v with
      | nilIface => simp [GRecv.assign, GRecv.geometry]
      | nilSlice k => simp [GRecv.assign, GRecv.geometry]
      | val g => cases g <;> simp [GRecv.assign, GRecv.geometry]

/-- The full statement "receiver history must not matter" for `(*Geometry).UnmarshalJSON/BSON`. -/
def geom_receiver_history_full : Prop :=
  ∀ (c : Codec) (old r r0 : GRecv) (j : Json),
    geomInto c old j = .ok r → geomInto c {} j = .ok r0 → r.geometry = r0.geometry

theorem decodeGeometry_bare (c : Codec) (j : Json) (d : DG) (h : decodeGeometry c j = .ok d) : BareColl d := by
  cases j with
  | obj ms =>
    rw [decodeGeometry_obj] at h
    obtain ⟨st, _, hf⟩ := Res.bind_eq_ok h
    exact (finishGeometry_post c st).ok hf
  | _ => cases c <;> cases h

theorem assign_geometry (r : GRecv) (d : DG) (h : BareColl d) : (r.assign d).geometry = d.v := by
  obtain ⟨v, bare⟩ := d
  cases v with
  | val g =>
    cases g with
    | collection gs =>
      cases bare with
      | false => rfl
      | true => cases h rfl; rfl
    | _ => rfl
  | _ => rfl

theorem geomInto_geometry (c : Codec) (old : GRecv) (j : Json) :
    (geomInto c old j).map (·.geometry) = geomOfDoc c j := by
  simp only [geomInto, geomOfDoc]
  cases hd : decodeGeometry c j with
  | ok d => exact congrArg Res.ok (assign_geometry old d (decodeGeometry_bare c j d hd))
  | _ => rfl

theorem geomInto_any (c : Codec) (old : GRecv) (j : Json) : geomInto c old j = geomInto c {} j :=
  congrArg (Res.map · (decodeGeometry c j)) (funext (assign_any old))

end Orb.GeoJSON
