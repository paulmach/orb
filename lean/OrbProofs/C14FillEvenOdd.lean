/-
  The horizontal-ray crossing parity of the interior clause agrees with the even-odd specification
  `Orb.EvenOdd.inside` (upward ray, C09) for every point off the boundary of a closed ring; hence the interior
  clause in terms of `EvenOdd.inside` / `EvenOdd.polyInside` / `EvenOdd.multiInside`.
-/
import OrbProofs.C14Fill
import OrbProofs.EvenOddEdge

namespace Orb.TileCover
open Orb Orb.Tile Orb.EvenOdd Orb.Contains

section evenodd
variable {K : Type} [Field K] [LinearOrder K] [IsStrictOrderedRing K] [FloorRing K]
set_option linter.unusedSectionVars false

/-- `v` lies in the open quadrant right of and below `q` (between the two rays) -/
def Qd (q v : Pt K) : Bool := decide (q.x < v.x) && decide (q.y < v.y)

/-- `crossesAbove` with the axes exchanged -/
theorem xCross_iff (q a b : Pt K) : xCross q a b = true ↔
    (a.y ≤ q.y ∧ q.y < b.y ∧ 0 < EvenOdd.cross a b q) ∨
      (b.y ≤ q.y ∧ q.y < a.y ∧ EvenOdd.cross a b q < 0) := by
  unfold xCross
  rw [Bool.and_eq_true, decide_eq_true_eq, decide_eq_true_eq, ne_eq, eq_iff_iff, straddle_iff, ← sub_lt_iff_lt_add',
    or_and_right, and_assoc, and_assoc]
  -- in either window the comparison with the quotient is the sign of the cross product
  refine or_congr (and_congr_right fun c => and_congr_right fun d => ?_)
    (and_congr_right fun c => and_congr_right fun d => ?_)
  · exact lt_line_iff (sub_pos.2 (c.trans_lt d))
  · exact lt_line_iff_of_neg (sub_neg.2 (c.trans_lt d))

/-- For an edge that does not contain `q`: it crosses the horizontal ray or the vertical ray from `q`
    (exactly one of the two) iff exactly one end point lies in the quadrant between the rays. -/
theorem edge_quadrant (q a b : Pt K) (hon : onSeg a b q = false) :
    (xCross q a b != crossesAbove a b q) = (Qd q a != Qd q b) := by
  have hon' := mt (onSeg_iff a b q).mpr (ne_true_of_eq_false hon)
  rw [Bool.eq_iff_iff, bne_iff_ne, bne_iff_ne, ne_eq, ne_eq, Bool.eq_iff_iff,
    Bool.eq_iff_iff (a := Qd q a)]
  simp only [xCross_iff, crossesAbove, Qd, Bool.and_eq_true, decide_eq_true_eq, ← not_lt]
  generalize hc : EvenOdd.cross a b q = c at hon' ⊢
  -- with `q` as origin `c` is the determinant of `a` and `b`, the difference of two products whose
  -- signs the quadrants of `a` and `b` decide, except when these are opposite: there `c ≠ 0` is enough
  obtain ⟨ax, hax⟩ : ∃ ax, ax = a.x - q.x := ⟨_, rfl⟩
  obtain ⟨ay, hay⟩ : ∃ ay, ay = a.y - q.y := ⟨_, rfl⟩
  obtain ⟨bx, hbx⟩ : ∃ bx, bx = b.x - q.x := ⟨_, rfl⟩
  obtain ⟨by_, hby⟩ : ∃ by_, by_ = b.y - q.y := ⟨_, rfl⟩
  replace hc : c = ax * by_ - bx * ay := by
    simp only [← hc, EvenOdd.cross, hax, hay, hbx, hby]; ring
  have off0 : c ≠ 0 → ¬(c < 0 ↔ 0 < c) := fun h e =>
    h.lt_or_gt.elim (fun l => lt_asymm l (e.1 l)) fun g => lt_asymm (e.2 g) g
  have pa : q.x < a.x ↔ 0 < ax := by rw [hax, sub_pos]
  have pb : q.x < b.x ↔ 0 < bx := by rw [hbx, sub_pos]
  have sa' : q.y < a.y ↔ 0 < ay := by rw [hay, sub_pos]
  have sb' : q.y < b.y ↔ 0 < by_ := by rw [hby, sub_pos]
  by_cases ra : q.x < a.x <;> by_cases rb : q.x < b.x <;>
    by_cases sa : q.y < a.y <;> by_cases sb : q.y < b.y
  all_goals simp only [ra, rb, sa, sb, true_and, false_and, and_true, and_false, or_false,
    false_or, iff_true, iff_false, false_iff, not_true_eq_false, not_false_eq_true, not_not, iff_self]
  all_goals rw [hc]
  all_goals simp only [pa, pb, sa', sb', not_lt] at ra rb sa sb
  · exact sub_neg.2 ((mul_nonpos_of_nonneg_of_nonpos ra.le sb).trans_lt (mul_pos rb sa))
  · exact sub_pos.2 ((mul_nonpos_of_nonneg_of_nonpos rb.le sa).trans_lt (mul_pos ra sb))
  · exact sub_pos.2 ((mul_nonpos_of_nonpos_of_nonneg rb sa.le).trans_lt (mul_pos ra sb))
  · exact hc ▸ off0 fun h => hon' ⟨h, .inr ⟨sub_nonpos.1 (hbx ▸ rb), (sub_pos.1 (hax ▸ ra)).le⟩,
      .inr ⟨sub_nonpos.1 (hby ▸ sb), (sub_pos.1 (hay ▸ sa)).le⟩⟩
  · exact not_lt.2 (sub_nonpos.2 ((mul_nonpos_of_nonneg_of_nonpos ra.le sb).trans (mul_nonneg_of_nonpos_of_nonpos rb sa)))
  · exact sub_neg.2 ((mul_nonpos_of_nonpos_of_nonneg ra sb.le).trans_lt (mul_pos rb sa))
  · exact hc ▸ fun e => off0 (fun h => hon' ⟨h, .inl ⟨sub_nonpos.1 (hax ▸ ra), (sub_pos.1 (hbx ▸ rb)).le⟩,
      .inl ⟨sub_nonpos.1 (hay ▸ sa), (sub_pos.1 (hby ▸ sb)).le⟩⟩) e.symm
  · exact not_lt.2 (sub_nonneg.2 ((mul_nonpos_of_nonneg_of_nonpos rb.le sa).trans (mul_nonneg_of_nonpos_of_nonpos ra sb)))
  · exact not_lt.2 (sub_nonneg.2 ((mul_nonpos_of_nonpos_of_nonneg rb sa.le).trans (mul_nonneg_of_nonpos_of_nonpos ra sb)))
  · exact not_lt.2 (sub_nonpos.2 ((mul_nonpos_of_nonpos_of_nonneg ra sb.le).trans (mul_nonneg_of_nonpos_of_nonpos rb sa)))

/-- parity of the number of edges of an open chain crossed by the upward ray of `EvenOdd` -/
def vPar (q : Pt K) : List (Pt K) → Bool
  | a :: b :: t => crossesAbove a b q != vPar q (b :: t)
  | _ => false

theorem vPar_eq_par (q : Pt K) (l : List (Pt K)) :
    vPar q l = par (fun se => crossesAbove se.1 se.2 q) (chain l) :=
  par_chain_of_rec (f := vPar q) (φ := fun a b => crossesAbove a b q) rfl (fun _ => rfl) (fun _ _ _ => rfl) l

/-- along an open chain that avoids `q` the two crossing parities differ by the quadrant indicator of the
    end points -/
theorem open_chain_quadrant (q : Pt K) : ∀ (t : List (Pt K)) (a : Pt K),
    (∀ e ∈ (a :: t).zip t, onSeg e.1 e.2 q = false) →
    (xPar q (a :: t) != vPar q (a :: t)) = (Qd q a != Qd q (lastOf a t)) := by
  intro t a h
  rw [zip_eq_chain] at h
  -- both parities count over the chain; edge by edge they differ by the coboundary of `Qd q`, which telescopes
  rw [lastOf_eq, xPar_eq_par, vPar_eq_par, ← par_bne, ← par_chain (Qd q)]
  exact par_congr fun se hse => edge_quadrant q se.1 se.2 (h se hse)

theorem vPar_eq_count (q : Pt K) : ∀ (t : List (Pt K)) (a : Pt K),
    (((a :: t).zip t).countP (fun se => crossesAbove se.1 se.2 q) % 2 == 1) = vPar q (a :: t) := by
  intro t a
  rw [zip_eq_chain, vPar_eq_par]; rfl

/-- For a closed ring and a point off its boundary, the horizontal-ray crossing parity of the fill is the
    crossing parity of the even-odd specification `Orb.EvenOdd` (upward ray). -/
theorem xPar_eq_evenOdd (q : Pt K) (r : List (Pt K)) (hclosed : r.head? = r.getLast?)
    (hb : onBoundary r q = false) : xPar q r = (crossings r q % 2 == 1) := by
  cases r with
  | nil => rfl
  | cons a t =>
    have hl : lastOf a t = a := by
      rw [getLast?_eq_lastOf] at hclosed
      simpa using hclosed.symm
    have hedges : edges (a :: t) = ((a :: t).getLast?.getD a, a) :: (a :: t).zip t := rfl
    have hb' : ∀ e ∈ (a :: t).zip t, onSeg e.1 e.2 q = false := by
      intro e he
      unfold onBoundary at hb
      rw [hedges, List.any_eq_false] at hb
      have := hb e (List.mem_cons_of_mem _ he)
      simpa using this
    have hq := open_chain_quadrant q t a hb'
    rw [hl, bne_self_eq_false] at hq
    have hx : xPar q (a :: t) = vPar q (a :: t) := by
      revert hq
      cases xPar q (a :: t) <;> cases vPar q (a :: t) <;> simp
    rw [hx, ← vPar_eq_count]
    unfold crossings
    rw [hedges, List.countP_cons, getLast?_eq_lastOf, Option.getD_some, hl, crossesAbove_self]
    simp

/-- inside / outside by the even-odd specification, for points off the boundary of a closed ring: an equation,
    not an implication from `inside` -/
theorem xPar_of_inside (q : Pt K) (r : List (Pt K)) (hclosed : r.head? = r.getLast?)
    (hb : onBoundary r q = false) : xPar q r = inside r q := by
  rw [xPar_eq_evenOdd q r hclosed hb]
  unfold inside
  rw [hb, Bool.false_or]

theorem xParRings_of_polyInside (q : Pt K) (pg : List (List (Pt K)))
    (hclosed : ∀ r ∈ pg, r.head? = r.getLast?) (hoff : ∀ r ∈ pg, onBoundary r q = false)
    (hin : polyInside pg q = true) : xParRings q pg = true := by
  cases pg with
  | nil => simp [polyInside] at hin
  | cons o hs =>
    simp only [polyInside, Bool.and_eq_true, List.all_eq_true, Bool.not_eq_eq_eq_not, Bool.not_true] at hin
    apply xParRings_outer_holes
    · rw [xPar_of_inside q o (hclosed o List.mem_cons_self) (hoff o List.mem_cons_self)]; exact hin.1
    · intro r hr
      rw [xPar_of_inside q r (hclosed r (List.mem_cons_of_mem _ hr)) (hoff r (List.mem_cons_of_mem _ hr))]
      exact hin.2 r hr

/-- **The interior clause against the even-odd specification of C09.**  A tile whose open square
    contains a point `q` that `EvenOdd.polyInside` puts inside the polygon (inside the outer ring, in no
    hole) and that lies on no ring is in the polygon's cover. -/
theorem polygon_interior_cover_evenOdd (zoom fuel : Nat) (set : List Tile) (rings : List (List (Pt K)))
    (S : List Tile) (hr : ∀ r ∈ rings, r.head? = r.getLast? ∧ ∀ p ∈ r, 0 ≤ p.x ∧ 0 ≤ p.y)
    (h : polygon (opsK K) zoom fuel set rings = .ok S) (i j : ℕ) (q : Pt K)
    (hqx : (i : K) < q.x ∧ q.x < (i : K) + 1) (hqy : (j : K) < q.y ∧ q.y < (j : K) + 1)
    (hoff : ∀ r ∈ rings, onBoundary r q = false) (hin : polyInside rings q = true) :
    (⟨i, j, zoom⟩ : Tile) ∈ S :=
  polygon_interior_cover zoom fuel set rings S hr h i j q hqx hqy
    (xParRings_of_polyInside q rings (fun r m => (hr r m).1) hoff hin)

/-- … and for multi-polygons (`EvenOdd.multiInside`: inside any member). -/
theorem multiPolygon_interior_cover_evenOdd (zoom fuel : Nat) (polys : List (List (List (Pt K))))
    (S : List Tile)
    (hr : ∀ pg ∈ polys, ∀ r ∈ pg, r.head? = r.getLast? ∧ ∀ p ∈ r, 0 ≤ p.x ∧ 0 ≤ p.y)
    (h : multiPolygon (opsK K) zoom fuel [] polys = .ok S) (i j : ℕ) (q : Pt K)
    (hqx : (i : K) < q.x ∧ q.x < (i : K) + 1) (hqy : (j : K) < q.y ∧ q.y < (j : K) + 1)
    (hoff : ∀ pg ∈ polys, ∀ r ∈ pg, onBoundary r q = false) (hin : multiInside polys q = true) :
    (⟨i, j, zoom⟩ : Tile) ∈ S := by
  simp only [multiInside, List.any_eq_true] at hin
  obtain ⟨pg, hpg, hpin⟩ := hin
  exact (multiPolygon_interior_cover zoom fuel polys [] S hr h).2 pg hpg i j q hqx hqy
    (xParRings_of_polyInside q pg (fun r m => (hr pg hpg r m).1) (hoff pg hpg) hpin)

end evenodd
end Orb.TileCover
