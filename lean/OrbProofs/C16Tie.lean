/-
  C16 — translation tie for clip/smartclip (`bitCodeOpen`, `pointSide`, `pointFor`) and for
  `Ring.Closed` (ring.go) as `clipRings` uses it.  `Generated/SmartclipGo.lean` and
  `Generated/BoundGo.lean` are REGENERATED from /repo on every run by
  harness/cmd/factgen/translate_float.go.
-/
import Orb.SmartClip
import Generated.SmartclipGo
import Generated.BoundGo
import OrbProofs.C07Tie

namespace Orb.C16Tie
open Orb Orb.Core

set_option linter.unusedSectionVars false

variable {α : Type} [Add α] [Sub α] [Mul α] [Div α] [Neg α] [LT α] [LE α] [DecidableLT α] [DecidableLE α]
  [BEq α] [Min α] [Max α] [OfNat α 0] [OfNat α 1] [OfNat α 2] [OfNat α 6] [NatCast α]

/-- smartclip's copy of `bitCodeOpen`: the y-code is ORed into the code inside each branch, as in package clip -/
theorem bitCodeOpen_tie (b : Bound α) (p : Pt α) :
    Generated.SmartclipGo.bitCodeOpen b p = SmartClip.bitCodeOpen b p :=
  C07Tie.or_ite _ _ _ _ _

/-- `pointSide` (`notOnSide` is read from the source: 0xFF) -/
theorem pointSide_tie (b : Bound α) (p : Pt α) :
    Generated.SmartclipGo.pointSide b p = SmartClip.pointSide b p := rfl

/-- `pointFor` (the `switch` is an if-chain, `panic("invalid code")` an explicit outcome) -/
theorem pointFor_tie (b : Bound α) (c : Int) :
    Generated.SmartclipGo.pointFor b c = SmartClip.pointFor b c := rfl

/-- `Ring.Closed`: the Go code indexes `r[0]` and `r[len(r)-1]`, the model uses `head?` / `getLast?` -/
theorem ringClosed_tie (r : List (Pt α)) : Generated.BoundGo.ringClosed r = SmartClip.ringClosed r := by
  cases r with
  | nil => simp [Generated.BoundGo.ringClosed, SmartClip.ringClosed]
  | cons a t =>
    have hl : (a :: t).getD ((a :: t).length - 1) ⟨0, 0⟩ = (a :: t).getLast (List.cons_ne_nil _ _) := by
      rw [List.getLast_eq_getElem, List.getD_eq_getElem?_getD, List.getElem?_eq_getElem (by simp)]
      rfl
    simp only [Generated.BoundGo.ringClosed, SmartClip.ringClosed, hl, List.head?_cons,
      List.getLast?_eq_some_getLast (List.cons_ne_nil a t), List.getD_cons_zero]
    rfl

theorem all_translated_SmartclipGo : Generated.SmartclipGo.translated =
    ["bitCodeOpen", "pointSide", "pointFor"] := rfl

end Orb.C16Tie
