/-
  Visvalingam (namespace `Vis`): one step of the reduction in three parts (relink, two optional area updates) with
  one specification per part; the linked list of live items (`VInv`) and what a step does to it; `visInit`; the
  reduction loop (what a successful run returns, nesting, totality over an ordered field).
-/
import OrbProofs.C12Basic
import OrbProofs.C12VisHeap
import Mathlib.Data.List.Basic
import Mathlib.Data.List.Nodup
import Mathlib.Data.List.Perm.Basic
import Mathlib.Tactic.Linarith

set_option linter.unusedSectionVars false

namespace Orb.Simplify
open Orb

namespace Vis

section items
variable {α : Type}

theorem get_modify_of_lt (st : VS α) (id j : Nat) (f : VItem α → VItem α) (hid : id < st.items.size) :
    (st.modify id f).get j = if j = id then f (st.get j) else st.get j := by
  simp only [VH.get_modify, hid, and_true]

theorem get_modify_ne (st : VS α) (id j : Nat) (f : VItem α → VItem α) (h : j ≠ id) :
    (st.modify id f).get j = st.get j := by
  rw [VH.get_modify, if_neg fun e => h e.1]

theorem get_modify_proj {β : Type} (g : VItem α → β) (st : VS α) (id j : Nat) (f : VItem α → VItem α)
    (hf : ∀ it, g (f it) = g it) : g ((st.modify id f).get j) = g (st.get j) := by
  rw [VH.get_modify]; split_ifs
  · exact hf _
  · rfl

theorem area_modify (st : VS α) (id j : Nat) (f : VItem α → VItem α) (hf : ∀ it, (f it).area = it.area) :
    (st.modify id f).area j = st.area j := get_modify_proj (·.area) st id j f hf

end items

section heapframe
variable {α : Type} [LT α] [LE α] [DecidableLT α] [DecidableLE α]

theorem heapIdx_modify (st : VS α) (id : Nat) (f : VItem α → VItem α) (h : HeapIdx st)
    (hf : ∀ it, (f it).index = it.index) : HeapIdx (st.modify id f) := by
  intro i hi
  have := h i hi
  refine ⟨by simpa using this.1, ?_⟩
  rw [VH.modify_heap, get_modify_proj (·.index) st id _ f hf]
  exact this.2

theorem heapOrd_modify (st : VS α) (id : Nat) (f : VItem α → VItem α) (h : HeapOrd st)
    (hf : ∀ it, (f it).area = it.area) : HeapOrd (st.modify id f) := by
  intro i h0 hi
  have := h i h0 hi
  rw [VH.modify_heap, area_modify _ _ _ _ hf, area_modify _ _ _ _ hf]
  exact this

end heapframe

section anyArithmetic
variable {α : Type} [Add α] [Sub α] [Mul α] [Neg α] [LT α] [LE α] [DecidableLT α] [DecidableLE α] [BEq α] [OfNat α 0] [OfNat α 2]

/-- one non-stopping iteration of the reduction loop after the `pop`, in the model's own words (so that the
    last step of `visLoop_succ`, which names it, is `rfl`) -/
def visStep (ls : List (Pt α)) (st0 : VS α) (cur p nx : Nat) : VS α :=
  let c := st0.get cur
  let st := st0.modify p fun it => { it with next := c.next }
  let st := st.modify nx fun it => { it with prev := c.prev }
  let st :=
    match (st.get p).prev with
    | some pp =>
      let a := doubleTriangleArea ls (st.get pp).pointIndex (st.get p).pointIndex (st.get nx).pointIndex
      update st p (aMax (some a) c.area)
    | none => st
  match (st.get nx).next with
  | some nn =>
    let a := doubleTriangleArea ls (st.get p).pointIndex (st.get nx).pointIndex (st.get nn).pointIndex
    update st nx (aMax (some a) c.area)
  | none => st

theorem visLoop_succ (ls : List (Pt α)) (thr2 : Option α) (k fuel : Nat) (st : VS α) (r : Nat) :
  visLoop ls thr2 k (fuel+1) st r =
    if st.heap.size = 0 then .ok st else
    if aLt thr2 ((pop st).2.get (pop st).1).area || decide (ls.length ≤ k + r) then .ok (pop st).2 else
    match ((pop st).2.get (pop st).1).prev, ((pop st).2.get (pop st).1).next with
    | none, _ => .panic "nil pointer dereference (previous)"
    | some _, none => .panic "nil pointer dereference (next)"
    | some p, some nx => visLoop ls thr2 k fuel (visStep ls (pop st).2 (pop st).1 p nx) (r+1) := by
  rw [visLoop]
  generalize pop st = q
  obtain ⟨cur, st1⟩ := q
  by_cases h1 : st.heap.size = 0
  · simp [h1]
  · rw [if_neg h1, if_neg h1]
    by_cases h2 : (aLt thr2 (st1.get cur).area || decide (ls.length ≤ k + r)) = true
    -- `show`: exposes the `if` under `let (cur, st) := pop st` without unfolding the rest
    · show (if _ then _ else _) = _
      rw [if_pos h2, if_pos h2]
    · show (if _ then _ else _) = _
      rw [if_neg h2, if_neg h2]
      rfl

/-- `if x != nil { heap.Update(id, g(x)) }` -/
def optUpd {β : Type} (st : VS α) (id : Nat) (o : Option β) (g : β → Option α) : VS α :=
  match o with
  | some x => update st id (g x)
  | none => st

/-- `previous.next = current.next; next.previous = current.previous` -/
def relink (st : VS α) (cur p nx : Nat) : VS α :=
  (st.modify p fun it => { it with next := (st.get cur).next }).modify nx fun it => { it with prev := (st.get cur).prev }

theorem visStep_eq (ls : List (Pt α)) (st : VS α) (cur p nx : Nat) :
    visStep ls st cur p nx =
      let c := (st.get cur).area
      let st2 := relink st cur p nx
      let st3 := optUpd st2 p (st2.get p).prev fun pp =>
        aMax (some (doubleTriangleArea ls (st2.get pp).pointIndex (st2.get p).pointIndex (st2.get nx).pointIndex)) c
      optUpd st3 nx (st3.get nx).next fun nn =>
        aMax (some (doubleTriangleArea ls (st3.get p).pointIndex (st3.get nx).pointIndex (st3.get nn).pointIndex)) c := by
  -- not `rfl`: `optUpd`'s `match` and the model's are different auxiliary definitions
  unfold visStep optUpd relink
  dsimp only
  cases ((st.modify p fun it => { it with next := (st.get cur).next }).modify nx fun it =>
    { it with prev := (st.get cur).prev }).get p |>.prev with
  | none => dsimp only; split <;> rename_i h <;> simp only [h]
  | some pp => dsimp only; split <;> rename_i h <;> simp only [h]

theorem optUpd_spec {β : Type} (st : VS α) (id : Nat) (o : Option β) (g : β → Option α) (h : HeapIdx st)
    (hin : id ∈ st.heap.toList) :
    HeapIdx (optUpd st id o g) ∧ (optUpd st id o g).heap.toList.Perm st.heap.toList ∧ Frame st (optUpd st id o g) ∧
      (∀ j, j ≠ id → (optUpd st id o g).area j = st.area j) ∧
      ((optUpd st id o g).area id = st.area id ∨ (o ≠ none ∧ ∃ x, (optUpd st id o g).area id = g x)) := by
  cases o with
  | none => exact ⟨h, List.Perm.refl _, VH.frame_refl _, fun _ _ => rfl, Or.inl rfl⟩
  | some x =>
    obtain ⟨a, b, c, d, e⟩ := VH.update_idx st id (g x) h hin
    exact ⟨a, b, c, e, Or.inr ⟨by simp, x, d⟩⟩

theorem relink_spec (st : VS α) (cur p nx : Nat) (h : HeapIdx st) (hps : p < st.items.size) (hns : nx < st.items.size) :
    HeapIdx (relink st cur p nx) ∧ (relink st cur p nx).heap = st.heap ∧
    (relink st cur p nx).items.size = st.items.size ∧
    (∀ j, ((relink st cur p nx).get j).next = if j = p then (st.get cur).next else (st.get j).next) ∧
    (∀ j, ((relink st cur p nx).get j).prev = if j = nx then (st.get cur).prev else (st.get j).prev) ∧
    (∀ j, ((relink st cur p nx).get j).pointIndex = (st.get j).pointIndex) ∧
    (∀ j, (relink st cur p nx).area j = st.area j) := by
  unfold relink
  refine ⟨heapIdx_modify _ _ _ (heapIdx_modify _ _ _ h (fun _ => rfl)) (fun _ => rfl), rfl, by simp, ?_, ?_, ?_, ?_⟩
  · intro j
    refine (get_modify_proj (·.next) _ nx j _ ?_).trans ?_
    · exact fun _ => rfl
    · rw [get_modify_of_lt _ _ _ _ hps]; split_ifs <;> rfl
  · intro j
    rw [get_modify_of_lt _ _ _ _ (by simpa using hns)]
    split_ifs
    · rfl
    · refine get_modify_proj (·.prev) st p j _ ?_; exact fun _ => rfl
  · intro j
    refine (get_modify_proj (·.pointIndex) _ nx j _ ?_).trans (get_modify_proj (·.pointIndex) st p j _ ?_) <;>
      exact fun _ => rfl
  · intro j
    refine (area_modify _ nx j _ ?_).trans (area_modify st p j _ ?_) <;> exact fun _ => rfl

theorem visStep_spec (ls : List (Pt α)) (st : VS α) (cur p nx : Nat) (h : HeapIdx st)
    (hp : p ∈ st.heap.toList) (hnx : nx ∈ st.heap.toList) (hpn : p ≠ nx)
    (hps : p < st.items.size) (hns : nx < st.items.size) :
    HeapIdx (visStep ls st cur p nx) ∧ (visStep ls st cur p nx).heap.toList.Perm st.heap.toList ∧
    (visStep ls st cur p nx).items.size = st.items.size ∧
    (∀ j, ((visStep ls st cur p nx).get j).next = if j = p then (st.get cur).next else (st.get j).next) ∧
    (∀ j, ((visStep ls st cur p nx).get j).prev = if j = nx then (st.get cur).prev else (st.get j).prev) ∧
    (∀ j, ((visStep ls st cur p nx).get j).pointIndex = (st.get j).pointIndex) ∧
    (∀ j, j ≠ p → j ≠ nx → (visStep ls st cur p nx).area j = st.area j) ∧
    ((visStep ls st cur p nx).area p = st.area p ∨
      ((st.get p).prev ≠ none ∧ ∃ a, (visStep ls st cur p nx).area p = aMax (some a) (st.get cur).area)) ∧
    ((visStep ls st cur p nx).area nx = st.area nx ∨
      ((st.get nx).next ≠ none ∧ ∃ a, (visStep ls st cur p nx).area nx = aMax (some a) (st.get cur).area)) := by
  rw [visStep_eq]
  dsimp only
  obtain ⟨i2, hh2, hs2, hnext2, hprev2, hpi2, harea2⟩ := relink_spec st cur p nx h hps hns
  generalize relink st cur p nx = st2 at *
  obtain ⟨i3, p3, f3, a3, b3⟩ := optUpd_spec st2 p (st2.get p).prev (fun pp =>
    aMax (some (doubleTriangleArea ls (st2.get pp).pointIndex (st2.get p).pointIndex (st2.get nx).pointIndex))
      (st.get cur).area) i2 (by rw [hh2]; exact hp)
  generalize optUpd st2 p (st2.get p).prev _ = st3 at *
  obtain ⟨i4, p4, f4, a4, b4⟩ := optUpd_spec st3 nx (st3.get nx).next (fun nn =>
    aMax (some (doubleTriangleArea ls (st3.get p).pointIndex (st3.get nx).pointIndex (st3.get nn).pointIndex))
      (st.get cur).area) i3 (p3.mem_iff.2 (by rw [hh2]; exact hnx))
  generalize optUpd st3 nx (st3.get nx).next _ = st4 at *
  have f24 := VH.frame_trans f3 f4
  refine ⟨i4, (p4.trans p3).trans (by rw [hh2]), f24.1.trans hs2, ?_, ?_, ?_, ?_, ?_, ?_⟩
  · intro j; rw [(f24.2 j).1, hnext2]
  · intro j; rw [(f24.2 j).2.1, hprev2]
  · intro j; rw [(f24.2 j).2.2, hpi2]
  · intro j h1 h2; rw [a4 j h2, a3 j h1, harea2]
  · rw [a4 p hpn]
    rcases b3 with b3 | ⟨b3, x, hx⟩
    · left; rw [b3, harea2]
    · right
      refine ⟨?_, _, hx⟩
      rwa [hprev2, if_neg hpn] at b3
  · rcases b4 with b4 | ⟨b4, x, hx⟩
    · left; rw [b4, a3 nx (Ne.symm hpn), harea2]
    · right
      refine ⟨?_, _, hx⟩
      rwa [(f3.2 nx).1, hnext2, if_neg (Ne.symm hpn)] at b4

end anyArithmetic

section vinv
variable {α : Type}

/-- `L` is the list of live item ids, in order; the links of `st` realise exactly `L` -/
structure VInv (n : Nat) (st : VS α) (L : List Nat) : Prop where
  size : st.items.size = n
  sub : L.Sublist (List.range n)
  head : L[0]? = some 0
  last : L[L.length - 1]? = some (n - 1)
  nxt : ∀ j a b, L[j]? = some a → L[j+1]? = some b → (st.get a).next = some b
  prv : ∀ j a b, L[j]? = some a → L[j+1]? = some b → (st.get b).prev = some a
  prev0 : (st.get 0).prev = none
  nextn : (st.get (n-1)).next = none
  pidx : ∀ a ∈ L, (st.get a).pointIndex = a

namespace VInv
variable {n : Nat} {st : VS α} {L : List Nat}

theorem nodup (hv : VInv n st L) : L.Nodup := List.nodup_range.sublist hv.sub

theorem pairwise (hv : VInv n st L) : L.Pairwise (· < ·) := List.pairwise_lt_range.sublist hv.sub

theorem mem_lt (hv : VInv n st L) {a : Nat} (ha : a ∈ L) : a < n := List.mem_range.1 (hv.sub.subset ha)

theorem two_le (hv : VInv n st L) (hn : 2 ≤ n) : 2 ≤ L.length := by
  have h0 := hv.head
  have h1 := hv.last
  by_contra hlt
  have : L.length - 1 = 0 := by omega
  rw [this, h0] at h1
  simp at h1; omega

theorem inj (hv : VInv n st L) {i j a : Nat} (hi : L[i]? = some a) (hj : L[j]? = some a) : i = j := by
  have hlt : i < L.length := by
    by_contra hc
    rw [List.getElem?_eq_none (by omega)] at hi; cases hi
  exact (List.getElem?_inj hlt hv.nodup).1 (hi.trans hj.symm)

theorem eraseIdx_adjacent (hv : VInv n st L) {i j p nx a b : Nat} (h0 : L[i]? = some p)
    (h2 : L[i+2]? = some nx) (ha : (L.eraseIdx (i+1))[j]? = some a) (hb : (L.eraseIdx (i+1))[j+1]? = some b) :
    (a = p ∧ b = nx) ∨ (a ≠ p ∧ b ≠ nx ∧ ∃ j', L[j']? = some a ∧ L[j'+1]? = some b) := by
  rw [List.getElem?_eraseIdx] at ha hb
  split_ifs at ha hb with c1 c2 c3
  · refine Or.inr ⟨?_, ?_, j, ha, hb⟩
    · rintro rfl; have := hv.inj ha h0; omega
    · rintro rfl; have := hv.inj hb h2; omega
  · obtain rfl : j = i := by omega
    exact Or.inl ⟨Option.some.inj (ha.symm.trans h0), Option.some.inj (hb.symm.trans h2)⟩
  · omega
  · refine Or.inr ⟨?_, ?_, j + 1, ha, hb⟩
    · rintro rfl; have := hv.inj ha h0; omega
    · rintro rfl; have := hv.inj hb h2; omega

theorem nbrs (hv : VInv n st L) {i a : Nat} (hi : L[i]? = some a) :
    (st.get a).prev = (if i = 0 then none else L[i - 1]?) ∧ (st.get a).next = L[i + 1]? := by
  have hlt : i < L.length := (List.getElem?_eq_some_iff.1 hi).1
  constructor
  · cases i with
    | zero => obtain rfl : 0 = a := Option.some.inj (hv.head.symm.trans hi); exact hv.prev0
    | succ i =>
      rw [if_neg (by omega), Nat.add_sub_cancel, List.getElem?_eq_getElem (by omega)]
      exact hv.prv i _ _ (List.getElem?_eq_getElem (by omega)) hi
  · by_cases hl : i + 1 < L.length
    · rw [List.getElem?_eq_getElem hl]
      exact hv.nxt i _ _ hi (List.getElem?_eq_getElem hl)
    · obtain rfl : n - 1 = a := Option.some.inj (hv.last.symm.trans ((show L.length - 1 = i by omega) ▸ hi))
      rw [List.getElem?_eq_none (by omega)]; exact hv.nextn

theorem locate (hv : VInv n st L) {cur p nx : Nat} (hc : cur ∈ L) (hp : (st.get cur).prev = some p)
    (hnx : (st.get cur).next = some nx) :
    ∃ i, L[i]? = some p ∧ L[i+1]? = some cur ∧ L[i+2]? = some nx := by
  obtain ⟨i, hi⟩ := List.mem_iff_getElem?.1 hc
  obtain ⟨h1, h2⟩ := hv.nbrs hi
  rw [hp] at h1; rw [hnx] at h2
  cases i with
  | zero => cases h1
  | succ i => exact ⟨i, by simpa using h1.symm, hi, h2.symm⟩

theorem links (hv : VInv n st L) {cur : Nat} (hc : cur ∈ L) (h0 : cur ≠ 0) (hn : cur ≠ n - 1) :
    ∃ p nx, (st.get cur).prev = some p ∧ (st.get cur).next = some nx := by
  obtain ⟨i, hi⟩ := List.mem_iff_getElem?.1 hc
  have hilt : i < L.length := (List.getElem?_eq_some_iff.1 hi).1
  have hi0 : i ≠ 0 := by
    rintro rfl; rw [hv.head] at hi; exact h0 (Option.some.inj hi).symm
  have hin : i ≠ L.length - 1 := by
    rintro rfl; rw [hv.last] at hi; exact hn (Option.some.inj hi).symm
  obtain ⟨i', rfl⟩ : ∃ i', i = i' + 1 := ⟨i - 1, by omega⟩
  exact ⟨_, _, hv.prv i' _ _ (List.getElem?_eq_getElem (by omega)) hi,
    hv.nxt (i' + 1) _ _ hi (List.getElem?_eq_getElem (by omega))⟩

theorem walk_drop (hv : VInv n st L) : ∀ (fuel j : Nat), L.length ≤ fuel + j →
    visWalk st fuel L[j]? = L.drop j := by
  intro fuel
  induction fuel with
  | zero =>
    intro j hl
    rw [List.drop_of_length_le (by omega)]; rfl
  | succ fuel ih =>
    intro j hl
    cases hj : L[j]? with
    | none => rw [List.drop_of_length_le (List.getElem?_eq_none_iff.1 hj)]; rfl
    | some a =>
      obtain ⟨hlt, rfl⟩ := List.getElem?_eq_some_iff.1 hj
      rw [visWalk, hv.pidx _ (List.getElem_mem hlt), (hv.nbrs hj).2, ih (j + 1) (by omega),
        List.drop_eq_getElem_cons hlt]

theorem walk (hv : VInv n st L) (fuel : Nat) (hf : L.length ≤ fuel) : visWalk st fuel (some 0) = L := by
  have := hv.walk_drop fuel 0 (by omega)
  rwa [hv.head, List.drop_zero] at this

end VInv
end vinv

section vlist
variable {α : Type} [Add α] [Sub α] [Mul α] [Neg α] [LT α] [LE α] [DecidableLT α] [DecidableLE α] [BEq α] [OfNat α 0] [OfNat α 2]
variable {n : Nat} {st : VS α} {L : List Nat}

theorem VInv.frame (hv : VInv n st L) {st' : VS α} (hf : Frame st st') : VInv n st' L where
  size := hf.1.trans hv.size
  sub := hv.sub
  head := hv.head
  last := hv.last
  nxt := fun j a b h1 h2 => by rw [(hf.2 a).1]; exact hv.nxt j a b h1 h2
  prv := fun j a b h1 h2 => by rw [(hf.2 b).2.1]; exact hv.prv j a b h1 h2
  prev0 := by rw [(hf.2 0).2.1]; exact hv.prev0
  nextn := by rw [(hf.2 (n-1)).1]; exact hv.nextn
  pidx := fun a ha => by rw [(hf.2 a).2.2]; exact hv.pidx a ha

theorem VInv.step_pre (hv : VInv n st L) {cur p nx : Nat} (hperm : L.Perm (cur :: st.heap.toList))
    (hp : (st.get cur).prev = some p) (hnx : (st.get cur).next = some nx) :
    ∃ i, L[i]? = some p ∧ L[i+1]? = some cur ∧ L[i+2]? = some nx ∧
      p ∈ st.heap.toList ∧ nx ∈ st.heap.toList ∧ p ≠ nx ∧ p < st.items.size ∧ nx < st.items.size := by
  have hc : cur ∈ L := hperm.mem_iff.2 List.mem_cons_self
  obtain ⟨i, h0, h1, h2⟩ := hv.locate hc hp hnx
  have hpc : p ≠ cur := by
    rintro rfl
    have := hv.inj h0 h1; omega
  have hnc : nx ≠ cur := by
    rintro rfl
    have := hv.inj h2 h1; omega
  have hpn : p ≠ nx := by
    rintro rfl
    have := hv.inj h0 h2; omega
  have hpL : p ∈ L := List.mem_iff_getElem?.2 ⟨_, h0⟩
  have hnL : nx ∈ L := List.mem_iff_getElem?.2 ⟨_, h2⟩
  refine ⟨i, h0, h1, h2, ?_, ?_, hpn, ?_, ?_⟩
  · have := hperm.mem_iff.1 hpL
    simpa [hpc] using this
  · have := hperm.mem_iff.1 hnL
    simpa [hnc] using this
  · rw [hv.size]; exact hv.mem_lt hpL
  · rw [hv.size]; exact hv.mem_lt hnL

theorem VInv.step (ls : List (Pt α)) (hv : VInv n st L) (hi : HeapIdx st) {cur p nx : Nat}
    (hperm : L.Perm (cur :: st.heap.toList))
    (hp : (st.get cur).prev = some p) (hnx : (st.get cur).next = some nx) :
    VInv n (visStep ls st cur p nx) (L.erase cur) ∧ HeapIdx (visStep ls st cur p nx) ∧
      (visStep ls st cur p nx).heap.toList.Perm (L.erase cur) ∧ (L.erase cur).length + 1 = L.length := by
  obtain ⟨i, h0, h1, h2, hpH, hnH, hpn, hps, hns⟩ := hv.step_pre hperm hp hnx
  obtain ⟨s1, s2, s3, s4, s5, s6, -, -, -⟩ := visStep_spec ls st cur p nx hi hpH hnH hpn hps hns
  have hc : cur ∈ L := hperm.mem_iff.2 List.mem_cons_self
  have hlen : i + 2 < L.length := (List.getElem?_eq_some_iff.1 h2).1
  have he : L.erase cur = L.eraseIdx (i+1) := by
    obtain ⟨h, rfl⟩ := List.getElem?_eq_some_iff.1 h1
    exact hv.nodup.erase_getElem _ h
  have hlen' : (L.eraseIdx (i+1)).length = L.length - 1 := List.length_eraseIdx_of_lt (by omega)
  refine ⟨?_, s1, ?_, ?_⟩
  · rw [he]
    refine ⟨s3.trans hv.size, (List.eraseIdx_sublist _ _).trans hv.sub, ?_, ?_, ?_, ?_, ?_, ?_, ?_⟩
    · rw [List.getElem?_eraseIdx, if_pos (by omega)]; exact hv.head
    · rw [hlen', List.getElem?_eraseIdx, if_neg (by omega)]
      have : L.length - 1 - 1 + 1 = L.length - 1 := by omega
      rw [this]; exact hv.last
    · intro j a b ha hb
      rw [s4, hnx]
      rcases hv.eraseIdx_adjacent h0 h2 ha hb with ⟨rfl, rfl⟩ | ⟨hap, -, j', ha', hb'⟩
      · rw [if_pos rfl]
      · rw [if_neg hap]; exact hv.nxt j' a b ha' hb'
    · intro j a b ha hb
      rw [s5, hp]
      rcases hv.eraseIdx_adjacent h0 h2 ha hb with ⟨rfl, rfl⟩ | ⟨-, hbn, j', ha', hb'⟩
      · rw [if_pos rfl]
      · rw [if_neg hbn]; exact hv.prv j' a b ha' hb'
    · rw [s5, if_neg, hv.prev0]
      rintro rfl
      have := hv.inj hv.head h2; omega
    · rw [s4, if_neg, hv.nextn]
      rintro h
      rw [← h] at h0
      have := hv.inj hv.last h0; omega
    · intro a ha
      rw [s6]; exact hv.pidx a (List.mem_of_mem_eraseIdx ha)
  · refine s2.trans ?_
    have := hperm.erase cur
    rw [List.erase_cons_head] at this
    exact this.symm
  · rw [he, hlen']; omega

/-- closure properties of an extra heap property carried through `visInit` (`True`, or `HeapOrd`) -/
structure QOps (Q : VS α → Prop) : Prop where
  empty : ∀ st : VS α, st.heap = #[] → Q st
  push : ∀ (st : VS α) id, Q st → id < st.items.size → Q (push st id)
  modOut : ∀ (st : VS α) id f, id ∉ st.heap.toList → Q st → Q (st.modify id f)
  modArea : ∀ (st : VS α) id f, (∀ it, (f it).area = it.area) → Q st → Q (st.modify id f)

/-- the invariant of `visInit` (`I`): items `0..m` are linked and pushed -/
structure IInv (n : Nat) (st : VS α) (m : Nat) : Prop where
  size : st.items.size = n
  hidx : HeapIdx st
  perm : st.heap.toList.Perm (List.range (m+1))
  pidx : ∀ j, j ≤ m → (st.get j).pointIndex = j
  prv : ∀ j, 1 ≤ j → j ≤ m → (st.get j).prev = some (j-1)
  nxt : ∀ j, j < m → (st.get j).next = some (j+1)
  prev0 : (st.get 0).prev = none
  nextn : ∀ j, m ≤ j → (st.get j).next = none
  area : ∀ j, j ≤ m → (st.area j = none ↔ (j = 0 ∨ j = n - 1))

/-- item `m + 1`, of area `ar`, linked behind item `m`: what `initItem` and `initLast` do to the items, the
    heap apart -/
def linked (st : VS α) (m : Nat) (ar : Option α) : VS α :=
  (st.modify (m + 1) fun it => { it with area := ar, pointIndex := m + 1, prev := some m }).modify m
    fun it => { it with next := some (m + 1) }

theorem linked_get {n m : Nat} {st : VS α} (hs : st.items.size = n) (hm : m + 1 < n) (ar : Option α) (j : Nat) :
    (linked st m ar).get j =
      if j = m then { st.get j with next := some (m + 1) }
      else if j = m + 1 then { st.get j with area := ar, pointIndex := m + 1, prev := some m } else st.get j := by
  unfold linked
  rw [get_modify_of_lt _ _ _ _ (by rw [VH.modify_items_size, hs]; omega), get_modify_of_lt _ _ _ _ (by rw [hs]; omega)]
  by_cases h : j = m
  · rw [if_pos h, if_pos h, if_neg (by omega)]
  · rw [if_neg h, if_neg h]

theorem frame_setNext {a b : VS α} (h : Frame a b) (ha : ∀ j, b.area j = a.area j) (id : Nat) (x : Option Nat) :
    Frame (a.modify id fun it => { it with next := x }) (b.modify id fun it => { it with next := x }) ∧
    ∀ j, (b.modify id fun it => { it with next := x }).area j = (a.modify id fun it => { it with next := x }).area j := by
  refine ⟨⟨by simpa using h.1, fun j => ?_⟩, fun j => ?_⟩
  · rw [VH.get_modify, VH.get_modify, h.1]
    split_ifs
    · exact ⟨rfl, (h.2 j).2⟩
    · exact h.2 j
  · rw [VS.area, VS.area, VH.get_modify, VH.get_modify, h.1]
    split_ifs <;> exact ha j

/-- `st'` has the items of `linked st m ar` (a `push` of item `m + 1` on the way changes none of them) -/
theorem IInv.add {n m : Nat} {st st' : VS α} (hv : IInv n st m) (hm : m + 1 < n) (ar : Option α)
    (har : ar = none ↔ m + 1 = n - 1) (hidx' : HeapIdx st')
    (hperm : st'.heap.toList.Perm ((m+1) :: st.heap.toList))
    (hf : Frame (linked st m ar) st') (ha : ∀ j, st'.area j = (linked st m ar).area j) :
    IInv n st' (m+1) := by
  have hg := linked_get hv.size hm ar
  refine ⟨hf.1.trans (by simp [linked, hv.size]), hidx', ?_, fun j hj => ?_, fun j h1 hj => ?_, fun j hj => ?_, ?_,
    fun j hj => ?_, fun j hj => ?_⟩
  · refine hperm.trans ?_
    rw [List.range_succ (n := m+1)]
    exact (List.perm_append_singleton _ _).symm.trans ((hv.perm.append_right _).symm).symm
  · rw [(hf.2 j).2.2, hg]; split_ifs with h1 h2
    · exact hv.pidx j (by omega)
    · exact h2.symm
    · exact hv.pidx j (by omega)
  · rw [(hf.2 j).2.1, hg]; split_ifs with h2 h3
    · exact hv.prv j h1 (by omega)
    · subst h3; rfl
    · exact hv.prv j h1 (by omega)
  · rw [(hf.2 j).1, hg]; split_ifs with h1 h2
    · subst h1; rfl
    · omega
    · exact hv.nxt j (by omega)
  · rw [(hf.2 0).2.1, hg]
    by_cases h : 0 = m
    · rw [if_pos h]; exact hv.prev0
    · rw [if_neg h, if_neg (by omega)]; exact hv.prev0
  · rw [(hf.2 j).1, hg, if_neg (by omega)]; split_ifs <;> exact hv.nextn j (by omega)
  · rw [ha, VS.area, hg]; split_ifs with h1 h2
    · exact hv.area j (by omega)
    · subst h2; exact har.trans (by omega)
    · exact hv.area j (by omega)

theorem IInv.not_mem {n m : Nat} {st : VS α} (hv : IInv n st m) : m + 1 ∉ st.heap.toList := by
  intro h
  have := hv.perm.mem_iff.1 h
  simp at this

/-- `visInit` in three stages: `linkedListStart`, … -/
def initFirst (n : Nat) : VS α :=
  push ((⟨Array.replicate n ⟨some 0, 0, none, none, 0⟩, #[]⟩ : VS α).modify 0 fun it =>
    { it with area := none, pointIndex := 0 }) 0

/-- … each interior item `i`, of area `a`, … -/
def initItem (a : α) (st : VS α) (i : Nat) : VS α :=
  (push (st.modify i fun it => { it with area := some a, pointIndex := i, prev := some (i - 1) }) i).modify
    (i - 1) fun it => { it with next := some i }

/-- … and the final item. -/
def initLast (n : Nat) (st : VS α) : VS α :=
  push ((st.modify (n - 1) fun it => { it with area := none, pointIndex := n - 1, prev := some (n - 2) }).modify
    (n - 2) fun it => { it with next := some (n - 1) }) (n - 1)

theorem visInit_eq (ls : List (Pt α)) :
    visInit ls = initLast ls.length ((List.range' 1 (ls.length - 2)).foldl
      (fun st i => initItem (doubleTriangleArea ls (i - 1) i (i + 1)) st i) (initFirst ls.length)) := rfl

theorem IInv.first {Q : VS α → Prop} (hq : QOps Q) {n : Nat} (hn : 2 ≤ n) :
    IInv n (initFirst (α := α) n) 0 ∧ Q (initFirst (α := α) n) := by
  unfold initFirst
  set st0 : VS α := ⟨Array.replicate n ⟨some 0, 0, none, none, 0⟩, #[]⟩ with hst0
  have g0 : ∀ j, (st0.get j).next = none ∧ (st0.get j).prev = none := by
    intro j
    by_cases hj : j < n <;> simp [VS.get, hst0, hj]
  set fA : VItem α → VItem α := fun it => { it with area := none, pointIndex := 0 } with hfA
  have szA : (st0.modify 0 fA).items.size = n := by simp [hst0]
  have iA : HeapIdx (st0.modify 0 fA) := fun i hi => by simp [hst0] at hi
  have hA : (st0.modify 0 fA).heap.toList = [] := by simp [hst0]
  have gA : ∀ j, (st0.modify 0 fA).get j = if j = 0 then fA (st0.get j) else st0.get j :=
    fun j => get_modify_of_lt _ _ _ _ (by simp [hst0]; omega)
  have hnew : 0 ∉ (st0.modify 0 fA).heap.toList := by rw [hA]; simp
  have h0 : 0 < (st0.modify 0 fA).items.size := by rw [szA]; omega
  obtain ⟨i1, p1, f1, a1⟩ := VH.push_idx (st0.modify 0 fA) 0 iA h0 hnew
  refine ⟨⟨f1.1.trans szA, i1, by rw [hA] at p1; simpa using p1, ?_, ?_, ?_, ?_, ?_, ?_⟩,
    hq.push _ _ (hq.empty _ (by simp [hst0])) h0⟩
  · intro j hj
    obtain rfl : j = 0 := by omega
    rw [(f1.2 0).2.2, gA, if_pos rfl]
  · intro j h1 h2; omega
  · intro j hj; omega
  · rw [(f1.2 0).2.1, gA, if_pos rfl]; exact (g0 0).2
  · intro j _
    rw [(f1.2 j).1, gA]
    split_ifs <;> exact (g0 j).1
  · intro j hj
    obtain rfl : j = 0 := by omega
    rw [a1, VS.area, gA, if_pos rfl]
    simp [hfA]

theorem IInv.foldStep {Q : VS α → Prop} (hq : QOps Q) {n m : Nat} {st : VS α}
    (hv : IInv n st m) (hQ : Q st) (hm : m + 3 ≤ n) (a : α) :
    IInv n (initItem a st (m + 1)) (m + 1) ∧ Q (initItem a st (m + 1)) := by
  unfold initItem
  rw [show m + 1 - 1 = m by omega]
  set sa := st.modify (m+1) fun it => { it with area := some a, pointIndex := m+1, prev := some m } with hsa
  have ia : HeapIdx sa := heapIdx_modify _ _ _ hv.hidx (fun _ => rfl)
  have hsz : sa.items.size = n := by rw [hsa, VH.modify_items_size, hv.size]
  obtain ⟨ib, pb, fb, ab⟩ := VH.push_idx sa (m+1) ia (by omega) hv.not_mem
  -- the heap of the modified state is `push`'s, by `rw`: left to unification this unfolds `push`
  have pb' : ((push sa (m+1)).modify m fun it => { it with next := some (m+1) }).heap.toList.Perm
      ((m + 1) :: st.heap.toList) := by
    rw [VH.modify_heap]; exact pb
  obtain ⟨fl, al⟩ := frame_setNext fb ab m (some (m + 1))
  exact ⟨hv.add (by omega) (some a) (by simp; omega) (heapIdx_modify _ _ _ ib (fun _ => rfl)) pb' fl al,
    hq.modArea _ _ _ (fun _ => rfl) (hq.push _ _ (hq.modOut _ _ _ hv.not_mem hQ) (by omega))⟩

theorem IInv.lastStep {Q : VS α → Prop} (hq : QOps Q) {n m : Nat} {st : VS α}
    (hv : IInv n st m) (hQ : Q st) (hm : m + 2 = n) :
    IInv n (initLast n st) (m + 1) ∧ Q (initLast n st) := by
  have e : initLast n st = push (linked st m none) (m + 1) := by
    unfold initLast linked
    rw [show n - 1 = m + 1 by omega, show n - 2 = m by omega]
  rw [e]
  have ib : HeapIdx (linked st m none) :=
    heapIdx_modify _ _ _ (heapIdx_modify _ _ _ hv.hidx (fun _ => rfl)) (fun _ => rfl)
  have hs : m + 1 < (linked st m none).items.size := by simp [linked, hv.size]; omega
  obtain ⟨ic, pc, fc, ac⟩ := VH.push_idx (linked st m none) (m+1) ib hs hv.not_mem
  exact ⟨hv.add (by omega) none (by simp; omega) ic pc fc ac,
    hq.push _ _ (hq.modArea _ _ _ (fun _ => rfl) (hq.modOut _ _ _ hv.not_mem hQ)) hs⟩

theorem IInv.fold {Q : VS α → Prop} (hq : QOps Q) (f : Nat → α) {n : Nat} (hn : 2 ≤ n) (m : Nat) (hm : m + 2 ≤ n) :
    IInv n ((List.range' 1 m).foldl (fun st i => initItem (f i) st i) (initFirst n)) m ∧
    Q ((List.range' 1 m).foldl (fun st i => initItem (f i) st i) (initFirst n)) := by
  induction m with
  | zero =>
    rw [List.range'_zero, List.foldl_nil]
    exact IInv.first hq hn
  | succ m ih =>
    obtain ⟨ih1, ih2⟩ := ih (by omega)
    rw [List.range'_concat, List.foldl_append, List.foldl_cons, List.foldl_nil,
      show 1 + 1 * m = m + 1 by omega]
    exact IInv.foldStep hq ih1 ih2 (by omega) _

theorem visInit_inv {Q : VS α → Prop} (hq : QOps Q) (ls : List (Pt α)) (hn : 2 ≤ ls.length) :
    IInv ls.length (visInit ls) (ls.length - 1) ∧ Q (visInit ls) := by
  obtain ⟨v2, q2⟩ := IInv.fold hq (fun i => doubleTriangleArea ls (i - 1) i (i + 1)) hn (ls.length - 2) (by omega)
  have := IInv.lastStep hq v2 q2 (by omega)
  rwa [show ls.length - 2 + 1 = ls.length - 1 by omega, ← visInit_eq] at this


theorem getElem?_range_eq {n j a : Nat} (h : (List.range n)[j]? = some a) : a = j ∧ j < n := by
  by_cases hj : j < n
  · rw [List.getElem?_range hj] at h
    exact ⟨(Option.some.inj h).symm, hj⟩
  · rw [List.getElem?_eq_none (by simpa using hj)] at h; cases h

theorem IInv.toVInv {n : Nat} {st : VS α} (hn : 2 ≤ n) (hv : IInv n st (n - 1)) :
    VInv n st (List.range n) where
  size := hv.size
  sub := List.Sublist.refl _
  head := List.getElem?_range (by omega)
  last := by simp only [List.length_range]; exact List.getElem?_range (by omega)
  nxt := fun j a b h1 h2 => by
    obtain ⟨rfl, _⟩ := getElem?_range_eq h1
    obtain ⟨rfl, _⟩ := getElem?_range_eq h2
    exact hv.nxt _ (by omega)
  prv := fun j a b h1 h2 => by
    obtain ⟨rfl, _⟩ := getElem?_range_eq h1
    obtain ⟨rfl, _⟩ := getElem?_range_eq h2
    exact hv.prv _ (by omega) (by omega)
  prev0 := hv.prev0
  nextn := hv.nextn _ (le_refl _)
  pidx := fun a ha => hv.pidx a (by have := List.mem_range.1 ha; omega)

/-- the invariant at the head of the reduction loop (`L`): the links realise `L`, and the heap holds exactly `L` -/
structure LInv (n : Nat) (st : VS α) (L : List Nat) : Prop where
  vinv : VInv n st L
  hidx : HeapIdx st
  perm : st.heap.toList.Perm L

theorem visInit_LInv (ls : List (Pt α)) (hn : 2 ≤ ls.length) :
    LInv ls.length (visInit ls) (List.range ls.length) := by
  have hq : QOps (fun _ : VS α => True) := ⟨fun _ _ => trivial, fun _ _ _ _ => trivial,
    fun _ _ _ _ _ => trivial, fun _ _ _ _ _ => trivial⟩
  obtain ⟨h, -⟩ := visInit_inv hq ls hn
  refine ⟨h.toVInv hn, h.hidx, ?_⟩
  have := h.perm
  rwa [Nat.sub_add_cancel (by omega)] at this

theorem LInv.pop {n : Nat} {st : VS α} {L : List Nat} (hL : LInv n st L) (hn : 2 ≤ n) :
    0 < st.heap.size ∧ VInv n (pop st).2 L ∧ HeapIdx (pop st).2 ∧ L.Perm ((pop st).1 :: (pop st).2.heap.toList) ∧
      (pop st).1 ∈ L := by
  have h2 := hL.vinv.two_le hn
  have hsz : 0 < st.heap.size := by
    have := hL.perm.length_eq
    simp at this; omega
  obtain ⟨a, b, c, -⟩ := VH.pop_idx st hL.hidx hsz
  exact ⟨hsz, hL.vinv.frame c, a, hL.perm.symm.trans b, hL.perm.mem_iff.1 (b.mem_iff.2 List.mem_cons_self)⟩

/-- Two runs from the same state, the second stopping no earlier than the first: what each returns
    realises a list of live items, the second's a sublist of the first's.  A run against itself says what a
    single run returns. -/
theorem visLoop_pair (ls : List (Pt α)) {n : Nat} (hn : 2 ≤ n) (hls : ls.length = n) :
    ∀ (fuel : Nat) (st : VS α) (L : List Nat) (r : Nat) (t1 t2 : Option α) (k1 k2 : Nat) (st1 st2 : VS α),
      (∀ a, aLt t2 a = true → aLt t1 a = true) → k2 ≤ k1 → LInv n st L → L.length + r = n → k1 + r ≤ n →
      visLoop ls t1 k1 fuel st r = .ok st1 → visLoop ls t2 k2 fuel st r = .ok st2 →
      ∃ L1 L2 r1, VInv n st1 L1 ∧ VInv n st2 L2 ∧ L2.Sublist L1 ∧ L1.Sublist L ∧ L1.length + r1 = n ∧
        k1 + r1 ≤ n ∧ (t1 = none → k1 + r1 = n) := by
  intro fuel
  induction fuel with
  | zero => intro st L r t1 t2 k1 k2 st1 st2 _ _ _ _ _ h; simp [visLoop] at h
  | succ fuel ih =>
    intro st L r t1 t2 k1 k2 st1 st2 ht hk hL hlen hk1 h1 h2
    obtain ⟨hsz, pv, pi, pp, pc⟩ := hL.pop hn
    rw [visLoop_succ, if_neg (by omega)] at h1 h2
    by_cases htest1 : (aLt t1 ((pop st).2.get (pop st).1).area || decide (ls.length ≤ k1 + r)) = true
    · -- the first run stops here; the second stops here too, or goes on against itself
      rw [if_pos htest1] at h1
      cases h1
      have hx : t1 = none → k1 + r = n := fun e => by
        subst e; simp [aLt] at htest1; omega
      by_cases htest2 : (aLt t2 ((pop st).2.get (pop st).1).area || decide (ls.length ≤ k2 + r)) = true
      · rw [if_pos htest2] at h2
        cases h2
        exact ⟨L, L, r, pv, pv, List.Sublist.refl _, List.Sublist.refl _, hlen, hk1, hx⟩
      · rw [if_neg htest2] at h2
        simp only [Bool.or_eq_true, decide_eq_true_eq, not_or] at htest2
        split at h2
        · cases h2
        · cases h2
        · rename_i p nx hp hnx
          obtain ⟨sv, si, sp, sl⟩ := pv.step ls pi pp hp hnx
          obtain ⟨L', -, -, a1, -, -, a2, -⟩ := ih _ _ _ t2 t2 k2 k2 _ _ (fun _ h => h) (Nat.le_refl _)
            ⟨sv, si, sp⟩ (by omega) (by omega) h2 h2
          exact ⟨L, L', r, pv, a1, a2.trans List.erase_sublist, List.Sublist.refl _, hlen, hk1, hx⟩
    · have htest2 : ¬ (aLt t2 ((pop st).2.get (pop st).1).area || decide (ls.length ≤ k2 + r)) = true := by
        intro h
        apply htest1
        simp only [Bool.or_eq_true, decide_eq_true_eq] at h ⊢
        rcases h with h | h
        · exact Or.inl (ht _ h)
        · exact Or.inr (by omega)
      rw [if_neg htest1] at h1
      rw [if_neg htest2] at h2
      simp only [Bool.or_eq_true, decide_eq_true_eq, not_or] at htest1
      split at h2
      · cases h2
      · cases h2
      · rename_i p nx hp hnx
        rw [hp, hnx] at h1
        simp only [] at h1
        obtain ⟨sv, si, sp, sl⟩ := pv.step ls pi pp hp hnx
        obtain ⟨L1, L2, r1, a1, a2, a3, a4, a5⟩ := ih _ _ _ t1 t2 k1 k2 _ _ ht hk ⟨sv, si, sp⟩ (by omega) (by omega) h1 h2
        exact ⟨L1, L2, r1, a1, a2, a3, a4.trans List.erase_sublist, a5⟩


theorem visKept_ok (thr : Option α) (k : Nat) (ls : List (Pt α)) (idxs : List Nat) (hn : 2 ≤ ls.length)
    (hk : k ≤ ls.length) (h : visKept thr k ls = .ok idxs) :
    idxs.Sublist (List.range ls.length) ∧ idxs[0]? = some 0 ∧ idxs[idxs.length - 1]? = some (ls.length - 1) ∧
      k ≤ idxs.length ∧ (thr = none → idxs.length = k) := by
  unfold visKept at h
  simp only [] at h
  split at h
  · rename_i st' hst'
    cases h
    obtain ⟨L', -, r', v, -, -, -, hl, hk', hx⟩ := visLoop_pair ls hn rfl _ _ _ _ _ _ k k _ _ (fun _ h => h)
      (Nat.le_refl _) (visInit_LInv ls hn) (by simp) (by omega) hst' hst'
    rw [v.walk _ (by omega)]
    refine ⟨v.sub, v.head, v.last, by omega, ?_⟩
    intro ht
    have := hx (by rw [ht]; rfl)
    omega
  · cases h
  · cases h

theorem visToKeep_pos (toKeep : Nat) (ls : List (Pt α)) (area : Bool) : 1 ≤ visToKeep toKeep ls area := by
  unfold visToKeep visDefaultClosedRing visDefaultOpenRing visDefaultLine
  simp only []
  split_ifs <;> omega

theorem visToKeep_two_le (toKeep : Nat) (hk : toKeep = 0 ∨ 2 ≤ toKeep) (ls : List (Pt α)) (area : Bool) :
    2 ≤ visToKeep toKeep ls area := by
  unfold visToKeep visDefaultClosedRing visDefaultOpenRing visDefaultLine
  simp only []
  split_ifs <;> omega

theorem visSimplify_cases (thr : Option α) (toKeep : Nat) (ls out : List (Pt α)) (area : Bool)
    (h : visSimplify thr toKeep ls area = .ok out) :
    (ls.length ≤ 1 ∧ out = ls) ∨ (ls.length ≤ visToKeep toKeep ls area ∧ out = ls) ∨
    (2 ≤ ls.length ∧ visToKeep toKeep ls area < ls.length ∧
      ∃ idxs, visKept thr (visToKeep toKeep ls area) ls = .ok idxs ∧ out = compact ls idxs) := by
  unfold visSimplify at h
  simp only [] at h
  split_ifs at h with h1 h2
  · left; cases h; exact ⟨h1, rfl⟩
  · right; left; cases h; exact ⟨h2, rfl⟩
  · right; right
    refine ⟨by omega, by omega, ?_⟩
    split at h
    · rename_i idxs hi
      cases h
      exact ⟨idxs, hi, rfl⟩
    · cases h
    · cases h

theorem visSimplify_ok (thr : Option α) (toKeep : Nat) (ls out : List (Pt α)) (area : Bool)
    (h : visSimplify thr toKeep ls area = .ok out) :
    ValidLine ls out ∧ min ls.length (visToKeep toKeep ls area) ≤ out.length ∧
      (thr = none → visToKeep toKeep ls area < ls.length → out.length = visToKeep toKeep ls area) := by
  rcases visSimplify_cases thr toKeep ls out area h with ⟨h1, rfl⟩ | ⟨h1, rfl⟩ | ⟨h1, h2, idxs, hi, rfl⟩
  · refine ⟨ValidLine.refl _, Nat.min_le_left _ _, fun _ hlt => ?_⟩
    have := visToKeep_pos toKeep out area
    omega
  · exact ⟨ValidLine.refl _, Nat.min_le_left _ _, fun _ hlt => by omega⟩
  · obtain ⟨a1, a2, a3, a4, a5⟩ := visKept_ok thr _ ls idxs h1 (by omega) hi
    have hk := compact_kept ls idxs a1 a2 a3
    refine ⟨hk.validLine, ?_, fun ht _ => ?_⟩
    · rw [hk.length_eq]; exact le_trans (Nat.min_le_right _ _) a4
    · rw [hk.length_eq]; exact a5 ht


theorem visKept_nested (thr1 thr2 : Option α) (k1 k2 : Nat) (ls : List (Pt α)) (i1 i2 : List Nat)
    (hn : 2 ≤ ls.length) (hk1 : k1 ≤ ls.length)
    (ht : ∀ a, aLt (thr2.map (· * 2)) a = true → aLt (thr1.map (· * 2)) a = true) (hk : k2 ≤ k1)
    (h1 : visKept thr1 k1 ls = .ok i1) (h2 : visKept thr2 k2 ls = .ok i2) : i2.Sublist i1 := by
  unfold visKept at h1 h2
  simp only [] at h1 h2
  split at h1
  · rename_i st1 hst1
    split at h2
    · rename_i st2 hst2
      cases h1; cases h2
      obtain ⟨L1, L2, -, v1, v2, hs, -⟩ := visLoop_pair ls hn rfl _ _ _ _ _ _ k1 k2 _ _ ht hk
        (visInit_LInv ls hn) (by simp) (by omega) hst1 hst2
      have l1 : L1.length ≤ ls.length := by simpa using v1.sub.length_le
      have l2 : L2.length ≤ ls.length := by simpa using v2.sub.length_le
      rw [v1.walk _ (by omega), v2.walk _ (by omega)]
      exact hs
    · cases h2
    · cases h2
  · cases h1
  · cases h1

theorem visSimplify_nested (thr1 thr2 : Option α) (k₁ k₂ : Nat) (ls o₁ o₂ : List (Pt α)) (area : Bool)
    (ht : ∀ a, aLt (thr2.map (· * 2)) a = true → aLt (thr1.map (· * 2)) a = true)
    (hk : visToKeep k₂ ls area ≤ visToKeep k₁ ls area)
    (h₁ : visSimplify thr1 k₁ ls area = .ok o₁) (h₂ : visSimplify thr2 k₂ ls area = .ok o₂) :
    o₂.Sublist o₁ := by
  rcases visSimplify_cases thr1 k₁ ls o₁ area h₁ with ⟨h1, rfl⟩ | ⟨h1, rfl⟩ | ⟨h1, h2, i1, hi1, rfl⟩
  · exact (visSimplify_ok thr2 k₂ _ o₂ area h₂).1.1
  · exact (visSimplify_ok thr2 k₂ _ o₂ area h₂).1.1
  · rcases visSimplify_cases thr2 k₂ ls o₂ area h₂ with ⟨g1, rfl⟩ | ⟨g1, rfl⟩ | ⟨g1, g2, i2, hi2, rfl⟩
    · omega
    · omega
    · have hs := visKept_nested thr1 thr2 _ _ ls i1 i2 h1 (by omega) ht hk hi1 hi2
      obtain ⟨a1, -⟩ := visKept_ok thr1 _ ls i1 h1 (by omega) hi1
      obtain ⟨b1, -⟩ := visKept_ok thr2 _ ls i2 h1 (by omega) hi2
      rw [compact_eq_filterMap ls i1 a1, compact_eq_filterMap ls i2 b1]
      exact hs.filterMap _

end vlist

/-! ### totality over an ordered field (needs the heap order and pop-min) -/

section vtotal
variable {α : Type} [Field α] [LinearOrder α] [IsStrictOrderedRing α]

theorem qops_heapOrd : QOps (fun st : VS α => HeapOrd st) where
  empty := fun st h i _ hi => by rw [h] at hi; simp at hi
  push := fun st id ho hid => VH.push_ord st id ho hid
  modOut := fun st id f hid ho i h0 hi => by
    rw [VH.modify_heap] at hi
    have := ho i h0 hi
    have hlt : ((i + 1) >>> 1) - 1 < st.heap.size := by
      rw [Sift.parent_shift]; unfold Sift.parent; omega
    have m1 := (VH.mem_heap_iff st _).2 ⟨_, hlt, rfl⟩
    have m2 := (VH.mem_heap_iff st _).2 ⟨_, hi, rfl⟩
    have e1 : st.heap.getD ((i + 1) >>> 1 - 1) 0 ≠ id := fun e => hid (by rw [← e]; exact m1)
    have e2 : st.heap.getD i 0 ≠ id := fun e => hid (by rw [← e]; exact m2)
    rw [VH.modify_heap, VS.area, VS.area, get_modify_ne _ _ _ _ e1, get_modify_ne _ _ _ _ e2]
    exact this
  modArea := fun st id f hf ho => heapOrd_modify st id f ho hf

theorem optUpd_ord {β : Type} (st : VS α) (id : Nat) (o : Option β) (g : β → Option α) (h : HeapInv st)
    (hin : id ∈ st.heap.toList) : HeapInv (optUpd st id o g) ∧ (optUpd st id o g).heap.toList.Perm st.heap.toList := by
  cases o with
  | none => exact ⟨h, List.Perm.refl _⟩
  | some x =>
    obtain ⟨a, b, -⟩ := VH.update_idx st id (g x) h.1 hin
    exact ⟨⟨a, VH.update_ord st id (g x) h hin⟩, b⟩

theorem visStep_ord (ls : List (Pt α)) (st : VS α) (cur p nx : Nat) (h : HeapInv st)
    (hp : p ∈ st.heap.toList) (hnx : nx ∈ st.heap.toList) : HeapOrd (visStep ls st cur p nx) := by
  rw [visStep_eq]
  dsimp only
  have i2 : HeapInv (relink st cur p nx) :=
    ⟨heapIdx_modify _ _ _ (heapIdx_modify _ _ _ h.1 (fun _ => rfl)) (fun _ => rfl),
      heapOrd_modify _ _ _ (heapOrd_modify _ _ _ h.2 (fun _ => rfl)) (fun _ => rfl)⟩
  obtain ⟨i3, p3⟩ := optUpd_ord (relink st cur p nx) p ((relink st cur p nx).get p).prev _ i2 hp
  exact (optUpd_ord _ nx _ _ i3 (p3.mem_iff.2 hnx)).1.2

/-- exactly the two end items have area `+Inf` -/
def AreaInv (n : Nat) (st : VS α) (L : List Nat) : Prop :=
  ∀ a ∈ L, (st.area a = none ↔ (a = 0 ∨ a = n - 1))

theorem visInit_ordered (ls : List (Pt α)) (hn : 2 ≤ ls.length) :
    LInv ls.length (visInit ls) (List.range ls.length) ∧ HeapOrd (visInit ls) ∧
      AreaInv ls.length (visInit ls) (List.range ls.length) := by
  obtain ⟨h, ho⟩ := visInit_inv qops_heapOrd ls hn
  exact ⟨visInit_LInv ls hn, ho, fun a ha => h.area a (by have := List.mem_range.1 ha; omega)⟩

/-- while an interior item is left, the popped minimum has a finite area (so it is interior itself) -/
theorem popMin_finite {n : Nat} {st : VS α} {L : List Nat} (hL : LInv n st L) (hO : HeapOrd st)
    (hA : AreaInv n st L) (h3 : 3 ≤ L.length) (hsz : 0 < st.heap.size) :
    ∃ c, st.area (pop st).1 = some c := by
  obtain ⟨b, hb⟩ : ∃ b, L[1]? = some b := ⟨_, List.getElem?_eq_getElem (by omega)⟩
  have hbL : b ∈ L := List.mem_iff_getElem?.2 ⟨1, hb⟩
  have hfin : st.area b ≠ none := fun e => by
    rcases (hA _ hbL).1 e with h | h <;> rw [h] at hb
    · have := hL.vinv.inj hb hL.vinv.head; omega
    · have := hL.vinv.inj hb hL.vinv.last; omega
  have hmin := (VH.pop_ord st hO hsz).2 b (hL.perm.mem_iff.2 hbL)
  cases hx : st.area (pop st).1 with
  | some c => exact ⟨c, rfl⟩
  | none =>
    cases hy : st.area b with
    | none => exact absurd hy hfin
    | some y => rw [hx, hy] at hmin; simp [aLe] at hmin

/-- removing an interior item of finite area leaves `+Inf` on the two end items only: a neighbour
    whose area is recomputed has a neighbour of its own on the far side, so it is not an end item -/
theorem AreaInv.step (ls : List (Pt α)) {n : Nat} {st : VS α} {L : List Nat} (hv : VInv n st L)
    (hi : HeapIdx st) (hA : AreaInv n st L) {cur p nx : Nat} {c : α}
    (hperm : L.Perm (cur :: st.heap.toList)) (hp : (st.get cur).prev = some p)
    (hnx : (st.get cur).next = some nx) (hc : (st.get cur).area = some c) :
    AreaInv n (visStep ls st cur p nx) (L.erase cur) := by
  obtain ⟨j, g0, g1, g2, hpH, hnH, hpn, hps, hns⟩ := hv.step_pre hperm hp hnx
  obtain ⟨-, -, -, -, -, -, s7, s8, s9⟩ := visStep_spec ls st cur p nx hi hpH hnH hpn hps hns
  have hj : j + 2 < L.length := (List.getElem?_eq_some_iff.1 g2).1
  intro a ha
  have haL : a ∈ L := List.mem_of_mem_erase ha
  by_cases hap : a = p
  · subst hap
    rcases s8 with e | ⟨e1, x, e2⟩
    · rw [e]; exact hA a haL
    · have h0 : a ≠ 0 := by rintro rfl; exact e1 hv.prev0
      have hn : a ≠ n - 1 := by
        rintro rfl; have := hv.inj g0 hv.last; omega
      simp [e2, hc, aMax, h0, hn]
  · by_cases han : a = nx
    · subst han
      rcases s9 with e | ⟨e1, x, e2⟩
      · rw [e]; exact hA a haL
      · have h0 : a ≠ 0 := by
          rintro rfl; have := hv.inj g2 hv.head; omega
        have hn : a ≠ n - 1 := by rintro rfl; exact e1 hv.nextn
        simp [e2, hc, aMax, h0, hn]
    · rw [s7 a hap han]; exact hA a haL

theorem visLoop_total (ls : List (Pt α)) (thr2 : Option α) (k : Nat) (hk2 : 2 ≤ k) {n : Nat} (hn : 2 ≤ n)
    (hls : ls.length = n) :
    ∀ (fuel : Nat) (st : VS α) (L : List Nat) (r : Nat), LInv n st L → HeapOrd st → AreaInv n st L →
      L.length + r = n → L.length < fuel → ∃ st', visLoop ls thr2 k fuel st r = .ok st' := by
  intro fuel
  induction fuel with
  | zero => intro st L r _ _ _ _ h; omega
  | succ fuel ih =>
    intro st L r hL hO hA hlen hfuel
    obtain ⟨hsz, pv, pi, pp, pc⟩ := hL.pop hn
    have hl2 := hL.vinv.two_le hn
    rw [visLoop_succ, if_neg (by omega)]
    split_ifs with htest
    · exact ⟨_, rfl⟩
    · simp only [Bool.or_eq_true, decide_eq_true_eq, not_or] at htest
      obtain ⟨pO, -⟩ := VH.pop_ord st hO hsz
      obtain ⟨-, -, -, parea⟩ := VH.pop_idx st hL.hidx hsz
      obtain ⟨c, hc⟩ := popMin_finite hL hO hA (by omega) hsz
      have hA' : AreaInv n (pop st).2 L := fun a ha => by rw [parea]; exact hA a ha
      have hc' : ((pop st).2.get (pop st).1).area = some c := (parea _).trans hc
      -- the popped item has a finite area, so it is neither end item and both its links are set
      obtain ⟨p, nx, hp, hnx⟩ := pv.links pc
        (fun e => by have := (hA _ pc).2 (Or.inl e); rw [hc] at this; cases this)
        (fun e => by have := (hA _ pc).2 (Or.inr e); rw [hc] at this; cases this)
      rw [hp, hnx]
      obtain ⟨sv, si, sp, sl⟩ := pv.step ls pi pp hp hnx
      obtain ⟨-, -, -, -, hpH, hnH, -⟩ := pv.step_pre pp hp hnx
      exact ih _ _ (r + 1) ⟨sv, si, sp⟩ (visStep_ord ls _ _ p nx ⟨pi, pO⟩ hpH hnH)
        (AreaInv.step ls pv pi hA' pp hp hnx hc') (by omega) (by omega)

end vtotal
end Vis

section orderedField
variable {α : Type} [Field α] [LinearOrder α] [IsStrictOrderedRing α]

theorem visSimplify_isOk (thr : Option α) (toKeep : Nat) (hk : toKeep = 0 ∨ 2 ≤ toKeep) (ls : List (Pt α))
    (area : Bool) : (visSimplify thr toKeep ls area).isOk = true := by
  unfold visSimplify
  simp only []
  split_ifs with h1 h2
  · rfl
  · rfl
  · have hn : 2 ≤ ls.length := by omega
    obtain ⟨hL, hO, hA⟩ := Vis.visInit_ordered ls hn
    obtain ⟨st', hst'⟩ := Vis.visLoop_total ls (thr.map (· * 2)) _ (Vis.visToKeep_two_le toKeep hk ls area) hn rfl
      (ls.length + 1) _ _ 0 hL hO hA (by simp) (by simp)
    unfold visKept
    simp only []
    rw [hst']
    rfl

theorem aLt_double_mono {thr₁ thr₂ : Option α} (ht : aLe thr₁ thr₂ = true) (a : Option α)
    (ha : aLt (thr₂.map (· * 2)) a = true) : aLt (thr₁.map (· * 2)) a = true := by
  cases thr₂ with
  | none => simp [aLt] at ha
  | some t2 =>
    cases thr₁ with
    | none => simp [aLe] at ht
    | some t1 =>
      cases a with
      | none => simp [aLt]
      | some x =>
        simp only [aLe, aLt, Option.map_some, decide_eq_true_eq] at ht ha ⊢
        linarith

end orderedField

end Orb.Simplify
