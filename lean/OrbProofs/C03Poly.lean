/-
  C03: rings, polygons, multipolygons, bounds — ring re-closing and the regrouping of rings
  into polygons by orientation — and the geometry round trip for every kind.
-/
import OrbProofs.C03Line

namespace Orb.MVT
open Orb

/-- The full statement over `geomWF` alone (false: `ring_reclose_witness`). -/
def geometry_roundtrip_full : Prop := ∀ g, geomWF g = true → geometryRT g = .ok (normG g)

/-- `closed` compares `Option (Pt Int)` values with `==`; with this instance `simp` turns the test into `=`
    (`closed_iff`). -/
instance instLawfulBEqPtInt : LawfulBEq (Pt Int) where
  rfl := by
    intro a; cases a
    show instBEqPt.beq _ _ = _
    simp [instBEqPt.beq]
  eq_of_beq := by
    intro a b h; cases a; cases b
    change instBEqPt.beq _ _ = _ at h
    simp [instBEqPt.beq] at h
    simp [h]

theorem closed_iff (r : List (Pt Int)) : closed r = true ↔ 4 ≤ r.length ∧ r.head? = r.getLast? := by
  unfold closed; simp

theorem closed_cons {r : List (Pt Int)} (h : closed r = true) :
    ∃ p rest, r = p :: rest ∧ r.dropLast = p :: rest.dropLast ∧ r.dropLast ++ [p] = r := by
  rw [closed_iff] at h
  obtain ⟨h4, he⟩ := h
  match r, h4, he with
  | p :: q :: rest, _, he =>
    refine ⟨p, q :: rest, rfl, by simp, ?_⟩
    have hne : (p :: q :: rest) ≠ [] := by simp
    rw [List.getLast?_eq_some_getLast hne] at he
    simp only [List.head?_cons, Option.some.injEq] at he
    have := List.dropLast_concat_getLast hne
    rw [← he] at this
    exact this

theorem closed_reopen {r : List (Pt Int)} (h : closed r = true) : closed (reopen r) = true := by
  obtain ⟨p, rest, rfl, _, _⟩ := closed_cons h
  rw [closed_iff] at h ⊢
  refine ⟨by simp only [reopen, List.length_append, List.length_singleton]; omega, ?_⟩
  show (p :: rest ++ [p]).head? = (p :: rest ++ [p]).getLast?
  rw [List.getLast?_append]
  simp

theorem ringW_closed (c : Cur) {r : List (Pt Int)} (h : closed r = true) :
    ringW c r = ((lineW c r.dropLast).1, (lineW c r.dropLast).2 ++ [closePathW]) := by
  obtain ⟨p, rest, rfl, hdl, _⟩ := closed_cons h
  rw [hdl]
  simp only [ringW, lineW, h, if_true]

theorem ringOK_closed {r : List (Pt Int)} (h : ringOK r = true) : closed r = true := by
  simp only [ringOK, Bool.and_eq_true] at h
  exact h.1.1.1

theorem lineOK_dropLast_of_ringOK {r : List (Pt Int)} (h : ringOK r = true) : lineOK r.dropLast = true := by
  have hc := ringOK_closed h
  simp only [ringOK, Bool.and_eq_true, decide_eq_true_eq] at h
  obtain ⟨⟨_, hall⟩, hlen⟩ := h
  obtain ⟨p, rest, rfl, hdl, _⟩ := closed_cons hc
  simp only [lineOK, Bool.and_eq_true, decide_eq_true_eq]
  refine ⟨⟨by rw [hdl]; simp, ?_⟩, ?_⟩
  · rw [List.all_eq_true] at hall ⊢
    intro x hx
    exact hall x (List.dropLast_subset _ hx)
  · simp only [List.length_dropLast]; omega

theorem ringW_length (c : Cur) {r : List (Pt Int)} (hr : ringOK r = true) : 2 ≤ (ringW c r).2.length := by
  have := lineW_length c (lineOK_ne_nil (lineOK_dropLast_of_ringOK hr))
  rw [ringW_closed c (ringOK_closed hr), List.length_append]; omega

/-- What one iteration of `decodePolygon` does with a decoded ring. -/
def grpStep (st : List (List (List (Pt Int))) × List (List (Pt Int))) (r : List (Pt Int)) :
    List (List (List (Pt Int))) × List (List (Pt Int)) :=
  if st.1.isEmpty && st.2.isEmpty then (st.1, st.2 ++ [r])
  else if oriInt r = 1 then (st.1 ++ [st.2], [r]) else (st.1, st.2 ++ [r])

/-- The value `decodePolygon` returns from its final state. -/
def grpFin (st : List (List (List (Pt Int))) × List (List (Pt Int))) : Geom Int :=
  if st.1.isEmpty then .polygon st.2 else .multiPolygon (st.1 ++ [st.2])

/-- One round of the ring loop on the words of a ring of the quantifier: `decodeLine` reads the ring without
    its closing vertex, `cmdAndCount` the ClosePath word, the decoder re-appends the vertex, and the ring joins
    the state by `grpStep`. -/
theorem pgLoop_ring (ori : List (Pt Int) → Int) (c : Cur) (s : GD) (r : List (Pt Int)) (rest : List W)
    (hs : InStep c s) (hr : ringOK r = true) (hd : ringNoDupClose r = true) (hor : ori r = oriInt r)
    (hw : s.ws = (ringW c r).2 ++ rest) :
    ∃ s', (∀ f mp p, pgLoop ori (f + 1) mp p s = pgLoop ori f (grpStep (mp, p) r).1 (grpStep (mp, p) r).2 s') ∧
      InStep (ringW c r).1 s' ∧ s'.ws = rest := by
  have hnd : s.done = false := by
    have := ringW_length c hr
    rw [GD.done, hw, Bool.eq_false_iff, Ne, List.isEmpty_iff_length_eq_zero, List.length_append]; omega
  have hc := ringOK_closed hr
  rw [ringW_closed c hc] at hw ⊢
  obtain ⟨p, rest', -, hdl, hre⟩ := closed_cons hc
  obtain ⟨s1, hdec, hin, hws⟩ := decodeLine_encLine c s _ (closePathW :: rest) hs
    (lineOK_dropLast_of_ringOK hr) (by rw [hw]; simp)
  obtain ⟨s2, hcmd, hin2, hws2⟩ :=
    cmdAndCount_cmdWord cClosePath 1 rest hin (by decide) (by decide) hws (fun h => absurd rfl h)
  have hncl : closed r.dropLast = false := by simpa [ringNoDupClose] using hd
  rw [hdl] at hdec hncl hre
  refine ⟨s2, fun f mp p => ?_, hin2, hws2⟩
  rw [pgLoop]
  simp only [hnd, Bool.false_eq_true, if_false, hdec, bindD, hcmd]
  simp only [hncl, and_self, if_true, hre, grpStep, hor]
  split
  · rfl
  · split <;> rfl

theorem pgLoop_done (ori : List (Pt Int) → Int) (f : Nat) (mp : List (List (List (Pt Int)))) (p : List (List (Pt Int))) (s : GD)
    (h : s.ws = []) : pgLoop ori f mp p s = (.ok (grpFin (mp, p)), s) := by
  cases f <;> simp [pgLoop, GD.done, h, grpFin] <;> split <;> rfl

theorem pgLoop_rings (ori : List (Pt Int) → Int) (rings : List (List (Pt Int))) (c : Cur) (s : GD) (fuel : Nat)
    (mp : List (List (List (Pt Int)))) (p : List (List (Pt Int))) (hs : InStep c s)
    (hall : ∀ r ∈ rings, ringOK r = true ∧ ringNoDupClose r = true) (hori : ∀ r ∈ rings, ori r = oriInt r)
    (hw : s.ws = (threadW ringW c rings).2) (hf : s.ws.length ≤ fuel) :
    (pgLoop ori fuel mp p s).1 = .ok (grpFin (rings.foldl grpStep (mp, p))) := by
  induction rings generalizing c s fuel mp p with
  | nil => rw [pgLoop_done _ _ _ _ _ hw]; rfl
  | cons r rs ih =>
    have hr := hall r (by simp)
    obtain ⟨s', hstep, hin, hws⟩ := pgLoop_ring ori c s r _ hs hr.1 hr.2 (hori r (by simp)) hw
    have := ringW_length c hr.1
    rw [hw, threadW, List.length_append] at hf
    obtain ⟨f, rfl⟩ : ∃ g, fuel = g + 1 := ⟨fuel - 1, by omega⟩
    rw [hstep, List.foldl_cons]
    exact ih _ s' f _ _ hin (fun x hx => hall x (by simp [hx])) (fun x hx => hori x (by simp [hx])) hws
      (by rw [hws]; omega)

theorem grp_holes (mp : List (List (List (Pt Int)))) (hs p : List (List (Pt Int)))
    (hall : ∀ r ∈ hs, oriInt r ≠ 1) : hs.foldl grpStep (mp, p) = (mp, p ++ hs) := by
  induction hs generalizing p with
  | nil => simp
  | cons h hs ih =>
    have h1 : grpStep (mp, p) h = (mp, p ++ [h]) := by simp [grpStep, hall h (by simp)]
    rw [List.foldl_cons, h1, ih (p ++ [h]) (fun r hr => hall r (by simp [hr]))]
    simp

theorem polyOK_cons {q : List (List (Pt Int))} (h : polyOK q = true) :
    ∃ o hs, q = o :: hs ∧ oriInt o = 1 ∧ ∀ r ∈ hs, oriInt r ≠ 1 := by
  cases q with
  | nil => simp [polyOK] at h
  | cons o hs =>
    simp only [polyOK, Bool.and_eq_true, beq_iff_eq, List.all_eq_true] at h
    refine ⟨o, hs, rfl, h.1.2, ?_⟩
    intro r hr
    have := (h.2 r hr).2
    omega

theorem grp_poly_first {q : List (List (Pt Int))} (hq : polyOK q = true) :
    q.foldl grpStep ([], []) = ([], q) := by
  obtain ⟨o, hs, rfl, _, hh⟩ := polyOK_cons hq
  rw [List.foldl_cons]
  have : grpStep ([], []) o = ([], [o]) := by simp [grpStep]
  rw [this, grp_holes [] hs [o] hh]
  simp

theorem grp_poly_next (mp : List (List (List (Pt Int)))) (p : List (List (Pt Int))) (hp : p ≠ [])
    {q : List (List (Pt Int))} (hq : polyOK q = true) :
    q.foldl grpStep (mp, p) = (mp ++ [p], q) := by
  obtain ⟨o, hs, rfl, ho, hh⟩ := polyOK_cons hq
  rw [List.foldl_cons]
  have : grpStep (mp, p) o = (mp ++ [p], [o]) := by simp [grpStep, hp, ho]
  rw [this, grp_holes _ hs [o] hh]
  simp

theorem polyOK_ne_nil {q : List (List (Pt Int))} (h : polyOK q = true) : q ≠ [] := by
  obtain ⟨o, hs, rfl, _⟩ := polyOK_cons h
  simp

/-- Stated on `st.1 ++ [st.2]`, the form `grpFin_eq` reads: the last polygon is still under way in `.2`. -/
theorem grp_polys : ∀ (ps : List (List (List (Pt Int)))) (mp : List (List (List (Pt Int))))
    (p : List (List (Pt Int))), p ≠ [] → (∀ q ∈ ps, polyOK q = true) →
    (ps.flatten.foldl grpStep (mp, p)).1 ++ [(ps.flatten.foldl grpStep (mp, p)).2] = mp ++ [p] ++ ps := by
  intro ps
  induction ps with
  | nil => intro mp p _ _; simp
  | cons q qs ih =>
    intro mp p hp hall
    have hq := hall q (by simp)
    rw [List.flatten_cons, List.foldl_append, grp_poly_next mp p hp hq,
      ih _ _ (polyOK_ne_nil hq) (fun x hx => hall x (by simp [hx]))]
    simp

theorem grpFin_eq (st : List (List (List (Pt Int))) × List (List (Pt Int))) :
    grpFin st = normG (.multiPolygon (st.1 ++ [st.2])) := by
  obtain ⟨mp, p⟩ := st
  cases mp with
  | nil => rfl
  | cons a b => cases b <;> rfl

theorem grpFin_polys (q : List (List (Pt Int))) (qs : List (List (List (Pt Int))))
    (hall : ∀ x ∈ q :: qs, polyOK x = true) :
    grpFin ((q :: qs).flatten.foldl grpStep ([], [])) = normG (.multiPolygon (q :: qs)) := by
  have hq := hall q (by simp)
  rw [grpFin_eq, List.flatten_cons, List.foldl_append, grp_poly_first hq,
    grp_polys qs [] q (polyOK_ne_nil hq) (fun x hx => hall x (by simp [hx]))]
  rfl

theorem decodeRings_enc (ori : List (Pt Int) → Int) (rings : List (List (Pt Int))) (hne : rings ≠ [])
    (hall : ∀ r ∈ rings, ringOK r = true ∧ ringNoDupClose r = true)
    (hori : ∀ r ∈ rings, ori r = oriInt r) (a : Nat) :
    (decodeGeometryIter ori tPolygon (threadW ringW cur0 rings).2 a).1 =
      .ok (grpFin (rings.foldl grpStep ([], []))) := by
  have hlen : 2 ≤ (threadW ringW cur0 rings).2.length := by
    cases rings with
    | nil => exact absurd rfl hne
    | cons r rs =>
      have := ringW_length cur0 (hall r (by simp)).1
      rw [threadW, List.length_append]; omega
  rw [decodeGeometryIter_eq ori _ a hlen, if_neg (by decide), if_neg (by decide), if_pos rfl]
  exact pgLoop_rings ori rings cur0 _ _ [] [] (inStep_start _ a) hall hori rfl (Nat.le_refl _)

theorem oriInt_boundRing (a b : Pt Int) (hx : a.x < b.x) (hy : a.y < b.y) : oriInt (boundRing a b) = 1 := by
  have hpos : 0 < (b.x - a.x) * (b.y - a.y) := Int.mul_pos (by omega) (by omega)
  have harea : Core.orientArea (boundRing a b) = 2 * ((b.x - a.x) * (b.y - a.y)) := by
    -- four of the six products have a zero factor; the other two are the same product
    simp only [boundRing, Core.orientArea, Core.orientArea.go, Int.sub_self, Int.mul_zero, Int.zero_mul]
    omega
  show (if (0 : Int) < Core.orientArea (boundRing a b) then (1 : Int)
    else if Core.orientArea (boundRing a b) < 0 then -1 else 0) = 1
  rw [harea, if_pos (by omega)]

theorem boundRing_ok (a b : Pt Int) (h : geomWF (.bound a b) = true) :
    ringOK (boundRing a b) = true ∧ ringNoDupClose (boundRing a b) = true := by
  simp only [geomWF, Bool.and_eq_true, decide_eq_true_eq] at h
  obtain ⟨⟨⟨ha, hb⟩, hx⟩, hy⟩ := h
  have hori := oriInt_boundRing a b hx hy
  have ha' := ha
  have hb' := hb
  simp only [ptOK, Bool.and_eq_true] at ha' hb'
  constructor
  · simp only [ringOK, Bool.and_eq_true, hori]
    refine ⟨⟨⟨?_, by decide⟩, ?_⟩, by simp [boundRing]⟩
    · rw [closed_iff]; simp [boundRing]
    · simp [boundRing, ptOK, ha'.1, ha'.2, hb'.1, hb'.2]
  · simp only [ringNoDupClose, Bool.not_eq_true', boundRing]
    rw [← Bool.not_eq_true, closed_iff]
    simp only [List.dropLast, List.head?_cons, List.getLast?]
    intro hh
    have := hh.2
    simp only [Option.some.injEq] at this
    have := congrArg Pt.y this
    simp at this
    omega

theorem polyOK_ringOK {p : List (List (Pt Int))} (h : polyOK p = true) : ∀ r ∈ p, ringOK r = true := by
  cases p with
  | nil => simp [polyOK] at h
  | cons o hs =>
    simp only [polyOK, Bool.and_eq_true, List.all_eq_true] at h
    intro r hr
    rcases List.mem_cons.mp hr with rfl | hr'
    · exact h.1.1
    · exact (h.2 r hr').1

theorem geometry_roundtrip_iter_ori (ori : List (Pt Int) → Int) (g : Geom Int) (h : geomWF g = true)
    (hd : geomNoDupClose g = true) (hori : ∀ r ∈ ringsOf g, ori r = oriInt r) (a : Nat) :
    (decodeGeometryIter ori (gwords g).1 (gwords g).2 a).1 = .ok (normG g) := by
  cases g with
  | point p => exact decodePoint_enc ori [p] (by simp) (by simpa [geomWF] using h) (by simp) a
  | multiPoint ps =>
    simp only [geomWF, Bool.and_eq_true, Bool.not_eq_true', List.all_eq_true, decide_eq_true_eq] at h
    exact decodePoint_enc ori ps (by intro h0; simp [h0] at h) h.1.2 h.2 a
  | lineString l =>
    have := decodeLines_enc ori l [] (by simpa [geomWF] using h) a
    rwa [show (threadW lineW cur0 [l]).2 = (lineW cur0 l).2 by simp [threadW]] at this
  | multiLineString ls =>
    simp only [geomWF, Bool.and_eq_true, Bool.not_eq_true', List.all_eq_true] at h
    cases ls with
    | nil => simp at h
    | cons l ls => exact decodeLines_enc ori l ls h.2 a
  | collection gs => simp [geomWF] at h
  | ring r =>
    have h2 := decodeRings_enc ori [r] (by simp) (by simpa [geomWF, geomNoDupClose] using ⟨h, hd⟩)
      (by simpa [ringsOf] using hori) a
    rw [show (threadW ringW cur0 [r]).2 = (ringW cur0 r).2 by simp [threadW]] at h2
    exact h2.trans (by simp [grpStep, grpFin, normG])
  | bound p q =>
    obtain ⟨hr, hn⟩ := boundRing_ok p q h
    exact (decodeRings_enc ori [boundRing p q] (by simp) (by simpa using ⟨hr, hn⟩)
      (by simpa [ringsOf] using hori) a).trans (by simp [grpStep, grpFin, normG])
  | polygon p =>
    simp only [geomWF] at h
    simp only [geomNoDupClose, List.all_eq_true] at hd
    exact (decodeRings_enc ori p (polyOK_ne_nil h) (fun r hr => ⟨polyOK_ringOK h r hr, hd r hr⟩) hori a).trans
      (by rw [grp_poly_first h]; simp [grpFin, normG])
  | multiPolygon ps =>
    simp only [geomWF, Bool.and_eq_true, List.all_eq_true] at h
    simp only [geomNoDupClose, List.all_eq_true] at hd
    obtain ⟨hnil, hpoly⟩ := h
    cases ps with
    | nil => simp at hnil
    | cons q qs =>
      have hall : ∀ r ∈ (q :: qs).flatten, ringOK r = true ∧ ringNoDupClose r = true := by
        intro r hr
        obtain ⟨p, hp, hrp⟩ := List.mem_flatten.mp hr
        exact ⟨polyOK_ringOK (hpoly p hp) r hrp, hd p hp r hrp⟩
      have hfne : (q :: qs).flatten ≠ [] := by
        have := polyOK_ne_nil (hpoly q (by simp))
        cases q with
        | nil => exact absurd rfl this
        | cons _ _ => simp
      exact (decodeRings_enc ori (q :: qs).flatten hfne hall hori a).trans (by rw [grpFin_polys q qs hpoly])

end Orb.MVT
