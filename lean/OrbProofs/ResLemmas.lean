/-
  Facts about the outcome type `Orb.Res` that several packages' proofs share.  Core Lean only.
  `Res.Post P r`: the outcome `r` is not a panic, and if it is a value the value satisfies `P` — "never panics,
  and a success did this" as one statement.  A step of a modelled Go function is `r.bind f` (the callee's error or
  panic is handed on unchanged); `Post.bind` carries the statement through a step, so a function written as a chain
  of `bind`s is specified stage by stage, with no case analysis of the chain.
  The member loop `resMapM` ("run `f` on every member, the first outcome that is not a value is the outcome of the
  loop") and its filtered form `resFilterM`; their characterisations by `List.Forall₂` are in `ResForall`.
  A `List.foldlM` with `Res` outcomes by an invariant: `foldlM_res_inv` (a success kept it), `foldlM_res_tot` (it succeeds);
  its panics and errors are its body's (`foldlM_res_np`, `foldlM_res_err`), and a body that only adds a member's output
  makes it `resMapM` followed by a fold (`foldlM_res_eq_resMapM`).
-/
import Orb.Basic

namespace Orb.Res
variable {ε α β : Type}

theorem bind_ok (a : α) (f : α → Res ε β) : (Res.ok a : Res ε α).bind f = f a := rfl
theorem bind_err (e : ε) (f : α → Res ε β) : (Res.err e : Res ε α).bind f = .err e := rfl
theorem bind_panic (m : String) (f : α → Res ε β) : (Res.panic m : Res ε α).bind f = .panic m := rfl

theorem bind_eq_ok {r : Res ε α} {f : α → Res ε β} {b : β} (h : r.bind f = .ok b) :
    ∃ a, r = .ok a ∧ f a = .ok b := by
  cases r with
  | ok a => exact ⟨a, rfl, h⟩
  | err e => cases h
  | panic m => cases h

theorem np_absurd {r : Res ε α} {m : String} (h : r = .panic m) (hn : r.isPanic = false) : False := by
  subst h; cases hn

def Post (P : α → Prop) : Res ε α → Prop
  | .ok a => P a
  | .err _ => True
  | .panic _ => False

theorem Post.bind {P : β → Prop} {r : Res ε α} {f : α → Res ε β}
    (h : Post (fun a => Post P (f a)) r) : Post P (r.bind f) := by
  cases r <;> exact h

theorem Post.mono {P Q : α → Prop} {r : Res ε α} (h : Post P r) (hpq : ∀ a, P a → Q a) : Post Q r := by
  cases r with
  | ok a => exact hpq a h
  | err e => exact h
  | panic m => exact h

theorem Post.np {P : α → Prop} {r : Res ε α} (h : Post P r) : r.isPanic = false := by
  cases r with
  | ok a => rfl
  | err e => rfl
  | panic m => exact h.elim

theorem Post.ok {P : α → Prop} {r : Res ε α} {a : α} (h : Post P r) (hr : r = .ok a) : P a := by
  subst hr; exact h

theorem Post.ite {P : α → Prop} {t : Prop} [Decidable t] {a b : Res ε α} (ha : Post P a) (hb : Post P b) :
    Post P (if t then a else b) := by
  split <;> assumption

/-- From the two halves as they are usually at hand: no panic, and a fact about every success. -/
theorem Post.of {P : α → Prop} {r : Res ε α} (hn : r.isPanic = false) (hp : ∀ a, r = .ok a → P a) : Post P r := by
  cases r with
  | ok a => exact hp a rfl
  | err e => exact trivial
  | panic m => cases hn

theorem Post.map {P : β → Prop} {r : Res ε α} {f : α → β} (h : Post (fun a => P (f a)) r) : Post P (r.map f) := by
  cases r <;> exact h

theorem bind_pure_eq_map (r : Res ε α) (f : α → β) : (do let x ← r; pure (f x) : Res ε β) = r.map f := by
  cases r <;> rfl

theorem isPanic_map (f : α → β) (r : Res ε α) : (r.map f).isPanic = r.isPanic := by
  cases r <;> rfl

theorem isOk_map (f : α → β) (r : Res ε α) : (r.map f).isOk = r.isOk := by
  cases r <;> rfl

theorem map_eq_ok {f : α → β} {r : Res ε α} {b : β} (h : r.map f = .ok b) : ∃ a, r = .ok a ∧ b = f a := by
  cases r with
  | ok a => cases h; exact ⟨a, rfl, rfl⟩
  | err e => cases h
  | panic m => cases h

theorem np_ite {c : Prop} [Decidable c] {a b : Res ε α} (ha : a.isPanic = false) (hb : b.isPanic = false) :
    (if c then a else b).isPanic = false := by
  split <;> assumption

/-- `Post.bind` when nothing but "no panic" is asked of the step. -/
theorem np_bind {r : Res ε α} {f : α → Res ε β} (hr : r.isPanic = false)
    (hf : ∀ a, r = .ok a → (f a).isPanic = false) : (r.bind f).isPanic = false :=
  (Post.bind (P := fun _ => True) (Post.of hr fun a ha => Post.of (hf a ha) fun _ _ => trivial)).np

/-- the "returns a value" pair beside the "no panic" pair `np_ite`, `np_bind`: totality branch by branch.  Only the else
    branch is handed the (negated) guard: what follows an early return succeeds once its guard has failed, and no
    caller needs the guard in the then branch. -/
theorem ok_ite {c : Prop} [Decidable c] {X Y : Res ε α} (hX : ∃ r, X = .ok r) (hY : ¬ c → ∃ r, Y = .ok r) :
    ∃ r, (if c then X else Y) = .ok r := by
  by_cases h : c
  · rw [if_pos h]; exact hX
  · rw [if_neg h]; exact hY h

theorem ok_bind {X : Res ε α} {f : α → Res ε β} (hX : ∃ a, X = .ok a) (hf : ∀ a, X = .ok a → ∃ r, f a = .ok r) :
    ∃ r, X.bind f = .ok r := by
  obtain ⟨a, rfl⟩ := hX
  exact hf a rfl

theorem isOk_iff (r : Res ε α) : r.isOk = true ↔ ∃ v, r = .ok v := by
  cases r <;> simp [Res.isOk]

end Orb.Res

namespace Orb

/- The prefix is that of the models of the generic entry points (`Orb.C20M`, property C20), whose collection cases are
   this loop; the decoders, the simplifiers, tilecover and smartclip run their members through it as well. -/
namespace C20M

/-- `for _, g := range c { r := f(g); … }` for a function with a `Res` outcome: members first to
    last, the first outcome that is not a value is the outcome of the whole loop. -/
def resMapM {ε β γ : Type} (f : β → Res ε γ) : List β → Res ε (List γ)
  | [] => .ok []
  | b :: bs =>
    match f b with
    | .ok c =>
      (match resMapM f bs with
       | .ok cs => .ok (c :: cs)
       | .err e => .err e
       | .panic w => .panic w)
    | .err e => .err e
    | .panic w => .panic w

/-- `for _, g := range c { r := f(g); if !keep(r) { continue }; out = append(out, r) }` -/
def resFilterM {ε β γ : Type} (f : β → Res ε γ) (keep : γ → Bool) (l : List β) : Res ε (List γ) :=
  match resMapM f l with
  | .ok ys => .ok (ys.filter keep)
  | .err e => .err e
  | .panic w => .panic w

variable {ε β γ : Type} (f : β → Res ε γ)

theorem resMapM_isOk (l : List β) (h : ∀ x ∈ l, (f x).isOk = true) : (resMapM f l).isOk = true := by
  induction l with
  | nil => rfl
  | cons x xs ih =>
    obtain ⟨y, hy⟩ := (Res.isOk_iff _).1 (h x (by simp))
    obtain ⟨ys, hys⟩ := (Res.isOk_iff _).1 (ih fun z hz => h z (by simp [hz]))
    rw [resMapM, hy, hys]; rfl

theorem resFilterM_isOk (keep : γ → Bool) (l : List β) (h : ∀ x ∈ l, (f x).isOk = true) :
    (resFilterM f keep l).isOk = true := by
  obtain ⟨ys, hys⟩ := (Res.isOk_iff _).1 (resMapM_isOk f l h)
  unfold resFilterM; rw [hys]; rfl

/-- one iteration of the filtered loop, in the shape the Go loops are modelled in -/
theorem resFilterM_cons (keep : γ → Bool) (x : β) (xs : List β) :
    resFilterM f keep (x :: xs) =
      match f x with
      | .ok y =>
        (match resFilterM f keep xs with
         | .ok ys => if keep y then .ok (y :: ys) else .ok ys
         | .err e => .err e
         | .panic w => .panic w)
      | .err e => .err e
      | .panic w => .panic w := by
  unfold resFilterM
  rw [resMapM]
  cases f x with
  | ok y => cases resMapM f xs <;> simp only [List.filter_cons] <;> split <;> rfl
  | err e => rfl
  | panic w => rfl

theorem resMapM_np (l : List β) (h : ∀ x ∈ l, (f x).isPanic = false) : (resMapM f l).isPanic = false := by
  induction l with
  | nil => rfl
  | cons x xs ih =>
    have hx := h x (by simp)
    have hxs := ih fun z hz => h z (by simp [hz])
    rw [resMapM]
    cases hf : f x with
    | ok y =>
      cases hr : resMapM f xs with
      | ok ys => rfl
      | err e => rfl
      | panic w => rw [hr] at hxs; cases hxs
    | err e => rfl
    | panic w => rw [hf] at hx; cases hx

theorem resMapM_map {α : Type} (g : α → β) (l : List α) : resMapM f (l.map g) = resMapM (fun a => f (g a)) l := by
  induction l with
  | nil => rfl
  | cons a l ih => rw [List.map_cons, resMapM, resMapM, ih]

/-- the loop over written members each of which decodes -/
theorem resMapM_map_ok {α : Type} (g : α → β) (k : α → γ) (l : List α) (h : ∀ a ∈ l, f (g a) = .ok (k a)) :
    resMapM f (l.map g) = .ok (l.map k) := by
  induction l with
  | nil => rfl
  | cons a l ih => rw [List.map_cons, resMapM, h a (by simp), ih fun x hx => h x (by simp [hx])]; rfl

end C20M

/-- A loop `l.foldlM f init` with `Res` outcomes, partial correctness: an invariant that every successful step on a
    member of `l` preserves holds of a successful result. -/
theorem foldlM_res_inv {ε β γ : Type} (P : β → Prop) (f : β → γ → Res ε β) :
    ∀ (l : List γ) (init out : β), (∀ a, ∀ i ∈ l, ∀ b, f a i = .ok b → P a → P b) →
      l.foldlM f init = .ok out → P init → P out := by
  intro l
  induction l with
  | nil =>
    intro init out _ h hp
    cases h
    exact hp
  | cons x xs ih =>
    intro init out hf h hp
    rw [List.foldlM_cons] at h
    obtain ⟨a, ha, h⟩ := Res.bind_eq_ok h
    exact ih _ _ (fun a i hi => hf a i (List.mem_cons_of_mem _ hi)) h (hf _ x List.mem_cons_self _ ha hp)

/-- Total correctness: if every step on a member of `l` succeeds under the invariant and preserves it, the loop
    succeeds and the invariant holds of its result. -/
theorem foldlM_res_tot {ε β γ : Type} (Q : β → Prop) (f : β → γ → Res ε β) :
    ∀ (l : List γ) (init : β), Q init → (∀ a, Q a → ∀ i ∈ l, ∃ b, f a i = .ok b ∧ Q b) →
      ∃ out, l.foldlM f init = .ok out ∧ Q out := by
  intro l
  induction l with
  | nil => intro init hq _; exact ⟨_, rfl, hq⟩
  | cons x xs ih =>
    intro init hq hf
    obtain ⟨b, hb, hqb⟩ := hf init hq x List.mem_cons_self
    rw [List.foldlM_cons, hb]
    exact ih b hqb fun a ha i hi => hf a ha i (List.mem_cons_of_mem _ hi)

section loop
variable {ε σ β : Type}

theorem foldlM_res_np {f : σ → β → Res ε σ} (bs : List β)
    (hf : ∀ s, ∀ b ∈ bs, (f s b).isPanic = false) :
    ∀ s, (bs.foldlM f s).isPanic = false := by
  induction bs with
  | nil => intro s; rfl
  | cons b bs ih =>
    intro s
    rw [List.foldlM_cons]
    exact Res.np_bind (hf s b List.mem_cons_self) fun s' _ =>
      ih (fun s b' hb' => hf s b' (List.mem_cons_of_mem _ hb')) s'

/-- If the body only adds (`add o s`) an output `o` that a function `g` of the member alone computes, the loop
    is the member loop `resMapM g` followed by adding the outputs in order. -/
theorem foldlM_res_eq_resMapM {γ : Type} {f : σ → β → Res ε σ} {g : β → Res ε γ} {add : γ → σ → σ}
    (hf : ∀ s b, f s b = (g b).map (add · s)) :
    ∀ (bs : List β) (s : σ),
      bs.foldlM f s = (C20M.resMapM g bs).map fun os => os.foldl (fun s o => add o s) s
  | [], _ => rfl
  | b :: bs, s => by
    rw [List.foldlM_cons, hf, C20M.resMapM]
    cases g b with
    | ok o => exact (foldlM_res_eq_resMapM hf bs (add o s)).trans (by cases C20M.resMapM g bs <;> rfl)
    | err e => rfl
    | panic w => rfl

/-- an error of the loop is an error of its body -/
theorem foldlM_res_err {f : σ → β → Res ε σ} {P : ε → Prop} (hf : ∀ s b e, f s b = .err e → P e) :
    ∀ (bs : List β) (s : σ) {e : ε}, bs.foldlM f s = .err e → P e := by
  intro bs
  induction bs with
  | nil => intro s e h; cases h
  | cons b bs ih =>
    intro s e h
    rw [List.foldlM_cons] at h
    cases hb : f s b with
    | ok s' => rw [hb] at h; exact ih s' h
    | err e' => rw [hb] at h; cases h; exact hf s b _ hb
    | panic w => rw [hb] at h; cases h

end loop
end Orb
