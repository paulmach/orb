/-
  C13 — translation tie.  `Generated/TileGo.lean` is REGENERATED from /repo/maptile/tile.go on
  every run by the Go→Lean translator in harness/cmd/factgen/translate.go.  The theorems below
  prove that each regenerated definition IS the hand-written model definition of `Orb.Tile` that
  the C13 property theorems are about — so for these ten functions a change of the Go source
  changes a Lean definition and breaks a proof obligation here, independently of any sampling.
-/
import OrbProofs.C13Lemmas
import Generated.TileGo

namespace Orb.C13Tie
open Orb.Tile

theorem valid_tie (t : Tile) : Generated.TileGo.valid t = valid t := rfl
theorem parent_tie (t : Tile) : Generated.TileGo.parent t = parent t := rfl
theorem children_tie (t : Tile) : Generated.TileGo.children t = children t := rfl
theorem siblings_tie (t : Tile) : Generated.TileGo.siblings t = siblings t := rfl
theorem toZoom_tie (t : Tile) (z : Nat) : Generated.TileGo.toZoom t z = toZoom t z := rfl
theorem contains_tie (t u : Tile) : Generated.TileGo.contains t u = contains t u := rfl
theorem sharedParent_tie (t u : Tile) : Generated.TileGo.sharedParent t u = sharedParent t u := rfl
theorem range_tie (t : Tile) (z : Nat) : Generated.TileGo.range t z = range t z := rfl

theorem foldl_congr {α β : Type} (f g : α → β → α) (l : List β) (a : α)
    (h : ∀ a, ∀ b ∈ l, f a b = g a b) : l.foldl f a = l.foldl g a :=
  List.foldl_rel (r := Eq) rfl fun b hb c _ e => e ▸ h c b hb

/-- `Quadkey`: the loop index arithmetic is uint64 in Go; for zoom ≤ 2^32 it never wraps. -/
theorem quadkey_tie (t : Tile) (hz : t.z ≤ 2^32) : Generated.TileGo.quadkey t = quadkey t := by
  unfold Generated.TileGo.quadkey quadkey
  apply foldl_congr
  intro r i hi
  have hi' : i < 2^32 := by
    have := List.mem_range.mp hi
    omega
  have h1 : Generated.TileGo.add64 i 1 = i + 1 := by
    unfold Generated.TileGo.add64 W64
    exact Nat.mod_eq_of_lt (by omega)
  simp only [quadkeyStep, Generated.TileGo.shl64, h1]

/-- `FromQuadkey`: the index arithmetic `2*i`, `2*i+1`, `i+1` is uint32 in Go; for zoom ≤ 2^30 it never wraps. -/
theorem fromQuadkey_tie (k z : Nat) (hz : z ≤ 2^30) : Generated.TileGo.fromQuadkey k z = fromQuadkey k z := by
  unfold Generated.TileGo.fromQuadkey fromQuadkey
  apply foldl_congr
  intro t i hi
  have hi' : i < 2^30 := by
    have := List.mem_range.mp hi
    omega
  have h2 : Generated.TileGo.mul32 2 i = 2 * i := by
    unfold Generated.TileGo.mul32 W32
    exact Nat.mod_eq_of_lt (by omega)
  have h3 : add32 (2 * i) 1 = 2 * i + 1 := add32_eq (by omega)
  have h4 : add32 i 1 = i + 1 := add32_eq (by omega)
  simp only [fromQuadkeyStep, Generated.TileGo.shl64, Generated.TileGo.shr64, h2, h3, h4]

/-- every function the translator is asked for was translated -/
theorem all_translated : Generated.TileGo.translated =
    ["valid", "parent", "children", "siblings", "toZoom", "contains", "quadkey", "fromQuadkey", "sharedParent", "range"] := rfl

end Orb.C13Tie
