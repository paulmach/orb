/-
  `project.Geometry` with a pure point function is a map.  The model's loops at the stateless projection
  `fun p s => (f p, s)`, for any state type and with the state returned, and `Orb.Project.geometry` kind by
  kind; in front, the vertex list of a member list as a `flatMap`.  Core Lean only.
-/
import Orb.Project

namespace Orb.Project
open Orb Orb.Core

theorem verts_go_eq_flatMap {α : Type} (gs : List (Geom α)) : verts.go gs = gs.flatMap verts := by
  induction gs with
  | nil => rfl
  | cons g gs ih => rw [verts.go, ih, List.flatMap_cons]

section loops
variable {σ α : Type} (f : Pt α → Pt α)

theorem ptsM_of_pure (ps : List (Pt α)) (s : σ) : ptsM (fun p s => (f p, s)) ps s = (ps.map f, s) := by
  induction ps with
  | nil => rfl
  | cons p t ih => simp only [ptsM, ih, List.map_cons]

theorem ptssM_of_pure (ls : List (List (Pt α))) (s : σ) :
    ptssM (fun p s => (f p, s)) ls s = (ls.map (List.map f), s) := by
  induction ls with
  | nil => rfl
  | cons l t ih => simp only [ptssM, ptsM_of_pure, ih, List.map_cons]

theorem ptsssM_of_pure (ps : List (List (List (Pt α)))) (s : σ) :
    ptsssM (fun p s => (f p, s)) ps s = (ps.map (List.map (List.map f)), s) := by
  induction ps with
  | nil => rfl
  | cons l t ih => simp only [ptsssM, ptssM_of_pure, ih, List.map_cons]

end loops

section geometry
variable {α : Type} [LT α] [DecidableLT α] [Min α] [Max α] (f : Pt α → Pt α)

theorem geometryM_go_pure (gs : List (Geom α)) :
    geometryM.go (σ := Unit) (fun p s => (f p, s)) gs () = (gs.map (geometry f), ()) := by
  induction gs with
  | nil => rfl
  | cons g gs ih => rw [geometryM.go, ih]; rfl

/-! The point case is `geometry_point` (C15ProjLemmas.lean); a bound is re-boxed (`project_bound`, C15.lean). -/

theorem geometry_multiPoint (ps : List (Pt α)) :
    geometry f (.multiPoint ps) = .multiPoint (ps.map f) := by simp only [geometry, geometryM, ptsM_of_pure]
theorem geometry_lineString (ps : List (Pt α)) :
    geometry f (.lineString ps) = .lineString (ps.map f) := by simp only [geometry, geometryM, ptsM_of_pure]
theorem geometry_ring (ps : List (Pt α)) :
    geometry f (.ring ps) = .ring (ps.map f) := by simp only [geometry, geometryM, ptsM_of_pure]
theorem geometry_multiLineString (ls : List (List (Pt α))) :
    geometry f (.multiLineString ls) = .multiLineString (ls.map (List.map f)) := by
  simp only [geometry, geometryM, ptssM_of_pure]
theorem geometry_polygon (ls : List (List (Pt α))) :
    geometry f (.polygon ls) = .polygon (ls.map (List.map f)) := by
  simp only [geometry, geometryM, ptssM_of_pure]
theorem geometry_multiPolygon (ps : List (List (List (Pt α)))) :
    geometry f (.multiPolygon ps) = .multiPolygon (ps.map (List.map (List.map f))) := by
  simp only [geometry, geometryM, ptsssM_of_pure]
theorem geometry_collection (gs : List (Geom α)) :
    geometry f (.collection gs) = .collection (gs.map (geometry f)) := by
  simp only [geometry, geometryM, geometryM_go_pure]

end geometry

end Orb.Project
