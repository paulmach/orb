/-
  C08 (area), split layer.  `pullK box k w a b` is `w` over the clamped image of the edge; for a split-additive `w`
  (`SplitAdd`: additive under cutting an edge at one of its points) it may be evaluated on ANY cut of the edge into
  edges that do not cross the line of `k` (`Side`, `pullK_cut`, `pullK_side`), so it is split-additive again
  (`splitAdd_pullK`).  Two split-additive functionals that agree on the edges not crossing a given line agree
  everywhere (`SplitAdd.ext_line`): identities between pull-backs are proved on one side of a line at a time.
-/
import OrbProofs.C08RegionAreaRing

namespace Orb.Clip.C08R
open Orb Orb.EvenOdd Orb.Contains Orb.Clip Orb.Clip.C08
open Orb.Core

set_option linter.unusedSectionVars false

variable {α : Type} [Field α] [LinearOrder α] [IsStrictOrderedRing α]

/-- additive under cutting an edge at a point of the edge -/
def SplitAdd (w : Pt α → Pt α → α) : Prop := ∀ a b i, OnSeg a b i → w a b = w a i + w i b

theorem splitAdd_sh : SplitAdd (sh (α := α)) := by
  rintro a b i ⟨t, _, _, rfl⟩
  simp only [sh, lerp_x, lerp_y]; ring

theorem SplitAdd.sub {w w' : Pt α → Pt α → α} (h : SplitAdd w) (h' : SplitAdd w') :
    SplitAdd (fun a b => w a b - w' a b) := by
  intro a b i hi
  simp only [h a b i hi, h' a b i hi]; ring

theorem SplitAdd.add {w w' : Pt α → Pt α → α} (h : SplitAdd w) (h' : SplitAdd w') :
    SplitAdd (fun a b => w a b + w' a b) := by
  intro a b i hi
  simp only [h a b i hi, h' a b i hi]; ring

theorem splitAdd_cob (c : α) (κ : Pt α → α) : SplitAdd (fun a b => c * (κ b - κ a)) := by
  intro a b i _; ring

/-- both ends on one closed side of the line of edge `k` -/
def Side (box : Bound α) (k : Nat) (a b : Pt α) : Prop :=
  (exc box k a ≤ 0 ∧ exc box k b ≤ 0) ∨ (0 ≤ exc box k a ∧ 0 ≤ exc box k b)

theorem side_cut (box : Bound α) (k : Nat) (a b : Pt α) :
    ∃ x, OnSeg a b x ∧ Side box k a x ∧ Side box k x b := by
  rcases le_total (exc box k a) 0 with ha | ha <;> rcases le_total (exc box k b) 0 with hb | hb
  · exact ⟨a, onSeg_left a b, Or.inl ⟨ha, ha⟩, Or.inl ⟨ha, hb⟩⟩
  · obtain ⟨t0, t1, hz, -⟩ := affine_cross_up ha hb
    rw [← exc_lerp] at hz
    exact ⟨_, ⟨_, t0, t1, rfl⟩, Or.inl ⟨ha, hz.le⟩, Or.inr ⟨hz.ge, hb⟩⟩
  · obtain ⟨t0, t1, hz, -⟩ := affine_cross ha hb
    rw [← exc_lerp] at hz
    exact ⟨_, ⟨_, t0, t1, rfl⟩, Or.inr ⟨ha, hz.ge⟩, Or.inl ⟨hz.le, hb⟩⟩
  · exact ⟨a, onSeg_left a b, Or.inr ⟨ha, ha⟩, Or.inr ⟨ha, hb⟩⟩

theorem SplitAdd.ext_line {Φ Ψ : Pt α → Pt α → α} (hΦ : SplitAdd Φ) (hΨ : SplitAdd Ψ) (box : Bound α) (k : Nat)
    (h : ∀ a b, Side box k a b → Φ a b = Ψ a b) (a b : Pt α) : Φ a b = Ψ a b := by
  obtain ⟨x, hx, h1, h2⟩ := side_cut box k a b
  rw [hΦ a b x hx, hΨ a b x hx, h a x h1, h x b h2]

theorem Side.sub {box : Bound α} {k : Nat} {a b x : Pt α} (h : Side box k a b) (hx : OnSeg a b x) :
    Side box k a x ∧ Side box k x b := by
  rcases h with ⟨ha, hb⟩ | ⟨ha, hb⟩
  · have := exc_convex_in box k ha hb hx
    exact ⟨Or.inl ⟨ha, this⟩, Or.inl ⟨this, hb⟩⟩
  · have := exc_convex_out_closed box k ha hb hx
    exact ⟨Or.inr ⟨ha, this⟩, Or.inr ⟨this, hb⟩⟩

theorem side_of_insK_eq {box : Bound α} {k : Nat} {a b : Pt α} (h : insK box k a = insK box k b) : Side box k a b := by
  cases ha : insK box k a
  · rw [ha] at h
    exact Or.inr ⟨(insK_false.1 ha).le, (insK_false.1 h.symm).le⟩
  · rw [ha] at h
    exact Or.inl ⟨insK_true.1 ha, insK_true.1 h.symm⟩

theorem flatK_lerp (box : Bound α) {k : Nat} (hk : Edge k) (a b : Pt α) (t : α) :
    flatK box k (lerp a b t) = lerp (flatK box k a) (flatK box k b) t := by
  rcases hk with rfl | rfl | rfl | rfl <;> apply pt_eq <;> simp [flatK]

theorem flatK_of_zero (box : Bound α) {k : Nat} (hk : Edge k) {p : Pt α} (h : exc box k p = 0) :
    flatK box k p = p := by
  rcases hk with rfl | rfl | rfl | rfl
  · rw [exc_8, sub_eq_zero] at h; exact pt_eq rfl h.symm
  · rw [exc_4, sub_eq_zero] at h; exact pt_eq rfl h
  · rw [exc_2, sub_eq_zero] at h; exact pt_eq h.symm rfl
  · rw [exc_1, sub_eq_zero] at h; exact pt_eq h rfl

theorem projK_of_nonpos (box : Bound α) (k : Nat) {p : Pt α} (h : exc box k p ≤ 0) : projK box k p = p := by
  unfold projK; rw [if_pos h]

theorem projK_of_nonneg (box : Bound α) {k : Nat} (hk : Edge k) {p : Pt α} (h : 0 ≤ exc box k p) :
    projK box k p = flatK box k p := by
  unfold projK
  split_ifs with h'
  · exact (flatK_of_zero box hk (le_antisymm h' h)).symm
  · rfl

theorem proj_seg (box : Bound α) {k : Nat} (hk : Edge k) {u v p : Pt α} (hs : Side box k u v) (hp : OnSeg u v p) :
    OnSeg (projK box k u) (projK box k v) (projK box k p) := by
  rcases hs with ⟨hu, hv⟩ | ⟨hu, hv⟩
  · rw [projK_of_nonpos box k hu, projK_of_nonpos box k hv, projK_of_nonpos box k (exc_convex_in box k hu hv hp)]
    exact hp
  · rw [projK_of_nonneg box hk hu, projK_of_nonneg box hk hv,
      projK_of_nonneg box hk (exc_convex_out_closed box k hu hv hp)]
    obtain ⟨t, t0, t1, rfl⟩ := hp
    exact ⟨t, t0, t1, flatK_lerp box hk u v t⟩

theorem side_left (box : Bound α) (k : Nat) (a : Pt α) {x : Pt α} (hx : exc box k x = 0) : Side box k a x := by
  rcases le_total (exc box k a) 0 with h | h
  · exact Or.inl ⟨h, hx.le⟩
  · exact Or.inr ⟨h, hx.ge⟩

theorem side_right (box : Bound α) (k : Nat) (b : Pt α) {x : Pt α} (hx : exc box k x = 0) : Side box k x b := by
  rcases le_total (exc box k b) 0 with h | h
  · exact Or.inl ⟨hx.le, h⟩
  · exact Or.inr ⟨hx.ge, h⟩

theorem pullK_same (box : Bound α) (k : Nat) (w : Pt α → Pt α → α) {a b : Pt α} (h : insK box k a = insK box k b) :
    pullK box k w a b = w (projK box k a) (projK box k b) := by
  unfold pullK pull; rw [if_pos h]

theorem pullK_diff (box : Bound α) (k : Nat) (w : Pt α → Pt α → α) {a b : Pt α} (h : insK box k a ≠ insK box k b) :
    pullK box k w a b = w (projK box k a) (Orb.Clip.cross box k a b) + w (Orb.Clip.cross box k a b) (projK box k b) := by
  unfold pullK pull; rw [if_neg h]

theorem pullK_side (box : Bound α) {k : Nat} (hk : Edge k) {w : Pt α → Pt α → α} (hw : SplitAdd w) {a b : Pt α}
    (hs : Side box k a b) : pullK box k w a b = w (projK box k a) (projK box k b) := by
  by_cases hab : insK box k a = insK box k b
  · exact pullK_same box k w hab
  · obtain ⟨hx, hxz⟩ := cross_onSeg box hk a b (insK_ne hab)
    have := proj_seg box hk hs hx
    rw [projK_of_nonpos box k hxz.le] at this
    rw [pullK_diff box k w hab, ← hw _ _ _ this]

theorem pullK_cut (box : Bound α) {k : Nat} (hk : Edge k) {w : Pt α → Pt α → α} (hw : SplitAdd w) {a b x : Pt α}
    (hx : OnSeg a b x) (h1 : Side box k a x) (h2 : Side box k x b) :
    pullK box k w a b = w (projK box k a) (projK box k x) + w (projK box k x) (projK box k b) := by
  by_cases hab : insK box k a = insK box k b
  · rw [pullK_same box k w hab]
    exact hw _ _ _ (proj_seg box hk (side_of_insK_eq hab) hx)
  · obtain ⟨hcs, hcz⟩ := cross_onSeg box hk a b (insK_ne hab)
    have hpc := projK_of_nonpos box k hcz.le
    rw [pullK_diff box k w hab]
    -- the cut point `c` of the pass is before or after `x`; `a c` and `c b` do not cross the line either
    rcases (OnSeg_split hx _).1 hcs with h | h
    · have e1 := hw _ _ _ (proj_seg box hk h1 h)
      have e2 := hw _ _ _ (proj_seg box hk (side_right box k b hcz) (onSeg_after hx h))
      rw [hpc] at e1 e2
      rw [e1, e2, add_assoc]
    · have e1 := hw _ _ _ (proj_seg box hk (side_left box k a hcz) (onSeg_before hx h))
      have e2 := hw _ _ _ (proj_seg box hk h2 h)
      rw [hpc] at e1 e2
      rw [e1, e2, add_assoc]

theorem splitAdd_pullK (box : Bound α) {k : Nat} (hk : Edge k) {w : Pt α → Pt α → α} (hw : SplitAdd w) :
    SplitAdd (pullK box k w) := by
  intro a b i hi
  obtain ⟨x, hx, h1, h2⟩ := side_cut box k a b
  rw [pullK_cut box hk hw hx h1 h2]
  rcases (OnSeg_split hx i).1 hi with h | h
  · rw [pullK_side box hk hw (h1.sub h).1, pullK_cut box hk hw (onSeg_after hx h) (h1.sub h).2 h2,
      hw _ _ _ (proj_seg box hk h1 h), add_assoc]
  · rw [pullK_cut box hk hw (onSeg_before hx h) h1 (h2.sub h).1, pullK_side box hk hw (h2.sub h).2,
      hw _ _ _ (proj_seg box hk h2 h), add_assoc]

end Orb.Clip.C08R
