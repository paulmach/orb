/-
  The encoders of `Orb.WKBOrder` with mark and payload in the same order are, kind by kind, those of `Orb.WKB`.
-/
import Orb.WKBOrder

namespace Orb.WKB
open Orb

theorem encPointM_same (o : Order) (srid : Nat) (p : Pt UInt64) : encPointM o o srid p = encPoint o srid p := rfl

theorem encLineStringM_same (o : Order) (srid : Nat) (ps : List (Pt UInt64)) :
    encLineStringM o o srid ps = encLineString o srid ps := rfl

theorem encPolygonM_same (o : Order) (srid : Nat) (rs : List (List (Pt UInt64))) :
    encPolygonM o o srid rs = encPolygon o srid rs := rfl

theorem encMultiPointM_same (o : Order) (srid : Nat) (ps : List (Pt UInt64)) :
    encMultiPointM o o srid ps = encMultiPoint o srid ps := rfl

theorem encMultiLineStringM_same (o : Order) (srid : Nat) (ls : List (List (Pt UInt64))) :
    encMultiLineStringM o o srid ls = encMultiLineString o srid ls := rfl

theorem encMultiPolygonM_same (o : Order) (srid : Nat) (ps : List (List (List (Pt UInt64)))) :
    encMultiPolygonM o o srid ps = encMultiPolygon o srid ps := rfl

end Orb.WKB
