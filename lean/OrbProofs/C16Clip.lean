/-
  C16 lemmas: `clipRings`.  Per ring (`clipOne`): the implicit closing, the open-bound line clipper through its
  specification `LineSpec`, and the re-joining loops `joinOuter` / `joinInner` run on the clipper's pieces: the pieces
  are handed on as they are, or the last one is re-joined with the first (`clipTail_cases`).  For all rings:
  `clipRings` is `flatMap piecesOf` followed by two filters (`partitionPieces_eq`, `clipAll_eq_flatMap`, `clipRings_eq`).
-/
import OrbProofs.C16Sort
import OrbProofs.C07Seg
import OrbProofs.ListLemmas
import Mathlib.Data.List.Basic

namespace Orb.SmartClip
open Orb Orb.Core

variable {α : Type} [Field α] [LinearOrder α] [IsStrictOrderedRing α]

/-- an interior ring as `clipRings` returns it: explicitly closed, starting strictly inside the box -/
def InsideRing (box : Bound α) (ls : List (Pt α)) : Prop :=
  ClosedRing ls ∧ ∀ p, ls.head? = some p → InOpenBox box p

set_option linter.unusedSectionVars false

/-- the same statement as `resA_pure_eq` (C16Tables) -/
theorem resD_pure {ε β : Type} (a : β) : (pure a : Res ε β) = Res.ok a := resA_pure_eq a
attribute [local simp] res_ok_bind resD_pure

theorem not_open_of_contains_false (box : Bound α) (p : Pt α) (h : box.contains p = false) : ¬ InOpenBox box p := by
  intro ⟨h1, h2, h3, h4⟩
  simp [Bound.contains, not_lt_of_gt h1, not_lt_of_gt h2, not_lt_of_gt h3, not_lt_of_gt h4] at h

theorem joinOuter_skip (box : Bound α) (out : List (List (Pt α))) : ∀ (d k fuel : Nat),
    (∀ j, k ≤ j → j < k + d → ∃ ls e, out[j]? = some ls ∧ ls.getLast? = some e ∧ onBoundary box e = true) →
    k + d ≤ out.length →
    joinOuter box (fuel + d) out (k : Int) = joinOuter box fuel out ((k + d : Nat) : Int) := by
  intro d
  induction d with
  | zero => intro k fuel _ _; rfl
  | succ d ih =>
    intro k fuel h hk
    obtain ⟨ls, e, h1, h2, h3⟩ := h k (le_refl _) (by omega)
    have : fuel + (d + 1) = (fuel + d) + 1 := by omega
    rw [this, joinOuter]
    have hlt : ¬ ((k : Int) ≥ (out.length : Int)) := by omega
    have hnn : ¬ ((k : Int) < 0) := by omega
    rw [if_neg hlt, if_neg hnn]
    simp only [Int.toNat_natCast, h1, h2, h3, if_true]
    have := ih (k + 1) fuel (fun j hj1 hj2 => h j (by omega) (by omega)) (by omega)
    rw [show ((k : Int) + 1) = ((k + 1 : Nat) : Int) by push_cast; rfl, this]
    congr 2; omega

theorem joinInner_nomatch (e : Pt α) (out : List (List (Pt α))) (i : Int) : ∀ (fuel j : Nat),
    out.length + 1 ≤ fuel + j → j ≤ out.length →
    (∀ k, j ≤ k → (k : Int) ≠ i → ∀ ls, out[k]? = some ls → ∃ h tl, ls = h :: tl ∧ h ≠ e) →
    joinInner e fuel out i j = .ok (out, i) := by
  intro fuel
  induction fuel with
  | zero => intro j h1 h2 _; omega
  | succ fuel ih =>
    intro j h1 h2 h
    rw [joinInner]
    by_cases hj : j ≥ out.length
    · rw [if_pos hj]
    · rw [if_neg hj]
      have hrec := ih (j + 1) (by omega) (by omega) (fun k hk => h k (by omega))
      by_cases hij : i = (j : Int)
      · rw [if_pos (by simp [hij])]; exact hrec
      · rw [if_neg (by simpa using hij)]
        have hlt : j < out.length := by omega
        obtain ⟨hd, tl, hls, hne⟩ := h j (le_refl _) (fun h' => hij h'.symm) out[j] (List.getElem?_eq_getElem hlt)
        rw [List.getElem?_eq_getElem hlt, hls]
        simp only
        have : Core.ptEq hd e = false := by
          rw [Bool.eq_false_iff]; intro h'; exact hne ((ptEq_iff _ _).1 h')
        rw [this]; exact hrec

/-- The first piece starts at the interior point `f`, the last piece ends in it, every other piece ends on the boundary
    and starts elsewhere: the loop glues the last piece in front of the first. -/
theorem joinOuter_join (box : Bound α) (f : Pt α) (hf : InOpenBox box f) (tl0 : List (Pt α))
    (mid : List (List (Pt α))) (pl : List (Pt α)) (hpl : pl.getLast? = some f)
    (h0 : ∃ e, (f :: tl0).getLast? = some e ∧ onBoundary box e = true)
    (hmid : ∀ m ∈ mid, (∃ e, m.getLast? = some e ∧ onBoundary box e = true) ∧ ∃ h tl, m = h :: tl ∧ h ≠ f)
    (fuel : Nat) (hfuel : mid.length + 3 ≤ fuel) :
    joinOuter box fuel ((f :: tl0) :: (mid ++ [pl])) 0 = .ok ((pl ++ tl0) :: mid) := by
  obtain ⟨fuel2, rfl⟩ : ∃ fuel2, fuel = (fuel2 + 2) + (mid.length + 1) := ⟨fuel - (mid.length + 3), by omega⟩
  have hskip := joinOuter_skip box ((f :: tl0) :: (mid ++ [pl])) (mid.length + 1) 0 (fuel2 + 2) (by
    intro j _ hj
    cases j with
    | zero => obtain ⟨e, he1, he2⟩ := h0; exact ⟨_, e, rfl, he1, he2⟩
    | succ j =>
      have hj' : j < mid.length := by omega
      obtain ⟨⟨e, he1, he2⟩, _⟩ := hmid mid[j] (List.getElem_mem hj')
      refine ⟨mid[j], e, ?_, he1, he2⟩
      rw [List.getElem?_cons_succ, List.getElem?_append_left hj', List.getElem?_eq_getElem hj']) (by simp)
  rw [show (0 : Int) = ((0 : Nat) : Int) by rfl, hskip]
  rw [joinOuter]
  have hlen : ((f :: tl0) :: (mid ++ [pl])).length = mid.length + 2 := by simp
  rw [if_neg (by rw [hlen]; push_cast; omega), if_neg (by omega)]
  have hget : ((f :: tl0) :: (mid ++ [pl]))[((0 + (mid.length + 1) : Nat) : Int).toNat]? = some pl := by
    simp
  rw [hget]
  simp only [hpl, onBoundary_of_open box f hf, Bool.false_eq_true, if_false]
  have hinner : joinInner f (((f :: tl0) :: (mid ++ [pl])).length + 1) ((f :: tl0) :: (mid ++ [pl]))
      ((0 + (mid.length + 1) : Nat) : Int) 0 = .ok ((pl ++ tl0) :: mid, (mid.length : Int)) := by
    rw [joinInner]
    rw [if_neg (by simp)]
    rw [if_neg (by simp; omega)]
    simp only [List.getElem?_cons_zero]
    rw [if_pos ((ptEq_iff f f).2 rfl)]
    rw [if_neg (by rw [hlen]; push_cast; omega)]
    have h1 : ((f :: tl0) :: (mid ++ [pl])).modify ((0 + (mid.length + 1) : Nat) : Int).toNat (· ++ tl0)
        = ((f :: tl0) :: mid) ++ [pl ++ tl0] := by
      simp [List.modify_succ_cons, modify_append_singleton]
    simp only [h1]
    rw [List.getLast?_concat, Option.getD_some, List.cons_append, List.set_cons_zero]
    have h2 : ((pl ++ tl0) :: (mid ++ [pl ++ tl0])).dropLast = (pl ++ tl0) :: mid := by
      rw [← List.cons_append, List.dropLast_concat]
    rw [h2]
    have := joinInner_nomatch f ((pl ++ tl0) :: mid) (mid.length : Int) (mid.length + 2) 1
      (by simp) (by simp) (by
        intro k hk hki ls hls
        cases k with
        | zero => omega
        | succ k =>
          rw [List.getElem?_cons_succ] at hls
          exact (hmid ls (List.mem_of_getElem? hls)).2)
    rw [← this]
    congr 1
    · simp
  rw [hinner]
  simp only [res_ok_bind]
  rw [joinOuter]
  rw [if_pos (by simp)]


/-- the implicit closing of `clipOne` … -/
def closingD (box : Bound α) (r : List (Pt α)) : Res String (List (Pt α)) :=
  if !(ringClosed r) then
      match r.head?, r.getLast? with
      | some f, some l => if box.contains f || box.contains l then pure (r ++ [f]) else pure r
      | _, _ => .panic "index out of range"
    else pure r

/-- … and what follows it: the open-bound clip and the re-joining (`clipOne_eq`) -/
def clipTailD (box : Bound α) (r' : List (Pt α)) : Res String (List (List (Pt α))) :=
  match Clip.line box true r' with
  | none => .err "clip stuck"
  | some [] => pure []
  | some out =>
    match r'.head?, r'.getLast? with
    | some f, some l => if Core.ptEq f l then joinOuter box (2 * out.length + 2) out 0 else pure out
    | _, _ => .panic "index out of range"

theorem clipOne_eq (box : Bound α) (r : List (Pt α)) :
    clipOne box r = if r.isEmpty then .ok [] else closingD box r >>= clipTailD box := rfl

theorem closing_spec (box : Bound α) (r : List (Pt α)) (hne : r ≠ []) :
    ∃ r' f l, closingD box r = .ok r' ∧ r'.head? = some f ∧ r'.getLast? = some l ∧
      (r' = r ∨ (r.head? = some f ∧ r' = r ++ [f])) ∧
      ((f = l ∧ 2 ≤ r'.length) ∨ (¬ InOpenBox box f ∧ ¬ InOpenBox box l)) := by
  cases r with
  | nil => exact absurd rfl hne
  | cons f t =>
  obtain ⟨l, hl⟩ : ∃ l, (f :: t).getLast? = some l := ⟨_, List.getLast?_eq_some_getLast hne⟩
  unfold closingD
  cases hc : ringClosed (f :: t) with
  | true =>
    refine ⟨f :: t, f, l, by simp, rfl, hl, Or.inl rfl, Or.inl ?_⟩
    simp only [ringClosed, hl, List.head?_cons, Bool.and_eq_true, decide_eq_true_eq, ptEq_iff] at hc
    exact ⟨hc.2, by omega⟩
  | false =>
    simp only [Bool.not_false, if_true, List.head?_cons, hl]
    cases hcc : (box.contains f || box.contains l) with
    | true =>
      exact ⟨(f :: t) ++ [f], f, f, by simp, by simp, List.getLast?_concat, Or.inr ⟨rfl, rfl⟩, Or.inl ⟨rfl, by simp⟩⟩
    | false =>
      rw [Bool.or_eq_false_iff] at hcc
      exact ⟨f :: t, f, l, by simp, rfl, hl, Or.inl rfl,
        Or.inr ⟨not_open_of_contains_false box f hcc.1, not_open_of_contains_false box l hcc.2⟩⟩

theorem joinOuter_all_boundary (box : Bound α) (out : List (List (Pt α)))
    (h : ∀ ls ∈ out, ∃ e, ls.getLast? = some e ∧ onBoundary box e = true) :
    joinOuter box (2 * out.length + 2) out 0 = .ok out := by
  have := joinOuter_skip box out out.length 0 (out.length + 2) (by
    intro j _ hj
    have hj' : j < out.length := by omega
    obtain ⟨e, he1, he2⟩ := h out[j] (List.getElem_mem hj')
    exact ⟨out[j], e, List.getElem?_eq_getElem hj', he1, he2⟩) (by simp)
  rw [show 2 * out.length + 2 = out.length + 2 + out.length by omega,
    show (0 : Int) = ((0 : Nat) : Int) by rfl, this, joinOuter, if_pos (by simp)]

theorem joinOuter_single (box : Bound α) (p : List (Pt α)) (f : Pt α) (hp : p.getLast? = some f) (fuel : Nat) :
    joinOuter box (fuel + 2) [p] 0 = .ok [p] := by
  rw [joinOuter, if_neg (by simp), if_neg (by simp)]
  simp only [Int.toNat_zero, List.getElem?_cons_zero, hp]
  cases hb : onBoundary box f with
  | true =>
    simp only [if_true]
    rw [joinOuter, if_pos (by simp)]
  | false =>
    simp only [Bool.false_eq_true, if_false]
    rw [joinInner_nomatch f [p] 0 _ 0 (by simp) (by simp) (by
      intro k _ hk ls hls
      cases k with
      | zero => exact absurd rfl hk
      | succ k => simp at hls)]
    simp only [res_ok_bind]
    rw [joinOuter, if_pos (by simp)]

theorem line_inner_ends {box : Bound α} (hl : LineSpec box) {inp : List (Pt α)} {p0 pl : List (Pt α)}
    {mid : List (List (Pt α))} (h : Clip.line box true inp = some (p0 :: (mid ++ [pl]))) :
    (∀ m ∈ mid ++ [pl], ∃ h tl, m = h :: tl ∧ OnBoundary box h) ∧
    (∀ m ∈ p0 :: mid, ∃ e, m.getLast? = some e ∧ OnBoundary box e) := by
  obtain ⟨out', hline, hlen, -, hhead, hlast, -, -⟩ := hl inp
  obtain rfl : out' = p0 :: (mid ++ [pl]) := Option.some.inj (hline.symm.trans h)
  constructor
  · intro m hm
    obtain ⟨k, hk⟩ := List.getElem?_of_mem hm
    have h2l := hlen m (List.mem_cons_of_mem _ hm)
    cases m with
    | nil => simp at h2l
    | cons h tl =>
      refine ⟨h, tl, rfl, (hhead (k + 1) _ (by rwa [List.getElem?_cons_succ]) h rfl).resolve_right fun h' => ?_⟩
      omega
  · intro m hm
    obtain ⟨k, hk⟩ := List.getElem?_of_mem hm
    have hlt : k < (p0 :: mid).length := (List.getElem?_eq_some_iff.1 hk).1
    have hk' : (p0 :: (mid ++ [pl]))[k]? = some m := by
      rw [← List.cons_append, List.getElem?_append_left hlt]; exact hk
    have h2l := hlen m (List.mem_of_getElem? hk')
    have hne : m ≠ [] := List.ne_nil_of_length_pos (by omega)
    refine ⟨m.getLast hne, List.getLast?_eq_some_getLast hne,
      (hlast k m hk' _ (List.getLast?_eq_some_getLast hne)).resolve_right fun h' => ?_⟩
    simp only [List.length_cons, List.length_append, List.length_nil] at h' hlt
    omega

/-- What `clipOne` does after the implicit closing, with `out0` the pieces of the line clipper: they are
    handed on as they are — all with both ends on the boundary, or a single interior ring — unless the
    path starts and ends in one point strictly inside the box and is cut: then the last piece is
    re-joined with the first, and again all pieces have both ends on the boundary. -/
theorem clipTail_cases (box : Bound α) (hl : LineSpec box) (r' : List (Pt α)) (f l : Pt α)
    (hf : r'.head? = some f) (hll : r'.getLast? = some l)
    (hc : (f = l ∧ 2 ≤ r'.length) ∨ (¬ InOpenBox box f ∧ ¬ InOpenBox box l)) :
    ∃ out0 out1, Clip.line box true r' = some out0 ∧ clipTailD box r' = .ok out1 ∧
      (out1 = out0 ∨ ∃ tl0 mid pl, out0 = (f :: tl0) :: (mid ++ [pl]) ∧ pl.getLast? = some f ∧
        out1 = (pl ++ tl0) :: mid ∧ InOpenBox box f) ∧
      ((∀ ls ∈ out1, PieceOK box ls) ∨ ∃ p0, out1 = [p0] ∧ InsideRing box p0 ∧ 2 ≤ p0.length) := by
  obtain ⟨out, hline, hlen, hbox, hhead, hlast, hfirst, hend⟩ := hl r'
  unfold clipTailD
  rw [hline]
  cases out with
  | nil => exact ⟨[], [], rfl, rfl, Or.inl rfl, Or.inl (by simp)⟩
  | cons p0 rest =>
  simp only [hf, hll]
  by_cases hfo : InOpenBox box f ∧ f = l
  · obtain ⟨hfo, rfl⟩ := hfo
    have h2 : 2 ≤ r'.length := by
      rcases hc with hc | hc
      · exact hc.2
      · exact absurd hfo hc.1
    rw [if_pos ((ptEq_iff f f).2 rfl)]
    obtain ⟨pc, hpc, hp0⟩ := hfirst h2 f hf hfo
    simp only [List.getElem?_cons_zero, Option.some.injEq] at hpc
    subst hpc
    obtain ⟨pl, hpl1, hpl2⟩ := hend h2 f hll hfo
    rcases List.eq_nil_or_concat' rest with rfl | ⟨mid, pl', rfl⟩
    · simp only [List.getLast?_singleton, Option.some.injEq] at hpl1
      subst hpl1
      refine ⟨[p0], [p0], rfl, joinOuter_single box p0 f hpl2 _, Or.inl rfl,
        Or.inr ⟨p0, rfl, ⟨⟨?_, by rw [hp0, hpl2]⟩, ?_⟩, hlen p0 List.mem_cons_self⟩⟩
      · intro h; rw [h] at hp0; cases hp0
      · intro p hp; rw [hp0] at hp; cases hp; exact hfo
    · have : pl = pl' := by
        rw [← List.cons_append, List.getLast?_concat] at hpl1
        exact (Option.some.inj hpl1).symm
      subst this
      obtain ⟨tl0, rfl⟩ : ∃ tl0, p0 = f :: tl0 := by
        cases p0 with
        | nil => cases hp0
        | cons a t => simp only [List.head?_cons, Option.some.injEq] at hp0; exact ⟨t, by rw [hp0]⟩
      obtain ⟨hheads, hlasts⟩ := line_inner_ends hl hline
      have hjoin := joinOuter_join box f hfo tl0 mid pl hpl2
        (let ⟨e, he1, he2⟩ := hlasts _ List.mem_cons_self; ⟨e, he1, onBoundary_of_on box e he2⟩)
        (fun m hm => by
          obtain ⟨e, he1, he2⟩ := hlasts m (List.mem_cons_of_mem _ hm)
          obtain ⟨h, tl, hm1, hm2⟩ := hheads m (List.mem_append_left _ hm)
          exact ⟨⟨e, he1, onBoundary_of_on box e he2⟩, h, tl, hm1, fun e => not_open_of_on box _ (e ▸ hm2) hfo⟩)
        (2 * ((f :: tl0) :: (mid ++ [pl])).length + 2) (by simp; omega)
      refine ⟨_, _, rfl, hjoin, Or.inr ⟨tl0, mid, pl, rfl, hpl2, rfl, hfo⟩, Or.inl ?_⟩
      intro ls hls
      rcases List.mem_cons.1 hls with rfl | hls
      · obtain ⟨h, tl, rfl, hpl4⟩ := hheads pl (by simp)
        obtain ⟨e, he1, he2⟩ := hlasts _ List.mem_cons_self
        have h2l := hlen (f :: tl0) (List.mem_cons_self)
        cases tl0 with
        | nil => simp at h2l
        | cons x t =>
          refine ⟨by simp; omega, fun p hp => ?_, fun p hp => ?_⟩
          · cases hp; exact hpl4
          · rw [List.getLast?_append_cons] at hp
            rw [List.getLast?_cons_cons, hp] at he1
            cases he1; exact he2
      · obtain ⟨e, he1, he2⟩ := hlasts ls (List.mem_cons_of_mem _ hls)
        obtain ⟨h, tl, rfl, hm2⟩ := hheads ls (List.mem_append_left _ hls)
        refine ⟨hlen _ (by simp [hls]), fun p hp => ?_, fun p hp => ?_⟩
        · cases hp; exact hm2
        · rw [hp] at he1; cases he1; exact he2
  · -- every piece starts and ends on the boundary
    have hok : ∀ ls ∈ p0 :: rest, PieceOK box ls := by
      intro ls hls
      obtain ⟨k, hk⟩ := List.getElem?_of_mem hls
      refine ⟨hlen ls hls, ?_, ?_⟩
      · intro p hp
        rcases hhead k ls hk p hp with h | ⟨_, h1, h2⟩
        · exact h
        · rw [hf] at h1; cases h1
          rcases hc with hc | hc
          · exact absurd ⟨h2, hc.1⟩ hfo
          · exact absurd h2 hc.1
      · intro p hp
        rcases hlast k ls hk p hp with h | ⟨_, h1, h2⟩
        · exact h
        · rw [hll] at h1; cases h1
          rcases hc with hc | hc
          · exact absurd ⟨hc.1 ▸ h2, hc.1⟩ hfo
          · exact absurd h2 hc.2
    refine ⟨p0 :: rest, p0 :: rest, rfl, ?_, Or.inl rfl, Or.inl hok⟩
    cases hpe : Core.ptEq f l with
    | false => simp
    | true =>
      simp only [if_true]
      apply joinOuter_all_boundary
      intro ls hls
      obtain ⟨-, -, h3⟩ := hok ls hls
      have hne := (hok ls hls).ne_nil
      exact ⟨ls.getLast hne, List.getLast?_eq_some_getLast hne,
        onBoundary_of_on box _ (h3 _ (List.getLast?_eq_some_getLast hne))⟩

theorem clipOne_spec (box : Bound α) (hl : LineSpec box) (r : List (Pt α)) :
    ∃ out, clipOne box r = .ok out ∧ ∀ ls ∈ out, PieceOK box ls ∨ InsideRing box ls := by
  rw [clipOne_eq]
  cases r with
  | nil => exact ⟨[], rfl, by simp⟩
  | cons a t =>
    obtain ⟨r', f, l, h1, h2, h3, _, h5⟩ := closing_spec box (a :: t) (List.cons_ne_nil _ _)
    simp only [List.isEmpty_cons, Bool.false_eq_true, if_false, h1, res_ok_bind]
    obtain ⟨_, out, _, h, _, hs⟩ := clipTail_cases box hl r' f l h2 h3 h5
    refine ⟨out, h, fun ls hls => ?_⟩
    rcases hs with hs | ⟨p0, rfl, hp0, _⟩
    · exact Or.inl (hs ls hls)
    · rw [List.mem_singleton] at hls
      exact Or.inr (hls ▸ hp0)

set_option linter.unusedVariables false in
/-- `clipOne_spec` with the property's precondition `hb`, which the proof does not use -/
theorem clipOne_spec' (box : Bound α) (hb : BoxOK box) (hl : LineSpec box) (r : List (Pt α)) :
    ∃ out, clipOne box r = .ok out ∧ ∀ ls ∈ out, PieceOK box ls ∨ InsideRing box ls :=
  clipOne_spec box hl r

/-- `len(ls) == 2 && ls[0] == ls[1] && pointSide(box, ls[0]) != notOnSide` -/
def touchBD (box : Bound α) (ls : List (Pt α)) : Bool :=
  match ls with
  | [p, q] => Core.ptEq p q && pointSide box p != notOnSide
  | _ => false

theorem partition_unfold (box : Bound α) (ls : List (Pt α)) (rest : List (List (Pt α))) :
    partitionPieces box (ls :: rest) =
      (closedInside box ls >>= fun c => partitionPieces box rest >>= fun (op, cl) =>
        if touchBD box ls then pure (op, cl) else if c then pure (op, ls :: cl) else pure (ls :: op, cl)) := rfl

/-- `ls[0] == ls[len(ls)-1] && pointSide(box, ls[0]) == notOnSide`: `closedInside` on a non-empty piece -/
def closedB (box : Bound α) (ls : List (Pt α)) : Bool :=
  match ls.head?, ls.getLast? with
  | some f, some l => Core.ptEq f l && pointSide box f == notOnSide
  | _, _ => false

/-- the pieces `partitionPieces` returns as open pieces … -/
def keptOpen (box : Bound α) (ls : List (Pt α)) : Bool := !touchBD box ls && !closedB box ls

/-- … and as closed rings -/
def keptClosed (box : Bound α) (ls : List (Pt α)) : Bool := !touchBD box ls && closedB box ls

theorem closedInside_eq (box : Bound α) {ls : List (Pt α)} (h : ls ≠ []) :
    closedInside box ls = .ok (closedB box ls) := by
  cases ls with
  | nil => exact absurd rfl h
  | cons a t =>
    obtain ⟨l, hl⟩ : ∃ l, (a :: t).getLast? = some l := ⟨_, List.getLast?_eq_some_getLast h⟩
    simp only [closedInside, closedB, List.head?_cons, hl]

theorem partitionPieces_eq (box : Bound α) (all : List (List (Pt α))) :
    partitionPieces box all =
      if all.any List.isEmpty then Res.panic "index out of range"
      else Res.ok (all.filter (keptOpen box), all.filter (keptClosed box)) := by
  induction all with
  | nil => rfl
  | cons ls rest ih =>
    rw [partition_unfold, ih]
    by_cases hls : ls = []
    · subst hls; rfl
    · rw [closedInside_eq box hls, res_ok_bind, List.any_cons, List.isEmpty_eq_false_iff.2 hls, Bool.false_or]
      cases rest.any List.isEmpty
      · rcases Bool.eq_false_or_eq_true (touchBD box ls) with ht | ht <;>
          rcases Bool.eq_false_or_eq_true (closedB box ls) with hc | hc <;>
          simp [keptOpen, keptClosed, ht, hc]
      · rfl

theorem partitionPieces_ok_iff (box : Bound α) (all op cl : List (List (Pt α))) :
    partitionPieces box all = .ok (op, cl) ↔
      [] ∉ all ∧ op = all.filter (keptOpen box) ∧ cl = all.filter (keptClosed box) := by
  have he : all.any List.isEmpty = true ↔ [] ∈ all := by
    rw [List.any_eq_true]
    exact ⟨fun ⟨x, hx, h⟩ => List.isEmpty_iff.1 h ▸ hx, fun h => ⟨[], h, rfl⟩⟩
  rw [partitionPieces_eq]
  by_cases h0 : [] ∈ all
  · rw [if_pos (he.2 h0)]; exact ⟨fun h => (nomatch h), fun h => absurd h0 h.1⟩
  · rw [if_neg (fun h => h0 (he.1 h)), Res.ok.injEq, Prod.mk.injEq]
    exact ⟨fun h => ⟨h0, h.1.symm, h.2.symm⟩, fun h => ⟨h.2.1.symm, h.2.2.symm⟩⟩

theorem closedB_closedRing {box : Bound α} {ls : List (Pt α)} (h : closedB box ls = true) : ClosedRing ls := by
  unfold closedB at h
  split at h
  · rename_i f l hf hl
    simp only [Bool.and_eq_true, ptEq_iff] at h
    exact ⟨fun e => (by subst e; cases hf), by rw [hf, hl, h.1]⟩
  · cases h

theorem closedB_of_pieceOK {box : Bound α} {ls : List (Pt α)} (h : PieceOK box ls) : closedB box ls = false := by
  unfold closedB
  split
  · rename_i f l hf hl
    have := pointSide_onBoundary box f (h.2.1 f hf)
    rw [Bool.and_eq_false_iff]; right
    simp only [beq_eq_false_iff_ne, notOnSide]; omega
  · rfl

theorem closedB_of_insideRing {box : Bound α} {ls : List (Pt α)} (h : InsideRing box ls) :
    closedB box ls = true ∧ touchBD box ls = false := by
  obtain ⟨f, h1⟩ : ∃ f, ls.head? = some f := by
    cases ls with
    | nil => exact absurd rfl h.1.1
    | cons a t => exact ⟨a, rfl⟩
  have h2 : ls.getLast? = some f := h.1.2 ▸ h1
  have h3 := h.2 f h1
  refine ⟨by simp [closedB, h1, h2, (ptEq_iff f f).2 rfl, pointSide_of_open box f h3], ?_⟩
  unfold touchBD
  split
  · rename_i p q
    obtain rfl : p = f := Option.some.inj h1
    simp [pointSide_of_open box p h3]
  · rfl

theorem touchBD_of_onBoundary {box : Bound α} {p : Pt α} (h : OnBoundary box p) : touchBD box [p, p] = true := by
  have hs := pointSide_onBoundary box p h
  simp only [touchBD, Bool.and_eq_true, ptEq_iff, bne_iff_ne, ne_eq, true_and]
  rw [notOnSide]; omega

theorem partitionPieces_spec' (box : Bound α) (all op cl : List (List (Pt α)))
    (h : partitionPieces box all = .ok (op, cl)) :
    (∀ ls ∈ op, ls ∈ all) ∧ (∀ ls ∈ cl, ls ∈ all ∧ ClosedRing ls) := by
  obtain ⟨-, rfl, rfl⟩ := (partitionPieces_ok_iff box all op cl).1 h
  refine ⟨fun ls hls => (List.mem_filter.1 hls).1, fun ls hls => ?_⟩
  obtain ⟨h1, h2⟩ := List.mem_filter.1 hls
  exact ⟨h1, closedB_closedRing (Bool.and_eq_true_iff.1 h2).2⟩

/-- the pieces of one ring: implicit closing, open-bound clip, re-joining (`[]` stands in where `clipOne` does not
    return, which under `LineSpec` it always does: `clipOne_ok`) -/
def piecesOf (box : Bound α) (r : List (Pt α)) : List (List (Pt α)) :=
  match clipOne box r with
  | .ok a => a
  | _ => []

theorem piecesOf_eq {box : Bound α} {r : List (Pt α)} {a : List (List (Pt α))} (h : clipOne box r = .ok a) :
    piecesOf box r = a := by rw [piecesOf, h]

theorem clipOne_piecesOf {box : Bound α} {r : List (Pt α)} {a : List (List (Pt α))} (h : clipOne box r = .ok a) :
    clipOne box r = .ok (piecesOf box r) := by rw [piecesOf, h]

theorem clipOne_ok (box : Bound α) (hl : LineSpec box) (r : List (Pt α)) : clipOne box r = .ok (piecesOf box r) :=
  let ⟨_, h, _⟩ := clipOne_spec box hl r
  clipOne_piecesOf h

theorem clipAll_eq_flatMap (box : Bound α) (f : List (Pt α) → List (List (Pt α))) (rings : List (List (Pt α)))
    (h : ∀ r ∈ rings, clipOne box r = .ok (f r)) : clipAll box rings = .ok (rings.flatMap f) := by
  induction rings with
  | nil => rfl
  | cons r rest ih =>
    rw [clipAll, h r List.mem_cons_self, ih fun x hx => h x (List.mem_cons_of_mem _ hx)]; rfl

theorem clipRings_of_pieces (box : Bound α) (f : List (Pt α) → List (List (Pt α))) (rings : List (List (Pt α)))
    (h : ∀ r ∈ rings, clipOne box r = .ok (f r)) (hne : [] ∉ rings.flatMap f) :
    clipRings box rings =
      .ok ((rings.flatMap f).filter (keptOpen box), (rings.flatMap f).filter (keptClosed box)) := by
  rw [clipRings, clipAll_eq_flatMap box f rings h, res_ok_bind]
  exact (partitionPieces_ok_iff box _ _ _).2 ⟨hne, rfl, rfl⟩

theorem clipRings_eq (box : Bound α) (hl : LineSpec box) (rings : List (List (Pt α))) :
    clipRings box rings = .ok ((rings.flatMap (piecesOf box)).filter (keptOpen box),
      (rings.flatMap (piecesOf box)).filter (keptClosed box)) := by
  refine clipRings_of_pieces box _ rings (fun r _ => clipOne_ok box hl r) fun h => ?_
  obtain ⟨r, _, h⟩ := List.mem_flatMap.1 h
  obtain ⟨out, h1, h2⟩ := clipOne_spec box hl r
  rcases h2 [] (piecesOf_eq h1 ▸ h) with h' | h'
  · exact absurd h'.1 (by simp)
  · exact h'.1.1 rfl

theorem clipRings_forall {box : Bound α} (hl : LineSpec box) {rings op cl : List (List (Pt α))}
    (h : clipRings box rings = .ok (op, cl)) {P : List (Pt α) → Prop}
    (hP : ∀ r ∈ rings, ∀ ls ∈ piecesOf box r, P ls) :
    (∀ ls ∈ op, P ls ∧ keptOpen box ls = true) ∧ (∀ ls ∈ cl, P ls ∧ keptClosed box ls = true) := by
  rw [clipRings_eq box hl] at h
  cases h
  constructor <;>
  · intro ls hls
    obtain ⟨h1, h2⟩ := List.mem_filter.1 hls
    obtain ⟨r, hr, h1⟩ := List.mem_flatMap.1 h1
    exact ⟨hP r hr ls h1, h2⟩

theorem clipRings_spec_of_lineSpec (box : Bound α) (hl : LineSpec box) (rings : List (List (Pt α))) :
    ∃ op cl, clipRings box rings = .ok (op, cl) ∧ (∀ ls ∈ op, PieceOK box ls) ∧ (∀ ls ∈ cl, InsideRing box ls) := by
  obtain ⟨h1, h2⟩ := clipRings_forall hl (clipRings_eq box hl rings)
    (P := fun ls => PieceOK box ls ∨ InsideRing box ls) fun r _ ls hls => by
      obtain ⟨out, h1, h2⟩ := clipOne_spec box hl r
      exact h2 ls (piecesOf_eq h1 ▸ hls)
  refine ⟨_, _, clipRings_eq box hl rings, fun ls hls => ?_, fun ls hls => ?_⟩
  · obtain ⟨h | h, hk⟩ := h1 ls hls
    · exact h
    · simp [keptOpen, closedB_of_insideRing h] at hk
  · obtain ⟨h | h, hk⟩ := h2 ls hls
    · simp [keptClosed, closedB_of_pieceOK h] at hk
    · exact h

/-- every vertex of `a` is a vertex of `b` -/
def VSub (a b : List (List (Pt α))) : Prop := ∀ ls ∈ a, ∀ v ∈ ls, ∃ ls0 ∈ b, v ∈ ls0

theorem VSub.refl (a : List (List (Pt α))) : VSub a a := fun ls hls _ hv => ⟨ls, hls, hv⟩
theorem VSub.trans {a b c : List (List (Pt α))} (h1 : VSub a b) (h2 : VSub b c) : VSub a c := by
  intro ls hls v hv
  obtain ⟨ls0, h3, h4⟩ := h1 ls hls v hv
  exact h2 ls0 h3 v h4

theorem join_step_vsub (out : List (List (Pt α))) (n j : Nat) (h : Pt α) (tl : List (Pt α))
    (hj : out[j]? = some (h :: tl)) :
    VSub (((out.modify n (· ++ tl)).set j ((out.modify n (· ++ tl)).getLast?.getD [])).dropLast) out := by
  have h1 : VSub (out.modify n (· ++ tl)) out := by
    intro ls hls v hv
    rcases mem_modify _ out n ls hls with h' | ⟨y, hy, rfl⟩
    · exact ⟨ls, h', hv⟩
    · rcases List.mem_append.1 hv with h'' | h''
      · exact ⟨y, hy, h''⟩
      · exact ⟨h :: tl, List.mem_of_getElem? hj, List.mem_cons_of_mem _ h''⟩
  refine VSub.trans ?_ h1
  intro ls hls v hv
  have hls := (List.dropLast_sublist _).subset hls
  rcases List.mem_or_eq_of_mem_set hls with h' | rfl
  · exact ⟨ls, h', hv⟩
  · cases hg : (out.modify n (· ++ tl)).getLast? with
    | none => rw [hg] at hv; simp at hv
    | some x =>
      rw [hg] at hv
      exact ⟨x, List.mem_of_getLast? hg, hv⟩

theorem joinInner_vertices (e : Pt α) : ∀ (fuel : Nat) (out : List (List (Pt α))) (i : Int) (j : Nat)
    (out' : List (List (Pt α))) (i' : Int), joinInner e fuel out i j = .ok (out', i') → VSub out' out := by
  intro fuel
  induction fuel with
  | zero => intro out i j out' i' h; simp [joinInner] at h
  | succ fuel ih =>
    intro out i j out' i' h
    rw [joinInner] at h
    by_cases h1 : j ≥ out.length
    · rw [if_pos h1] at h
      simp only [Res.ok.injEq, Prod.mk.injEq] at h
      rw [← h.1]; exact VSub.refl _
    · rw [if_neg h1] at h
      by_cases h2 : (i == (j : Int)) = true
      · rw [if_pos h2] at h; exact ih _ _ _ _ _ h
      · rw [if_neg h2] at h
        split at h
        · rename_i hd tl hj
          by_cases h3 : Core.ptEq hd e = true
          · rw [if_pos h3] at h
            by_cases h4 : i < 0 ∨ i ≥ (out.length : Int)
            · rw [if_pos h4] at h; cases h
            · rw [if_neg h4] at h
              exact VSub.trans (ih _ _ _ _ _ h) (join_step_vsub out _ j hd tl hj)
          · rw [if_neg h3] at h; exact ih _ _ _ _ _ h
        · cases h
        · simp only [Res.ok.injEq, Prod.mk.injEq] at h
          rw [← h.1]; exact VSub.refl _

/-- the re-joining loop invents no vertex -/
theorem joinOuter_vertices' (box : Bound α) (fuel : Nat) (out out' : List (List (Pt α))) (i : Int)
    (h : joinOuter box fuel out i = .ok out') : ∀ ls ∈ out', ∀ v ∈ ls, ∃ ls0 ∈ out, v ∈ ls0 := by
  show VSub out' out
  induction fuel generalizing out out' i with
  | zero => simp [joinOuter] at h
  | succ fuel ih =>
    rw [joinOuter] at h
    split_ifs at h with h1 h2
    · simp only [Res.ok.injEq] at h
      rw [← h]; exact VSub.refl _
    · split at h
      · simp only [Res.ok.injEq] at h
        rw [← h]; exact VSub.refl _
      · split at h
        · cases h
        · split_ifs at h with h3
          · exact ih _ _ _ h
          · obtain ⟨⟨o2, i2⟩, h4, h5⟩ := Res.bind_eq_ok h
            exact VSub.trans (ih _ _ _ h5) (joinInner_vertices _ _ _ _ _ _ _ h4)

theorem clipOne_in_box (box : Bound α) (hl : LineSpec box) (r : List (Pt α)) (out : List (List (Pt α)))
    (h : clipOne box r = .ok out) : ∀ ls ∈ out, ∀ v ∈ ls, InBox box v := by
  rw [clipOne_eq] at h
  split_ifs at h with hr
  · cases h; simp
  · obtain ⟨r', f, l, h1, h2, h3, -, h5⟩ := closing_spec box r (by simpa using hr)
    obtain ⟨out0, out1, hline, htail, hj, -⟩ := clipTail_cases box hl r' f l h2 h3 h5
    obtain ⟨out0', hline', -, hbox, -⟩ := hl r'
    obtain rfl : out0' = out0 := Option.some.inj (hline'.symm.trans hline)
    obtain rfl : out1 = out := by rw [h1, res_ok_bind, htail] at h; exact Res.ok.inj h
    rcases hj with rfl | ⟨tl0, mid, pl, rfl, -, rfl, -⟩
    · exact hbox
    · -- the joined piece is made of the last and the first piece
      intro ls hls v hv
      rcases List.mem_cons.1 hls with rfl | hls
      · rcases List.mem_append.1 hv with hv | hv
        · exact hbox pl (by simp) v hv
        · exact hbox _ List.mem_cons_self v (List.mem_cons_of_mem _ hv)
      · exact hbox ls (by simp [hls]) v hv

theorem clipRings_in_box (box : Bound α) (hl : LineSpec box) (rings op cl : List (List (Pt α)))
    (h : clipRings box rings = .ok (op, cl)) :
    (∀ ls ∈ op, ∀ v ∈ ls, InBox box v) ∧ (∀ ls ∈ cl, ∀ v ∈ ls, InBox box v) := by
  obtain ⟨h1, h2⟩ := clipRings_forall hl h (P := fun ls => ∀ v ∈ ls, InBox box v)
    fun r _ => clipOne_in_box box hl r _ (clipOne_ok box hl r)
  exact ⟨fun ls hls => (h1 ls hls).1, fun ls hls => (h2 ls hls).1⟩

theorem clipRings_in_box' (box : Bound α) (hl : LineSpec box) (rings op cl : List (List (Pt α)))
    (h : clipRings box rings = .ok (op, cl)) : ∀ ls ∈ op ++ cl, ∀ v ∈ ls, InBox box v := by
  obtain ⟨h1, h2⟩ := clipRings_in_box box hl rings op cl h
  exact List.forall_mem_append.2 ⟨h1, h2⟩

theorem clipRings_closed (box : Bound α) (rings op cl : List (List (Pt α)))
    (h : clipRings box rings = .ok (op, cl)) : ∀ ls ∈ cl, ClosedRing ls := by
  unfold clipRings at h
  obtain ⟨all, -, h2⟩ := Res.bind_eq_ok h
  exact fun ls hls => ((partitionPieces_spec' box all op cl h2).2 ls hls).2

theorem clipOne_inside (box : Bound α) (r : List (Pt α)) (hne : r ≠ []) (hin : ∀ v ∈ r, InOpenBox box v) :
    ∃ r', clipOne box r = .ok [r'] ∧ (r' = r ∨ ∃ f, r.head? = some f ∧ r' = r ++ [f]) ∧ InsideRing box r' := by
  obtain ⟨r', f, l, h1, h2, h3, h4, h5⟩ := closing_spec box r hne
  -- the implicit closing adds no new vertex
  have hin' : ∀ v ∈ r', InOpenBox box v := by
    rcases h4 with rfl | ⟨hf, rfl⟩
    · exact hin
    · exact List.forall_mem_append.2 ⟨hin, fun v hv => List.mem_singleton.1 hv ▸ hin f (List.mem_of_mem_head? hf)⟩
  have hfo : InOpenBox box f := hin' f (List.mem_of_mem_head? h2)
  rcases h5 with ⟨rfl, h5⟩ | h5
  · refine ⟨r', ?_, ?_, ⟨fun e => (by rw [e] at h2; cases h2), h2.trans h3.symm⟩,
      fun p hp => Option.some.inj (h2.symm.trans hp) ▸ hfo⟩
    · rw [clipOne_eq, if_neg (by simpa using hne), h1, res_ok_bind]
      unfold clipTailD
      rw [Clip.line_inside_any box true r' h5 fun v hv => Clip.bitCodeOpen_eq_zero_iff.2 (hin' v hv)]
      simp only [h2, h3]
      rw [if_pos ((ptEq_iff f f).2 rfl)]
      exact joinOuter_single box r' f h3 _
    · rcases h4 with h4 | h4
      · exact Or.inl h4
      · exact Or.inr ⟨f, h4⟩
  · exact absurd hfo h5.1

theorem clipRings_of_insideRing (box : Bound α) (rings : List (List (Pt α)))
    (h : ∀ r ∈ rings, ∃ a, clipOne box r = .ok a ∧ ∀ ls ∈ a, InsideRing box ls) :
    clipRings box rings = .ok ([], rings.flatMap (piecesOf box)) := by
  have hall : ∀ ls ∈ rings.flatMap (piecesOf box), InsideRing box ls := by
    intro ls hls
    obtain ⟨r, hr, hls⟩ := List.mem_flatMap.1 hls
    obtain ⟨a, h1, h2⟩ := h r hr
    exact h2 ls (piecesOf_eq h1 ▸ hls)
  rw [clipRings_of_pieces box (piecesOf box) rings (fun r hr => let ⟨_, h1, _⟩ := h r hr; clipOne_piecesOf h1)
      fun h0 => (hall [] h0).1.1 rfl,
    List.filter_eq_nil_iff.2 fun ls hls => by simp [keptOpen, closedB_of_insideRing (hall ls hls)],
    List.filter_eq_self.2 fun ls hls => by simp [keptClosed, closedB_of_insideRing (hall ls hls)]]

theorem clipRings_all_inside (box : Bound α) (rings : List (List (Pt α))) (hne : ∀ r ∈ rings, r ≠ [])
    (hin : ∀ r ∈ rings, ∀ v ∈ r, InOpenBox box v) :
    ∃ cl, clipRings box rings = .ok ([], cl) ∧
      List.Forall₂ (fun r r' => r' = r ∨ ∃ f, r.head? = some f ∧ r' = r ++ [f]) rings cl := by
  refine ⟨_, clipRings_of_insideRing box rings fun r hr => ?_, ?_⟩
  · obtain ⟨r', h1, -, h3⟩ := clipOne_inside box r (hne r hr) (hin r hr)
    exact ⟨[r'], h1, fun ls hls => List.mem_singleton.1 hls ▸ h3⟩
  · induction rings with
    | nil => exact .nil
    | cons r rest ih =>
      obtain ⟨r', h1, h2, -⟩ := clipOne_inside box r (hne r List.mem_cons_self) (hin r List.mem_cons_self)
      rw [List.flatMap_cons, piecesOf_eq h1]
      exact .cons h2 (ih (fun x hx => hne x (List.mem_cons_of_mem _ hx)) fun x hx => hin x (List.mem_cons_of_mem _ hx))

theorem clipRings_inside' (box : Bound α) (r : List (Pt α)) (hne : r ≠ []) (hin : ∀ v ∈ r, InOpenBox box v) :
    ∃ r', clipRings box [r] = .ok ([], [r']) ∧ (r' = r ∨ ∃ f, r.head? = some f ∧ r' = r ++ [f]) := by
  obtain ⟨cl, h, hf⟩ := clipRings_all_inside box [r] (fun x hx => List.mem_singleton.1 hx ▸ hne)
    fun x hx => List.mem_singleton.1 hx ▸ hin
  cases hf with
  | cons h1 h2 => cases h2; exact ⟨_, h, h1⟩

end Orb.SmartClip
