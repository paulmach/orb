/-
  Sifting in an array that is read as a binary tree: slot `j` has parent `(j + 1) / 2 - 1`.  The order half
  of a binary heap does not depend on what is stored, only on the keys `f : Nat → κ` of the slots and a
  transitive relation `r` ("may stand above"): each sift loop keeps "the order holds except at one hole",
  a swap moves the hole, and `Push`, `Pop` and a key change make one.  The min-heap of visvalingam.go
  (C12VisHeap) and the max-heap of quadtree/maxheap.go (C11Heap) are instances.
-/
namespace Orb.Sift

/-- parent slot; both Go heaps write it `((i + 1) >> 1) - 1` -/
def parent (j : Nat) : Nat := (j + 1) / 2 - 1

theorem parent_shift (j : Nat) : ((j + 1) >>> 1) - 1 = parent j := by
  rw [Nat.shiftRight_eq_div_pow]; rfl

/-- right child slot; both Go heaps write it `(i + 1) << 1` (the left one is that minus one) -/
theorem right_shift (i : Nat) : (i + 1) <<< 1 = 2 * i + 2 := by rw [Nat.shiftLeft_eq]; omega

theorem parent_lt {j : Nat} (h : 0 < j) : parent j < j := by unfold parent; omega

theorem parent_child {i c : Nat} : (0 < c ∧ parent c = i) ↔ (c = 2 * i + 1 ∨ c = 2 * i + 2) := by
  unfold parent; omega

section
variable {κ : Type} (r : κ → κ → Prop)

def Ord (f : Nat → κ) (n : Nat) : Prop := ∀ j, 0 < j → j < n → r (f (parent j)) (f j)

/-- sift-up: the order holds except on the edge into the hole `i` (its key may be too small); the second
    clause is what a swap with the parent needs for the children of `i` -/
def UpInv (f : Nat → κ) (n i : Nat) : Prop :=
  (∀ j, 0 < j → j < n → j ≠ i → r (f (parent j)) (f j)) ∧
  (0 < i → ∀ c, c < n → parent c = i → r (f (parent i)) (f c))

/-- sift-down: the same with the edges out of the hole `i` exempt (its key may be too large) -/
def DownInv (f : Nat → κ) (n i : Nat) : Prop :=
  (∀ j, 0 < j → j < n → parent j ≠ i → r (f (parent j)) (f j)) ∧
  (0 < i → ∀ c, c < n → parent c = i → r (f (parent i)) (f c))

variable {r} (tr : ∀ a b c, r a b → r b c → r a c)
include tr

theorem UpInv.step {f f' : Nat → κ} {n i : Nat} (hinv : UpInv r f n i) (hi0 : 0 < i) (hin : i < n)
    (hf' : ∀ k, f' k = if k = parent i then f i else if k = i then f (parent i) else f k)
    (hiu : r (f i) (f (parent i))) : UpInv r f' n (parent i) := by
  obtain ⟨ha, hb⟩ := hinv
  have hpi : parent i < i := parent_lt hi0
  constructor
  · intro j hj0 hjn hju
    rw [hf' j, hf' (parent j), if_neg hju]
    by_cases hji : j = i
    · subst hji; rw [if_pos rfl, if_pos rfl]; exact hiu
    · rw [if_neg hji]
      by_cases h1 : parent j = parent i
      · rw [if_pos h1]; exact tr _ _ _ hiu (h1 ▸ ha j hj0 hjn hji)
      · rw [if_neg h1]
        by_cases h2 : parent j = i
        · rw [if_pos h2]; exact hb hi0 j hjn h2
        · rw [if_neg h2]; exact ha j hj0 hjn hji
  · intro hu0 c hcn hpc
    have hppi : parent (parent i) < parent i := parent_lt hu0
    rw [hf' c, hf' (parent (parent i)), if_neg (by omega), if_neg (by omega)]
    have hc0 : 0 < c := by unfold parent at hpc hu0; omega
    have hcu : c ≠ parent i := by unfold parent at hpc ⊢; omega
    rw [if_neg hcu]
    have hpu := ha (parent i) hu0 (by omega) (by omega)
    by_cases hci : c = i
    · rw [if_pos hci]; exact hpu
    · rw [if_neg hci]; exact tr _ _ _ hpu (hpc ▸ ha c hc0 hcn hci)

omit tr in
theorem DownInv.step {f f' : Nat → κ} {n i m : Nat} (hinv : DownInv r f n i) (hm : 0 < m ∧ parent m = i)
    (hmn : m < n) (hf' : ∀ k, f' k = if k = m then f i else if k = i then f m else f k)
    (hmi : r (f m) (f i)) (hms : ∀ c, 0 < c → c < n → parent c = i → r (f m) (f c)) : DownInv r f' n m := by
  obtain ⟨ha, hb⟩ := hinv
  obtain ⟨hm0, hpm⟩ := hm
  have him : i ≠ m := by have := parent_lt hm0; omega
  constructor
  · intro j hj0 hjn hjm
    rw [hf' j, hf' (parent j), if_neg hjm]
    by_cases h1 : j = m
    · subst h1; rw [if_pos rfl, hpm, if_pos rfl]; exact hmi
    · rw [if_neg h1]
      by_cases h2 : j = i
      · subst h2
        have : parent j ≠ j := by have := parent_lt hj0; omega
        rw [if_pos rfl, if_neg this]
        exact hb hj0 m hmn hpm
      · rw [if_neg h2]
        by_cases h3 : parent j = i
        · rw [if_pos h3]; exact hms j hj0 hjn h3
        · rw [if_neg h3]; exact ha j hj0 hjn h3
  · intro _ c hcn hpc
    have hc0 : 0 < c := by unfold parent at hpc; omega
    have hcm : c ≠ m := by unfold parent at hpc; omega
    have hci : c ≠ i := by unfold parent at hpc hpm; omega
    rw [hpm, hf' i, hf' c, if_neg him, if_pos rfl, if_neg hcm, if_neg hci]
    exact hpc ▸ ha c hc0 hcn (by unfold parent at hpc hpm ⊢; omega)

/-- `f` holds the keys before the key of slot `k` is changed, `f'` after -/
theorem UpInv.of_decrease {f f' : Nat → κ} {n k : Nat} (hord : Ord r f n) (hk : k < n)
    (hf' : ∀ j, j < n → j ≠ k → f' j = f j) (hle : r (f' k) (f k)) : UpInv r f' n k := by
  have hpar : ∀ j, j < n → parent j < n := by intro j hj; unfold parent; omega
  constructor
  · intro j hj0 hjn hjk
    rw [hf' j hjn hjk]
    by_cases h1 : parent j = k
    · rw [h1]; exact tr _ _ _ hle (h1 ▸ hord j hj0 hjn)
    · rw [hf' _ (hpar j hjn) h1]; exact hord j hj0 hjn
  · intro hk0 c hcn hpc
    have hc0 : 0 < c := by unfold parent at hpc; omega
    rw [hf' c hcn (by unfold parent at hpc; omega), hf' _ (hpar k hk) (by have := parent_lt hk0; omega)]
    exact tr _ _ _ (hord k hk0 hk) (hpc ▸ hord c hc0 hcn)

/-- `f` before the change at slot `k`, `f'` after, as in `UpInv.of_decrease` -/
theorem DownInv.of_increase {f f' : Nat → κ} {n k : Nat} (hord : Ord r f n) (hk : k < n)
    (hf' : ∀ j, j < n → j ≠ k → f' j = f j) (hle : r (f k) (f' k)) : DownInv r f' n k := by
  have hpar : ∀ j, j < n → parent j < n := by intro j hj; unfold parent; omega
  constructor
  · intro j hj0 hjn hjk
    rw [hf' _ (hpar j hjn) hjk]
    by_cases h1 : j = k
    · rw [h1]; exact tr _ _ _ (h1 ▸ hord j hj0 hjn) hle
    · rw [hf' j hjn h1]; exact hord j hj0 hjn
  · intro hk0 c hcn hpc
    have hc0 : 0 < c := by unfold parent at hpc; omega
    rw [hf' c hcn (by unfold parent at hpc; omega), hf' _ (hpar k hk) (by have := parent_lt hk0; omega)]
    exact tr _ _ _ (hord k hk0 hk) (hpc ▸ hord c hc0 hcn)

omit tr

theorem UpInv.of_push {f f' : Nat → κ} {n : Nat} (hord : Ord r f n) (hf' : ∀ j, j < n → f' j = f j) :
    UpInv r f' (n + 1) n := by
  constructor
  · intro j hj0 hjn hjk
    rw [hf' j (by omega), hf' (parent j) (by unfold parent; omega)]; exact hord j hj0 (by omega)
  · intro _ c hcn hpc
    unfold parent at hpc; omega

theorem DownInv.of_pop {f f' : Nat → κ} {n : Nat} (hord : Ord r f n)
    (hf' : ∀ j, 0 < j → j < n - 1 → f' j = f j) : DownInv r f' (n - 1) 0 := by
  constructor
  · intro j hj0 hjn hjk
    rw [hf' j hj0 hjn, hf' (parent j) (by omega) (by unfold parent; omega)]; exact hord j hj0 (by omega)
  · intro hk0; omega

theorem UpInv.ord {f : Nat → κ} {n i : Nat} (hinv : UpInv r f n i)
    (hfin : i = 0 ∨ r (f (parent i)) (f i)) : Ord r f n := by
  intro j hj0 hjn
  by_cases hji : j = i
  · subst hji
    rcases hfin with e | e
    · omega
    · exact e
  · exact hinv.1 j hj0 hjn hji

theorem DownInv.ord {f : Nat → κ} {n i : Nat} (hinv : DownInv r f n i)
    (hfin : ∀ c, 0 < c → c < n → parent c = i → r (f i) (f c)) : Ord r f n := by
  intro j hj0 hjn
  by_cases hji : parent j = i
  · exact hji ▸ hfin j hj0 hjn hji
  · exact hinv.1 j hj0 hjn hji

include tr in
theorem Ord.root {f : Nat → κ} {n : Nat} (hord : Ord r f n) (rf : ∀ a, r a a) : ∀ k, k < n → r (f 0) (f k) := by
  intro k
  induction k using Nat.strongRecOn with
  | _ k ih =>
    intro hk
    by_cases h0 : k = 0
    · subst h0; exact rf _
    · have hp : parent k < k := parent_lt (by omega)
      exact tr _ _ _ (ih (parent k) hp (by omega)) (hord k (by omega) hk)

end

/-- `Pop` of either heap: the last item is moved to the root and the last slot dropped -/
theorem perm_pop_root {β : Type} (a : Array β) (h1 : 1 < a.size) :
    a.toList.Perm (a[0] :: (a.pop.setIfInBounds 0 a[a.size - 1]).toList) := by
  have hne : a.toList ≠ [] := by
    intro hnil
    have := congrArg List.length hnil
    simp only [Array.length_toList, List.length_nil] at this; omega
  have hlast : a.toList = a.pop.toList ++ [a[a.size - 1]] := by
    rw [Array.toList_pop]
    conv => lhs; rw [← List.dropLast_concat_getLast hne]
    congr 2
    rw [List.getLast_eq_getElem]; simp
  have hne' : a.pop.toList ≠ [] := by
    intro hnil
    have := congrArg List.length hnil
    simp only [Array.length_toList, Array.size_pop, List.length_nil] at this; omega
  have hcons : a.pop.toList = a[0] :: a.pop.toList.tail := by
    have e := (List.cons_head_tail hne').symm
    rwa [show a.pop.toList.head hne' = a[0] by rw [List.head_eq_getElem]; simp] at e
  rw [Array.toList_setIfInBounds, hlast, hcons]
  simp only [List.set_cons_zero, List.cons_append]
  exact List.Perm.cons _ (List.perm_append_singleton _ _)

end Orb.Sift
