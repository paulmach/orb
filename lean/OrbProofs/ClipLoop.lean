/-
  The any-arithmetic base of the clip/clip.go `line` proofs: nothing here assumes more of the coordinate type than
  the operations the code uses (floats, NaN, a box of any shape).  The inner loop ends within its fuel and returns
  ends that are copies or carry an edge value; the outer loop is a function of the vertex list,
  `line box o inp = some (stitch box o inp)`, and the other facts about `line` are inductions over the graph of
  `stitch`, the relation `Pieces` (but for the order invariant of OrbProofs/C07Order.lean, a second induction over the
  loop itself on the step lemmas `lineStep_none`, `lineStep_some`).  `segLoopU` is the inner loop without the two
  rounding guards; the bridge to it asks for what exact arithmetic provides.
-/
import Orb.Clip
import OrbProofs.ClipCode
import Mathlib.Tactic.SplitIfs
import Mathlib.Tactic.ByContra
import Mathlib.Logic.Basic

set_option linter.unusedSectionVars false

namespace Orb.Clip
open Orb Orb.Core Generated.Params

variable {α : Type} [Add α] [Sub α] [Mul α] [Div α] [LT α] [LE α] [DecidableLT α] [DecidableLE α] [BEq α]
  [Min α] [Max α]

/-- some coordinate of `p` IS (bit for bit) an edge value of the box -/
def OnEdgeValue (box : Bound α) (p : Pt α) : Prop :=
  p.x = box.lo.x ∨ p.x = box.hi.x ∨ p.y = box.lo.y ∨ p.y = box.hi.y

theorem intersect_onEdgeValue (box : Bound α) (e : Nat) (a b p : Pt α) (h : intersect box e a b = some p) :
    OnEdgeValue box p := by
  unfold intersect at h
  by_cases h8 : e &&& clip_codeTop ≠ 0
  · rw [if_pos h8] at h; obtain rfl := Option.some.inj h; exact Or.inr (Or.inr (Or.inr rfl))
  rw [if_neg h8] at h
  by_cases h4 : e &&& clip_codeBottom ≠ 0
  · rw [if_pos h4] at h; obtain rfl := Option.some.inj h; exact Or.inr (Or.inr (Or.inl rfl))
  rw [if_neg h4] at h
  by_cases h2 : e &&& clip_codeRight ≠ 0
  · rw [if_pos h2] at h; obtain rfl := Option.some.inj h; exact Or.inr (Or.inl rfl)
  rw [if_neg h2] at h
  by_cases h1 : e &&& clip_codeLeft ≠ 0
  · rw [if_pos h1] at h; obtain rfl := Option.some.inj h; exact Or.inl rfl
  · rw [if_neg h1] at h; exact nomatch h

theorem clamp_onEdgeValue (box : Bound α) (p : Pt α) (h : OnEdgeValue box p) :
    OnEdgeValue box (clampToBound box p) := by
  have key : ∀ v lo hi : α, v = lo ∨ v = hi →
      (if v < lo then lo else if v > hi then hi else v) = lo ∨
      (if v < lo then lo else if v > hi then hi else v) = hi := by
    intro v lo hi h
    by_cases h1 : v < lo
    · rw [if_pos h1]; exact Or.inl rfl
    · rw [if_neg h1]
      by_cases h2 : v > hi
      · rw [if_pos h2]; exact Or.inr rfl
      · rw [if_neg h2]; exact h
  rcases or_assoc.2 h with hx | hy
  · exact (key p.x _ _ hx).elim Or.inl fun h => Or.inr (Or.inl h)
  · exact (key p.y _ _ hy).elim (fun h => Or.inr (Or.inr (Or.inl h))) fun h => Or.inr (Or.inr (Or.inr h))

/-- inner loop without counters and clamp branch -/
def segLoopU (box : Bound α) : Nat → Pt α → Pt α → Nat → Nat → Seg α
  | 0, _, _, _, _ => .stuck
  | fuel+1, a, b, codeA, codeB =>
    if codeA ||| codeB = 0 then .accept a b codeB
    else if codeA &&& codeB ≠ 0 then .reject
    else if codeA ≠ 0 then
      match intersect box codeA a b with
      | some a' => segLoopU box fuel a' b (bitCode box a') codeB
      | none => .stuck
    else
      match intersect box codeB a b with
      | some b' => segLoopU box fuel a b' codeA (bitCode box b')
      | none => .stuck

/-- the outer step over `segLoopU`, equal to the model's step wherever the two inner loops agree
    (`lineStep_eq_lineStepU`).  No proof goes through it: they read the model's own step (`lineStep_none`, `lineStep_some`). -/
def lineStepU (box : Bound α) (isOpen : Bool) (st : LineSt α) (a b : Pt α) (last : Bool) : LineSt α :=
  let codeB := if isOpen then bitCodeOpen box b else bitCode box b
  let endCode := codeB
  match segLoopU box 8 a b st.codeA codeB with
  | .accept a' b' codeB' =>
    let out := push st.out st.line a'
    if codeB' ≠ endCode then
      let out := push out st.line b'
      { out := out, line := if last then st.line else st.line + 1, codeA := endCode, stuck := st.stuck }
    else if last then
      { out := push out st.line b', line := st.line, codeA := endCode, stuck := st.stuck }
    else { out := out, line := st.line, codeA := endCode, stuck := st.stuck }
  | .reject => { st with codeA := endCode }
  | .stuck => { st with codeA := endCode, stuck := true }

theorem segLoop_eq_segLoopU_decided (box : Bound α) (isOpen : Bool) (n : Nat) (a b : Pt α) {cA cB : Nat}
    (nA nB : Nat) (h : cA ||| cB = 0 ∨ cA &&& cB ≠ 0) :
    segLoop box isOpen (n + 1) a b cA cB nA nB = segLoopU box (n + 1) a b cA cB := by
  rw [segLoop, segLoopU]
  rcases h with h | h
  · rw [if_pos h, if_pos h]
  · by_cases h1 : cA ||| cB = 0
    · rw [if_pos h1, if_pos h1]
    · rw [if_neg h1, if_neg h1, if_pos h, if_pos h]

theorem segLoopU_succ (box : Bound α) (n : Nat) (a b : Pt α) (cA cB : Nat) :
    (cA ||| cB = 0 ∧ segLoopU box (n + 1) a b cA cB = .accept a b cB) ∨
    (cA &&& cB ≠ 0 ∧ segLoopU box (n + 1) a b cA cB = .reject) ∨
    (cA ≠ 0 ∧ cA &&& cB = 0 ∧ segLoopU box (n + 1) a b cA cB =
      match intersect box cA a b with
      | some a' => segLoopU box n a' b (bitCode box a') cB
      | none => .stuck) ∨
    (cA = 0 ∧ cB ≠ 0 ∧ segLoopU box (n + 1) a b cA cB =
      match intersect box cB a b with
      | some b' => segLoopU box n a b' cA (bitCode box b')
      | none => .stuck) := by
  rw [segLoopU]
  by_cases h1 : cA ||| cB = 0
  · exact Or.inl ⟨h1, if_pos h1⟩
  rw [if_neg h1]
  by_cases h2 : cA &&& cB ≠ 0
  · exact Or.inr (Or.inl ⟨h2, if_pos h2⟩)
  rw [if_neg h2]
  by_cases h3 : cA ≠ 0
  · exact Or.inr (Or.inr (Or.inl ⟨h3, not_not.1 h2, if_pos h3⟩))
  · have hA0 : cA = 0 := not_not.1 h3
    exact Or.inr (Or.inr (Or.inr ⟨hA0, fun h => h1 (by rw [hA0, h]; rfl), if_neg h3⟩))

theorem segLoopU_reject (box : Bound α) (n : Nat) (a b : Pt α) {cA cB : Nat} (h : cA &&& cB ≠ 0) :
    segLoopU box (n + 1) a b cA cB = .reject := by
  have hor : cA ||| cB ≠ 0 := fun h0 => h (by rw [(Nat.or_eq_zero_iff.1 h0).1, Nat.zero_and])
  rw [segLoopU, if_neg hor, if_pos h]

/-- `Inv` is kept by a clip of either end and every clip strictly lowers the number of code bits
    (`hA`, `hB`: what exact arithmetic provides).  Then an end is clipped at most as often as its code
    has bits — at most twice — and the clamp branch of `segLoop` is unreachable.
    `Fresh` holds as long as the far end has not been clipped and is kept by a clip of the start end
    (`hFA`); under it the own-intersection arm of the open bound agrees with `intersect` (`hArm`).
    The counters: `nB + bitCount cB ≤ 2` (the far end has been clipped at most as often as its code has lost bits),
    and the same for the start end, counting only the bits of `cA` outside `cB`:
    `nA + bitCount (cA ||| cB) ≤ 2 + bitCount cB`. -/
theorem segLoop_eq_segLoopU_of (box : Bound α) (isOpen : Bool) (Inv Fresh : Pt α → Pt α → Nat → Nat → Prop)
    (hlt : ∀ a b cA cB, Inv a b cA cB → cA < 16 ∧ cB < 16)
    (hA : ∀ a b cA cB, Inv a b cA cB → cA ≠ 0 → cA &&& cB = 0 → ∀ a', intersect box cA a b = some a' →
      Inv a' b (bitCode box a') cB ∧ bitCount (bitCode box a' ||| cB) < bitCount (cA ||| cB))
    (hFA : ∀ a b cA cB, Inv a b cA cB → Fresh a b cA cB → cA ≠ 0 → cA &&& cB = 0 →
      ∀ a', intersect box cA a b = some a' → Fresh a' b (bitCode box a') cB)
    (hB : ∀ a b cB, Inv a b 0 cB → cB ≠ 0 → ∀ b', intersect box cB a b = some b' →
      Inv a b' 0 (bitCode box b') ∧ bitCount (bitCode box b') < bitCount cB)
    (hArm : isOpen = true → ∀ a b cB, Inv a b 0 cB → Fresh a b 0 cB → cB ≠ 0 → bitCode box b = 0 →
      intersect box cB a b = some b) :
    ∀ (fuel : Nat) (a b : Pt α) (cA cB nA nB : Nat), Inv a b cA cB → (nB = 0 → Fresh a b cA cB) →
      nA + bitCount (cA ||| cB) ≤ 2 + bitCount cB → nB + bitCount cB ≤ 2 →
      segLoop box isOpen fuel a b cA cB nA nB = segLoopU box fuel a b cA cB := by
  intro fuel a b cA cB nA nB hI hF hiA hiB
  -- the cases of a round, in the order of `segLoop`'s branches: no fuel (1); accept (2); reject (3); the start end
  -- snapped (4), clipped (5), without an edge (6); the far end kept as it is (7), snapped (8), clipped (9), without an edge (10)
  fun_induction segLoop box isOpen fuel a b cA cB nA nB with
  | case1 => rfl
  | case2 _ _ _ _ _ _ _ h1 => rw [segLoopU, if_pos h1]
  | case3 _ _ _ _ _ _ _ h1 h2 => rw [segLoopU, if_neg h1, if_pos h2]
  | case4 fuel a b cA cB nB _ h2 h3 =>
    -- the start end has not been clipped twice: its code would have no bit left
    obtain ⟨hcA, hcB⟩ := hlt a b cA cB hI
    have := bitCount_or_gt cA hcA cB hcB h3 (not_not.1 h2)
    omega
  | case5 fuel a b cA cB nA nB h1 h2 h3 _ a' hi ih =>
    -- start end clipped: the codes lose a bit
    obtain ⟨hcA, hcB⟩ := hlt a b cA cB hI
    have hand := not_not.1 h2
    have hgt := bitCount_or_gt cA hcA cB hcB h3 hand
    obtain ⟨hI', hdec⟩ := hA a b cA cB hI h3 hand a' hi
    rw [segLoopU, if_neg h1, if_neg h2, if_pos h3, hi]
    exact ih hI' (fun h0 => hFA a b cA cB hI (hF h0) h3 hand a' hi) (by omega) hiB
  | case6 _ _ _ _ _ _ _ h1 h2 h3 _ hi => rw [segLoopU, if_neg h1, if_neg h2, if_pos h3, hi]
  | case7 fuel a b cA cB nA nB h1 h2 h3 h5 =>
    -- open bound, far end on the boundary: `intersect` returns it
    obtain rfl : cA = 0 := not_not.1 h3
    have hB0 : cB ≠ 0 := fun h => h1 (by rw [h]; rfl)
    rw [segLoopU, if_neg h1, if_neg h2, if_neg h3, hArm h5.1 a b cB hI (hF h5.2.1) hB0 h5.2.2]
    show segLoop box isOpen fuel a b 0 0 nA nB = segLoopU box fuel a b 0 (bitCode box b)
    rw [h5.2.2]
    cases fuel with
    | zero => rfl
    | succ m => exact segLoop_eq_segLoopU_decided box isOpen m a b (cA := 0) (cB := 0) nA nB (Or.inl rfl)
  | case8 fuel a b cA cB nA h1 _ h3 =>
    -- the far end has not been clipped twice either
    obtain rfl : cA = 0 := not_not.1 h3
    exact absurd (bitCount_eq_zero cB (hlt a b 0 cB hI).2 (by omega)) fun h => h1 (by rw [h]; rfl)
  | case9 fuel a b cA cB nA nB h1 h2 h3 _ _ b' hi ih =>
    obtain rfl : cA = 0 := not_not.1 h3
    have hB0 : cB ≠ 0 := fun h => h1 (by rw [h]; rfl)
    obtain ⟨hI', hdec⟩ := hB a b cB hI hB0 b' hi
    rw [segLoopU, if_neg h1, if_neg h2, if_neg h3, hi]
    rw [Nat.zero_or] at hiA
    exact ih hI' (fun h0 => absurd h0 (Nat.succ_ne_zero nB)) (by rw [Nat.zero_or]; omega) (by omega)
  | case10 _ _ _ _ _ _ _ h1 h2 h3 _ _ hi => rw [segLoopU, if_neg h1, if_neg h2, if_neg h3, hi]

theorem lineStep_eq_lineStepU {box : Bound α} {isOpen : Bool} {st : LineSt α} {a b : Pt α} (last : Bool)
    (h : segLoop box isOpen 8 a b st.codeA (if isOpen then bitCodeOpen box b else bitCode box b) 0 0 =
      segLoopU box 8 a b st.codeA (if isOpen then bitCodeOpen box b else bitCode box b)) :
    lineStep box isOpen st a b last = lineStepU box isOpen st a b last := by
  unfold lineStep lineStepU
  simp only [h]
  generalize segLoopU box 8 a b st.codeA (if isOpen then bitCodeOpen box b else bitCode box b) = r
  cases r <;> rfl

/-- `intersect` finds an edge for every non-zero code (`panic("no edge??")` is unreachable) -/
theorem intersect_isSome (box : Bound α) {c : Nat} (hc : c < 16) (h0 : c ≠ 0) (a b : Pt α) :
    ∃ p, intersect box c a b = some p := by
  unfold intersect
  simp only [clip_codeLeft, clip_codeRight, clip_codeBottom, clip_codeTop]
  rcases bits_first c hc h0 with h | ⟨h8, h⟩ | ⟨h8, h4, h⟩ | ⟨h8, h4, h2, h⟩
  · exact ⟨_, if_pos h⟩
  · exact ⟨_, (if_neg fun h' => h' h8).trans (if_pos h)⟩
  · exact ⟨_, (if_neg fun h' => h' h8).trans ((if_neg fun h' => h' h4).trans (if_pos h))⟩
  · exact ⟨_, (if_neg fun h' => h' h8).trans ((if_neg fun h' => h' h4).trans ((if_neg fun h' => h' h2).trans (if_pos h)))⟩

/-- rounds an end can still cost: three (two clips and the snap) minus the clips made, none once its code is 0 -/
def endPot (c n : Nat) : Nat := if c = 0 then 0 else 3 - n

theorem endPot_le (c n : Nat) : endPot c n ≤ 3 - n := by
  unfold endPot; split_ifs <;> omega

theorem endPot_lt {c n : Nat} (h : c ≠ 0) (hn : n ≤ 2) (c' n' : Nat) (h' : c' = 0 ∨ n < n') :
    endPot c' n' < endPot c n := by
  unfold endPot; split_ifs <;> omega

theorem endPot_step {c n c' n' p fuel : Nat} (h : c ≠ 0) (hn : n ≤ 2) (h' : c' = 0 ∨ n < n')
    (hpot : endPot c n + p < fuel + 1) : endPot c' n' + p < fuel :=
  Nat.lt_of_lt_of_le (Nat.add_lt_add_right (endPot_lt h hn c' n' h') _) (Nat.le_of_lt_succ hpot)

theorem segLoop_ne_stuck (box : Bound α) (isOpen : Bool) (fuel : Nat) (a b : Pt α) (cA cB nA nB : Nat)
    (hA : cA < 16) (hB : cB < 16) (hnA : nA ≤ 2) (hnB : nB ≤ 2) (hpot : endPot cA nA + endPot cB nB < fuel) :
    segLoop box isOpen fuel a b cA cB nA nB ≠ .stuck := by
  fun_induction segLoop box isOpen fuel a b cA cB nA nB with
  | case1 => exact absurd hpot (Nat.not_lt_zero _)
  | case2 => exact fun h => nomatch h
  | case3 => exact fun h => nomatch h
  | case4 fuel a b cA cB nB _ _ h3 ih =>  -- start end snapped
    exact ih (by decide) hB hnA hnB (endPot_step h3 hnA (Or.inl rfl) hpot)
  | case5 fuel a b cA cB nA nB _ _ h3 h4 a' _ ih =>  -- start end clipped
    exact ih (bitCode_lt16 box a') hB (Nat.succ_le_of_lt (Nat.lt_of_le_of_ne hnA h4)) hnB
      (endPot_step h3 hnA (Or.inr (Nat.lt_succ_self nA)) hpot)
  | case6 fuel a b cA cB nA nB _ _ h3 _ hi =>  -- `intersect` finds an edge
    obtain ⟨p, hp⟩ := intersect_isSome box hA h3 a b
    rw [hi] at hp; cases hp
  | case7 fuel a b cA cB nA nB h1 _ h3 _ ih =>  -- far end on the boundary kept (open bound)
    have hB0 : cB ≠ 0 := fun h => h1 (by rw [not_not.1 h3, h]; rfl)
    rw [Nat.add_comm] at hpot
    exact ih hA (by decide) hnA hnB (Nat.add_comm _ _ ▸ endPot_step hB0 hnB (Or.inl rfl) hpot)
  | case8 fuel a b cA cB nA h1 _ h3 _ ih =>  -- far end snapped
    have hB0 : cB ≠ 0 := fun h => h1 (by rw [not_not.1 h3, h]; rfl)
    rw [Nat.add_comm] at hpot
    exact ih hA (by decide) hnA hnB (Nat.add_comm _ _ ▸ endPot_step hB0 hnB (Or.inl rfl) hpot)
  | case9 fuel a b cA cB nA nB h1 _ h3 _ h6 b' _ ih =>  -- far end clipped
    have hB0 : cB ≠ 0 := fun h => h1 (by rw [not_not.1 h3, h]; rfl)
    rw [Nat.add_comm] at hpot
    exact ih hA (bitCode_lt16 box b') hnA (Nat.succ_le_of_lt (Nat.lt_of_le_of_ne hnB h6))
      (Nat.add_comm _ _ ▸ endPot_step hB0 hnB (Or.inr (Nat.lt_succ_self nB)) hpot)
  | case10 fuel a b cA cB nA nB h1 _ h3 _ _ hi =>
    have hB0 : cB ≠ 0 := fun h => h1 (by rw [not_not.1 h3, h]; rfl)
    obtain ⟨p, hp⟩ := intersect_isSome box hB hB0 a b
    rw [hi] at hp; cases hp

theorem segLoop_start_ne_stuck (box : Bound α) (isOpen : Bool) (a b : Pt α) {cA cB : Nat} (hA : cA < 16)
    (hB : cB < 16) : segLoop box isOpen 8 a b cA cB 0 0 ≠ .stuck := by
  refine segLoop_ne_stuck box isOpen 8 a b cA cB 0 0 hA hB (by omega) (by omega) ?_
  have := endPot_le cA 0
  have := endPot_le cB 0
  omega

theorem code_lt16 (box : Bound α) (isOpen : Bool) (p : Pt α) :
    (if isOpen then bitCodeOpen box p else bitCode box p) < 16 := by
  cases isOpen
  · exact bitCode_lt16 box p
  · exact bitCodeOpen_lt16 box p

theorem lineLoop_cons_cons (box : Bound α) (isOpen : Bool) (st : LineSt α) (a b : Pt α)
    (rest : List (Pt α)) :
    lineLoop box isOpen st (a :: b :: rest) =
      lineLoop box isOpen (lineStep box isOpen st a b rest.isEmpty) (b :: rest) := by
  rw [lineLoop]

theorem lineLoop_single (box : Bound α) (isOpen : Bool) (st : LineSt α) (a : Pt α) :
    lineLoop box isOpen st [a] = st := by
  rw [lineLoop]
  intro _ _ _ h; simp at h

/-- what the inner loop, started on `a b` with codes `cA cB`, can answer: an end whose code is 0 is returned as it is,
    an end whose code is not 0 comes back with a coordinate that is an edge value; a segment is only rejected when
    neither code is 0 -/
def SegEnds (box : Bound α) (a b : Pt α) (cA cB : Nat) : Seg α → Prop
  | .accept a' b' c => c = 0 ∧ (cA = 0 → a' = a) ∧ (cA ≠ 0 → OnEdgeValue box a') ∧
      (cB = 0 → b' = b) ∧ (cB ≠ 0 → OnEdgeValue box b' ∨ (b' = b ∧ bitCode box b = 0))
  | .reject => cA ≠ 0 ∧ cB ≠ 0
  | .stuck => True

theorem SegEnds.moveA {box : Bound α} {a b p : Pt α} {cA cB c : Nat} {r : Seg α} (h3 : cA ≠ 0)
    (hp : OnEdgeValue box p) (hr : SegEnds box p b c cB r) : SegEnds box a b cA cB r := by
  cases r with
  | stuck => trivial
  | reject => exact ⟨h3, hr.2⟩
  | accept a' b' c' =>
    obtain ⟨r0, r1, r2, r3, r4⟩ := hr
    refine ⟨r0, fun h => absurd h h3, fun _ => ?_, r3, r4⟩
    by_cases hc : c = 0
    · rw [r1 hc]; exact hp
    · exact r2 hc

theorem SegEnds.moveB {box : Bound α} {a b p : Pt α} {cA cB c : Nat} {r : Seg α} (h3 : cB ≠ 0)
    (hp : OnEdgeValue box p) (hr : SegEnds box a p cA c r) : SegEnds box a b cA cB r := by
  cases r with
  | stuck => trivial
  | reject => exact ⟨hr.1, h3⟩
  | accept a' b' c' =>
    obtain ⟨r0, r1, r2, r3, r4⟩ := hr
    refine ⟨r0, r1, r2, fun h => absurd h h3, fun _ => Or.inl ?_⟩
    by_cases hc : c = 0
    · rw [r3 hc]; exact hp
    · exact (r4 hc).elim id fun h => h.1 ▸ hp

theorem segLoop_ends (box : Bound α) (isOpen : Bool) (fuel : Nat) (a b : Pt α) (cA cB nA nB : Nat)
    (hA : nA ≠ 0 → OnEdgeValue box a) (hB : nB ≠ 0 → OnEdgeValue box b) :
    SegEnds box a b cA cB (segLoop box isOpen fuel a b cA cB nA nB) := by
  fun_induction segLoop box isOpen fuel a b cA cB nA nB with
  | case1 => trivial
  | case2 fuel a b cA cB nA nB h1 =>  -- accepted: both codes are 0
    obtain ⟨hA0, hB0⟩ := Nat.or_eq_zero_iff.1 h1
    exact ⟨hB0, fun _ => rfl, fun h => absurd hA0 h, fun _ => rfl, fun h => absurd hB0 h⟩
  | case3 fuel a b cA cB nA nB _ h2 =>  -- rejected: the codes share a bit
    exact ⟨fun h => h2 (by rw [h, Nat.zero_and]), fun h => h2 (by rw [h, Nat.and_zero])⟩
  | case4 fuel a b cA cB nB _ _ h3 ih =>  -- start end snapped
    have hE := clamp_onEdgeValue box a (hA (by decide))
    exact (ih (fun _ => hE) hB).moveA h3 hE
  | case5 fuel a b cA cB nA nB _ _ h3 _ a' hi ih =>  -- start end clipped
    have hE := intersect_onEdgeValue box cA a b a' hi
    exact (ih (fun _ => hE) hB).moveA h3 hE
  | case6 => trivial
  | case7 fuel a b cA cB nA nB h1 _ h3 h5 ih =>
    -- open bound: the far end kept as it is
    have hB0 : cB ≠ 0 := fun h => h1 (by rw [not_not.1 h3, h]; rfl)
    have hr := ih hA hB
    generalize segLoop box isOpen fuel a b cA 0 nA nB = r at hr ⊢
    cases r with
    | stuck => trivial
    | reject => exact absurd rfl hr.2
    | accept a' b' c' =>
      obtain ⟨r0, r1, r2, r3, _⟩ := hr
      exact ⟨r0, r1, r2, fun h => absurd h hB0, fun _ => Or.inr ⟨r3 rfl, h5.2.2⟩⟩
  | case8 fuel a b cA cB nA h1 _ h3 _ ih =>  -- far end snapped
    have hB0 : cB ≠ 0 := fun h => h1 (by rw [not_not.1 h3, h]; rfl)
    have hE := clamp_onEdgeValue box b (hB (by decide))
    exact (ih hA (fun _ => hE)).moveB hB0 hE
  | case9 fuel a b cA cB nA nB h1 _ h3 _ _ b' hi ih =>  -- far end clipped
    have hB0 : cB ≠ 0 := fun h => h1 (by rw [not_not.1 h3, h]; rfl)
    have hE := intersect_onEdgeValue box cB a b b' hi
    exact (ih hA (fun _ => hE)).moveB hB0 hE
  | case10 => trivial

/-- the region code the outer loop attaches to a vertex -/
abbrev codeAt (box : Bound α) (isOpen : Bool) (p : Pt α) : Nat :=
  if isOpen then bitCodeOpen box p else bitCode box p

/-- the accepted part of the segment `a b`, as `lineStep` has the inner loop compute it (`codeA` is always the code of `a`) -/
def clipPart (box : Bound α) (isOpen : Bool) (a b : Pt α) : Option (Pt α × Pt α) :=
  match segLoop box isOpen 8 a b (codeAt box isOpen a) (codeAt box isOpen b) 0 0 with
  | .accept a' b' _ => some (a', b')
  | _ => none

/-- THE PIECES: every segment contributes its accepted part `[a', b']`; where the far vertex `b` has code 0 the
    piece runs on into the next segment (whose accepted part then starts at `b`) -/
def stitch (box : Bound α) (isOpen : Bool) : List (Pt α) → List (List (Pt α))
  | a :: b :: rest =>
    match clipPart box isOpen a b with
    | none => stitch box isOpen (b :: rest)
    | some (a', b') =>
      if codeAt box isOpen b = 0 then
        match stitch box isOpen (b :: rest) with
        | piece :: ps => (a' :: piece) :: ps
        | [] => [[a', b']]
      else [a', b'] :: stitch box isOpen (b :: rest)
  | _ => []

theorem clipPart_cases (box : Bound α) (isOpen : Bool) (a b : Pt α) :
    (∃ a' b', segLoop box isOpen 8 a b (codeAt box isOpen a) (codeAt box isOpen b) 0 0 = .accept a' b' 0 ∧
      clipPart box isOpen a b = some (a', b') ∧
      (codeAt box isOpen a = 0 → a' = a) ∧ (codeAt box isOpen a ≠ 0 → OnEdgeValue box a') ∧
      (codeAt box isOpen b = 0 → b' = b) ∧
      (codeAt box isOpen b ≠ 0 → OnEdgeValue box b' ∨ (b' = b ∧ bitCode box b = 0))) ∨
    (segLoop box isOpen 8 a b (codeAt box isOpen a) (codeAt box isOpen b) 0 0 = .reject ∧
      clipPart box isOpen a b = none ∧ codeAt box isOpen a ≠ 0 ∧ codeAt box isOpen b ≠ 0) := by
  have he := segLoop_ends box isOpen 8 a b (codeAt box isOpen a) (codeAt box isOpen b) 0 0
    (fun h => absurd rfl h) (fun h => absurd rfl h)
  have hs := segLoop_start_ne_stuck box isOpen a b (code_lt16 box isOpen a) (code_lt16 box isOpen b)
  unfold clipPart
  cases hr : segLoop box isOpen 8 a b (codeAt box isOpen a) (codeAt box isOpen b) 0 0 with
  | stuck => exact absurd hr hs
  | reject => rw [hr] at he; exact Or.inr ⟨rfl, rfl, he⟩
  | accept a' b' c =>
    rw [hr] at he
    obtain ⟨rfl, h⟩ := he
    exact Or.inl ⟨a', b', rfl, rfl, h⟩

theorem clipPart_ends {box : Bound α} {isOpen : Bool} {a b a' b' : Pt α} (h : clipPart box isOpen a b = some (a', b')) :
    (codeAt box isOpen a = 0 → a' = a) ∧ (codeAt box isOpen a ≠ 0 → OnEdgeValue box a') ∧
    (codeAt box isOpen b = 0 → b' = b) ∧
    (codeAt box isOpen b ≠ 0 → OnEdgeValue box b' ∨ (b' = b ∧ bitCode box b = 0)) := by
  rcases clipPart_cases box isOpen a b with ⟨a'', b'', -, h', k⟩ | ⟨-, h', -⟩ <;> rw [h] at h'
  · obtain ⟨rfl, rfl⟩ := Prod.mk.inj (Option.some.inj h')
    exact k
  · cases h'

theorem stitch_of_code_zero (box : Bound α) (isOpen : Bool) {b : Pt α} (c : Pt α) (rest : List (Pt α))
    (hE : codeAt box isOpen b = 0) : ∃ piece ps, stitch box isOpen (b :: c :: rest) = (b :: piece) :: ps := by
  rw [stitch]
  rcases clipPart_cases box isOpen b c with ⟨a', b', -, hcs, ha, -⟩ | ⟨-, -, hne, -⟩
  · obtain rfl := ha hE
    rw [hcs]; simp only; split_ifs
    · split <;> exact ⟨_, _, rfl⟩
    · exact ⟨_, _, rfl⟩
  · exact absurd hE hne

/-- the piece under construction, if any -/
def closeOff (cur : List (Pt α)) : List (List (Pt α)) :=
  match cur with
  | [] => []
  | _ => [cur]

/-- the piece under construction runs on into the first of the pieces to come -/
def continueWith (cur : List (Pt α)) : List (List (Pt α)) → List (List (Pt α))
  | piece :: ps => (cur ++ piece) :: ps
  | [] => closeOff cur

theorem push_open (done : List (List (Pt α))) (cur : List (Pt α)) (p : Pt α) :
    push (done ++ [cur]) done.length p = done ++ [cur ++ [p]] := by
  have : ∀ (done : List (List (Pt α))) (f : List (Pt α) → List (Pt α)),
      (done ++ [cur]).modify done.length f = done ++ [f cur] := by
    intro done f
    induction done with
    | nil => simp
    | cons x l ih => simp [ih]
  unfold push
  rw [if_neg (by simp), this]

theorem lineStep_none {box : Bound α} {isOpen : Bool} {st : LineSt α} {a b : Pt α} (last : Bool)
    (hc : st.codeA = codeAt box isOpen a) (hcs : clipPart box isOpen a b = none) :
    lineStep box isOpen st a b last = ⟨st.out, st.line, codeAt box isOpen b, st.stuck⟩ := by
  unfold lineStep
  simp only
  rw [hc]
  rcases clipPart_cases box isOpen a b with ⟨a', b', -, h, -⟩ | ⟨hr, -⟩
  · rw [hcs] at h; cases h
  · rw [hr]

/-- ONE STEP OF THE OUTER LOOP on an accepted segment, from a state that holds the finished pieces `done` and the piece
    under construction `cur` (`[]`: none, or an empty one) -/
theorem lineStep_some {box : Bound α} {isOpen : Bool} {st : LineSt α} {a b a' b' : Pt α} (last : Bool)
    (hc : st.codeA = codeAt box isOpen a) (hcs : clipPart box isOpen a b = some (a', b'))
    {done : List (List (Pt α))} {cur : List (Pt α)}
    (hl : st.line = done.length) (ho : st.out = done ∧ cur = [] ∨ st.out = done ++ [cur]) :
    lineStep box isOpen st a b last =
      if codeAt box isOpen b = 0 ∧ last = false then
        ⟨done ++ [cur ++ [a']], done.length, codeAt box isOpen b, st.stuck⟩
      else ⟨done ++ [cur ++ [a', b']],
        if codeAt box isOpen b = 0 ∨ last = true then done.length else done.length + 1,
        codeAt box isOpen b, st.stuck⟩ := by
  have p1 : push st.out st.line a' = done ++ [cur ++ [a']] := by
    rcases ho with ⟨ho, rfl⟩ | ho <;> rw [hl, ho]
    · simp [push]
    · exact push_open _ _ _
  have p2 : push (done ++ [cur ++ [a']]) st.line b' = done ++ [cur ++ [a', b']] := by
    rw [hl, push_open, List.append_assoc]; rfl
  unfold lineStep
  simp only
  rw [hc]
  rcases clipPart_cases box isOpen a b with ⟨a'', b'', hr, h, -⟩ | ⟨-, h, -⟩ <;> rw [hcs] at h
  · obtain ⟨rfl, rfl⟩ := Prod.mk.inj (Option.some.inj h)
    rw [hr]
    simp only
    rw [p1, p2, hl]
    by_cases hE : codeAt box isOpen b = 0
    · cases last <;> simp [hE]
    · have hE' : ¬ 0 = codeAt box isOpen b := fun h => hE h.symm
      cases last <;> simp [hE, hE']
  · cases h

theorem closeOff_repr (done : List (List (Pt α))) (cur : List (Pt α)) :
    done ++ closeOff cur = done ∧ cur = [] ∨ done ++ closeOff cur = done ++ [cur] := by
  cases cur
  · exact Or.inl ⟨List.append_nil _, rfl⟩
  · exact Or.inr rfl

/-- THE OUTER LOOP IS `stitch`: from a state that holds the finished pieces `done` and the piece under construction
    `cur` (to which the pending vertex `a`, of code 0, has not been added yet); and it never raises `stuck` -/
theorem lineLoop_eq_stitch (box : Bound α) (isOpen : Bool) :
    ∀ (rest : List (Pt α)) (a : Pt α) (done : List (List (Pt α))) (cur : List (Pt α)) (st : LineSt α),
      st.out = done ++ closeOff cur → st.line = done.length → st.codeA = codeAt box isOpen a →
      (cur ≠ [] → codeAt box isOpen a = 0) →
      (lineLoop box isOpen st (a :: rest)).out = done ++ continueWith cur (stitch box isOpen (a :: rest)) ∧
        (lineLoop box isOpen st (a :: rest)).stuck = st.stuck := by
  intro rest
  induction rest with
  | nil => intro a done cur st ho _ _ _; rw [lineLoop_single, ho]; exact ⟨rfl, rfl⟩
  | cons b rest ih =>
    intro a done cur st ho hl hc h0
    rw [lineLoop_cons_cons, stitch]
    cases hcs : clipPart box isOpen a b with
    | none =>
      rw [lineStep_none _ hc hcs]
      -- rejected: no piece is under construction (its pending vertex would have code 0)
      obtain rfl : cur = [] := by
        by_contra h
        rcases clipPart_cases box isOpen a b with ⟨_, _, -, h', -⟩ | ⟨-, -, hne, -⟩
        · rw [hcs] at h'; cases h'
        · exact hne (h0 h)
      exact ih b done [] _ ho hl rfl (fun h => absurd rfl h)
    | some u =>
      obtain ⟨a', b'⟩ := u
      rw [lineStep_some _ hc hcs hl (ho ▸ closeOff_repr done cur)]
      simp only
      cases rest with
      | nil =>
        -- the last segment: the piece is closed with `b'`
        rw [if_neg (fun h => nomatch h.2), lineLoop_single]
        refine ⟨?_, rfl⟩
        by_cases hE : codeAt box isOpen b = 0 <;> simp [hE, stitch, continueWith]
      | cons c rest =>
        by_cases hE : codeAt box isOpen b = 0
        · -- runs on into the next segment, whose accepted part starts with `b`
          rw [if_pos ⟨hE, rfl⟩, if_pos hE]
          obtain ⟨piece, ps, hst⟩ := stitch_of_code_zero box isOpen c rest hE
          obtain ⟨i1, i2⟩ := ih b done (cur ++ [a']) ⟨done ++ [cur ++ [a']], done.length, codeAt box isOpen b, st.stuck⟩
            (by cases cur <;> rfl) rfl rfl (fun _ => hE)
          refine ⟨?_, i2⟩
          rw [i1, hst]
          simp [continueWith]
        · -- leaves the box: the piece is finished
          rw [if_neg (fun h => hE h.1), if_neg hE, if_neg (fun h => h.elim hE (fun h => nomatch h))]
          obtain ⟨i1, i2⟩ := ih b (done ++ [cur ++ [a', b']]) []
            ⟨done ++ [cur ++ [a', b']], done.length + 1, codeAt box isOpen b, st.stuck⟩
            (by simp [closeOff]) (by simp) rfl (fun h => absurd rfl h)
          refine ⟨?_, i2⟩
          rw [i1]
          cases hst : stitch box isOpen (b :: c :: rest) <;> simp [continueWith, closeOff]

/-- `line` on a non-empty input is the output of the outer loop: the loop never gets stuck, whatever
    `+ - * / < ≤` do on the coordinate type (floats, NaN, a box of any shape) -/
theorem line_cons (box : Bound α) (isOpen : Bool) (p : Pt α) (rest : List (Pt α)) :
    line box isOpen (p :: rest) = some (lineLoop box isOpen
      ⟨[], 0, if isOpen then bitCodeOpen box p else bitCode box p, false⟩ (p :: rest)).out := by
  have h := (lineLoop_eq_stitch box isOpen rest p [] [] ⟨[], 0, codeAt box isOpen p, false⟩ rfl rfl rfl
    (fun h => absurd rfl h)).2
  show (if _ = true then none else some _) = _
  rw [h]; rfl

theorem line_total_any' (box : Bound α) (isOpen : Bool) (inp : List (Pt α)) :
    ∃ out, line box isOpen inp = some out := by
  cases inp with
  | nil => exact ⟨[], rfl⟩
  | cons p rest => exact ⟨_, line_cons box isOpen p rest⟩

/-- `line` IS `stitch`, whatever `+ - * / < ≤` do on the coordinate type -/
theorem line_eq_stitch (box : Bound α) (isOpen : Bool) (inp : List (Pt α)) :
    line box isOpen inp = some (stitch box isOpen inp) := by
  cases inp with
  | nil => rfl
  | cons p rest =>
    rw [line_cons, (lineLoop_eq_stitch box isOpen rest p [] [] _ rfl rfl rfl (fun h => absurd rfl h)).1]
    cases stitch box isOpen (p :: rest) <;> rfl

/-- `clip.MultiLineString` as a function, whatever the arithmetic: `line` never fails, so the fold concatenates -/
theorem multiLineString_eq (box : Bound α) (isOpen : Bool) (mls : List (List (Pt α))) :
    multiLineString box isOpen mls = some (mls.flatMap (stitch box isOpen)) := by
  suffices ∀ r : List (List (Pt α)), mls.foldl (fun acc ls => match acc, line box isOpen ls with
      | some r, some x => some (r ++ x)
      | _, _ => none) (some r) = some (r ++ mls.flatMap (stitch box isOpen)) from this []
  induction mls with
  | nil => intro r; simp
  | cons ls rest ih => intro r; rw [List.foldl_cons, line_eq_stitch]; simp only; rw [ih]; simp

/-- WHAT THE OUTER LOOP CAN DO with the next segment `a b`: reject it; accept it and leave the box (`b` has a code:
    the piece `[a', b']` is finished); accept it and stop at the last vertex; accept it and run on into the next
    segment (`b` has code 0 and is not moved: the next accepted part starts with it) -/
inductive Pieces (box : Bound α) (isOpen : Bool) : List (Pt α) → List (List (Pt α)) → Prop
  | nil : Pieces box isOpen [] []
  | one (a : Pt α) : Pieces box isOpen [a] []
  | reject {a b : Pt α} {rest : List (Pt α)} {ps : List (List (Pt α))} :
      clipPart box isOpen a b = none → codeAt box isOpen a ≠ 0 → codeAt box isOpen b ≠ 0 →
      Pieces box isOpen (b :: rest) ps → Pieces box isOpen (a :: b :: rest) ps
  | leave {a b a' b' : Pt α} {rest : List (Pt α)} {ps : List (List (Pt α))} :
      clipPart box isOpen a b = some (a', b') → codeAt box isOpen b ≠ 0 →
      Pieces box isOpen (b :: rest) ps → Pieces box isOpen (a :: b :: rest) ([a', b'] :: ps)
  | stop {a b a' : Pt α} :
      clipPart box isOpen a b = some (a', b) → codeAt box isOpen b = 0 → Pieces box isOpen [a, b] [[a', b]]
  | runOn {a b a' c : Pt α} {rest piece : List (Pt α)} {ps : List (List (Pt α))} :
      clipPart box isOpen a b = some (a', b) → codeAt box isOpen b = 0 →
      Pieces box isOpen (b :: c :: rest) ((b :: piece) :: ps) →
      Pieces box isOpen (a :: b :: c :: rest) ((a' :: b :: piece) :: ps)

theorem pieces_stitch (box : Bound α) (isOpen : Bool) :
    ∀ (rest : List (Pt α)) (a : Pt α), Pieces box isOpen (a :: rest) (stitch box isOpen (a :: rest)) := by
  intro rest
  induction rest with
  | nil => exact fun a => .one a
  | cons b rest ih =>
    intro a
    have hb := ih b
    rw [stitch]
    rcases clipPart_cases box isOpen a b with ⟨a', b', -, hcs, -, -, hb', -⟩ | ⟨-, hcs, hA, hB⟩
    · rw [hcs]
      simp only
      by_cases hE : codeAt box isOpen b = 0
      · rw [if_pos hE]
        obtain rfl := hb' hE
        cases rest with
        | nil => exact .stop hcs hE
        | cons c rest =>
          obtain ⟨piece, ps, hst⟩ := stitch_of_code_zero box isOpen c rest hE
          rw [hst] at hb ⊢
          exact .runOn hcs hE hb
      · rw [if_neg hE]
        exact .leave hcs hE hb
    · rw [hcs]
      exact .reject hcs hA hB hb

theorem line_pieces (box : Bound α) (isOpen : Bool) (inp : List (Pt α)) :
    ∃ out, line box isOpen inp = some out ∧ Pieces box isOpen inp out := by
  refine ⟨_, line_eq_stitch box isOpen inp, ?_⟩
  cases inp with
  | nil => exact .nil
  | cons a rest => exact pieces_stitch box isOpen rest a

theorem pieces_of_line {box : Bound α} {isOpen : Bool} {inp : List (Pt α)} {out : List (List (Pt α))}
    (h : line box isOpen inp = some out) : Pieces box isOpen inp out := by
  obtain ⟨out', h', hp⟩ := line_pieces box isOpen inp
  rw [h] at h'
  exact Option.some.inj h' ▸ hp

theorem pieces_prov {box : Bound α} {isOpen : Bool} {inp : List (Pt α)} {out : List (List (Pt α))}
    (h : Pieces box isOpen inp out) : ∀ piece ∈ out, ∀ v ∈ piece, v ∈ inp ∨ OnEdgeValue box v := by
  have ends : ∀ {a b a' b' : Pt α}, clipPart box isOpen a b = some (a', b') →
      (a' = a ∨ OnEdgeValue box a') ∧ (b' = b ∨ OnEdgeValue box b') := by
    intro a b a' b' hcs
    obtain ⟨h1, h2, h3, h4⟩ := clipPart_ends hcs
    exact ⟨(Decidable.em _).elim (fun h => Or.inl (h1 h)) (fun h => Or.inr (h2 h)),
      (Decidable.em _).elim (fun h => Or.inl (h3 h)) (fun h => (h4 h).elim Or.inr (fun h => Or.inl h.1))⟩
  induction h with
  | nil => exact fun _ h => nomatch h
  | one a => exact fun _ h => nomatch h
  | reject _ _ _ _ ih => exact fun p hp v hv => (ih p hp v hv).imp_left (List.mem_cons_of_mem _)
  | leave hcs _ _ ih =>
    obtain ⟨e1, e2⟩ := ends hcs
    intro p hp v hv
    rcases List.mem_cons.1 hp with rfl | hp
    · simp only [List.mem_cons, List.not_mem_nil, or_false] at hv
      rcases hv with rfl | rfl
      · exact e1.elim (fun h => Or.inl (h ▸ List.mem_cons_self)) Or.inr
      · exact e2.elim (fun h => Or.inl (h ▸ List.mem_cons_of_mem _ List.mem_cons_self)) Or.inr
    · exact (ih p hp v hv).imp_left (List.mem_cons_of_mem _)
  | stop hcs _ =>
    obtain ⟨e1, -⟩ := ends hcs
    intro p hp v hv
    obtain rfl := List.mem_singleton.1 hp
    simp only [List.mem_cons, List.not_mem_nil, or_false] at hv
    rcases hv with rfl | rfl
    · exact e1.elim (fun h => Or.inl (h ▸ List.mem_cons_self)) Or.inr
    · exact Or.inl (List.mem_cons_of_mem _ List.mem_cons_self)
  | runOn hcs _ _ ih =>
    obtain ⟨e1, -⟩ := ends hcs
    intro p hp v hv
    rcases List.mem_cons.1 hp with rfl | hp
    · rcases List.mem_cons.1 hv with rfl | hv
      · exact e1.elim (fun h => Or.inl (h ▸ List.mem_cons_self)) Or.inr
      · exact (ih _ List.mem_cons_self v hv).imp_left (List.mem_cons_of_mem _)
    · exact (ih p (List.mem_cons_of_mem _ hp) v hv).imp_left (List.mem_cons_of_mem _)

theorem pieces_len {box : Bound α} {isOpen : Bool} {inp : List (Pt α)} {out : List (List (Pt α))}
    (h : Pieces box isOpen inp out) : ∀ piece ∈ out, 2 ≤ piece.length := by
  induction h with
  | nil => exact fun _ h => nomatch h
  | one a => exact fun _ h => nomatch h
  | reject _ _ _ _ ih => exact ih
  | leave _ _ _ ih => exact List.forall_mem_cons.2 ⟨Nat.le_refl 2, ih⟩
  | stop _ _ => exact List.forall_mem_cons.2 ⟨Nat.le_refl 2, fun _ h => nomatch h⟩
  | runOn _ _ _ ih =>
    exact List.forall_mem_cons.2 ⟨Nat.le_add_left 2 _, fun p hp => ih p (List.mem_cons_of_mem _ hp)⟩

theorem pieces_inside {box : Bound α} {isOpen : Bool} {inp : List (Pt α)} {out : List (List (Pt α))}
    (h : Pieces box isOpen inp out) (h2 : 2 ≤ inp.length) (hin : ∀ v ∈ inp, codeAt box isOpen v = 0) :
    out = [inp] := by
  induction h with
  | nil => exact absurd h2 (Nat.not_succ_le_zero 1)
  | one a => exact absurd h2 (Nat.lt_irrefl 1)
  | reject _ hA _ _ _ => exact absurd (hin _ List.mem_cons_self) hA
  | leave _ hB _ _ => exact absurd (hin _ (List.mem_cons_of_mem _ List.mem_cons_self)) hB
  | stop hcs _ => rw [(clipPart_ends hcs).1 (hin _ List.mem_cons_self)]
  | runOn hcs _ _ ih =>
    obtain ⟨h3, rfl⟩ := List.cons.inj (ih (by simp) (fun v hv => hin v (List.mem_cons_of_mem _ hv)))
    rw [(clipPart_ends hcs).1 (hin _ List.mem_cons_self), h3]

theorem line_inside_any (box : Bound α) (isOpen : Bool) (inp : List (Pt α)) (h2 : 2 ≤ inp.length)
    (hin : ∀ v ∈ inp, codeAt box isOpen v = 0) : line box isOpen inp = some [inp] := by
  obtain ⟨out, hl, h⟩ := line_pieces box isOpen inp
  rw [hl, pieces_inside h h2 hin]

/-- a path all of whose vertices are beyond the edge `k` has no piece: every segment is rejected at once -/
theorem pieces_outside {box : Bound α} {isOpen : Bool} {k : Nat} (hk : k ∈ [8, 4, 2, 1]) {inp : List (Pt α)}
    {out : List (List (Pt α))} (h : Pieces box isOpen inp out) (hc : ∀ v ∈ inp, codeAt box isOpen v &&& k ≠ 0) :
    out = [] := by
  have hd : ∀ {a b : Pt α} {rest : List (Pt α)} {u : Pt α × Pt α},
      (∀ v ∈ a :: b :: rest, codeAt box isOpen v &&& k ≠ 0) → clipPart box isOpen a b ≠ some u := by
    intro a b rest u h e
    have hand := and_ne_zero_of_bits _ (code_lt16 box isOpen a) _ (code_lt16 box isOpen b) k hk (h _ List.mem_cons_self)
      (h _ (List.mem_cons_of_mem _ List.mem_cons_self))
    unfold clipPart at e
    rw [segLoop_eq_segLoopU_decided box isOpen 7 a b 0 0 (Or.inr hand), segLoopU_reject box 7 a b hand] at e
    cases e
  induction h with
  | nil => rfl
  | one a => rfl
  | reject _ _ _ _ ih => exact ih fun v hv => hc v (List.mem_cons_of_mem _ hv)
  | leave hcs _ _ _ => exact absurd hcs (hd hc)
  | stop hcs _ => exact absurd hcs (hd hc)
  | runOn hcs _ _ _ => exact absurd hcs (hd hc)

theorem line_outside_any (box : Bound α) (isOpen : Bool) {k : Nat} (hk : k ∈ [8, 4, 2, 1]) (inp : List (Pt α))
    (hc : ∀ v ∈ inp, codeAt box isOpen v &&& k ≠ 0) : line box isOpen inp = some [] := by
  obtain ⟨out, hl, h⟩ := line_pieces box isOpen inp
  rw [hl, pieces_outside hk h hc]

end Orb.Clip
