/-
  C10, length and distance: the spec-side vocabulary (`dist2`, `lerp`, `segments`, `atoms`, `FirstMinIndex`); the point
  of a segment nearest to a point (the foot of the perpendicular, its parameter clamped to [0, 1]); the loops of
  length.go as sums over the consecutive pairs (`lineStringLength_eq`, `polygonLength_eq`, `lenLoop_eq`); and the running
  minimum `if d < dist { … }` that every loop of planar/distance_from.go is: the distance it keeps is the least of all
  atoms (a fold of `omin`), the index it keeps names the first member attaining it (`FirstLeast`, the invariant of the
  loop).
-/
import Orb.Planar
import OrbProofs.ListLemmas
import OrbProofs.GeomInd
import Orb.LoopForms
import Mathlib.Algebra.Order.Field.Basic
import Mathlib.Algebra.BigOperators.Group.List.Basic
import Mathlib.Order.Monotone.Basic
import Mathlib.Tactic.Ring
import Mathlib.Tactic.LinearCombination

namespace Orb.Planar
open Orb

/-- squared euclidean distance -/
def dist2 {α : Type} [Add α] [Sub α] [Mul α] (a b : Pt α) : α :=
  (a.x - b.x) * (a.x - b.x) + (a.y - b.y) * (a.y - b.y)

/-- the point `a + t (b − a)` -/
def lerp {α : Type} [Add α] [Sub α] [Mul α] (a b : Pt α) (t : α) : Pt α :=
  ⟨a.x + t * (b.x - a.x), a.y + t * (b.y - a.y)⟩

/-- consecutive pairs of a vertex list; some statements spell it `ls.zip ls.tail` or, for `a :: t`, `(a :: t).zip t`:
    the same list by `rfl` -/
def pairs {β : Type} (l : List β) : List (β × β) := l.zip l.tail

/-- every consecutive segment of every part of the geometry -/
def segments {α : Type} : Geom α → List (Pt α × Pt α)
  | .point _ | .multiPoint _ => []
  | .lineString l | .ring l => pairs l
  | .multiLineString ls | .polygon ls => ls.flatMap pairs
  | .multiPolygon mp => mp.flatMap fun pg => pg.flatMap pairs
  | .bound lo hi => pairs (boundRing lo hi)
  | .collection gs => segmentsL gs
where
  segmentsL {α : Type} : List (Geom α) → List (Pt α × Pt α)
    | [] => []
    | g :: t => segments g ++ segmentsL t

section
variable {α : Type} [Add α] [Sub α] [Mul α] [Div α] [OfNat α 0] [OfNat α 1] [BEq α] [LT α] [DecidableLT α]

/-- squared distances from `p` to the consecutive segments of a vertex list -/
def lineAtoms (p : Pt α) (l : List (Pt α)) : List α := (pairs l).map fun ab => segmentDistanceFromSquared ab.1 ab.2 p

/-- squared distances from `p` to every point (point kinds) / every consecutive segment (all other kinds) -/
def atoms (p : Pt α) : Geom α → List α
  | .point g => [distanceSquared g p]
  | .multiPoint mp => mp.map fun q => distanceSquared q p
  | .lineString l | .ring l => lineAtoms p l
  | .multiLineString ls | .polygon ls => ls.flatMap (lineAtoms p)
  | .multiPolygon mp => mp.flatMap fun pg => pg.flatMap (lineAtoms p)
  | .bound lo hi => lineAtoms p (boundRing lo hi)
  | .collection gs => atomsL gs
where
  atomsL : List (Geom α) → List α
    | [] => []
    | g :: t => atoms p g ++ atomsL t
end

/-- `r = (distance, index)` names the FIRST member attaining the minimum of the members' distances `ds`
    (`none` = +Inf: a member without any point or segment): when no member has a distance the answer is
    `(+Inf, -1)`; otherwise the distance is the minimum `m` of the defined distances, the member at the index
    has exactly that distance, and every earlier member has no distance or a strictly larger one. -/
def FirstMinIndex {α : Type} [Min α] [LT α] (ds : List (Option α)) (r : Option α × Int) : Prop :=
  ((∀ d ∈ ds, d = none) → r = (none, -1)) ∧
  ∀ m, (ds.filterMap id).min? = some m →
    ∃ i : Nat, r = (some m, (i : Int)) ∧ ds[i]? = some (some m) ∧
      ∀ j, j < i → ∀ x, ds[j]? = some (some x) → m < x

section lengthdist
set_option linter.unusedSectionVars false
variable {α : Type} [Field α] [LinearOrder α] [IsStrictOrderedRing α]

theorem dist2_nonneg (p q : Pt α) : 0 ≤ dist2 p q :=
  add_nonneg (mul_self_nonneg _) (mul_self_nonneg _)

theorem dist2_eq_zero_iff (p q : Pt α) : dist2 p q = 0 ↔ p = q := by
  obtain ⟨px, py⟩ := p
  obtain ⟨qx, qy⟩ := q
  rw [dist2, mul_self_add_mul_self_eq_zero, sub_eq_zero, sub_eq_zero, Pt.mk.injEq]

theorem distanceSquared_eq_dist2 (q p : Pt α) : distanceSquared q p = dist2 q p := rfl

/-- the parameter `t` of the foot `a + t (b − a)` of the perpendicular from `p` (`x / 0 = 0`: a segment of length 0) -/
def footT (a b p : Pt α) : α := ((p.x - a.x) * (b.x - a.x) + (p.y - a.y) * (b.y - a.y)) / dist2 b a

/-- … clamped to `[0, 1]`: the parameter of the point of the segment nearest to `p` -/
def nearT (a b p : Pt α) : α := max 0 (min 1 (footT a b p))

theorem lerp_zero (a b : Pt α) : lerp a b 0 = a := by simp only [lerp, zero_mul, add_zero]

theorem lerp_one (a b : Pt α) : lerp a b 1 = b := by simp only [lerp, one_mul, add_sub_cancel]

theorem segdist_eq (a b p : Pt α) : segmentDistanceFromSquared a b p = dist2 p (lerp a b (nearT a b p)) := by
  -- branch by branch: beyond `b`, between, before `a`, and the segment of length 0 (where `lerp a b t = a` for all `t`)
  unfold nearT
  by_cases hd : (b.x - a.x != 0 || b.y - a.y != 0) = true
  · by_cases h1 : 1 < footT a b p
    · rw [min_eq_left h1.le, max_eq_right zero_le_one, lerp_one]
      simp only [footT, dist2] at h1
      simp only [segmentDistanceFromSquared, hd, h1, if_true]
      rfl
    · by_cases h0 : 0 < footT a b p
      · rw [min_eq_right (not_lt.1 h1), max_eq_right h0.le]
        simp only [footT, dist2] at h1 h0
        simp only [segmentDistanceFromSquared, hd, h1, h0, if_true, if_false, footT, dist2, lerp,
          mul_comm (b.x - a.x), mul_comm (b.y - a.y)]
      · rw [min_eq_right (not_lt.1 h1), max_eq_left (not_lt.1 h0), lerp_zero]
        simp only [footT, dist2] at h1 h0
        simp only [segmentDistanceFromSquared, hd, h1, h0, if_true, if_false]
        rfl
  · have hb : lerp a b (max 0 (min 1 (footT a b p))) = a := by
      simp only [Bool.or_eq_true, bne_iff_ne, not_or, not_not] at hd
      simp only [lerp, hd.1, hd.2, mul_zero, add_zero]
    rw [hb]
    simp only [segmentDistanceFromSquared, hd]
    rfl

theorem nearT_mem (a b p : Pt α) : 0 ≤ nearT a b p ∧ nearT a b p ≤ 1 :=
  ⟨le_max_left _ _, max_le zero_le_one (min_le_left _ _)⟩

theorem footT_mul (a b p : Pt α) :
    footT a b p * dist2 b a = (p.x - a.x) * (b.x - a.x) + (p.y - a.y) * (b.y - a.y) := by
  by_cases h : dist2 b a = 0
  · rw [(dist2_eq_zero_iff b a).1 h]; simp [dist2]
  · exact div_mul_cancel₀ _ h

/-- the quadratic `t ↦ |p − lerp a b t|²` about its vertex `footT` -/
theorem dist2_lerp_sub (a b p : Pt α) (s t : α) :
    dist2 p (lerp a b t) - dist2 p (lerp a b s) =
      dist2 b a * ((t - s) * (t - s) + 2 * ((t - s) * (s - footT a b p))) := by
  have h := footT_mul a b p
  simp only [dist2, lerp] at h ⊢
  linear_combination (2 * (t - s)) * h

/-- clamped to `[0, 1]`, the vertex `t0` of an upward parabola is where it is least on `[0, 1]` -/
theorem clamp_min (t0 t : α) (h0 : 0 ≤ t) (h1 : t ≤ 1) :
    0 ≤ (t - max 0 (min 1 t0)) * (max 0 (min 1 t0) - t0) := by
  rcases le_total t0 0 with h | h
  · rw [min_eq_right (h.trans zero_le_one), max_eq_left h]
    exact mul_nonneg (sub_nonneg.2 h0) (sub_nonneg.2 h)
  · rcases le_total t0 1 with h' | h'
    · rw [min_eq_right h', max_eq_right h, sub_self, mul_zero]
    · rw [min_eq_left h', max_eq_right zero_le_one]
      exact mul_nonneg_of_nonpos_of_nonpos (sub_nonpos.2 h1) (sub_nonpos.2 h')

theorem nearT_le (a b p : Pt α) (t : α) (h0 : 0 ≤ t) (h1 : t ≤ 1) :
    dist2 p (lerp a b (nearT a b p)) ≤ dist2 p (lerp a b t) := by
  rw [← sub_nonneg, dist2_lerp_sub]
  exact mul_nonneg (dist2_nonneg b a)
    (add_nonneg (mul_self_nonneg _) (mul_nonneg zero_le_two (clamp_min (footT a b p) t h0 h1)))

theorem segdist_nonneg (a b p : Pt α) : 0 ≤ segmentDistanceFromSquared a b p :=
  segdist_eq a b p ▸ dist2_nonneg _ _

theorem pairs_cons_cons {β : Type} (a b : β) (t : List β) : pairs (a :: b :: t) = (a, b) :: pairs (b :: t) := rfl

theorem pairs_nil {β : Type} : pairs ([] : List β) = [] := rfl

theorem pairs_singleton {β : Type} (a : β) : pairs [a] = [] := rfl

theorem pairs_map {β γ : Type} (g : β → γ) (l : List β) : pairs (l.map g) = (pairs l).map (Prod.map g g) := by
  unfold pairs
  rw [← List.map_tail, List.zip_map]

theorem lineStringLength_foldl (sqrt : α → α) (l : List (Pt α)) (acc : α) :
    lineStringLength sqrt l acc = (pairs l).foldl (fun sum e => sum + distance sqrt e.2 e.1) acc :=
  LoopForms.pairLoop_foldl (lineStringLength sqrt) (fun sum a b => sum + distance sqrt b a) (fun _ => rfl)
    (fun _ _ => rfl) (fun _ _ _ _ => rfl) l acc

theorem lineStringLength_eq (sqrt : α → α) (l : List (Pt α)) (acc : α) :
    lineStringLength sqrt l acc = acc + ((pairs l).map fun ab => sqrt (dist2 ab.1 ab.2)).sum := by
  rw [lineStringLength_foldl, foldl_add_eq]
  refine congrArg (acc + List.sum ·) (List.map_congr_left fun ab _ => congrArg sqrt ?_)
  simp only [dist2]
  ring

theorem sum_map_flatMap {β γ : Type} (g : γ → α) (f : β → List γ) (l : List β) :
    ((l.flatMap f).map g).sum = (l.map fun x => ((f x).map g).sum).sum := by
  induction l with
  | nil => simp
  | cons a t ih => simp [List.flatMap_cons, ih]

theorem polygonLength_eq (sqrt : α → α) (pg : List (List (Pt α))) :
    polygonLength sqrt pg = ((pg.flatMap pairs).map fun ab => sqrt (dist2 ab.1 ab.2)).sum := by
  rw [polygonLength, foldl_add_zero, sum_map_flatMap]
  congr 1
  apply List.map_congr_left
  intro r _
  rw [lineStringLength_eq, zero_add]

theorem lenLoop_foldl (sqrt : α → α) (gs : List (Geom α)) (acc : α) :
    length.lenLoop sqrt gs acc = gs.foldl (fun sum g => sum + length sqrt g) acc :=
  accLoop_eq_foldl (length.lenLoop sqrt) _ (fun _ => rfl) (fun _ _ _ => rfl) gs acc

theorem segmentsL_eq_flatMap (gs : List (Geom α)) : segments.segmentsL gs = gs.flatMap segments := by
  induction gs with
  | nil => rfl
  | cons g t ih => rw [segments.segmentsL, ih, List.flatMap_cons]

theorem lenLoop_eq (sqrt : α → α) (gs : List (Geom α))
    (h : ∀ g ∈ gs, length sqrt g = ((segments g).map fun ab => sqrt (dist2 ab.1 ab.2)).sum) (acc : α) :
    length.lenLoop sqrt gs acc = acc + ((segments.segmentsL gs).map fun ab => sqrt (dist2 ab.1 ab.2)).sum := by
  rw [lenLoop_foldl, foldl_add_eq, segmentsL_eq_flatMap, sum_map_flatMap, List.map_congr_left h]


/-- minimum of two optional values, `none` = +∞ -/
def omin {β : Type} [Min β] : Option β → Option β → Option β
  | none, y => y
  | some a, none => some a
  | some a, some b => some (min a b)

omit [Field α] [IsStrictOrderedRing α] in
theorem omin_none_right (x : Option α) : omin x none = x := by cases x <;> rfl

omit [Field α] [IsStrictOrderedRing α] in
theorem omin_assoc (x y z : Option α) : omin (omin x y) z = omin x (omin y z) := by
  cases x <;> cases y <;> cases z <;> simp [omin, min_assoc]

omit [Field α] [IsStrictOrderedRing α] in
theorem omin_some_min? (a : α) (l : List α) : omin (some a) l.min? = (a :: l).min? := by
  rw [List.min?_cons]
  cases l.min? <;> simp [omin]

omit [Field α] [IsStrictOrderedRing α] in
theorem min?_append_eq (l₁ l₂ : List α) : (l₁ ++ l₂).min? = omin l₁.min? l₂.min? := by
  induction l₁ with
  | nil => simp [omin]
  | cons a t ih => rw [List.cons_append, ← omin_some_min?, ih, ← omin_assoc, omin_some_min?]

omit [Field α] [IsStrictOrderedRing α] in
theorem omin_map {f : α → α} (hf : Monotone f) (x y : Option α) :
    omin (x.map f) (y.map f) = (omin x y).map f := by
  cases x <;> cases y <;> simp [omin, hf.map_min]

omit [Field α] [IsStrictOrderedRing α] in
theorem minStep_fst (s : Option α × Int) (d : Option α) (i : Int) : (minStep s d i).1 = omin s.1 d := by
  obtain ⟨s1, s2⟩ := s
  unfold minStep
  cases s1 <;> cases d <;> simp only [optLt, omin]
  · simp
  · simp
  · simp
  · rename_i a b
    by_cases h : b < a
    · simp [h, min_eq_right h.le]
    · simp [h, min_eq_left (not_lt.1 h)]

omit [Field α] [IsStrictOrderedRing α] in
/-- the step of `polygonDistanceFrom` is `minStep` with the ring's whole answer `d` as the new state -/
theorem optLt_ite_fst (s d : Option α × Int) : (if optLt d.1 s.1 then d else s).1 = omin s.1 d.1 :=
  minStep_fst s d.1 d.2

theorem lineAtoms_nil (p : Pt α) : lineAtoms p [] = [] := rfl

theorem lineAtoms_singleton (p a : Pt α) : lineAtoms p [a] = [] := rfl

theorem lineAtoms_cons_cons (p a b : Pt α) (t : List (Pt α)) :
    lineAtoms p (a :: b :: t) = segmentDistanceFromSquared a b p :: lineAtoms p (b :: t) := rfl

theorem lineDistLoop_eq_foldl (p : Pt α) (l : List (Pt α)) (i : Nat) (s : Option α × Int) :
    lineDistLoop p l i s = ((pairs l).zipIdx i).foldl
      (fun s (xi : (Pt α × Pt α) × Nat) => minStep s (some (segmentDistanceFromSquared xi.1.1 xi.1.2 p)) xi.2) s := by
  induction l generalizing i s with
  | nil => rfl
  | cons a t ih =>
    cases t with
    | nil => rfl
    | cons b t => rw [lineDistLoop, ih, pairs_cons_cons, List.zipIdx_cons, List.foldl_cons]

/-- The value of a running minimum: every loop of distance_from.go folds `if d < dist { … }` over candidates, and the
    distance it keeps is the `omin`-fold of the candidates' distances (`minStep_fst`, `optLt_ite_fst` under
    `List.foldl_hom`); here that fold, when every candidate's distance is `sqrt` of the least of its atoms `g x`. -/
theorem foldl_omin_min? {β : Type} (sqrt : α → α) (hm : Monotone sqrt) (F : β → Option α) (g : β → List α)
    (l : List β) (hF : ∀ x ∈ l, F x = (g x).min?.map sqrt) (X : Option α) :
    l.foldl (fun m x => omin m (F x)) (X.map sqrt) = (omin X (l.flatMap g).min?).map sqrt := by
  induction l generalizing X with
  | nil => simp [omin_none_right]
  | cons a t ih =>
    rw [List.foldl_cons, hF a List.mem_cons_self, omin_map hm, ih (fun x hx => hF x (List.mem_cons_of_mem _ hx)),
      List.flatMap_cons, min?_append_eq, omin_assoc]

/-- the distance kept by a member loop `for i, x := range l { if d := F x; d < dist { dist, index = d, i } }` -/
theorem foldl_zipIdx_minStep_omin {β : Type} (F : β → Option α) (l : List β) (k : Nat) (s : Option α × Int) :
    ((l.zipIdx k).foldl (fun s (xi : β × Nat) => minStep s (F xi.1) xi.2) s).1 =
      l.foldl (fun m x => omin m (F x)) s.1 := by
  rw [← List.foldl_hom Prod.fst (g₂ := fun m (xi : β × Nat) => omin m (F xi.1)) (fun s xi => (minStep_fst s _ _).symm),
    ← List.foldl_map (f := Prod.fst) (g := fun m x => omin m (F x)), List.zipIdx_map_fst]

theorem memberLoop_fst {β : Type} (sqrt : α → α) (hm : Monotone sqrt) (F : β → Option α)
    (g : β → List α) (l : List β) (hF : ∀ x ∈ l, F x = (g x).min?.map sqrt) :
    (l.zipIdx.foldl (fun s (xi : β × Nat) => minStep s (F xi.1) xi.2) (none, -1)).1 =
      (l.flatMap g).min?.map sqrt := by
  rw [foldl_zipIdx_minStep_omin]
  exact foldl_omin_min? sqrt hm F g l hF none

/-- a multi-point and the segments of a line compare SQUARED distances, one atom `f x` per member: the root is taken of
    the result -/
theorem memberLoop_fst_some {β : Type} (f : β → α) (l : List β) :
    (l.zipIdx.foldl (fun s (xi : β × Nat) => minStep s (some (f xi.1)) xi.2) (none, -1)).1 = (l.map f).min? := by
  have h := memberLoop_fst id monotone_id (fun x => some (f x)) (fun x => [f x]) l (fun _ _ => rfl)
  rwa [← List.map_eq_flatMap, Option.map_id] at h

theorem lineStringDistanceFrom_fst (sqrt : α → α) (l : List (Pt α)) (p : Pt α) :
    (lineStringDistanceFrom sqrt l p).1 = (lineAtoms p l).min?.map sqrt := by
  rw [lineStringDistanceFrom, lineDistLoop_eq_foldl]
  exact congrArg (Option.map sqrt)
    (memberLoop_fst_some (fun ab : Pt α × Pt α => segmentDistanceFromSquared ab.1 ab.2 p) (pairs l))

theorem polygonDistanceFrom_fst (sqrt : α → α) (hm : Monotone sqrt) (pg : List (List (Pt α))) (p : Pt α) :
    (polygonDistanceFrom sqrt pg p).1 = (pg.flatMap (lineAtoms p)).min?.map sqrt := by
  cases pg with
  | nil => simp [polygonDistanceFrom]
  | cons o hs =>
    rw [polygonDistanceFrom, ← List.foldl_hom Prod.fst (g₂ := fun m h => omin m (lineStringDistanceFrom sqrt h p).1)
        (fun s h => (optLt_ite_fst s _).symm), lineStringDistanceFrom_fst,
      foldl_omin_min? sqrt hm _ (lineAtoms p) hs fun h _ => lineStringDistanceFrom_fst sqrt h p,
      List.flatMap_cons, min?_append_eq]

theorem collLoop_eq_foldl (sqrt : α → α) (p : Pt α) (gs : List (Geom α)) (i : Nat) (s : Option α × Int) :
    distanceFromWithIndex.collLoop sqrt p gs i s =
      (gs.zipIdx i).foldl (fun s (gi : Geom α × Nat) => minStep s (distanceFrom sqrt gi.1 p) gi.2) s := by
  induction gs generalizing i s with
  | nil => rfl
  | cons g t ih => rw [distanceFromWithIndex.collLoop, ih, List.zipIdx_cons, List.foldl_cons]; rfl

theorem atomsL_eq_flatMap (p : Pt α) (gs : List (Geom α)) : atoms.atomsL p gs = gs.flatMap (atoms p) := by
  induction gs with
  | nil => rfl
  | cons g t ih => rw [atoms.atomsL, ih, List.flatMap_cons]

theorem collLoop_fst (sqrt : α → α) (hm : Monotone sqrt) (p : Pt α) (gs : List (Geom α))
    (h : ∀ g ∈ gs, distanceFrom sqrt g p = (atoms p g).min?.map sqrt) :
    (distanceFromWithIndex.collLoop sqrt p gs 0 (none, -1)).1 = (atoms.atomsL p gs).min?.map sqrt := by
  rw [collLoop_eq_foldl, atomsL_eq_flatMap]
  exact memberLoop_fst sqrt hm (fun g => distanceFrom sqrt g p) (atoms p) gs h

theorem optLt_irrefl (a : Option α) : optLt a a = false := by
  cases a <;> simp [optLt]

theorem optLt_asymm {a b : Option α} (h : optLt a b = true) : optLt b a = false := by
  cases a <;> cases b <;> simp_all [optLt]
  exact le_of_lt h

theorem optLt_of_lt_of_not_lt {a b c : Option α} (h1 : optLt a b = true) (h2 : optLt c b = false) :
    optLt a c = true := by
  cases a <;> cases b <;> cases c <;> simp_all [optLt]
  exact lt_of_lt_of_le h1 h2

/-- `r` is the first least member of `l`, by the first components (`none` = +∞) -/
def FirstLeast {γ : Type} (l : List (Option α × γ)) (r : Option α × γ) : Prop :=
  ∃ k : Nat, l[k]? = some r ∧ (∀ j : Nat, j < k → ∀ x : Option α × γ, l[j]? = some x → optLt r.1 x.1 = true) ∧
    ∀ x ∈ l, optLt x.1 r.1 = false

theorem firstLeast_singleton {γ : Type} (s : Option α × γ) : FirstLeast [s] s :=
  ⟨0, rfl, fun _ hj => absurd hj (Nat.not_lt_zero _), fun _ hx => List.mem_singleton.1 hx ▸ optLt_irrefl _⟩

/-- The invariant of the running minimum: one turn `if c.1 < s.1 { s = c }` keeps "the state is the first least
    candidate so far". -/
theorem FirstLeast.step {γ : Type} {l : List (Option α × γ)} {r : Option α × γ} (h : FirstLeast l r)
    (c : Option α × γ) : FirstLeast (l ++ [c]) (if optLt c.1 r.1 then c else r) := by
  obtain ⟨k, hk, hbef, hall⟩ := h
  have hkl : k < l.length := (List.getElem?_eq_some_iff.1 hk).1
  split_ifs with hc
  · refine ⟨l.length, by simp, fun j hj x hx => ?_, fun x hx => ?_⟩
    · rw [List.getElem?_append_left hj] at hx
      exact optLt_of_lt_of_not_lt hc (hall x (List.mem_of_getElem? hx))
    · rcases List.mem_append.1 hx with hx | hx
      · exact optLt_asymm (optLt_of_lt_of_not_lt hc (hall x hx))
      · rw [List.mem_singleton.1 hx]; exact optLt_irrefl _
  · refine ⟨k, by rw [List.getElem?_append_left hkl, hk], fun j hj x hx => ?_, fun x hx => ?_⟩
    · rw [List.getElem?_append_left (hj.trans hkl)] at hx
      exact hbef j hj x hx
    · rcases List.mem_append.1 hx with hx | hx
      · exact hall x hx
      · rw [List.mem_singleton.1 hx]; exact Bool.not_eq_true _ ▸ hc

theorem FirstLeast.foldl {γ : Type} {pre : List (Option α × γ)} {s : Option α × γ} (h : FirstLeast pre s)
    (cs : List (Option α × γ)) :
    FirstLeast (pre ++ cs) (cs.foldl (fun s c => if optLt c.1 s.1 then c else s) s) := by
  induction cs generalizing pre s with
  | nil => rwa [List.append_nil]
  | cons c t ih => rw [List.foldl_cons, List.append_cons]; exact ih (h.step c)

theorem firstLeast_foldl {γ : Type} (cs : List (Option α × γ)) (s : Option α × γ) :
    FirstLeast (s :: cs) (cs.foldl (fun s c => if optLt c.1 s.1 then c else s) s) :=
  (firstLeast_singleton s).foldl cs

theorem FirstLeast.map {β γ : Type} {f : β → Option α × γ} {l : List β} {r : Option α × γ}
    (h : FirstLeast (l.map f) r) :
    ∃ (k : Nat) (b : β), l[k]? = some b ∧ r = f b ∧
      (∀ j, j < k → ∀ x, l[j]? = some x → optLt (f b).1 (f x).1 = true) ∧ ∀ x ∈ l, optLt (f x).1 (f b).1 = false := by
  obtain ⟨k, hk, hbef, hall⟩ := h
  rw [List.getElem?_map, Option.map_eq_some_iff] at hk
  obtain ⟨b, hk, rfl⟩ := hk
  exact ⟨k, b, hk, rfl, fun j hj x hx => hbef j hj _ (by rw [List.getElem?_map, hx]; rfl),
    fun x hx => hall _ (List.mem_map_of_mem hx)⟩

theorem mem_filterMap_id {ds : List (Option α)} {m : α} : m ∈ ds.filterMap id ↔ some m ∈ ds := by
  simp [List.mem_filterMap]

/-- the member loops `for i, x := range … { if d < dist { dist, index = d, i } }` from `(+Inf, -1)`: the seed in front
    of the candidates `(d, position)` -/
theorem memberLoop_index (ds : List (Option α)) :
    let r := ds.zipIdx.foldl (fun s (di : Option α × Nat) => minStep s di.1 di.2) (none, -1)
    (r = (none, -1) ∧ ∀ d ∈ ds, d = none) ∨
    ∃ (k : Nat) (d : α), ds[k]? = some (some d) ∧ r = (some d, (k : Int)) ∧
      (∀ j, j < k → ∀ x, ds[j]? = some x → optLt (some d) x = true) ∧ ∀ x ∈ ds, optLt x (some d) = false := by
  intro r
  have key := firstLeast_foldl (ds.zipIdx.map fun (di : Option α × Nat) => (di.1, (di.2 : Int))) (none, -1)
  rw [List.foldl_map] at key
  change FirstLeast _ r at key
  clear_value r
  obtain ⟨k, hk, hbef, hall⟩ := key
  -- candidate number `j + 1` is member `j` with its position
  have hcs : ∀ j : Nat, ((none, -1) :: ds.zipIdx.map fun di => (di.1, (di.2 : Int)))[j + 1]? =
      ds[j]?.map fun d => (d, (j : Int)) := by
    intro j
    rw [List.getElem?_cons_succ, List.getElem?_map, List.getElem?_zipIdx, Nat.zero_add]
    cases ds[j]? <;> rfl
  have hmem : ∀ d ∈ ds, optLt d r.1 = false := fun d hd => by
    obtain ⟨j, hj⟩ := List.getElem?_of_mem hd
    exact hall (d, (j : Int)) (List.mem_of_getElem? (i := j + 1) (by rw [hcs, hj]; rfl))
  cases k with
  | zero =>
    cases hk
    exact Or.inl ⟨rfl, fun d hd => by have := hmem d hd; cases d with | none => rfl | some v => cases this⟩
  | succ k =>
    rw [hcs, Option.map_eq_some_iff] at hk
    obtain ⟨d, hk, rfl⟩ := hk
    cases d with
    | none => cases hbef 0 (Nat.succ_pos _) _ rfl
    | some dv =>
      exact Or.inr ⟨k, dv, hk, rfl, fun j hj x hx =>
        hbef (j + 1) (Nat.succ_lt_succ hj) (x, (j : Int)) (by rw [hcs, hx]; rfl), hmem⟩

theorem firstMinIndex_foldl (ds : List (Option α)) :
    FirstMinIndex ds (ds.zipIdx.foldl (fun s (di : Option α × Nat) => minStep s di.1 di.2) (none, -1)) := by
  rcases memberLoop_index ds with ⟨hr, hall⟩ | ⟨k, dv, hk, hr, hbef, hall⟩
  · refine ⟨fun _ => hr, fun m hm => ?_⟩
    cases hall _ (mem_filterMap_id.1 (List.min?_eq_some_iff.1 hm).1)
  · have hmemk : some dv ∈ ds := List.mem_of_getElem? hk
    refine ⟨fun hn => (by cases hn _ hmemk), fun m hm => ?_⟩
    have hmin : (ds.filterMap id).min? = some dv := by
      refine List.min?_eq_some_iff.2 ⟨mem_filterMap_id.2 hmemk, fun y hy => ?_⟩
      simpa [optLt] using hall _ (mem_filterMap_id.1 hy)
    rw [hmin, Option.some.injEq] at hm
    subst hm
    exact ⟨k, hr, hk, fun j hj x hx => by simpa [optLt] using hbef j hj _ hx⟩

theorem firstMinIndex_foldl_map {β : Type} (F : β → Option α) (l : List β) :
    FirstMinIndex (l.map F) (l.zipIdx.foldl (fun s (xi : β × Nat) => minStep s (F xi.1) xi.2) (none, -1)) := by
  have := firstMinIndex_foldl (l.map F)
  rwa [List.zipIdx_map, List.foldl_map] at this

/-- `firstMinIndex_foldl_map` when every member has a distance `f x`, spelled out without `Option`, the root taken of
    the result: the form of the MultiPoint and LineString theorems -/
theorem firstMin_foldl_some {β : Type} (sqrt : α → α) (f : β → α) (l : List β) :
    let s := l.zipIdx.foldl (fun s (xi : β × Nat) => minStep s (some (f xi.1)) xi.2) (none, -1)
    let r : Option α × Int := (s.1.map sqrt, s.2)
    (l.map f = [] → r = (none, -1)) ∧
    ∀ m, (l.map f).min? = some m → ∃ i : Nat, r = (some (sqrt m), (i : Int)) ∧ (l.map f)[i]? = some m ∧
      ∀ j, j < i → ∀ x, (l.map f)[j]? = some x → m < x := by
  obtain ⟨h1, h2⟩ := firstMinIndex_foldl_map (fun x => some (f x)) l
  have hfm : (l.map fun x => some (f x)).filterMap id = l.map f := by
    simp [List.filterMap_map]
  rw [hfm] at h2
  refine ⟨fun h => by rw [h1 (by simp [List.map_eq_nil_iff.1 h])]; rfl, fun m hm => ?_⟩
  obtain ⟨i, hi, hget, hbef⟩ := h2 m hm
  refine ⟨i, by rw [hi]; rfl, by simpa [List.getElem?_map] using hget, fun j hj x hx => hbef j hj x ?_⟩
  simpa [List.getElem?_map] using hx

theorem atoms_nonneg (p : Pt α) (g : Geom α) : ∀ x ∈ atoms p g, 0 ≤ x := by
  have hl : ∀ l, ∀ x ∈ lineAtoms p l, 0 ≤ x := fun l => List.forall_mem_map.2 fun _ _ => segdist_nonneg _ _ _
  induction g using Geom.ind with
  | point q => exact List.forall_mem_singleton.2 (dist2_nonneg q p)
  | multiPoint ps => exact List.forall_mem_map.2 fun q _ => dist2_nonneg q p
  | lineString ps => exact hl ps
  | multiLineString ls => exact List.forall_mem_flatMap.2 fun l _ => hl l
  | ring ps => exact hl ps
  | polygon ls => exact List.forall_mem_flatMap.2 fun l _ => hl l
  | multiPolygon mp => exact List.forall_mem_flatMap.2 fun pg _ => List.forall_mem_flatMap.2 fun l _ => hl l
  | bound a b => exact hl _
  | collection gs ih => rw [atoms, atomsL_eq_flatMap]; exact List.forall_mem_flatMap.2 ih

end lengthdist

end Orb.Planar
